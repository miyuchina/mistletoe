import Mistletoe.Model.Basic
import Mistletoe.Model.Chars
import Mistletoe.Model.Span
import Mistletoe.Model.Lines
import Mistletoe.Model.Ast
import Mistletoe.Model.Escape
import Mistletoe.Model.Html
import Mistletoe.Proofs.Lit
import Mistletoe.Proofs.Span
import Mistletoe.Proofs.Lines
import Mistletoe.Model.Pred
import Mistletoe.Proofs.Html
import Mistletoe.Model.Traverse
import Mistletoe.Model.AstJson
import Mistletoe.Proofs.Traverse
import Mistletoe.Model.Footnotes
import Mistletoe.Model.Py
import Mistletoe.Model.Scan
import Mistletoe.Model.Block
import Mistletoe.Proofs.Block
import Mistletoe.Proofs.BlockState
import Mistletoe.Props.C07
import Mistletoe.Props.C08
import Mistletoe.Model.Wrap
import Mistletoe.Props.C10
import Mistletoe.Model.State
import Mistletoe.Props.C11
import Mistletoe.Props.C12
import Mistletoe.Model.Latex
import Mistletoe.Model.PredLatex
import Mistletoe.Proofs.Latex
import Mistletoe.Props.C17
import Mistletoe.Props.C18
import Mistletoe.Model.Toc
import Mistletoe.Props.C19
import Mistletoe.Props.C15
import Mistletoe.Props.C16
import Mistletoe.Props.C13
import Mistletoe.Model.Unescape
import Mistletoe.Model.InlineScan
import Mistletoe.Model.Core
import Mistletoe.Model.Inline
import Mistletoe.Model.Document
import Mistletoe.Proofs.Decline
import Mistletoe.Proofs.Inert
import Mistletoe.Proofs.Pipeline
import Mistletoe.Props.C14
import Mistletoe.Model.Config
import Mistletoe.Model.SpecCheck
import Mistletoe.Props.C02
import Mistletoe.Proofs.Wrap
import Mistletoe.Props.C04
import Mistletoe.Proofs.BlockTotal
import Mistletoe.Proofs.DocTotal
import Mistletoe.Props.C01
import Mistletoe.Proofs.ScanNone
import Mistletoe.Proofs.ScanSuffix
import Mistletoe.Proofs.CoreStep
import Mistletoe.Proofs.CoreTotal
import Mistletoe.Props.C06
import Mistletoe.Proofs.Strip
import Mistletoe.Proofs.InertSilent
import Mistletoe.Proofs.InertWide
import Mistletoe.Proofs.InertInline
import Mistletoe.Proofs.Locality
import Mistletoe.Props.C05
import Mistletoe.Proofs.DocLines
import Mistletoe.Proofs.Compose
import Mistletoe.Props.C03
import Mistletoe.Model.Markdown
import Mistletoe.Proofs.MdRound
import Mistletoe.Proofs.MdRoundBlocks
import Mistletoe.Props.C09
import Mistletoe.Proofs.EmphSpec
import Mistletoe.Model.Jira
import Mistletoe.Proofs.Outline
import Mistletoe.Proofs.BlockFrom
import Mistletoe.Proofs.Range
import Mistletoe.Proofs.MdTotal
import Mistletoe.Model.XWiki
import Mistletoe.Proofs.ContribTotal
import Mistletoe.Props.C01_Renderers
import Mistletoe.Proofs.Reflow
import Mistletoe.Props.C10_Reflow
import Mistletoe.Spec.Emphasis
import Mistletoe.Proofs.EmphRefine
import Mistletoe.Proofs.LatexTotal
import Mistletoe.Proofs.DocShape
import Mistletoe.Props.C12_Shape
import Mistletoe.Proofs.MdRoundCode
import Mistletoe.Proofs.LocalityLists
import Mistletoe.Props.C05_Lists
import Mistletoe.Proofs.InertInline2
import Mistletoe.Props.C14_Wide
import Mistletoe.Props.C09_Code
import Mistletoe.Proofs.DefOrder
import Mistletoe.Props.C07_Order
import Mistletoe.Proofs.WrapIndent
import Mistletoe.Props.C04_General
import Mistletoe.Model.InlineScanX
import Mistletoe.Proofs.ComposeLists
import Mistletoe.Proofs.ComposeGen
import Mistletoe.Proofs.Compose2
import Mistletoe.Proofs.ComposeLists2
import Mistletoe.Props.C03_Lists
import Mistletoe.Proofs.HtmlEndToEnd
import Mistletoe.Proofs.LatexEndToEnd
import Mistletoe.Proofs.TocPlain
import Mistletoe.Props.C08_EndToEnd
import Mistletoe.Props.C17_EndToEnd
import Mistletoe.Proofs.ReflowQuote
import Mistletoe.Proofs.InertInline3
import Mistletoe.Spec.EmphasisEsc
import Mistletoe.Proofs.EmphRefineEsc
import Mistletoe.Proofs.MdRoundLists
import Mistletoe.Proofs.MdRoundLists2
import Mistletoe.Props.C09_Lists
import Mistletoe.Proofs.ConfigValues
import Mistletoe.Proofs.MapChars
import Mistletoe.Proofs.ContribSame
import Mistletoe.Props.C18_Text
import Mistletoe.Proofs.ComposeCode
import Mistletoe.Proofs.ComposeCode2
import Mistletoe.Proofs.ComposeCode3
import Mistletoe.Props.C03_Code
import Mistletoe.Proofs.RefResolve
import Mistletoe.Props.C07_Resolve
import Mistletoe.Proofs.HtmlFamilyTotal
import Mistletoe.Props.C01_HtmlFamily
import Mistletoe.Proofs.ReflowList
import Mistletoe.Props.C10_Lists
import Mistletoe.Proofs.TocEndToEnd
import Mistletoe.Props.C19_EndToEnd
import Mistletoe.Proofs.DocLevel
import Mistletoe.Props.C05_Document
import Mistletoe.Props.C04_Document
import Mistletoe.Proofs.InertInline5
import Mistletoe.Proofs.EmphHtml
import Mistletoe.Props.C06_Html
import Mistletoe.Proofs.ContribSame2
import Mistletoe.Props.C18_NoMatch
import Mistletoe.Proofs.MdRoundDoc
import Mistletoe.Proofs.MdRoundSetext
import Mistletoe.Props.C09_Setext
import Mistletoe.Proofs.MdRoundEmph
import Mistletoe.Props.C09_Emph
import Mistletoe.Proofs.ComposeTable
import Mistletoe.Proofs.ComposeEmbed
import Mistletoe.Proofs.ComposeTable2
import Mistletoe.Props.C03_Tables
import Mistletoe.Proofs.DefLine
import Mistletoe.Props.C07_DefLine
import Mistletoe.Proofs.InertCont
import Mistletoe.Props.C14_Cont
import Mistletoe.Proofs.NoRebreak
import Mistletoe.Props.C10_NoRebreak
import Mistletoe.Proofs.TocTokens
import Mistletoe.Props.C19_Tokens
