/-
  C10 (code blocks, HTML blocks, tables and ATX headings are not re-broken) — the property theorems, from the lemmas of
  Proofs/NoRebreak.lean (about the model of markdown_renderer.py alone).

  For EVERY token tree (not only parsed ones), every limit and every option set.  `rigid`: the block kinds whose render method
  never looks at `max_line_length` - ATX heading (`span_to_lines(..., max_line_length=None)`), indented and fenced code,
  HTML block, table (cells rendered without a limit), thematic break, blank line.  `rigidDeep`: a rigid leaf, or a quote / list /
  list item all of whose descendants are `rigidDeep` (containers hand a smaller budget down, their rigid content ignores it,
  and the prefixing never sees the limit).  The classification is exact: paragraphs, setext headings and link reference
  definitions ARE re-broken (kernel-checked examples in the proof file).
-/
import Mistletoe.Proofs.NoRebreak
namespace Mistletoe.Props.C10N
open Mistletoe Mistletoe.Wrap Mistletoe.Markdown Mistletoe.Proofs.NoRebreak

/-- **A rigid block renders to the same lines under any two limits and option sets** (error case included). -/
theorem C10_not_rebroken_leaf (b : Block) (h : rigid b = true) (o1 o2 : Opts) (m1 m2 : Option Int) :
    renderBlock o1 m1 b = renderBlock o2 m2 b :=
  renderBlock_rigid o1 o2 m1 m2 b h

/-- the same for containers all of whose content is rigid (same `normalize_whitespace`: a list item's prefix depends on it) -/
theorem C10_not_rebroken_deep (b : Block) (h : rigidDeep b = true) (o1 o2 : Opts)
    (hn : o1.normalizeWhitespace = o2.normalizeWhitespace) (m1 m2 : Option Int) :
    renderBlock o1 m1 b = renderBlock o2 m2 b :=
  renderBlock_rigidDeep o1 o2 hn m1 m2 b h

/-- **A document of such blocks renders to the same text - or raises the same exception - whatever `max_line_length`.** -/
theorem C10_not_rebroken_document (d : Doc) (h : rigidDeepAll d.kids = true) (o1 o2 : Opts)
    (hn : o1.normalizeWhitespace = o2.normalizeWhitespace) :
    renderRes o1 d = renderRes o2 d ∧ render o1 d = render o2 d :=
  Mistletoe.Proofs.NoRebreak.C10_not_rebroken_document d h o1 o2 hn

/-- **In an arbitrary document** the output with a limit and the output without are the joined lines of two piece sequences
    (quotes and lists are transparent) of equal length that agree on every piece that comes from a rigid block - only
    paragraphs, setext headings and link reference definitions differ. -/
theorem C10_not_rebroken_mixed_document (d : Doc) (o : Opts) (L : Int) (s1 : Str)
    (h1 : renderRes { o with maxLineLength := some L } d = .ok s1) :
    ∃ (s2 : Str) (p1 p2 : List (Bool × List Str)),
      renderRes { o with maxLineLength := none } d = .ok s2 ∧
      s1 = joinLines (flat p1) ∧ s2 = joinLines (flat p2) ∧
      piecesL { o with maxLineLength := some L } (some L) d.kids = .ok p1 ∧
      piecesL { o with maxLineLength := none } none d.kids = .ok p2 ∧ p1.length = p2.length ∧
      ∀ (i : Nat) (ls : List Str), p1[i]? = some (true, ls) ↔ p2[i]? = some (true, ls) := by
  unfold renderRes at h1 ⊢
  cases hc : renderBlocks { o with maxLineLength := some L } (some L) d.kids with
  | err e => simp only [hc] at h1; cases h1
  | ok ls1 =>
    simp only [hc, Res.ok.injEq] at h1
    obtain ⟨ls2, p1, p2, h2, c1, c2, f1, f2, hl, hp⟩ :=
      C10_mixed_deep_ok { o with maxLineLength := some L } { o with maxLineLength := none } rfl (some L) none d.kids ls1 hc
    refine ⟨joinLines ls2, p1, p2, ?_, ?_, ?_, c1, c2, hl, hp⟩
    · simp only [h2]
    · rw [← h1, f1]
    · rw [f2]

/-- an ARBITRARY block raises under one limit exactly when it raises under another (the same exception) -/
theorem C10_errOf_any (o : Opts) (m1 m2 : Option Int) (b : Block) :
    errOf (renderBlock o m1 b) = errOf (renderBlock o m2 b) :=
  renderBlock_errOf o o rfl m1 m2 b

end Mistletoe.Props.C10N
