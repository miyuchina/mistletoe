/-
  C05 (prefix half at full strength) — the property as stated, under the names the documents use; proofs in
  Proofs/Locality.lean, statements in Props/C05.lean.

  With a list among A's blocks the statement was FALSE for the code before the repair of `List.read`: it read the
  item behind a marker of another type before discarding it, that read ran on through the blank line into B, and a
  link reference definition found there stayed registered (kernel-checked counterexamples, reproduced on the real code,
  repaired in /repo: "fix: List.read leaves an item whose marker starts another list unread").  For the repaired code
  (the model follows it: `readList` compares the next marker first, `otherMarkerType`) the statement holds as the
  property states it.
-/
import Mistletoe.Proofs.LocalityLists
namespace Mistletoe.Props.C05L
open Mistletoe Mistletoe.Block Mistletoe.Props.C05

/-- **Prefix independence, no restriction on lists.**  If `tokenize_block(A)` returns the buffer `bA` and the state
    `stA`, the last of `bA`'s top-level entries being a paragraph, setext/ATX heading, thematic break, block quote or table
    (`lastClosed`), A's lines ending with their only newline, and `BlankLine` not among the token types, then for ANY
    lines `rest` the tokenizer on `A ++ "\n" :: rest` reaches the line after the "\n" with exactly A's entries
    accumulated, A's final state and `loose = true`. -/
theorem C05_prefix (cfg : Cfg) (hbl : .blankLine ∉ cfg.types) (A : List Line) (nl : Line) (hnl : nl.s = ['\n'])
    (rest : List Line) (start : Nat) (st : St) (gas : Nat) (bA : Buf) (stA : St)
    (hA : tokenizeBlock cfg gas A start st = .ok (bA, stA)) (hlast : lastClosed bA.entries)
    (hnlA : AllNlEnd A) (extra : Nat) (hex : cfg.types.length < extra) :
    ∃ g', extra ≤ g' ∧
      tokenizeBlock cfg (gas + extra) (A ++ nl :: rest) start st =
        tokLoop cfg g' { lines := A ++ nl :: rest, pos := A.length + 1, start := start } stA bA.entries.reverse true :=
  Mistletoe.Props.C05.C05_prefix cfg hbl A nl hnl rest start st gas bA stA hA hlast hnlA extra hex

/-- **Blocks separated by a blank line are parsed independently of each other** (the property as stated): if the block
    phase on `A` returns `bA` with a closed last block and no link reference definition, and the block phase on `B`
    returns `bB`/`stB`, then the block phase on `A ++ ["\n"] ++ B` returns exactly `bA`'s entries followed by `bB`'s
    entries with every line number, at every depth, raised by the number of lines that precede B, and B's state. -/
theorem C05_blank_line_independent (cfg : Cfg) (hbl : .blankLine ∉ cfg.types) (A B : List Str) (gA gB : Nat)
    (bA bB : Buf) (stA stB : St)
    (hA : blockPhase cfg gA A = .ok (bA, stA)) (hlast : lastClosed bA.entries)
    (hdef : stA.defs = [])
    (hB : blockPhase cfg gB B = .ok (bB, stB))
    (hnlA : ∀ s ∈ A, NlEnd s) (hnlB : ∀ s ∈ B, NlEnd s) :
    blockPhase cfg (gA + (gB + cfg.types.length + 1)) (A ++ [['\n']] ++ B) =
      .ok ({ entries := bA.entries ++ shiftEntries (A.length + 1) bB.entries, loose := true }, stB) :=
  C05_blank_line_independent_full cfg hbl A B gA gB bA bB stA stB hA hlast hdef hB hnlA hnlB

/-- the input on which the code before the repair broke the property: the model of the repaired code registers no definition
    (`- ` / blank / `* * *` / `para [foo]`, then a blank line and `      [foo]: /url`) -/
example : (match blockPhase cfg0 60 [L "- \n", L "\n", L "* * *\n", L "para [foo]\n", L "\n", L "      [foo]: /url\n"] with
    | .ok r => some r.2.defs.length | .err _ => none) = some 0 := by decide +kernel

end Mistletoe.Props.C05L
