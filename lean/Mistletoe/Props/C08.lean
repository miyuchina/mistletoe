/-
  C08 — HTML output is well-formed and document text cannot inject markup.

  The theorems quantify over EVERY token tree of the model's AST type (not only parser output),
  every string in every attribute, and all option combinations: they are independent of the
  parser.  `renderDoc` is the model of `HtmlRenderer.render` as an event list; `render o d =
  flat (renderDoc o.q d)` is the output string, compared byte for byte with the real renderer by the
  `render.html` correspondence unit.  The only hypothesis is `levelsOks` (heading levels 1…6,
  which C12 states of parsed documents): it makes `h<level>` a tag of the fixed vocabulary.
-/
import Mistletoe.Proofs.Html
import Mistletoe.Proofs.Lit
namespace Mistletoe.Props.C08
open Mistletoe Mistletoe.Html Mistletoe.Pred Mistletoe.Escape

/-- **Well-formed for every tree and every option set** (raw HTML leaves set aside): the output is
    the spelling of an event list that is properly nested, uses only the fixed tag vocabulary and
    the fixed attribute names, whose attribute values contain no `"`, `<`, `>`, and whose text
    contains no `<`, `>` and `&` only as the five character references. -/
theorem C08_with_raw (o : Opts) (d : Doc) (h : levelsOks d.kids = true) :
    render o d = flat (renderDoc o.q d) ∧ WellFormed (renderDoc o.q d)
    ∧ rawsOf (renderDoc o.q d) = (if (renderDoc o.q d).isEmpty then [] else htmlOfL d.kids) := by
  refine ⟨rfl, ⟨(doc_wf o.q d h).1, ?_⟩, raws_doc o.q d⟩
  intro e he
  exact List.all_eq_true.mp (doc_wf o.q d h).2 e he

mutual
theorem htmlSpans_nil : ∀ (i : Inline), noHtmlInline i = true → htmlSpans i = []
  | .htmlSpan _, h => by cases h
  | .strong _ k, h => htmlSpansL_nil_of_noHtml k h
  | .emphasis _ k, h => htmlSpansL_nil_of_noHtml k h
  | .strikethrough k, h => htmlSpansL_nil_of_noHtml k h
  | .link _ _ _ _ _ k, h => htmlSpansL_nil_of_noHtml k h
  | .githubWiki _ k, h => htmlSpansL_nil_of_noHtml k h
  | .rawText _, _ => rfl
  | .inlineCode .., _ => rfl
  | .image .., _ => rfl
  | .autoLink .., _ => rfl
  | .escapeSequence _, _ => rfl
  | .lineBreak .., _ => rfl
  | .math _, _ => rfl
  | .xwikiMacroStart _, _ => rfl
  | .xwikiMacroEnd _, _ => rfl
  | .linkRefDef .., _ => rfl
theorem htmlSpansL_nil_of_noHtml : ∀ (is : List Inline), noHtmlInlines is = true → htmlSpansL is = []
  | [], _ => rfl
  | i :: is, h => by
    simp only [noHtmlInlines, Bool.and_eq_true] at h
    rw [htmlSpansL, htmlSpans_nil i h.1, htmlSpansL_nil_of_noHtml is h.2, List.append_nil]
end

theorem cellsHtml_nil : ∀ (cs : List Block), noHtmlBlocks cs = true → cellsHtml cs = []
  | [], _ => rfl
  | c :: cs, h => by
    simp only [noHtmlBlocks, Bool.and_eq_true] at h
    have hc : cellHtml c = [] := by
      cases c <;> first | rfl | exact htmlSpansL_nil_of_noHtml _ h.1
    rw [cellsHtml, hc, cellsHtml_nil cs h.2, List.append_nil]

mutual
theorem htmlOf_nil : ∀ (b : Block), noHtmlBlock b = true → htmlOf b = []
  | .htmlBlock .., h => by cases h
  | .paragraph k _, h => htmlSpansL_nil_of_noHtml k h
  | .heading _ _ k _, h => htmlSpansL_nil_of_noHtml k h
  | .setextHeading _ _ k _, h => htmlSpansL_nil_of_noHtml k h
  | .quote kids _, h => htmlOfL_nil kids h
  | .list _ _ items _, h => htmlOfL_nil items h
  | .listItem _ _ _ _ kids _, h => htmlOfL_nil kids h
  | .table _ header rows _, h => by
    simp only [noHtmlBlock, Bool.and_eq_true] at h
    simp only [htmlOf, htmlOfL_nil rows h.2, List.append_nil]
    cases header with
    | nil => rfl
    | cons hr _ =>
      simp only [noHtmlBlocks, Bool.and_eq_true] at h
      cases hr <;> first | rfl | exact cellsHtml_nil _ h.1.1
  | .tableRow _ cells _, h => cellsHtml_nil cells h
  | .tableCell _ k _, h => htmlSpansL_nil_of_noHtml k h
  | .blockCode .., _ => rfl
  | .codeFence .., _ => rfl
  | .thematicBreak .., _ => rfl
  | .blankLine _, _ => rfl
  | .linkRefDefBlock .., _ => rfl
theorem htmlOfL_nil : ∀ (bs : List Block), noHtmlBlocks bs = true → htmlOfL bs = []
  | [], _ => rfl
  | b :: bs, h => by
    simp only [noHtmlBlocks, Bool.and_eq_true] at h
    rw [htmlOfL, htmlOf_nil b h.1, htmlOfL_nil bs h.2, List.append_nil]
end

/-- **Raw-HTML processing disabled** (the tree holds no HtmlBlock / HtmlSpan token): the output
    consists *solely* of the renderer's own tags and escaped text — no verbatim leaf at all. -/
theorem C08_no_raw (o : Opts) (d : Doc) (h : levelsOks d.kids = true) (hn : noHtmlBlocks d.kids = true) :
    WellFormed (renderDoc o.q d) ∧ ∀ e ∈ renderDoc o.q d, isRaw e = false := by
  have hw := C08_with_raw o d h
  refine ⟨hw.2.1, ?_⟩
  have hr : rawsOf (renderDoc o.q d) = [] := by
    rw [hw.2.2, htmlOfL_nil d.kids hn]; split <;> rfl
  intro e he
  cases e <;> try rfl
  rename_i s
  have : s ∈ rawsOf (renderDoc o.q d) := by
    simp only [rawsOf, List.mem_filterMap]
    exact ⟨_, he, rfl⟩
  rw [hr] at this
  cases this

/-- **The escaping helpers themselves**, for every string: link destinations and image sources
    (`escape_url`), titles / alt text / language tags (`html.escape`) never end their attribute;
    text (`escape_html_text`, all four option sets) never opens a tag or a reference. -/
theorem C08_helpers (s : Str) (dq sq : Bool) :
    safeAttr (htmlEscapeUrl s) = true ∧ safeAttr (htmlEscape s) = true ∧
    safeText (escapeHtmlText dq sq s) = true :=
  ⟨safeAttr_htmlEscapeUrl s, safeAttr_htmlEscape s, safeText_escapeHtmlText dq sq s⟩

/-! Non-vacuity: a hostile tree meets the hypotheses, and its rendering is visibly inert. -/
def hostile : Doc :=
  { kids := [.paragraph [.image "x\"onerror=\"alert(1)".toList "t\"<".toList .uri none none [.rawText "a\"<b>&".toList],
                         .link "javascript:\"><script>".toList [] .uri none none [.rawText "<&>".toList]] 1,
             .codeFence "py\" onload=\"x".toList 0 "```".toList [] "</code>".toList 2,
             .heading 2 [] [.autoLink "a@b\"c".toList true] 3],
    footnotes := [] }

attribute [lit] hostile

example : levelsOks hostile.kids = true ∧ noHtmlBlocks hostile.kids = true := by decide

example : String.ofList (render {} hostile) =
    "<p><img src=\"x%22onerror=%22alert(1)\" alt=\"a&quot;&lt;b&gt;&amp;\" title=\"t&quot;&lt;\" /><a href=\"javascript:%22%3E%3Cscript%3E\">&lt;&amp;&gt;</a></p>\n<pre><code class=\"language-py&quot; onload=&quot;x\">&lt;/code&gt;</code></pre>\n<h2><a href=\"mailto:a@b%22c\">a@b\"c</a></h2>\n" := by
  rw [← String.toList_inj, String.toList_ofList]
  decide_lit

end Mistletoe.Props.C08
