/-
  C03 — Documents built from Markdown constructs parse to the tree they were built from.

  "When a document is written out from an arbitrary tree of CommonMark/GFM constructs … in any spelling
  the specification allows for that tree, the rendered HTML is equivalent to the HTML written directly
  from the tree."

  Proved here (`_partial`): a COMPOSITIONAL theorem for a fragment of the grammar, at every nesting depth,
  by induction over the tree from the theorems of C14 (inert lines form one paragraph; inert text is one
  RawText), C04 (lines behind a quote marker are one Quote around the parse of the unmarked lines) and
  C05 (blocks separated by a blank line are independent), plus the dispatch on an ATX heading line and on
  a thematic-break line (`Proofs/Compose.lean`, `Proofs/Compose2.lean`).

  INSIDE the fragment (tree type `T`, well-formedness `T.ok`, decidable):
    * paragraphs: one or more lines, each with 0–3 spaces of indentation, of words and punctuation with no
      block meaning (`inertLine`) and no inline meaning (`inertBody`): soft line breaks only;
    * ATX headings, levels 1–6, in ANY spelling the dispatcher accepts for that level and text (`headLine`:
      0–3 spaces of indent, one or more spaces after the `#`s, optional closing `#` run, trailing spaces);
      the text is inline-inert;
    * thematic breaks in ANY spelling the dispatcher accepts (`hrLine`: `***`, `- - -`, `  _____  `, …);
    * block quotes, nested to any depth, containing any of these; marker "> " before every line, or ">"
      before every line when no line of the content begins with a space;
    * siblings separated by exactly one empty line.
  Spelling choices covered: indent of paragraph lines, the whole spelling of heading and rule lines,
  '>' with or without space.  Equality of the HTML is literal (stronger than the normalised equivalence).

  OUTSIDE this file's fragment (lists come in with `Props/C03_Lists.lean`, fenced code and setext headings with
  `Props/C03_Code.lean`, tables and indented code with `Props/C03_Tables.lean`): setext headings, fenced and
  indented code, lists, tables, HTML blocks, link reference definitions; every inline construct other than text and soft breaks
  (emphasis, strong, strikethrough, code spans, links, images, autolinks, hard breaks, escapes, character
  references, raw HTML); lazy continuation lines; blocks that follow a paragraph without a blank line;
  more than one blank line between siblings; tabs (C04's restriction); a per-line mixture of "> " and ">".

  Token lists: the HTML renderer's (`Config.html`, regenerated from /repo; its block list is
  `C14.defaultTypes`), either value of `tableInterrupt`.  Gas: `needs ts` (explicit) or more.
-/
import Mistletoe.Proofs.Compose2
import Mistletoe.Proofs.Lit
namespace Mistletoe.Props.C03
open Mistletoe Mistletoe.Py Mistletoe.Block Mistletoe.Compose Mistletoe.Html
open Mistletoe.InertInline (inertClass)

/-- **The block phase parses a written tree back (partial: fragment above).**  For every well-formed
    forest `ts` (any depth), either `tableInterrupt`, and every gas ≥ `needs ts`: the block phase on the
    written lines returns exactly the expected entries — one per top-level node, quotes holding the
    entries of their children recursively, every entry reporting the line the writer put it on — the
    buffer is loose exactly when there is more than one top-level node, and no link definition is found. -/
theorem C03_block_phase_partial (ti : Bool) (ts : List T) (h : T.oks ts = true) (hne : ts ≠ []) (gas : Nat)
    (hg : needs ts ≤ gas) :
    blockPhase { types := Props.C14.defaultTypes, tableInterrupt := ti } gas (writes ts) =
      .ok ({ entries := entriesOf 1 ts, loose := decide (1 < ts.length) }, {}) := by
  obtain ⟨g, rfl⟩ : ∃ g, gas = needs ts + g := ⟨gas - needs ts, by omega⟩
  exact blockPhase_writes ti ts h hne g

/-- the same at an arbitrary place: lines numbered from `k + 1`, any state (in particular inside a quote,
    where `Paragraph.parse_setext` is off); a quote among the nodes switches `parse_setext` back on -/
theorem C03_tokenize_partial (ti : Bool) (ts : List T) (h : T.oks ts = true) (hne : ts ≠ []) (k : Nat) (st : St) (g : Nat) :
    tokenizeBlock { types := Props.C14.defaultTypes, tableInterrupt := ti } (needs ts + g)
        (Props.C14.numbered k (writes ts)) (k + 1) st =
      .ok ({ entries := entriesOf (k + 1) ts, loose := decide (1 < ts.length) },
           { setext := st.setext || ts.any isQuote, defs := st.defs }) :=
  nodes_tokenize ti ts h hne k st g

/-- **`Document(lines)` is the tree (partial).**  For a configuration whose block token list is
    `C14.defaultTypes` and whose span token classes are covered ones with `LineBreak` once (e.g. the HTML renderer's):
    the document's children are the expected block tokens — paragraphs holding their stripped lines as
    `RawText`s with soft `LineBreak`s between, headings holding their text as one `RawText`, thematic
    breaks, quotes holding their children — each with the line number the writer put it on; no footnotes. -/
theorem C03_document_partial (cfg : Document.Cfg) (ti : Bool)
    (hb : cfg.block = { types := Props.C14.defaultTypes, tableInterrupt := ti })
    (ht : ∀ t ∈ cfg.span, inertClass t = true) (hc : cfg.span.count .lineBreak = 1)
    (ts : List T) (h : T.oks ts = true) (hne : ts ≠ []) (gas : Nat) (hg : needs ts ≤ gas) :
    Document.parseLines cfg gas (writes ts) = .ok { kids := blocksOf 1 ts, footnotes := [] } ∧
    Document.parse cfg gas (writes ts).flatten = .ok { kids := blocksOf 1 ts, footnotes := [] } := by
  obtain ⟨g, rfl⟩ : ∃ g, gas = needs ts + g := ⟨gas - needs ts, by omega⟩
  exact ⟨parseLines_writes cfg ti hb ht hc ts h hne g, parse_writes cfg ti hb ht hc ts h hne g⟩

/-- **The HTML of the expected document is the HTML written directly from the tree**, for every quote option. -/
theorem C03_render_partial (o : Opts) (ts : List T) (hne : ts ≠ []) (fn : List (Str × Str × Str)) :
    render o { kids := blocksOf 1 ts, footnotes := fn } = htmlOf o ts := by
  cases ts with
  | nil => exact absurd rfl hne
  | cons t rest =>
    rw [htmlOf, ← flat_afterEach o.q (t :: rest) 1, blocksOf]
    exact render_kids o _ _ fn (by rw [flat_blockOf]; exact htmlNode_ne o.q t)

/-- **End to end (partial).**  `HtmlRenderer(**opts).render(Document(text))`, with the token lists the HTML
    renderer installs in the working tree, on the text written out from a well-formed forest, returns the
    HTML written directly from the forest: `<p>`/`<hN>` around the escaped text, `<hr />`,
    `<blockquote>` around the children, one newline after every block. -/
theorem C03_html_partial (o : Opts) (ts : List T) (h : T.oks ts = true) (hne : ts ≠ []) (gas : Nat) (hg : needs ts ≤ gas) :
    Config.renderHtml o gas (writes ts).flatten = some (htmlOf o ts) := by
  obtain ⟨g, rfl⟩ : ∃ g, gas = needs ts + g := ⟨gas - needs ts, by omega⟩
  rw [renderHtml_of_parse o _ _ _ (fun cfg hb ht hc => parse_writes cfg _ hb ht hc ts h hne g), C03_render_partial o ts hne]

/-- **Any two spellings of the same tree render the same HTML (partial)**, namely the HTML written from
    the tree without its spelling (`shape`: paragraph text, heading level and text, rule, quote). -/
theorem C03_spelling_independent_partial (o : Opts) (ts ts' : List T) (h : T.oks ts = true) (h' : T.oks ts' = true)
    (hne : ts ≠ []) (hs : shapes ts = shapes ts') (gas : Nat) (hg : needs ts ≤ gas) (hg' : needs ts' ≤ gas) :
    Config.renderHtml o gas (writes ts).flatten = some (htmlAs o.q (shapes ts)) ∧
    Config.renderHtml o gas (writes ts').flatten = Config.renderHtml o gas (writes ts).flatten := by
  have hne' : ts' ≠ [] := by
    intro e; subst e
    cases ts with
    | nil => exact hne rfl
    | cons t r => simp [shapes] at hs
  rw [C03_html_partial o ts h hne gas hg, C03_html_partial o ts' h' hne' gas hg']
  simp only [htmlOf, htmlKids_shapes, hs, and_self]

/-! ### Non-vacuity: a forest of depth 3 in two spellings -/

def L (s : String) : Str := s.toList

/-- heading; two-line paragraph with inert punctuation (indented first line); a quote ("> ") holding a
    heading with a closing `#` run, a nested quote (">") holding a paragraph and a rule, and a rule `- - -`;
    a rule `___` -/
def sample : List T := [
  .heading 1 (L "Title: a_b * c") (atx 1 (L "Title: a_b * c")),
  .para [L "  first line, 3.14) x | y # z\n", L "second & AT&T <, \"q\"\n"],
  .quote false [
    .heading 2 (L "Inner") (L "  ## Inner ##  \n"),
    .quote true [.para [L "deep text\n"], .hr (L "***\n")],
    .hr (L " - - -\n")],
  .hr (L "___\n")]

/-- the same tree in another spelling: indented heading with several spaces and a closing `#`, other
    paragraph indentation, the quote markers swapped, other rule characters and lengths -/
def sample' : List T := [
  .heading 1 (L "Title: a_b * c") (L "   #   Title: a_b * c #\n"),
  .para [L "first line, 3.14) x | y # z\n", L "   second & AT&T <, \"q\"\n"],
  .quote true [
    .heading 2 (L "Inner") (L "## Inner\n"),
    .quote false [.para [L "  deep text\n"], .hr (L "_ _ _\n")],
    .hr (L "*****\n")],
  .hr (L "  ---\n")]

attribute [lit] L sample sample'

theorem sample_ok : T.oks sample = true := by decide_lit
theorem sample'_ok : T.oks sample' = true := by decide_lit

example : writes sample =
    [L "# Title: a_b * c\n", L "\n", L "  first line, 3.14) x | y # z\n", L "second & AT&T <, \"q\"\n", L "\n",
     L ">   ## Inner ##  \n", L "> \n", L "> >deep text\n", L "> >\n", L "> >***\n", L "> \n", L ">  - - -\n", L "\n",
     L "___\n"] := by decide_lit
example : writes sample' =
    [L "   #   Title: a_b * c #\n", L "\n", L "first line, 3.14) x | y # z\n", L "   second & AT&T <, \"q\"\n", L "\n",
     L ">## Inner\n", L ">\n", L ">>   deep text\n", L ">> \n", L ">> _ _ _\n", L ">\n", L ">*****\n", L "\n",
     L "  ---\n"] := by decide_lit

def sampleHtml : Str :=
  L "<h1>Title: a_b * c</h1>\n<p>first line, 3.14) x | y # z\nsecond &amp; AT&amp;T &lt;, \"q\"</p>\n<blockquote>\n<h2>Inner</h2>\n<blockquote>\n<p>deep text</p>\n<hr />\n</blockquote>\n<hr />\n</blockquote>\n<hr />\n"

attribute [lit] sampleHtml

theorem sample_html : htmlOf {} sample = sampleHtml := by decide_lit

/-- the HTML written directly from the tree (both spellings: same tree) -/
example : htmlOf {} sample = sampleHtml ∧ htmlOf {} sample' = sampleHtml :=
  ⟨sample_html, by decide_lit⟩

theorem sample_shapes : shapes sample = shapes sample' := by
  simp only [sample, sample', shapes, shape, List.map_cons, List.map_nil, Document.joinNl]
  have e1 : strip (L "  first line, 3.14) x | y # z\n") = strip (L "first line, 3.14) x | y # z\n") := by decide_lit
  have e2 : strip (L "second & AT&T <, \"q\"\n") = strip (L "   second & AT&T <, \"q\"\n") := by decide_lit
  have e3 : strip (L "deep text\n") = strip (L "  deep text\n") := by decide_lit
  rw [e1, e2, e3]

example : needs sample = 176 ∧ needs sample' = 176 := by decide +kernel

/-- instance of `C03_html_partial`: the renderer on the written text gives that HTML … -/
example : Config.renderHtml {} 176 (writes sample).flatten = some sampleHtml := by
  rw [C03_html_partial {} sample sample_ok (by decide) 176 (by decide +kernel), sample_html]

/-- … and on the other spelling (instance of `C03_spelling_independent_partial`) -/
example : Config.renderHtml {} 176 (writes sample').flatten = Config.renderHtml {} 176 (writes sample).flatten :=
  (C03_spelling_independent_partial {} sample sample' sample_ok sample'_ok (by decide) sample_shapes 176
    (by decide +kernel) (by decide +kernel)).2

/-- the same two facts by evaluating the model on the text, without the theorem (the real renderer gives this
    string for both texts, too) -/
example : Config.renderHtml {} 176 (writes sample).flatten = some sampleHtml ∧
    Config.renderHtml {} 176 (writes sample').flatten = some sampleHtml :=
  ⟨Config.renderHtml_of (by decide_lit), Config.renderHtml_of (by decide_lit)⟩

/-- instance of `C03_block_phase_partial`, with the entries shown through the C05 digest
    (kind, line, origin; kinds: 1 heading, 2 quote, 4 thematic break, 9 paragraph) -/
example : Props.C05.digestR (blockPhase { types := Props.C14.defaultTypes } 176 (writes sample)) =
    some ([(1, 1, 1), (9, 3, 3), (2, 6, 6), (1, 6, 6), (2, 8, 8), (9, 8, 8), (4, 10, 10), (4, 12, 12), (4, 14, 14)], true, 0) := by
  rw [C03_block_phase_partial true sample sample_ok (by decide) 176 (by decide +kernel)]
  decide +kernel

/-- the predicate is not trivially true: a setext underline, emphasis, a list marker, a heading line whose
    text is not the stated one, a rule line that is a setext underline candidate `===`, an empty quote,
    ">" before a line that begins with a space -/
example : [T.para [L "a\n", L "---\n"], T.para [L "*a*\n"], T.para [L "- a\n"], T.heading 1 (L "x") (L "# y\n"),
    T.hr (L "===\n"), T.quote false [], T.quote true [T.para [L " a\n"]]].map T.ok = List.replicate 7 false := by
  decide_lit

end Mistletoe.Props.C03
