/-
  C04 — Quoting or list-indenting any document wraps its parse unchanged.

  "If a document parses to the block sequence B, then the same text with a block-quote marker put
  before every line parses to exactly one block quote whose content is B …  The set of link
  definitions found is unchanged."

  Proved here over the block-parser model (`Model/Block.lean`), for every token-type list in which
  `Quote` is consulted before `Paragraph` (in particular the default list and the Markdown
  renderer's), either `tableInterrupt`, every start line, every state, every gas:

  * `C04_quote_wraps_eq`: `tokenize_block` on the marked lines IS one `Quote` around the result of
    `tokenize_block` on the unmarked lines run with `Paragraph.parse_setext` switched off — as an
    equation between results, raised exceptions included; the nested tokenizer gets exactly the
    original lines (same ghost origins) and the same start line, and the definitions it collects
    are the definitions of the outer parse.
  * `C04_quote_wraps` / `_bare` / `_mixed`: the same as an implication, for the marker "> ", the
    marker ">" (before lines that do not begin with a space) and any line-by-line mixture.
  * `C04_quote_wraps_same`: whenever the parse of the unmarked lines does not depend on the
    setext switch, the quote's content is exactly that parse (B) and the definitions are the same.
  * `C04_quote_phase`, `C04_quote_phase_bare`, `C04_quote_phase_same`: the same for the block phase of a document.
  * `C04_item_wraps_eq`, `C04_item_wraps_partial`, `C04_item_phase_partial` (+ `_default_`, `_markdown_`):
    a marker (`-`, `+`, `*`, one to nine digits and `.` or `)`) and 1-4 spaces before the first line, that
    many columns of spaces before every other line except the "\n" lines: exactly one single-item `List`
    whose item content is the parse of the original text, same definitions (see the section for the two
    added hypotheses and why the law is false without them).

  The setext switch is the recorded finding of C04 ('> Foo\n> ---' is a paragraph and a thematic
  break); it is exhibited on the model at the end of the file, together with a second consequence of
  the same mechanism (a nested quote switches setext headings back on for the rest of the outer quote).
  The text must be free of tabs: `Quote.convert_leading_tabs` rewrites the first ">\t" anywhere in a line.
  The namespace `Props.C04` is continued in Proofs/WrapIndent.lean (the general list half; restated in Props/C04_General.lean).
-/
import Mistletoe.Proofs.Wrap
import Mistletoe.Props.C14
import Mistletoe.Proofs.Lit
namespace Mistletoe.Props.C04
open Mistletoe Mistletoe.Py Mistletoe.Scan Mistletoe.Block
open Mistletoe.Props.C14 (defaultTypes markdownTypes numbered numbered_cons numbered_map_fn numbered_getLast blockPhase_numbered)

/-! ### Block quotes -/

/-- **Equation form.**  `cfg.types = pre ++ Quote :: post` with neither `Quote` nor `Paragraph` in `pre`
    (no other token type starts on a line that begins with '>'); `qs` are the lines `ls` each behind a
    marker "> " or ">" (`QuotedAll`: tab-free, same ghost origins, ">" only before a line that does not
    begin with a space).  Then for every start line, state and gas `g`, `tokenize_block` on `qs` with gas
    `g + (pre.length + 3)` equals `wrapQuote` of `tokenize_block` on `ls` with gas `g`, the same start
    line and `parse_setext := False`: an error stays that error; a result `(b, st')` becomes the one-entry
    buffer `[Quote(b.entries, b.loose) @ start]`, not loose, with state `st'` and `parse_setext` back on. -/
theorem C04_quote_wraps_eq (cfg : Cfg) (pre post : List BTok) (hty : cfg.types = pre ++ .quote :: post)
    (hnq : .quote ∉ pre) (hnp : .paragraph ∉ pre) (q0 l0 : Line) (qs ls : List Line)
    (h : QuotedAll (q0 :: qs) (l0 :: ls)) (start : Nat) (st : St) (g : Nat) :
    tokenizeBlock cfg (g + (pre.length + 3)) (q0 :: qs) start st =
      wrapQuote start l0.origin (tokenizeBlock cfg g (l0 :: ls) start { st with setext := false }) :=
  tokenizeBlock_quoted cfg pre post hty hnq hnp q0 l0 qs ls h.1 h.2 start st g

/-- any mixture of the two markers -/
theorem C04_quote_wraps_mixed (cfg : Cfg) (pre post : List BTok) (hty : cfg.types = pre ++ .quote :: post)
    (hnq : .quote ∉ pre) (hnp : .paragraph ∉ pre) (q0 l0 : Line) (qs ls : List Line)
    (h : QuotedAll (q0 :: qs) (l0 :: ls)) (start : Nat) (st st' : St) (gas : Nat) (b : Buf)
    (hb : tokenizeBlock cfg gas (l0 :: ls) start { st with setext := false } = .ok (b, st')) :
    tokenizeBlock cfg (gas + (pre.length + 3)) (q0 :: qs) start st =
      .ok ({ entries := [.quote b.entries b.loose start l0.origin], loose := false }, { st' with setext := true }) := by
  rw [C04_quote_wraps_eq cfg pre post hty hnq hnp q0 l0 qs ls h start st gas, hb]; rfl

/-- **Marker "> " before every line.**  If `tokenize_block` on a non-empty buffer of tab-free lines,
    started at line `start` in state `st` with `Paragraph.parse_setext` off, returns the buffer `b` and the
    state `st'` (whose `defs` are the link definitions found so far), then `tokenize_block` on the same lines
    each behind "> ", started at the same line in state `st`, with `pre.length + 3` more gas, returns
    exactly one entry — a `Quote` reported on line `start` (ghost origin: that of the first line) whose
    content is `b.entries` and whose looseness is `b.loose` — in a buffer that is not loose, with the same
    definitions `st'.defs` and `parse_setext` on. -/
theorem C04_quote_wraps (cfg : Cfg) (pre post : List BTok) (hty : cfg.types = pre ++ .quote :: post)
    (hnq : .quote ∉ pre) (hnp : .paragraph ∉ pre) (l0 : Line) (ls : List Line)
    (hnt : ∀ l ∈ l0 :: ls, '\t' ∉ l.s) (start : Nat) (st st' : St) (gas : Nat) (b : Buf)
    (hb : tokenizeBlock cfg gas (l0 :: ls) start { st with setext := false } = .ok (b, st')) :
    tokenizeBlock cfg (gas + (pre.length + 3)) ((l0 :: ls).map quoteSp) start st =
      .ok ({ entries := [.quote b.entries b.loose start l0.origin], loose := false }, { st' with setext := true }) :=
  C04_quote_wraps_mixed cfg pre post hty hnq hnp (quoteSp l0) l0 (ls.map quoteSp) ls
    (quotedAll_map_sp (l0 :: ls) hnt) start st st' gas b hb

/-- **Marker ">" before every line**, none of which begins with a space. -/
theorem C04_quote_wraps_bare (cfg : Cfg) (pre post : List BTok) (hty : cfg.types = pre ++ .quote :: post)
    (hnq : .quote ∉ pre) (hnp : .paragraph ∉ pre) (l0 : Line) (ls : List Line)
    (hnt : ∀ l ∈ l0 :: ls, '\t' ∉ l.s ∧ NoLeadSp l.s) (start : Nat) (st st' : St) (gas : Nat) (b : Buf)
    (hb : tokenizeBlock cfg gas (l0 :: ls) start { st with setext := false } = .ok (b, st')) :
    tokenizeBlock cfg (gas + (pre.length + 3)) ((l0 :: ls).map quoteBare) start st =
      .ok ({ entries := [.quote b.entries b.loose start l0.origin], loose := false }, { st' with setext := true }) :=
  C04_quote_wraps_mixed cfg pre post hty hnq hnp (quoteBare l0) l0 (ls.map quoteBare) ls
    (quotedAll_map_bare (l0 :: ls) hnt) start st st' gas b hb

/-- the default token types (`HtmlBlock` in front, as the HTML renderer installs it), either `tableInterrupt`:
    `HtmlBlock`, `BlockCode`, `Heading` are consulted before `Quote` and do not start on "> …" -/
theorem C04_quote_wraps_default (ti : Bool) (l0 : Line) (ls : List Line)
    (hnt : ∀ l ∈ l0 :: ls, '\t' ∉ l.s) (start : Nat) (st st' : St) (gas : Nat) (b : Buf)
    (hb : tokenizeBlock { types := defaultTypes, tableInterrupt := ti } gas (l0 :: ls) start { st with setext := false } = .ok (b, st')) :
    tokenizeBlock { types := defaultTypes, tableInterrupt := ti } (gas + 6) ((l0 :: ls).map quoteSp) start st =
      .ok ({ entries := [.quote b.entries b.loose start l0.origin], loose := false }, { st' with setext := true }) :=
  C04_quote_wraps { types := defaultTypes, tableInterrupt := ti } [.htmlBlock, .blockCode, .heading]
    [.codeFence, .thematicBreak, .list, .table, .footnote, .paragraph] rfl (by decide) (by decide)
    l0 ls hnt start st st' gas b hb

/-- the Markdown renderer's token types, either `tableInterrupt`: `LinkReferenceDefinitionBlock`, `BlankLine`,
    `HtmlBlock`, `BlockCode`, `Heading` are consulted before `Quote` and do not start on "> …" -/
theorem C04_quote_wraps_markdown (ti : Bool) (l0 : Line) (ls : List Line)
    (hnt : ∀ l ∈ l0 :: ls, '\t' ∉ l.s) (start : Nat) (st st' : St) (gas : Nat) (b : Buf)
    (hb : tokenizeBlock { types := markdownTypes, tableInterrupt := ti } gas (l0 :: ls) start { st with setext := false } = .ok (b, st')) :
    tokenizeBlock { types := markdownTypes, tableInterrupt := ti } (gas + 8) ((l0 :: ls).map quoteSp) start st =
      .ok ({ entries := [.quote b.entries b.loose start l0.origin], loose := false }, { st' with setext := true }) :=
  C04_quote_wraps { types := markdownTypes, tableInterrupt := ti } [.linkRefDefBlock, .blankLine, .htmlBlock, .blockCode, .heading]
    [.codeFence, .thematicBreak, .list, .table, .paragraph] rfl (by decide) (by decide)
    l0 ls hnt start st st' gas b hb

/-- **The quote's content is exactly B.**  `B`, `st₁` is the parse of the unmarked lines as a document of
    their own (state `st`, setext headings as the state says).  Flag-independence hypothesis: with
    `parse_setext` off the same lines give the same buffer `B` (`hoff`) and the same definitions (`hdefs`).
    Then the marked lines parse to exactly one `Quote` whose content is `B.entries` (looseness `B.loose`),
    and the definitions found are those of the unmarked parse. -/
theorem C04_quote_wraps_same (cfg : Cfg) (pre post : List BTok) (hty : cfg.types = pre ++ .quote :: post)
    (hnq : .quote ∉ pre) (hnp : .paragraph ∉ pre) (q0 l0 : Line) (qs ls : List Line)
    (h : QuotedAll (q0 :: qs) (l0 :: ls)) (start : Nat) (st st₁ st₂ : St) (gas : Nat) (B : Buf)
    (_hB : tokenizeBlock cfg gas (l0 :: ls) start st = .ok (B, st₁))
    (hoff : tokenizeBlock cfg gas (l0 :: ls) start { st with setext := false } = .ok (B, st₂))
    (hdefs : st₂.defs = st₁.defs) :
    ∃ st₃, tokenizeBlock cfg (gas + (pre.length + 3)) (q0 :: qs) start st =
        .ok ({ entries := [.quote B.entries B.loose start l0.origin], loose := false }, st₃)
      ∧ st₃.defs = st₁.defs ∧ st₃.setext = true :=
  ⟨{ st₂ with setext := true }, C04_quote_wraps_mixed cfg pre post hty hnq hnp q0 l0 qs ls h start st st₂ gas B hoff, hdefs, rfl⟩

/-! ### The block phase of a document -/

theorem numbered_map_sp (k : Nat) (ss : List Str) :
    numbered k (ss.map (fun s => '>' :: ' ' :: s)) = (numbered k ss).map quoteSp := numbered_map_fn _ k ss

theorem quotedAll_numbered (f : Str → Str) : ∀ (k : Nat) (ss : List Str),
    (∀ s ∈ ss, '\t' ∉ s ∧ (f s = '>' :: ' ' :: s ∨ (f s = '>' :: s ∧ NoLeadSp s))) →
    QuotedAll (numbered k (ss.map f)) (numbered k ss)
  | _, [], _ => trivial
  | k, s :: ss, h => by
    rw [List.map_cons, numbered_cons, numbered_cons]
    exact ⟨⟨rfl, h s (by simp)⟩, quotedAll_numbered f (k + 1) ss (fun x hx => h x (List.mem_cons_of_mem _ hx))⟩

/-- **The equation for the lines of a text**, numbered from any line `k + 1`, each behind the marker `f` puts before it:
    the block phase (`k = 0`, fresh state) and the quotes of the written trees (`Proofs/Compose.lean`) are its instances. -/
theorem tokenizeBlock_quoted_numbered (cfg : Cfg) (pre post : List BTok) (hty : cfg.types = pre ++ .quote :: post)
    (hnq : .quote ∉ pre) (hnp : .paragraph ∉ pre) (f : Str → Str) (k : Nat) (ss : List Str) (hne : ss ≠ [])
    (h : ∀ s ∈ ss, '\t' ∉ s ∧ (f s = '>' :: ' ' :: s ∨ (f s = '>' :: s ∧ NoLeadSp s))) (st : St) (g : Nat) :
    tokenizeBlock cfg (g + (pre.length + 3)) (numbered k (ss.map f)) (k + 1) st =
      wrapQuote (k + 1) (k + 1) (tokenizeBlock cfg g (numbered k ss) (k + 1) { st with setext := false }) := by
  cases ss with
  | nil => exact absurd rfl hne
  | cons s ss =>
    have hq := quotedAll_numbered f k (s :: ss) h
    rw [List.map_cons, numbered_cons, numbered_cons] at hq ⊢
    exact C04_quote_wraps_eq cfg pre post hty hnq hnp _ _ _ _ hq (k + 1) st g

/-- **Block phase, marker "> ".**  `ss` are the lines of a document (non-empty, tab-free); the inner parse is
    `tokenize_block` on them, numbered from line 1, in the initial state but with `parse_setext` off.  If it
    returns `(b, st')`, the block phase of the document with "> " before every line returns exactly one
    `Quote` on line 1 with content `b.entries` — every nested entry with the `line_number` and ghost origin the
    inner parse computed, since the nested tokenizer is started on the line number of the first line — and the
    definitions `st'.defs`. -/
theorem C04_quote_phase (cfg : Cfg) (pre post : List BTok) (hty : cfg.types = pre ++ .quote :: post)
    (hnq : .quote ∉ pre) (hnp : .paragraph ∉ pre) (ss : List Str) (hne : ss ≠ []) (hnt : ∀ s ∈ ss, '\t' ∉ s)
    (gas : Nat) (b : Buf) (st' : St)
    (hb : tokenizeBlock cfg gas (numbered 0 ss) 1 { setext := false } = .ok (b, st')) :
    blockPhase cfg (gas + (pre.length + 3)) (ss.map (fun s => '>' :: ' ' :: s)) =
      .ok ({ entries := [.quote b.entries b.loose 1 1], loose := false }, { st' with setext := true }) :=
  (tokenizeBlock_quoted_numbered cfg pre post hty hnq hnp _ 0 ss hne (fun s hs => ⟨hnt s hs, .inl rfl⟩) {} gas).trans
    (congrArg (wrapQuote 1 1) hb)

/-- **Block phase, marker ">"**, for a document none of whose lines begins with a space. -/
theorem C04_quote_phase_bare (cfg : Cfg) (pre post : List BTok) (hty : cfg.types = pre ++ .quote :: post)
    (hnq : .quote ∉ pre) (hnp : .paragraph ∉ pre) (ss : List Str) (hne : ss ≠ [])
    (hnt : ∀ s ∈ ss, '\t' ∉ s ∧ NoLeadSp s) (gas : Nat) (b : Buf) (st' : St)
    (hb : tokenizeBlock cfg gas (numbered 0 ss) 1 { setext := false } = .ok (b, st')) :
    blockPhase cfg (gas + (pre.length + 3)) (ss.map (fun s => '>' :: s)) =
      .ok ({ entries := [.quote b.entries b.loose 1 1], loose := false }, { st' with setext := true }) :=
  (tokenizeBlock_quoted_numbered cfg pre post hty hnq hnp _ 0 ss hne (fun s hs => ⟨(hnt s hs).1, .inr ⟨rfl, (hnt s hs).2⟩⟩) {}
    gas).trans (congrArg (wrapQuote 1 1) hb)

/-- **Block phase: the quote's content is the document's parse B**, whenever that parse does not depend on
    the setext switch (`hoff`, `hdefs`); the definitions found are the document's. -/
theorem C04_quote_phase_same (cfg : Cfg) (pre post : List BTok) (hty : cfg.types = pre ++ .quote :: post)
    (hnq : .quote ∉ pre) (hnp : .paragraph ∉ pre) (ss : List Str) (hne : ss ≠ []) (hnt : ∀ s ∈ ss, '\t' ∉ s)
    (gas : Nat) (B : Buf) (st₁ st₂ : St)
    (_hB : blockPhase cfg gas ss = .ok (B, st₁))
    (hoff : tokenizeBlock cfg gas (numbered 0 ss) 1 { setext := false } = .ok (B, st₂))
    (hdefs : st₂.defs = st₁.defs) :
    ∃ st₃, blockPhase cfg (gas + (pre.length + 3)) (ss.map (fun s => '>' :: ' ' :: s)) =
        .ok ({ entries := [.quote B.entries B.loose 1 1], loose := false }, st₃)
      ∧ st₃.defs = st₁.defs ∧ st₃.setext = true :=
  ⟨{ st₂ with setext := true }, C04_quote_phase cfg pre post hty hnq hnp ss hne hnt gas B st₂ hoff, hdefs, rfl⟩

/-! ### List items

  What the model computes for the item: `List.read` makes the one item loose only if its content has more
  than one block ("only consider the last list item loose if there's more than one element"), so the item's
  looseness is `B.entries.length > 1 && B.loose`; its indentation is 0, its content offset `|m| + pad`, its
  leader `m`; list and item are reported on the first line.  The nested tokenizer runs in the same state as
  the outer one (no setext switch here), so the content is B itself and the definitions are B's.

  `_partial`: two hypotheses are added to the domain of the property (texts without tabs, not ending in a blank
  line, first line starting with a non-space character, no marker/thematic-break coincidence), because the law
  is false without them, on the model and on the implementation alike (examples at the end of the file):
  * every line other than "\n" has, after its leading spaces, a character that is not whitespace (`ContLine`):
    a line beginning with U+2003, form feed, … is not recognised as indented by `parse_continuation`
    (`[ \t]*` then `\S`) and is taken, with its indentation, as a lazy continuation line — the recorded
    finding "unicode-whitespace-edge";
  * the blank lines are exactly "\n": `parse_continuation` turns every whitespace-only line into "\n", which
    changes the content of a fenced code block that contains such a line (the specification does the same). -/

/-- **Equation form**: `tokenize_block` on the lines indented as one list item is one single-item `List`
    around the result of `tokenize_block` on the original lines (same start line, same state), errors included. -/
theorem C04_item_wraps_eq (cfg : Cfg) (pre post : List BTok) (hty : cfg.types = pre ++ .list :: post)
    (hnl : .list ∉ pre) (hnp : .paragraph ∉ pre) (hnt : .table ∉ pre)
    (m : Str) (hm : ListLeader m) (pad : Nat) (h1 : 1 ≤ pad) (h4 : pad ≤ 4)
    (l0' l0 : Line) (rest' rest : List Line) (hf : FirstAs m pad l0' l0) (htb : Scan.thematicBreak l0'.s = false)
    (hrest : IndentedAll (m.length + pad) rest' rest) (hlast : trailNl 0 rest = 0) (start : Nat) (st : St) (g : Nat) :
    tokenizeBlock cfg (g + (pre.length + 4)) (l0' :: rest') start st =
      wrapItem (m.length + pad) m start l0.origin (tokenizeBlock cfg g (l0 :: rest) start st) := by
  have h := tokenizeBlock_indented cfg pre post hty hnl hnp hnt m hm 0 (by omega) pad h1 h4 l0' l0 rest' rest hf htb
    (by rw [Nat.zero_add]; exact indentedAllSp_of _ hrest) hlast start st g
  rwa [Nat.zero_add, wrapItemAt_zero] at h

/-- **A buffer indented as one list item parses to one single-item list whose content is the parse of the
    buffer.**  `cfg.types = pre ++ List :: post` with none of `List`, `Paragraph`, `Table` in `pre`; `m` a list
    marker (`ListLeader`: "-", "+", "*", or one to nine digits and "." or ")" — `listLeader_bullet`,
    `listLeader_ordered`), `pad` = 1 … 4 spaces after it.  The buffer `l0 :: ls`: `l0` begins with a
    non-whitespace character; every other line is "\n" or has a non-whitespace character after its leading
    spaces and ends with its only newline; the last line is not "\n"; marker + first line is not a thematic
    break.  If `tokenize_block` on the buffer returns `(b, st')`, then on the buffer with `m` and `pad` spaces
    before the first line and `|m| + pad` spaces before every other line except the "\n" lines, with
    `pre.length + 4` more gas, it returns exactly one `List` of one `ListItem` with content `b.entries`,
    loose iff `b` is loose and has more than one entry, indentation 0, content offset `|m| + pad`, leader `m` —
    and the same state `st'`, hence the same link definitions. -/
theorem C04_item_wraps_partial (cfg : Cfg) (pre post : List BTok) (hty : cfg.types = pre ++ .list :: post)
    (hnl : .list ∉ pre) (hnp : .paragraph ∉ pre) (hnt : .table ∉ pre)
    (m : Str) (hm : ListLeader m) (pad : Nat) (h1 : 1 ≤ pad) (h4 : pad ≤ 4)
    (l0 : Line) (ls : List Line) (c0 : Char) (r0 : Str) (hs : l0.s = c0 :: r0) (hc0 : pyIsSpace c0 = false)
    (hcont : ∀ l ∈ ls, l.s = ['\n'] ∨ ContLine l.s)
    (hlast : ∀ l, ls.getLast? = some l → l.s ≠ ['\n'])
    (htb : Scan.thematicBreak (m ++ List.replicate pad ' ' ++ l0.s) = false)
    (start : Nat) (st st' : St) (gas : Nat) (b : Buf)
    (hb : tokenizeBlock cfg gas (l0 :: ls) start st = .ok (b, st')) :
    tokenizeBlock cfg (gas + (pre.length + 4)) (markLine m pad l0 :: ls.map (indentLine (m.length + pad))) start st =
      .ok ({ entries := [.list [.mk b.entries (decide (b.entries.length > 1) && b.loose) 0 (m.length + pad) m start l0.origin]
                           start l0.origin], loose := false }, st') := by
  rw [C04_item_wraps_eq cfg pre post hty hnl hnp hnt m hm pad h1 h4 (markLine m pad l0) l0 _ ls
    (firstAs_mark m pad l0 c0 r0 hs hc0) htb (indentedAll_map _ ls hcont) (trailNl_zero ls 0 hlast (fun _ => rfl)) start st gas, hb]
  rfl

def indentDoc (m : Str) (pad : Nat) : List Str → List Str
  | [] => []
  | s0 :: ss => (m ++ List.replicate pad ' ' ++ s0) ::
      ss.map (fun s => if s = ['\n'] then s else List.replicate (m.length + pad) ' ' ++ s)

theorem numbered_map_indent (W : Nat) (k : Nat) (ss : List Str) :
    numbered k (ss.map (fun s => if s = ['\n'] then s else List.replicate W ' ' ++ s)) = (numbered k ss).map (indentLine W) := by
  rw [numbered_map_fn]
  refine List.map_congr_left (fun l _ => ?_)
  unfold indentLine
  by_cases h : l.s = ['\n']
  · rw [if_pos h, if_pos h]
  · rw [if_neg h, if_neg h]

/-- checkable form of the hypotheses on the document: the first line begins with a non-whitespace character;
    every other line is "\n" or `contLineB`; the last line is not "\n" -/
def itemDocOk : List Str → Bool
  | [] => false
  | s0 :: ss => (match s0 with | c :: _ => !pyIsSpace c | [] => false)
      && ss.all (fun s => s == ['\n'] || contLineB s) && (ss.getLast? != some ['\n'])

theorem itemDocOk_spec (s0 : Str) (ss : List Str) (h : itemDocOk (s0 :: ss) = true) :
    (∃ c0 r0, s0 = c0 :: r0 ∧ pyIsSpace c0 = false) ∧ (∀ s ∈ ss, s = ['\n'] ∨ ContLine s) ∧ ss.getLast? ≠ some ['\n'] := by
  simp only [itemDocOk, Bool.and_eq_true, List.all_eq_true, Bool.or_eq_true, beq_iff_eq, bne_iff_ne, ne_eq] at h
  obtain ⟨⟨h0, hall⟩, hlast⟩ := h
  refine ⟨?_, fun s hs => (hall s hs).imp id (contLine_of s), hlast⟩
  cases s0 with
  | nil => simp at h0
  | cons c0 r0 => exact ⟨c0, r0, rfl, by simpa using h0⟩

/-- **Block phase: the document indented as one list item parses to one single-item list whose content is
    the document's parse B, with B's link definitions.** -/
theorem C04_item_phase_partial (cfg : Cfg) (pre post : List BTok) (hty : cfg.types = pre ++ .list :: post)
    (hnl : .list ∉ pre) (hnp : .paragraph ∉ pre) (hnt : .table ∉ pre)
    (m : Str) (hm : ListLeader m) (pad : Nat) (h1 : 1 ≤ pad) (h4 : pad ≤ 4)
    (s0 : Str) (ss : List Str) (hok : itemDocOk (s0 :: ss) = true)
    (htb : Scan.thematicBreak (m ++ List.replicate pad ' ' ++ s0) = false)
    (gas : Nat) (B : Buf) (st' : St) (hB : blockPhase cfg gas (s0 :: ss) = .ok (B, st')) :
    blockPhase cfg (gas + (pre.length + 4)) (indentDoc m pad (s0 :: ss)) =
      .ok ({ entries := [.list [.mk B.entries (decide (B.entries.length > 1) && B.loose) 0 (m.length + pad) m 1 1] 1 1],
             loose := false }, st') := by
  obtain ⟨⟨c0, r0, rfl, h0⟩, hall, hlast⟩ := itemDocOk_spec s0 ss hok
  rw [blockPhase_numbered, numbered_cons] at hB
  rw [blockPhase_numbered]
  simp only [indentDoc]
  rw [numbered_cons, numbered_map_indent]
  exact C04_item_wraps_partial cfg pre post hty hnl hnp hnt m hm pad h1 h4 { s := c0 :: r0, origin := 0 + 1 } (numbered (0 + 1) ss)
    c0 r0 rfl h0 (fun l hl => hall _ (C14.numbered_mem _ _ _ hl)) (fun l hl hs => hlast (hs ▸ numbered_getLast _ ss l hl))
    htb 1 {} st' gas B hB

/-- the default token types, either `tableInterrupt`: `HtmlBlock`, `BlockCode`, `Heading`, `Quote`, `CodeFence`,
    `ThematicBreak` are consulted before `List` -/
theorem C04_item_phase_default_partial (ti : Bool) (m : Str) (hm : ListLeader m) (pad : Nat) (h1 : 1 ≤ pad) (h4 : pad ≤ 4)
    (s0 : Str) (ss : List Str) (hok : itemDocOk (s0 :: ss) = true)
    (htb : Scan.thematicBreak (m ++ List.replicate pad ' ' ++ s0) = false)
    (gas : Nat) (B : Buf) (st' : St) (hB : blockPhase { types := defaultTypes, tableInterrupt := ti } gas (s0 :: ss) = .ok (B, st')) :
    blockPhase { types := defaultTypes, tableInterrupt := ti } (gas + 10) (indentDoc m pad (s0 :: ss)) =
      .ok ({ entries := [.list [.mk B.entries (decide (B.entries.length > 1) && B.loose) 0 (m.length + pad) m 1 1] 1 1],
             loose := false }, st') :=
  C04_item_phase_partial { types := defaultTypes, tableInterrupt := ti } [.htmlBlock, .blockCode, .heading, .quote, .codeFence, .thematicBreak]
    [.table, .footnote, .paragraph] rfl (by decide) (by decide) (by decide) m hm pad h1 h4 s0 ss hok htb gas B st' hB

/-- the Markdown renderer's token types, either `tableInterrupt` -/
theorem C04_item_phase_markdown_partial (ti : Bool) (m : Str) (hm : ListLeader m) (pad : Nat) (h1 : 1 ≤ pad) (h4 : pad ≤ 4)
    (s0 : Str) (ss : List Str) (hok : itemDocOk (s0 :: ss) = true)
    (htb : Scan.thematicBreak (m ++ List.replicate pad ' ' ++ s0) = false)
    (gas : Nat) (B : Buf) (st' : St) (hB : blockPhase { types := markdownTypes, tableInterrupt := ti } gas (s0 :: ss) = .ok (B, st')) :
    blockPhase { types := markdownTypes, tableInterrupt := ti } (gas + 12) (indentDoc m pad (s0 :: ss)) =
      .ok ({ entries := [.list [.mk B.entries (decide (B.entries.length > 1) && B.loose) 0 (m.length + pad) m 1 1] 1 1],
             loose := false }, st') :=
  C04_item_phase_partial { types := markdownTypes, tableInterrupt := ti }
    [.linkRefDefBlock, .blankLine, .htmlBlock, .blockCode, .heading, .quote, .codeFence, .thematicBreak]
    [.table, .paragraph] rfl (by decide) (by decide) (by decide) m hm pad h1 h4 s0 ss hok htb gas B st' hB

/-! ### Non-vacuity, and the findings on the model -/

def L (s : String) : Str := s.toList
attribute [lit] L

-- The views below have a member for a single entry: a pair over `List Entry` and `List Item` alone is compiled by
-- well-founded recursion, without a message.
mutual
def outlineE (d : Nat) : Entry → List (Nat × String × Nat × Nat)
  | .blockCode _ ln og => [(d, "code", ln, og)]
  | .heading _ _ _ ln og => [(d, "h", ln, og)]
  | .quote inner loose ln og => (d, if loose then "quote(loose)" else "quote", ln, og) :: outline (d + 1) inner
  | .codeFence _ _ _ _ _ ln og => [(d, "fence", ln, og)]
  | .thematicBreak _ ln og => [(d, "hr", ln, og)]
  | .list items ln og => (d, "list", ln, og) :: outlineI (d + 1) items
  | .table _ _ ln og => [(d, "table", ln, og)]
  | .footnote _ ln og => [(d, "defs", ln, og)]
  | .linkRefDefs _ ln og => [(d, "defs", ln, og)]
  | .paragraph _ ln og => [(d, "p", ln, og)]
  | .setext _ ln og => [(d, "setext", ln, og)]
  | .htmlBlock _ ln og => [(d, "html", ln, og)]
  | .blankLine ln og => [(d, "blank", ln, og)]
/-- (depth, kind, line_number, ghost origin) of every entry, outermost first (decidable view of a parse; not the outlines of
    Proofs/Outline.lean, which are forests of headings) -/
def outline (d : Nat) : List Entry → List (Nat × String × Nat × Nat)
  | [] => []
  | e :: es => outlineE d e ++ outline d es
def outlineI (d : Nat) : List Item → List (Nat × String × Nat × Nat)
  | [] => []
  | .mk inner loose _ _ _ ln og :: is =>
    (d, if loose then "item(loose)" else "item", ln, og) :: outline (d + 1) inner ++ outlineI d is
end

def outlineOf (r : Res (Buf × St)) : List (Nat × String × Nat × Nat) × Nat :=
  match r with
  | .ok (b, st) => (outline 0 b.entries, st.defs.length)
  | .err _ => ([], 0)

mutual
def textsE : Entry → List (List Str)
  | .blockCode ls _ _ => [ls]
  | .codeFence ls _ _ _ _ _ _ => [ls]
  | .paragraph ls _ _ => [ls]
  | .quote inner _ _ _ => texts inner
  | .list items _ _ => textsI items
  | _ => []
def texts : List Entry → List (List Str)
  | [] => []
  | e :: es => textsE e ++ texts es
def textsI : List Item → List (List Str)
  | [] => []
  | .mk inner _ _ _ _ _ _ :: is => texts inner ++ textsI is
end

def textsOf (r : Res (Buf × St)) : List (List Str) := match r with | .ok (b, _) => texts b.entries | .err _ => []

theorem exists_of_isOk {α} (r : Res α) (h : r.isOk = true) : ∃ a, r = .ok a := Res.exists_of_isOk h

def dflt : Cfg := { types := defaultTypes }
def mdown : Cfg := { types := markdownTypes }

def doc : List Str := [L "# h\n", L "para\n", L "- a\n", L "- b\n", L "\n", L "[x]: /u\n"]
attribute [lit] doc

example : outlineOf (blockPhase dflt 30 doc) =
    ([(0, "h", 1, 1), (0, "p", 2, 2), (0, "list", 3, 3), (1, "item", 3, 3), (2, "p", 3, 3), (1, "item", 4, 4), (2, "p", 4, 4),
      (0, "defs", 6, 6)], 1) := by decide_lit

/-- the same behind "> ": one quote, the same entries one level down with the same line numbers, one definition -/
example : outlineOf (blockPhase dflt 36 (doc.map (fun s => '>' :: ' ' :: s))) =
    ([(0, "quote(loose)", 1, 1), (1, "h", 1, 1), (1, "p", 2, 2), (1, "list", 3, 3), (2, "item", 3, 3), (3, "p", 3, 3),
      (2, "item", 4, 4), (3, "p", 4, 4), (1, "defs", 6, 6)], 1) := by decide_lit

theorem doc_inner_ok : (tokenizeBlock dflt 30 (numbered 0 doc) 1 { setext := false }).isOk = true := by decide_lit

/-- `C04_quote_phase` applies to it (the hypothesis holds: the inner parse returns) -/
example : ∃ b st', tokenizeBlock dflt 30 (numbered 0 doc) 1 { setext := false } = .ok (b, st') ∧
    blockPhase dflt 36 (doc.map (fun s => '>' :: ' ' :: s)) =
      .ok ({ entries := [.quote b.entries b.loose 1 1], loose := false }, { st' with setext := true }) := by
  obtain ⟨⟨b, st'⟩, h⟩ := exists_of_isOk _ doc_inner_ok
  exact ⟨b, st', h, C04_quote_phase dflt [.htmlBlock, .blockCode, .heading] _ rfl (by decide) (by decide) doc (by decide)
    (by decide_lit) 30 b st' h⟩

/-- `C04_quote_wraps_eq` on the four lines `# h / para / - a / - b`, numbered from line 7, under the Markdown renderer's types -/
example : tokenizeBlock mdown 28 ((numbered 6 (doc.take 4)).map quoteSp) 7 {} =
    wrapQuote 7 7 (tokenizeBlock mdown 20 (numbered 6 (doc.take 4)) 7 { setext := false }) :=
  C04_quote_wraps_eq mdown [.linkRefDefBlock, .blankLine, .htmlBlock, .blockCode, .heading] _ rfl (by decide) (by decide) _ _ _ _
    (quotedAll_map_sp (numbered 6 (doc.take 4)) (by decide_lit)) 7 {} 20

/-- the marker ">" (no line of `doc` begins with a space) -/
example : ∃ b st', tokenizeBlock dflt 30 (numbered 0 doc) 1 { setext := false } = .ok (b, st') ∧
    blockPhase dflt 36 (doc.map (fun s => '>' :: s)) =
      .ok ({ entries := [.quote b.entries b.loose 1 1], loose := false }, { st' with setext := true }) := by
  obtain ⟨⟨b, st'⟩, h⟩ := exists_of_isOk _ doc_inner_ok
  refine ⟨b, st', h, C04_quote_phase_bare dflt [.htmlBlock, .blockCode, .heading] _ rfl (by decide) (by decide) doc (by decide)
    ?_ 30 b st' h⟩
  intro s hs
  simp only [doc, List.mem_cons, List.not_mem_nil, or_false] at hs
  rcases hs with rfl | rfl | rfl | rfl | rfl | rfl <;> exact ⟨by decide, _, _, rfl, by decide⟩

/-- a table inside a quote is found (a line "> --- | ---" is not itself a delimiter row, so `Table`'s
    `check_interrupts_paragraph` does not cut `Quote.read` short) -/
example : outlineOf (blockPhase dflt 30 [L "> a | b\n", L "> --- | ---\n"]) = ([(0, "quote", 1, 1), (1, "table", 1, 1)], 0) := by
  decide_lit

/-- **The recorded finding on the model**: `Foo / ---` is a setext heading … -/
example : outlineOf (blockPhase dflt 30 [L "Foo\n", L "---\n"]) = ([(0, "setext", 1, 1)], 0) := by decide_lit
/-- … but behind "> " it is a paragraph and a thematic break (`Quote.read` switches `Paragraph.parse_setext` off):
    the flag-independence hypothesis of `C04_quote_wraps_same` fails for this document -/
example : outlineOf (blockPhase dflt 30 [L "> Foo\n", L "> ---\n"]) = ([(0, "quote", 1, 1), (1, "p", 1, 1), (1, "hr", 2, 2)], 0) := by
  decide_lit
/-- the inner parse `C04_quote_wraps` speaks of, setext off -/
example : outlineOf (tokenizeBlock dflt 30 (numbered 0 [L "Foo\n", L "---\n"]) 1 { setext := false }) = ([(0, "p", 1, 1), (0, "hr", 2, 2)], 0) := by
  decide_lit
/-- the same mechanism: the nested `Quote.read` switches setext headings back ON for the rest of the outer quote
    (the implementation gives Quote[Quote[Paragraph], SetextHeading] too) -/
example : outlineOf (blockPhase dflt 30 [L "> > a\n", L ">\n", L "> Foo\n", L "> ---\n"]) =
    ([(0, "quote(loose)", 1, 1), (1, "quote", 1, 1), (2, "p", 1, 1), (1, "setext", 3, 3)], 0) := by decide_lit

/-! list items -/

def doc2 : List Str := [L "# h\n", L "para\n", L "\n", L "- a\n", L "- b\n"]
attribute [lit] doc2

example : outlineOf (blockPhase dflt 30 doc2) =
    ([(0, "h", 1, 1), (0, "p", 2, 2), (0, "list", 4, 4), (1, "item", 4, 4), (2, "p", 4, 4), (1, "item", 5, 5), (2, "p", 5, 5)], 0) := by
  decide_lit

example : indentDoc (L "12)") 3 doc2 = [L "12)   # h\n", L "      para\n", L "\n", L "      - a\n", L "      - b\n"] := by decide_lit

example : outlineOf (blockPhase dflt 40 (indentDoc (L "12)") 3 doc2)) =
    ([(0, "list", 1, 1), (1, "item(loose)", 1, 1), (2, "h", 1, 1), (2, "p", 2, 2), (2, "list", 4, 4), (3, "item", 4, 4), (4, "p", 4, 4),
      (3, "item", 5, 5), (4, "p", 5, 5)], 0) := by decide_lit

/-- `C04_item_phase_default_partial` applies, marker "12)" and three spaces … -/
example : ∃ B st', blockPhase dflt 30 doc2 = .ok (B, st') ∧
    blockPhase dflt 40 (indentDoc (L "12)") 3 doc2) =
      .ok ({ entries := [.list [.mk B.entries (decide (B.entries.length > 1) && B.loose) 0 6 (L "12)") 1 1] 1 1], loose := false }, st') := by
  obtain ⟨⟨B, st'⟩, h⟩ := exists_of_isOk (blockPhase dflt 30 doc2) (by decide_lit)
  exact ⟨B, st', h, C04_item_phase_default_partial true (L "12)") (listLeader_ordered (L "12") ')' (by decide) (by decide) (by decide) (Or.inr rfl))
    3 (by omega) (by omega) _ _ (by decide_lit) (by decide_lit) 30 B st' h⟩

/-- … and marker "-" and one space, under the Markdown renderer's types -/
example : ∃ B st', blockPhase mdown 30 doc2 = .ok (B, st') ∧
    blockPhase mdown 42 (indentDoc ['-'] 1 doc2) =
      .ok ({ entries := [.list [.mk B.entries (decide (B.entries.length > 1) && B.loose) 0 2 ['-'] 1 1] 1 1], loose := false }, st') := by
  obtain ⟨⟨B, st'⟩, h⟩ := exists_of_isOk (blockPhase mdown 30 doc2) (by decide_lit)
  exact ⟨B, st', h, C04_item_phase_markdown_partial true ['-'] (listLeader_bullet '-' (Or.inl rfl))
    1 (by omega) (by omega) _ _ (by decide_lit) (by decide_lit) 30 B st' h⟩

/-- **Why `ContLine`** (recorded finding "unicode-whitespace-edge"): `Foo / *** / U+2003 ar` is paragraph, rule,
    paragraph; indented by "*   " its last line becomes an indented code block inside the item -/
def edge : List Str := [L "Foo\n", L "***\n", L "\u2003ar\n"]
attribute [lit] edge
example : outlineOf (blockPhase dflt 30 edge) = ([(0, "p", 1, 1), (0, "hr", 2, 2), (0, "p", 3, 3)], 0) := by decide_lit
example : outlineOf (blockPhase dflt 40 (indentDoc ['*'] 3 edge)) =
    ([(0, "list", 1, 1), (1, "item", 1, 1), (2, "p", 1, 1), (2, "hr", 2, 2), (2, "code", 3, 3)], 0) := by decide_lit
example : itemDocOk edge = false := by decide_lit

/-- **Why blank lines must be "\n"**: a whitespace-only line inside a fenced code block loses its spaces when the
    block is put into a list item (in the specification too) -/
def fenced : List Str := [L "```\n", L "  \n", L "```\n"]
attribute [lit] fenced
example : textsOf (blockPhase dflt 30 fenced) = [[L "  \n"]] := by decide_lit
example : textsOf (blockPhase dflt 40 (indentDoc ['-'] 1 fenced)) = [[L "\n"]] := by decide_lit

/-- the token-type lists the `_default` / `_markdown` instances are stated for are the lists the HTML and
    the Markdown renderer install in the working tree (re-checked against the tables regenerated from /repo) -/
theorem C04_config_current :
    Config.html.map (·.block.types) = some defaultTypes ∧
    Config.markdown.map (·.block.types) = some markdownTypes := C14.C14_config_current

end Mistletoe.Props.C04
