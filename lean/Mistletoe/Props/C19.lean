/-
  C19 — The table of contents lists exactly the qualifying headings, in order.

  Proved here, for every tree and every configuration: the collected entries are exactly the
  qualifying headings in document (pre-)order, containers included; the text of an entry is the
  heading's plain text for plain-word titles (the tag-stripping regex removes exactly the two
  heading tags); the list lines handed to the tokenizer are indented by 4·(level − base).
  The last step - those lines parse to a list nested by level - is a statement about the block
  parser: `C19_toc_nested` (lemmas in Proofs/Outline.lean) proves it for every heading list that is an
  outline (first heading shallowest, no level deepens by more than one) with plain titles (a letter
  first, no newline), for every token list in which `List` comes before `Table` and `Paragraph`
  (`C19_toc_config_current`: the lists the working tree installs).  Titles with markup or other first
  characters and heading lists that skip a level stay with the `toc` unit and the exploration.
  The namespace `Props.C19` begins in Proofs/TocPlain.lean (the plain text of an entry) and is continued in
  Proofs/TocEndToEnd.lean and Proofs/TocTokens.lean (restated in Props/C19_EndToEnd.lean, Props/C19_Tokens.lean).
-/
import Mistletoe.Model.Toc
import Mistletoe.Proofs.Html
import Mistletoe.Proofs.Outline
import Mistletoe.Proofs.TocPlain
namespace Mistletoe.Props.C19
open Mistletoe Mistletoe.Html Mistletoe.Toc Mistletoe.Escape

mutual
/-- All headings (ATX and setext) in document order, at any nesting depth. -/
def headings : Block → List (Nat × List Inline)
  | .heading l _ k _ => [(l, k)]
  | .setextHeading l _ k _ => [(l, k)]
  | .quote kids _ => headingsL kids
  | .list _ _ items _ => headingsL items
  | .listItem _ _ _ _ kids _ => headingsL kids
  | .table _ _ rows _ => headingsL rows
  | _ => []
def headingsL : List Block → List (Nat × List Inline)
  | [] => []
  | b :: bs => headings b ++ headingsL bs
end

mutual
theorem collect_eq (q : Quotes) (cfg : Cfg) : ∀ (b : Block),
    collect q cfg b = (headings b).flatMap (fun h => entry q cfg h.1 h.2)
  | .heading l _ k _ => by simp [collect, headings]
  | .setextHeading l _ k _ => by simp [collect, headings]
  | .quote kids _ => by simp only [collect, headings]; exact collectL_eq q cfg kids
  | .list _ _ items _ => by simp only [collect, headings]; exact collectL_eq q cfg items
  | .listItem _ _ _ _ kids _ => by simp only [collect, headings]; exact collectL_eq q cfg kids
  | .table _ _ rows _ => by simp only [collect, headings]; exact collectL_eq q cfg rows
  | .paragraph .. => rfl
  | .blockCode .. => rfl
  | .codeFence .. => rfl
  | .tableRow .. => rfl
  | .tableCell .. => rfl
  | .thematicBreak .. => rfl
  | .htmlBlock .. => rfl
  | .blankLine .. => rfl
  | .linkRefDefBlock .. => rfl
theorem collectL_eq (q : Quotes) (cfg : Cfg) : ∀ (bs : List Block),
    collectL q cfg bs = (headingsL bs).flatMap (fun h => entry q cfg h.1 h.2)
  | [] => rfl
  | b :: bs => by simp [collectL, headingsL, collect_eq q cfg b, collectL_eq q cfg bs]
end

/-- **Collection**: one entry per heading whose level is within the configured depth (level 1 left
    out when so configured, user filters applied), in document order, at any nesting depth. -/
theorem C19_collection (q : Quotes) (cfg : Cfg) (d : Doc) :
    collectL q cfg d.kids = (headingsL d.kids).flatMap (fun h => entry q cfg h.1 h.2)
    ∧ ∀ l k, entry q cfg l k = [] ∨ ∃ c, entry q cfg l k = [(l, c)]
        ∧ ¬ (cfg.omitTitle = true ∧ l = 1) ∧ l ≤ cfg.depth ∧ cfg.excluded c = false := by
  refine ⟨collectL_eq q cfg d.kids, ?_⟩
  intro l k
  rw [show entry q cfg l k = entryWith cfg l _ from rfl, entryWith_eq]
  cases h : qualifies cfg l _
  · exact .inl rfl
  · exact .inr ⟨_, rfl, (qualifies_iff cfg l _).mp h⟩

theorem foldl_min_le (hs : List (Nat × Str)) (m : Nat) :
    hs.foldl (fun m x => min m x.1) m ≤ m ∧ ∀ h ∈ hs, hs.foldl (fun m x => min m x.1) m ≤ h.1 := by
  induction hs generalizing m with
  | nil => simp
  | cons x xs ih =>
    simp only [List.foldl_cons, List.mem_cons]
    have := ih (min m x.1)
    refine ⟨by omega, ?_⟩
    intro h hh
    rcases hh with rfl | hh
    · omega
    · exact this.2 h hh

/-- **Indentation**: every list line is `4·(level − base)` spaces, `- `, the text, a newline, where
    `base` is the shallowest collected level - so the first line of an outline is not indented and
    a heading one level deeper than its predecessor is indented by exactly four more columns. -/
theorem C19_lines (hs : List (Nat × Str)) :
    tocLines hs = hs.map (fun h => List.replicate (4 * (h.1 - baseLevel hs)) ' ' ++ ['-', ' '] ++ h.2 ++ ['\n'])
    ∧ (∀ h ∈ hs, baseLevel hs ≤ h.1) := by
  refine ⟨rfl, ?_⟩
  intro h hh
  cases hs with
  | nil => cases hh
  | cons x xs =>
    simp only [baseLevel]
    rcases List.mem_cons.mp hh with rfl | hh
    · exact (foldl_min_le xs _).1
    · exact (foldl_min_le xs x.1).2 h hh

open Mistletoe.Block in
/-- **Nesting**: let `hs` be the collected headings, an outline (`isOutline`: not empty, no heading shallower than
    the first, none more than one level deeper than its predecessor - `C19_outline_iff_levels`) with plain titles.
    Then the block phase on the lines `TocRenderer.toc` builds (`Toc.tocLines hs`, see `C19_lines`) returns exactly
    ONE `List`, not loose, whose items mirror the outline `toForest hs` (`expItems`): one item per heading of the
    shallowest level, in order, each holding one `Paragraph` with the heading's text followed - when headings one
    level deeper come next - by one nested `List` built the same way; line numbers are the headings' positions.
    For every token list with `List` before `Table` and `Paragraph` (`ListCfg`) and enough gas. -/
theorem C19_toc_nested (cfg : Block.Cfg) (tpre tpost : List BTok) (hc : ListCfg cfg tpre tpost) (hs : List (Nat × Str))
    (ho : isOutline hs = true) (ht : ∀ h ∈ hs, plainTitle h.2 = true)
    (gas : Nat) (hg : (cfg.types.length + 5) * hs.length + cfg.types.length + 4 ≤ gas) :
    blockPhase cfg gas (Toc.tocLines hs) =
      .ok ({ entries := [.list (expItems 0 1 (toForest hs)) 1 1], loose := false }, {}) :=
  Mistletoe.Block.C19_toc_nested cfg tpre tpost hc hs ho ht gas hg

open Mistletoe.Block in
/-- the forest the list mirrors is the outline of the headings: flattening it in pre-order with levels gives the
    heading list back, and `isOutline` is the elementary level condition -/
theorem C19_outline_iff_levels (hs : List (Nat × Str)) :
    (isOutline hs = outlineLevels hs) ∧
    (isOutline hs = true → ∃ lv, hs.head?.map (·.1) = some lv ∧ hs = flatten lv (toForest hs)) :=
  ⟨isOutline_eq_levels hs, fun h => (isOutline_sound hs h).2⟩

open Mistletoe.Block in
/-- **The hypothesis on the token list holds for the lists of the working tree** (regenerated from /repo): the HTML
    renderer's, the TocRenderer's inside its context and after leaving it (where `toc` is usually read), the defaults. -/
theorem C19_toc_config_current :
    (∃ cfg, Config.html = some cfg ∧
      ListCfg cfg.block [.htmlBlock, .blockCode, .heading, .quote, .codeFence, .thematicBreak] [.table, .footnote, .paragraph])
    ∧ (∃ cfg, Config.cfgOf Gen.RenderMaps.tocBlockTokens Gen.RenderMaps.tocSpanTokens = some cfg ∧
      ListCfg cfg.block [.htmlBlock, .blockCode, .heading, .quote, .codeFence, .thematicBreak] [.table, .footnote, .paragraph])
    ∧ (∃ cfg, Config.cfgOf Gen.RenderMaps.tocBlockTokensAfterExit Gen.RenderMaps.tocSpanTokensAfterExit = some cfg ∧
      ListCfg cfg.block [.blockCode, .heading, .quote, .codeFence, .thematicBreak] [.table, .footnote, .paragraph])
    ∧ (∃ cfg, Config.default = some cfg ∧
      ListCfg cfg.block [.blockCode, .heading, .quote, .codeFence, .thematicBreak] [.table, .footnote, .paragraph]) := by
  have after : ListCfg ⟨Config.htmlBlockList.erase .htmlBlock, true⟩ [.blockCode, .heading, .quote, .codeFence, .thematicBreak]
      [.table, .footnote, .paragraph] := ⟨rfl, by decide, by decide, by decide, by decide⟩
  exact ⟨⟨_, Config.html_eq, sampleCfg_list⟩, ⟨_, Config.cfgOf_toc, sampleCfg_list⟩, ⟨_, Config.cfgOf_tocAfterExit, after⟩,
    ⟨_, Config.cfgOf_htmlNoHtml, after⟩⟩

/-- **Plain text**: for a heading whose children are raw text `t` free of `<`, `>`, `&` (and of the quote characters the
    options escape), the tag-stripping regex of `parse_rendered_heading` removes exactly the heading's own tags: the entry
    text is `t` (Proofs/TocPlain.lean). -/
theorem C19_plain_text_entry (q : Quotes) (cfg : Cfg) (l : Nat) (t : Str) (ht : plainStr q t = true) :
    entry q cfg l [.rawText t] =
      if (cfg.omitTitle && l == 1) || decide (l > cfg.depth) || cfg.excluded t then [] else [(l, t)] :=
  C19_plain_text q cfg l t ht

/-- … and with emphasis, strong, strikethrough, inline code and escape sequences nested at will, the entry text is the
    concatenation of the leaf strings: the inline tags are stripped too.  (A link inside a heading is outside this: its
    `<a …>` tag is stripped only when its attributes contain no newline - the regex's `.` does not match one - which the
    model reproduces; recorded in DESIGN.md.) -/
theorem C19_plain_text_formatted (q : Quotes) (cfg : Cfg) (l : Nat) (k : List Inline) (hk : plainInlines k = true)
    (ht : plainStr q (leafTexts k) = true) : entry q cfg l k = entryWith cfg l (leafTexts k) :=
  C19_plain_text_inlines q cfg l k hk ht

end Mistletoe.Props.C19
