/-
  C09 (fragment with lists) — the property theorems, from Proofs/MdRoundLists.lean and Proofs/MdRoundLists2.lean.

  The tree type `MB` adds LISTS to the blocks of Props/C09.lean (inert prose paragraphs, ATX headings, thematic breaks): bullet
  (`-`, `+`, `*`) or ordered (consecutive numbers from `start` below 10^9, `.` or `)`), marker in column 0, padding 1-4 (exactly 1
  under normalize_whitespace=True, where the renderer rewrites it), tight or loose, items of any number of blocks (nested lists
  to any depth included), siblings separated by single empty lines; the whole inside `k ≥ 0` nested block quotes.  `MB.oks nw`
  is the decidable normal form for the value `nw` of normalize_whitespace.  Under the Markdown token list every separator line
  is a BlankLine token; the proof tracks where each of them ends up (last child of the item before it, or of the enclosing
  level) and shows that the renderer re-emits exactly the lines.
-/
import Mistletoe.Proofs.MdRoundLists2
namespace Mistletoe.Props.C09L
open Mistletoe Mistletoe.Py Mistletoe.Block Mistletoe.Inline Mistletoe.InertInline Mistletoe.MdRound
open Mistletoe.Props.C09 (quoted)

/-- **Round trip of documents with lists in the renderer's normal form, for the token lists of the working tree**
    (`Config.markdown`), inside `k ≥ 0` nested block quotes, no line limit, either value of normalize_whitespace:
    `MarkdownRenderer.render(Document(text))` is the text; rendering again reproduces it; the rendered text parses like the
    original under every configuration (same document, same definitions, same HTML). -/
theorem C09_lists_roundtrip_partial (cfg : Document.Cfg) (hcfg : Config.markdown = some cfg)
    (o : Markdown.Opts) (ho : o.maxLineLength = none)
    (ts : List MB) (hne : ts ≠ []) (hok : MB.oks o.normalizeWhitespace ts = true)
    (hnt : ∀ l ∈ wrs ts, '\t' ∉ l) (k : Nat) (gas : Nat) :
    ∃ d, Document.parse cfg (gas + (needsM ts + 1) + k * 8) (quoted k (wrs ts)).flatten = .ok d ∧
      Markdown.render o d = (quoted k (wrs ts)).flatten ∧
      (∃ d', Document.parse cfg (gas + (needsM ts + 1) + k * 8) (Markdown.render o d) = .ok d' ∧
        Markdown.render o d' = Markdown.render o d) ∧
      (∀ (cfg' : Document.Cfg) (g : Nat),
        Document.parse cfg' g (Markdown.render o d) = Document.parse cfg' g (quoted k (wrs ts)).flatten) ∧
      (∀ (hopts : Html.Opts) (g : Nat),
        Config.renderHtml hopts g (Markdown.render o d) = Config.renderHtml hopts g (quoted k (wrs ts)).flatten) := by
  obtain ⟨hty, ht, hc⟩ := markdown_cfg cfg hcfg
  have h1 := qStrs_oneLine k _ (wrs_oneLine _ ts hok)
  obtain ⟨d, h, _, _, h3⟩ := Props.C09.C09_lists_quoted_exact_partial cfg hty ht hc o ho ts hne hok hnt k gas
  exact ⟨d, roundtrip_of_exact cfg _ _ h1 o d h h3⟩

/-- at top level, with the parsed tree: `List` / `ListItem` / `BlankLine` tokens exactly as `blks 1 ts` says -/
theorem C09_lists_exact_partial (cfg : Document.Cfg) (hty : cfg.block.types = Props.C14.markdownTypes)
    (ht : ∀ t ∈ cfg.span, inertClass t = true) (hc : cfg.span.count .lineBreak = 1)
    (o : Markdown.Opts) (ho : o.maxLineLength = none)
    (ts : List MB) (hne : ts ≠ []) (hok : MB.oks o.normalizeWhitespace ts = true) (gas : Nat) :
    ∃ d, Document.parseLines cfg (gas + (needsM ts + 1)) (wrs ts) = .ok d ∧
      d.kids = blks 1 ts ∧
      Markdown.renderRes o d = .ok (wrs ts).flatten ∧ Markdown.render o d = (wrs ts).flatten :=
  Mistletoe.Props.C09.C09_lists_exact_partial cfg hty ht hc o ho ts hne hok gas

end Mistletoe.Props.C09L
