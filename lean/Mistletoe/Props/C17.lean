/-
  C17 — LaTeX output keeps its group/environment structure whatever the text says.

  For EVERY token tree (not only parser output) and every string in every attribute:
  `render d = flat (renderDoc d)` where the event list `renderDoc d` has properly nested brace
  groups and \begin/\end pairs, uses only the renderer's own commands, environments and literal
  template text, and in which every piece of document text is `SafeText` (each of $ # { } & _ % ^ \
  only inside an escaped form), every URL argument is `UrlSafe` (no brace, no backslash except in
  \% and \#, no raw % or #) and every \verb delimiter is one that does not occur in the code.
  The verbatim regions the property sets aside are the `verb`, `listing` and `math` leaves.
  The escape tables are re-probed from /repo on every run (Gen/Chains.lean).
-/
import Mistletoe.Proofs.Latex
import Mistletoe.Proofs.Lit
namespace Mistletoe.Props.C17
open Mistletoe Mistletoe.Latex Mistletoe.PredLatex Mistletoe.Escape

/-- **Structure is independent of the text.** -/
theorem C17_structure (d : Doc) : render d = flat (renderDoc d) ∧ WellFormed (renderDoc d) :=
  ⟨rfl, doc_wf d⟩

/-- **Per-character escaping of text**: whatever the string, each special character appears only
    in escaped form (`\$ \# \{ \} \& \_ \% \^{} \textbackslash{}`). -/
theorem C17_raw_text_escape (s : Str) : SafeText (latexRawText s) := safeText_latexRawText s

/-- **URL escaping for hyperref**. -/
theorem C17_url_escape (s : Str) : UrlSafe (latexEscapeUrl s) := urlSafe_latexEscapeUrl s

/-- **Verb delimiter choice**: the delimiter used is one of the configured ones and does not occur
    in the code; when none is free the renderer refuses (the documented refusal). -/
theorem C17_verb_delimiter (c : Str) :
    (∀ d, verbDelim c = some d → d ∈ Gen.Chains.verbDelimiters ∧ d ∉ c) ∧
    (verbDelim c = none → ∀ d ∈ Gen.Chains.verbDelimiters, d ∈ c) := by
  refine ⟨fun d h => verbDelim_spec c d h, ?_⟩
  intro h d hd
  unfold verbDelim at h
  have := List.find?_eq_none.mp h d hd
  simpa using this

/-! Non-vacuity: a tree full of special characters. -/
def hostile : Doc :=
  { kids := [.paragraph [.rawText "\\{ 50% $x_1^2$ #1 & }".toList, .image "x}y".toList [] .uri none none [],
                         .link "a{b}\\c%d#e".toList [] .uri none none [.inlineCode "`".toList [] "|!\"".toList]] 1,
             .codeFence "a]b}".toList 0 "```".toList [] "\\end{lstlisting}".toList 2],
    footnotes := [] }

example : String.ofList (render hostile) =
    "\\documentclass{article}\n\\usepackage{graphicx}\n\\usepackage{hyperref}\n\\usepackage{listings}\n\\begin{document}\n\n\\textbackslash{}\\{ 50\\% \\$x\\_1\\^{}2\\$ \\#1 \\& \\}\n\\includegraphics{x\\%7Dy}\n\\href{a\\%7Bb\\%7D\\%5Cc\\%d\\#e}{\\verb'|!\"'}\n\n\\begin{lstlisting}[language=a]b\\}]\n\\end{lstlisting}\\end{lstlisting}\n\\end{document}\n" := by
  rw [← String.toList_inj, String.toList_ofList]
  unfold hostile; decide_lit

end Mistletoe.Props.C17
