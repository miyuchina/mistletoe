/-
  C18 (at text level); the proofs are in Proofs/ContribSame.lean (which imports Props/C18.lean, hence this second file)
  and, for GithubWiki, in Proofs/ContribSame2.lean (no "[[" is a special case of "the wiki pattern matches nowhere").

  Props/C18.lean shows that the four contrib renderers resolve every non-extension render-map entry to HtmlRenderer's
  functions and that their token lists differ from HtmlRenderer's only by the extension token.  That leaves the
  parser: that PARSING under the extended token list gives the same document when the text does not use the extension.
  Proofs/ContribSame.lean proves it for every text: the span resolver never reads a candidate's class index (so inserting a
  class that finds nothing changes nothing), GithubWiki finds nothing in a text without "[[", Math nothing in a text without
  "$", and every inline string the constructors tokenize is made of pieces of the input lines that cannot create a "[[" or a
  "$" (an invariant carried through the whole block phase: quote markers stripped, list items cut, table cells split and
  unescaped, paragraph lines joined).
-/
import Mistletoe.Proofs.ContribSame2
namespace Mistletoe.Props.C18T
open Mistletoe Mistletoe.Py Mistletoe.Inline Mistletoe.Html

/-- **GitHub-wiki renderer**: for every text without "[[" and every option set, parse-and-render under the GithubWiki
    renderer's token lists and functions gives exactly the HTML renderer's output. -/
theorem C18_githubwiki_same_output (o : Opts) (gas : Nat) (t : Str) (ht : isInfix ['[', '['] t = false) :
    Config.renderContrib Config.githubWiki { o with flavor := .githubWiki } gas t = Config.renderHtml o gas t :=
  Mistletoe.ContribSame2.C18_githubwiki_same_output_nomatch o gas t (Mistletoe.ContribSame2.noWikiLine_of_noBB t ht)

/-- **MathJax renderer**: for every text without "$", the output is the HTML renderer's output followed by the script line. -/
theorem C18_mathjax_same_output (o : Opts) (gas : Nat) (t : Str) (ht : '$' ∉ t) :
    Config.renderContrib Config.mathjax { o with flavor := .mathjax } gas t =
      (Config.renderHtml o gas t).map (· ++ Gen.RenderMaps.mathjaxSrc) :=
  Mistletoe.ContribSame.C18_mathjax_same_output o gas t ht

/-- **TOC renderer**: the same output as the HTML renderer for every text. -/
theorem C18_toc_same_output (o : Opts) (gas : Nat) (t : Str) :
    Config.renderContrib Config.toc { o with flavor := .toc } gas t = Config.renderHtml o gas t :=
  Mistletoe.ContribSame.C18_toc_same_output o gas t

/-- **Pygments renderer**: same token lists, and in the model the same render functions outside code blocks (Pygments itself
    is not modelled: `supported` excludes documents with code blocks, `C18_pygments_supported`). -/
theorem C18_pygments_same_output (o : Opts) (gas : Nat) (t : Str) :
    Config.renderContrib Config.pygments { o with flavor := .pygments } gas t = Config.renderHtml o gas t :=
  Mistletoe.ContribSame.C18_pygments_same_output o gas t

theorem C18_pygments_supported (o : Opts) (d : Doc) :
    supported { o with flavor := .pygments } d = (supported { o with flavor := .html } d && Mistletoe.ContribSame.noCodeBlocks d.kids) :=
  Mistletoe.ContribSame.supported_pygments o d

/-- the parse itself is the same (token trees, not only outputs) -/
theorem C18_same_parse (cfgW cfgM cfgH : Document.Cfg) (hW : Config.githubWiki = some cfgW) (hM : Config.mathjax = some cfgM)
    (hH : Config.html = some cfgH) (gas : Nat) (t : Str) :
    (isInfix ['[', '['] t = false → Document.parse cfgW gas t = Document.parse cfgH gas t) ∧
    ('$' ∉ t → Document.parse cfgM gas t = Document.parse cfgH gas t) :=
  ⟨fun ht => Mistletoe.ContribSame2.C18_githubwiki_same_text_nomatch cfgW cfgH hW hH gas t
      (Mistletoe.ContribSame2.noWikiLine_of_noBB t ht),
   Mistletoe.ContribSame.C18_mathjax_same_text cfgM cfgH hM hH gas t⟩

end Mistletoe.Props.C18T
