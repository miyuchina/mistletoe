/-
  C09 (setext headings and HTML blocks) — the property theorems; what they rest on is in Proofs/MdRoundSetext.lean (which builds on
  Proofs/MdRoundCode.lean and Proofs/ComposeCode.lean).

  `Blk3` = the blocks of Props/C09_Code.lean (inert paragraphs, ATX headings, thematic breaks, fenced and indented code) +
    * SETEXT HEADINGS in the renderer's normal form: one or more inert prose lines and an underline of `=` (level 1) or `-`
      (level 2) at indentation 0-3, of any length >= 1, without trailing whitespace (`SetextHeading.__init__` keeps the
      underline as parsed, right-stripped; `render_setext_heading` writes it back);
    * HTML BLOCKS of start condition 6 or 7 (a line beginning, after 0-3 spaces, with a block-level tag name or a complete
      open / closing tag): the lines are kept verbatim up to the separating empty line; content lines are arbitrary non-blank
      lines (they are not parsed).
  Documents of such blocks separated by single empty lines, no line limit, either `normalize_whitespace`: exact reproduction,
  idempotence, same document under every token list, same HTML.  With setext headings at top level only (inside a block quote
  the recorded finding `setext-in-quote` applies: the text is still reproduced, but the tree holds no SetextHeading);
  without setext headings inside any number of block quotes.
  Outside the normal form (model and code agree): trailing whitespace after an underline is dropped (text changes, meaning does
  not); an underline indented >= 4 spaces is a paragraph line that comes back as a heading (the recorded class "continuation
  lines indented >= 4"); a whitespace-only line ends an HTML block.
  Gas: `2 * rest.length + 14` and `k * 8` as `MdRoundDoc.doc_roundtrip` says.
-/
import Mistletoe.Proofs.MdRoundSetext
namespace Mistletoe.Props.C09S
open Mistletoe Mistletoe.Py Mistletoe.Inline Mistletoe.InertInline Mistletoe.MdRound Mistletoe.MdRoundSetext

/-- **Round trip with setext headings and HTML blocks at top level**, for the token lists the Markdown renderer installs
    (`Config.markdown`), from a `str`: `MarkdownRenderer(no line limit, either normalize_whitespace).render(Document(text))`
    is the text (it does not raise: `renderRes`); rendering again reproduces it; the rendered text parses like the original
    under every configuration (same document, same definitions, same HTML). -/
theorem C09_setext_roundtrip_partial (cfg : Document.Cfg) (hcfg : Config.markdown = some cfg)
    (it : Blk3) (rest : List Blk3) (hok : it.ok = true) (hrest : ∀ x ∈ rest, x.ok = true) (hadj : adjOk3 it rest = true)
    (o : Markdown.Opts) (ho : o.maxLineLength = none) (gas : Nat) :
    ∃ d, Document.parse cfg (gas + (2 * rest.length + 14)) (itemsLines3 it rest).flatten = .ok d ∧
      Markdown.renderRes o d = .ok (itemsLines3 it rest).flatten ∧
      Markdown.render o d = (itemsLines3 it rest).flatten ∧
      (∃ d', Document.parse cfg (gas + (2 * rest.length + 14)) (Markdown.render o d) = .ok d' ∧
        Markdown.render o d' = Markdown.render o d) ∧
      (∀ (cfg' : Document.Cfg) (g : Nat),
        Document.parse cfg' g (Markdown.render o d) = Document.parse cfg' g (itemsLines3 it rest).flatten) ∧
      (∀ (hopts : Html.Opts) (g : Nat),
        Config.renderHtml hopts g (Markdown.render o d) = Config.renderHtml hopts g (itemsLines3 it rest).flatten) := by
  obtain ⟨hty, ht, hc⟩ := markdown_cfg cfg hcfg
  obtain ⟨d, _, _, h2, h4, h5⟩ := MdRoundDoc.doc_roundtrip frag3 (·.ok = true) cfg hty o ho it rest hok hrest hadj gas 0 (Or.inl rfl)
    (fun st hst x h => blk3_laws cfg _ o st hty ht hc x h (fun _ => by rw [hst rfl]))
  exact ⟨d, h4, h2, h5⟩

/-- the theorem applies to the first sample document of Proofs/MdRoundSetext.lean -/
example (cfg : Document.Cfg) (hcfg : Config.markdown = some cfg) :
    ∃ d, Document.parse cfg 22 (itemsLines3 doc1 doc1rest).flatten = .ok d ∧
      Markdown.renderRes {} d = .ok (itemsLines3 doc1 doc1rest).flatten := by
  obtain ⟨d, h1, h2, _⟩ := C09_setext_roundtrip_partial cfg hcfg doc1 doc1rest doc1_ok.1 doc1_ok.2.1 doc1_ok.2.2 {} rfl 0
  exact ⟨d, h1, h2⟩

/-- **… and inside `k` nested block quotes** when the document has no setext heading (tab-free lines), with the same corollaries. -/
theorem C09_quoted_html_roundtrip_partial (cfg : Document.Cfg) (hcfg : Config.markdown = some cfg)
    (it : Blk3) (rest : List Blk3) (hok : it.ok = true) (hrest : ∀ x ∈ rest, x.ok = true) (hadj : adjOk3 it rest = true)
    (hnsx : ∀ x ∈ it :: rest, x.isSetext = false)
    (hnt : ∀ l ∈ itemsLines3 it rest, '\t' ∉ l) (k : Nat)
    (o : Markdown.Opts) (ho : o.maxLineLength = none) (gas : Nat) :
    ∃ d, Document.parse cfg (gas + (2 * rest.length + 14) + k * 8) (qStrs k (itemsLines3 it rest)).flatten = .ok d ∧
      Markdown.renderRes o d = .ok (qStrs k (itemsLines3 it rest)).flatten ∧
      Markdown.render o d = (qStrs k (itemsLines3 it rest)).flatten ∧
      (∃ d', Document.parse cfg (gas + (2 * rest.length + 14) + k * 8) (Markdown.render o d) = .ok d' ∧
        Markdown.render o d' = Markdown.render o d) ∧
      (∀ (cfg' : Document.Cfg) (g : Nat),
        Document.parse cfg' g (Markdown.render o d) = Document.parse cfg' g (qStrs k (itemsLines3 it rest)).flatten) ∧
      (∀ (hopts : Html.Opts) (g : Nat),
        Config.renderHtml hopts g (Markdown.render o d) = Config.renderHtml hopts g (qStrs k (itemsLines3 it rest)).flatten) := by
  obtain ⟨hty, ht, hc⟩ := markdown_cfg cfg hcfg
  obtain ⟨d, _, _, h2, h4, h5⟩ := MdRoundDoc.doc_roundtrip frag3 (fun x => x.ok = true ∧ x.isSetext = false) cfg hty o ho it rest
    ⟨hok, hnsx it (by simp)⟩ (fun x hx => ⟨hrest x hx, hnsx x (List.mem_cons_of_mem _ hx)⟩) hadj gas k (Or.inr hnt)
    (fun st _ x h => blk3_laws cfg _ o st hty ht hc x h.1 (fun e => by rw [h.2] at e; cases e))
  exact ⟨d, h4, h2, h5⟩

end Mistletoe.Props.C09S
