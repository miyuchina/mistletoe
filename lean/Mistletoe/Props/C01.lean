/-
  C01 (block phase) — for every text input, parsing never raises and always terminates.

  The block phase of `Document(lines)` is `Block.blockPhase cfg gas lines` (`Model/Block.lean`, tied
  to `tokenize_block` and every `start`/`read`/`check_interrupts_paragraph` by the `block.buffer` and
  `scan.*` correspondence units).  Every Python raise site of that code is an `.err` constructor of
  the model (`.index`, `.type`, `.stopIteration`, `.unbound`, …); the only other error is `.fuel`:
  the structural recursion counter `gas` (or the fuel of an inner loop) ran out.  The theorems say

  * no raise site is reachable (`C01_block_no_raise`),
  * the fuel every reader passes to its inner loop suffices, and an explicit amount of outer gas,
    `gasBound`, suffices: the block phase returns (`C01_block_terminates`),
  * more gas never changes a result (`C01_block_gas_mono`), so beyond `gasBound` the gas is
    irrelevant (`C01_block_gas_irrelevant`).

  The lines are assumed complete (`NlEnd`: each ends with its only '\n'); `C13.normalize_str_nlEnd`
  proves that `Document(str)` always produces such lines (`C01_block_document`).
-/
import Mistletoe.Proofs.BlockTotal
import Mistletoe.Proofs.DocTotal
import Mistletoe.Props.C06
import Mistletoe.Model.Config
import Mistletoe.Proofs.ConfigValues
namespace Mistletoe.Props.C01
open Mistletoe Mistletoe.Py Mistletoe.Scan Mistletoe.Block Mistletoe.Lines

/-- **The block phase never raises.**  For every token set and flag setting, every amount of gas
    and every list of complete lines: if the block-phase model reports an error at all, that
    error is `.fuel` (the recursion counter ran out) — never one of the modelled Python exceptions
    (IndexError, TypeError, StopIteration, UnboundLocalError, …). -/
theorem C01_block_no_raise (cfg : Cfg) (gas : Nat) (lines : List Str) (e : Err)
    (hl : ∀ s ∈ lines, NlEnd s) (h : blockPhase cfg gas lines = .err e) : e = .fuel :=
  blockPhase_no_raise cfg gas lines e hl h

/-- the same for `tokenize_block` on any buffer of complete lines, at any nesting depth -/
theorem C01_tokenize_block_no_raise (cfg : Cfg) (gas : Nat) (lines : List Line) (start : Nat) (st : St) (e : Err)
    (hl : AllNlEnd lines) (h : tokenizeBlock cfg gas lines start st = .err e) : e = .fuel :=
  tokenizeBlock_no_raise cfg gas lines start st e hl h

/-- **The block phase terminates and returns.**  With at least `gasBound cfg (docBuf lines)` gas
    — `(W + 1) * (2 * W + number of token types + 4)` where `W` is the number of characters of the
    document, a tab counting 4 — the block phase of any list of complete lines returns a parse
    buffer: no exception, no exhausted fuel in any inner loop, no exhausted gas.  (Nesting is
    bounded because `Quote.read` / `ListItem.read` hand strictly less weight to the nested
    `tokenize_block`; every loop round of every reader consumes a line.) -/
theorem C01_block_terminates (cfg : Cfg) (gas : Nat) (lines : List Str) (hl : ∀ s ∈ lines, NlEnd s)
    (hg : gasBound cfg (docBuf lines) ≤ gas) : ∃ r, blockPhase cfg gas lines = .ok r :=
  blockPhase_total cfg gas lines hl hg

/-- the same for `tokenize_block` on any buffer of complete lines -/
theorem C01_tokenize_block_terminates (cfg : Cfg) (gas : Nat) (lines : List Line) (start : Nat) (st : St)
    (hl : AllNlEnd lines) (hg : gasBound cfg lines ≤ gas) : ∃ r, tokenizeBlock cfg gas lines start st = .ok r :=
  tokenizeBlock_total cfg gas lines start st hg hl

/-- the closed form of the bound: `W` is the sum over the lines of their length, tabs counting 4 -/
theorem C01_gasBound_closed_form (cfg : Cfg) (lines : List Str) :
    gasBound cfg (docBuf lines) =
      ((lines.map sw).sum + 1) * (2 * (lines.map sw).sum + cfg.types.length + 4) := by
  unfold gasBound gasK; rw [lw_docBuf]

/-- **More gas never changes the result**: a buffer returned with gas `g` is returned with every
    `g' ≥ g`. -/
theorem C01_block_gas_mono (cfg : Cfg) (lines : List Str) (r : Buf × St) (g g' : Nat) (hle : g ≤ g')
    (h : blockPhase cfg g lines = .ok r) : blockPhase cfg g' lines = .ok r :=
  blockPhase_gas_mono cfg lines r g g' hle h

/-- hence the gas is irrelevant from `gasBound` on: the model has one well-defined result -/
theorem C01_block_gas_irrelevant (cfg : Cfg) (gas : Nat) (lines : List Str) (hl : ∀ s ∈ lines, NlEnd s)
    (hg : gasBound cfg (docBuf lines) ≤ gas) :
    blockPhase cfg gas lines = blockPhase cfg (gasBound cfg (docBuf lines)) lines := by
  obtain ⟨r, hr⟩ := blockPhase_total cfg _ lines hl (Nat.le_refl _)
  rw [hr]
  exact blockPhase_gas_mono cfg lines r _ _ hg hr

/-- **For a document given as one string** (`Document(text)`): the block phase returns, whatever
    the text. -/
theorem C01_block_document (cfg : Cfg) (t : Str) :
    ∃ r, blockPhase cfg (gasBound cfg (docBuf (normalize (.str t)))) (normalize (.str t)) = .ok r :=
  C01_block_terminates cfg _ _ (C13.normalize_str_nlEnd t) (Nat.le_refl _)

/-! ### Non-vacuity -/

def sampleCfg : Cfg := { types := [.htmlBlock, .blockCode, .heading, .quote, .codeFence, .thematicBreak, .list, .table, .footnote, .paragraph, .blankLine], tableInterrupt := false }

/-- a quote containing a list containing a paragraph and a fenced block; a link reference
    definition; an indented code block whose indentation is a tab -/
def sampleDoc : List Str := ["> - a\n", ">   ```\n", ">   x\n", ">   ```\n", "[r]: /u\n", "\tcode\n"].map String.toList

example : ∀ s ∈ sampleDoc, NlEnd s := nlEnd_of_checks _ (by decide +kernel)

example : gasBound sampleCfg (docBuf sampleDoc) = 4830 := by decide +kernel

/-- the shape of the result: quote [ list [ item [ paragraph, codeFence ] ] ], footnote, blockCode -/
def shapeOk : Res (Buf × St) → Bool
  | .ok (⟨[.quote [.list [.mk [.paragraph _ _ _, .codeFence _ _ _ _ _ _ _] _ _ _ _ _ _] _ _] _ _ _,
           .footnote _ _ _, .blockCode _ _ _], _⟩, _) => true
  | _ => false

/-- `C01_block_terminates` on the sample: with `gasBound` gas the block phase returns the nested buffer -/
example : shapeOk (blockPhase sampleCfg (gasBound sampleCfg (docBuf sampleDoc)) sampleDoc) = true := by decide +kernel

/-- `C01_block_no_raise` is not vacuous: with too little gas the model does report an error, and
    it is `.fuel` -/
example : blockPhase sampleCfg 27 sampleDoc = .err .fuel := by
  cases h : blockPhase sampleCfg 27 sampleDoc with
  | err e =>
    rw [C01_block_no_raise sampleCfg 27 sampleDoc e (nlEnd_of_checks _ (by decide +kernel)) h]
  | ok r =>
    exfalso
    have : (blockPhase sampleCfg 27 sampleDoc).isOk = false := by decide +kernel
    rw [h] at this; cases this

/-- `C01_block_gas_mono` on the sample: 28 units of gas already give the result; so does any more -/
example : shapeOk (blockPhase sampleCfg 28 sampleDoc) = true := by decide +kernel

example (g : Nat) (hg : 28 ≤ g) : shapeOk (blockPhase sampleCfg g sampleDoc) = true := by
  have h28 : shapeOk (blockPhase sampleCfg 28 sampleDoc) = true := by decide +kernel
  cases h : blockPhase sampleCfg 28 sampleDoc with
  | err e => rw [h] at h28; cases h28
  | ok r => rw [C01_block_gas_mono sampleCfg sampleDoc r 28 g hg h, ← h]; exact h28

example : ∃ r, blockPhase sampleCfg (gasBound sampleCfg (docBuf (normalize (.str "> - a\n>   b".toList))))
    (normalize (.str "> - a\n>   b".toList)) = .ok r := C01_block_document sampleCfg _

/-! ## The block token constructors (`Document(lines)`)

  `Document.parseLines cfg gas lines` is the block phase followed by `make_tokens`: the constructors of
  block_token.py (`Model/Document.lean`), which index into the buffers the readers returned
  (`List.__init__`: `self.children[0].leader`; `Table.__init__`: `lines[1]`, `parse_align(column)`;
  `SetextHeading.__init__`: `lines.pop()`) and start the inline phase on each leaf. -/

/-- **Every parse buffer is well-formed, at every depth** (`Block.EntryWF`): a heading has level
    1..6; a list has at least one item and every item's leader is a bullet or 1–9 digits and a
    delimiter (so `int(leader[:-1])` is defined); a table buffer has at least two lines, the second
    matching `delimiter_row_pattern` and containing '-'; a setext buffer has at least two lines;
    a paragraph at least one; a Footnote entry at least one definition. -/
theorem C01_block_buffer_wf (cfg : Cfg) (gas : Nat) (lines : List Str) (b : Buf) (st : St)
    (hl : ∀ s ∈ lines, NlEnd s) (h : blockPhase cfg gas lines = .ok (b, st)) : EntriesWF b.entries :=
  blockPhase_wf cfg gas lines b st hl h

/-- for C12: every heading entry at any depth has a level in 1..6 -/
theorem C01_heading_level_range (cfg : Cfg) (gas : Nat) (lines : List Str) (b : Buf) (st : St)
    (hl : ∀ s ∈ lines, NlEnd s) (h : blockPhase cfg gas lines = .ok (b, st))
    (lvl : Nat) (c cl : Str) (ln og : Nat) (hm : Entry.heading lvl c cl ln og ∈ subEntriesL b.entries) : 1 ≤ lvl ∧ lvl ≤ 6 :=
  blockPhase_heading_level cfg gas lines b st hl h lvl c cl ln og hm

/-- for C12: every list entry at any depth has at least one item (and well-formed items) -/
theorem C01_list_nonempty (cfg : Cfg) (gas : Nat) (lines : List Str) (b : Buf) (st : St)
    (hl : ∀ s ∈ lines, NlEnd s) (h : blockPhase cfg gas lines = .ok (b, st))
    (items : List Item) (ln og : Nat) (hm : Entry.list items ln og ∈ subEntriesL b.entries) : 1 ≤ items.length ∧ ItemsWF items :=
  blockPhase_list_nonempty cfg gas lines b st hl h items ln og hm

/-- `Table.parse_align` is never handed an empty column: every column `column_align_pattern.findall`
    returns is non-empty (for every row, delimiter row or not) -/
theorem C01_table_columns_nonempty (row : Str) : ∀ c ∈ findAligns row, c ≠ [] := findAligns_ne row

/-- **`Document(lines)` never raises.**  Hypothesis `hinl`: the inline phase returns on every
    string under the configured span tokens and every definitions table
    (`∀ fn s, ∃ ks, tokenizeInner cfg.span fn s = .ok ks`; discharged by the inline totality proof).
    Then for every gas and every list of complete lines, the only error `parseLines` can report is
    `.fuel`: no `IndexError` in `List.__init__`, `Table.__init__`, `Table.parse_align`,
    `SetextHeading.__init__`, no `ValueError` in `int(leader[:-1])`, and none of the block-phase errors. -/
theorem C01_document_no_raise (cfg : Document.Cfg) (gas : Nat) (lines : List Str) (hl : ∀ s ∈ lines, NlEnd s)
    (hinl : ∀ fn s, ∃ ks, Inline.tokenizeInner cfg.span fn s = .ok ks) (e : Err)
    (h : Document.parseLines cfg gas lines = .err e) : e = .fuel := by
  unfold Document.parseLines at h
  split at h
  · rename_i e' he
    cases h
    exact blockPhase_no_raise cfg.block gas lines _ hl he
  · rename_i buf st hb
    simp only at h
    split at h
    · rename_i e' he
      obtain ⟨bs, hbs⟩ := Document.mkBlocks_ok cfg _ hinl buf.entries (blockPhase_wf cfg.block gas lines buf st hl hb)
      rw [hbs] at he; cases he
    · cases h

/-- **`Document(lines)` terminates and returns** with `gasBound` gas (same hypothesis `hinl` on the
    inline phase as `C01_document_no_raise`). -/
theorem C01_document_terminates (cfg : Document.Cfg) (gas : Nat) (lines : List Str) (hl : ∀ s ∈ lines, NlEnd s)
    (hinl : ∀ fn s, ∃ ks, Inline.tokenizeInner cfg.span fn s = .ok ks)
    (hg : gasBound cfg.block (docBuf lines) ≤ gas) : ∃ d, Document.parseLines cfg gas lines = .ok d :=
  Document.parseLines_total cfg gas lines hl hinl hg

/-- more gas never changes the document -/
theorem C01_document_gas_mono (cfg : Document.Cfg) (lines : List Str) (d : Doc) (g g' : Nat) (hle : g ≤ g')
    (h : Document.parseLines cfg g lines = .ok d) : Document.parseLines cfg g' lines = .ok d := by
  obtain ⟨buf, st, hb, hk, hf⟩ := Pipeline.parseLines_ok h
  rw [Pipeline.parseLines_of_phase (blockPhase_gas_mono cfg.block lines (buf, st) g g' hle hb) hk, ← hf]

/-- the same for `Document(text)` given one `str`: no hypothesis on the text -/
theorem C01_document_str_no_raise (cfg : Document.Cfg) (gas : Nat) (t : Str)
    (hinl : ∀ fn s, ∃ ks, Inline.tokenizeInner cfg.span fn s = .ok ks) (e : Err)
    (h : Document.parse cfg gas t = .err e) : e = .fuel :=
  C01_document_no_raise cfg gas _ (C13.normalize_str_nlEnd t) hinl e h

theorem C01_document_str_terminates (cfg : Document.Cfg) (gas : Nat) (t : Str)
    (hinl : ∀ fn s, ∃ ks, Inline.tokenizeInner cfg.span fn s = .ok ks)
    (hg : gasBound cfg.block (docBuf (normalize (.str t))) ≤ gas) : ∃ d, Document.parse cfg gas t = .ok d :=
  Document.parseLines_total cfg gas _ (C13.normalize_str_nlEnd t) hinl hg

/-! ### Non-vacuity -/

def docCfg : Document.Cfg :=
  { block := { types := [.htmlBlock, .blockCode, .heading, .quote, .codeFence, .thematicBreak, .list, .table, .footnote, .paragraph] },
    span := [.escapeSequence, .htmlSpan, .autoLink, .coreTokens, .inlineCode, .lineBreak, .strikethrough] }

/-- a setext heading, a quote holding an ordered list that starts at 3 (with emphasis inside), an
    ATX heading.  (No table here; a table buffer is checked at the block level below, and whole
    documents with a table are evaluated end to end in `Proofs/ContribTotal.lean`.) -/
def docSample : List Str := ["Title\n", "=====\n", "> 3. *x*\n", "## h\n"].map String.toList

theorem docSample_nlEnd : ∀ s ∈ docSample, NlEnd s := nlEnd_of_checks _ (by decide +kernel)

def docShapeOk : Res Doc → Bool
  | .ok ⟨[.setextHeading 1 _ [.rawText _] 1,
          .quote [.list false (some 3) [.listItem _ 0 3 false [.paragraph [.emphasis _ _] 3] 3] 3] 3,
          .heading 2 _ _ 4], []⟩ => true
  | _ => false

example : gasBound docCfg.block (docBuf docSample) = 1782 := by decide +kernel

/-- the whole of `Document(lines)` evaluated by the kernel with `gasBound` gas: it returns the
    document (so the conclusion of `Document.parseLines_total` holds on the sample, inline phase included) -/
example : docShapeOk (Document.parseLines docCfg (gasBound docCfg.block (docBuf docSample)) docSample) = true := by
  decide +kernel

/-- with too little gas the error is `.fuel` (the hypothesis of `C01_document_no_raise` is satisfiable) -/
example : (match Document.parseLines docCfg 28 docSample with | .err .fuel => true | _ => false) = true := by decide +kernel

example (hinl : ∀ fn s, ∃ ks, Inline.tokenizeInner docCfg.span fn s = .ok ks) :
    ∃ d, Document.parseLines docCfg 1782 docSample = .ok d :=
  Document.parseLines_total docCfg 1782 docSample docSample_nlEnd hinl (by decide +kernel)

/-- the parse buffer of the sample as the kernel computes it: a two-line setext buffer, a list with
    one item whose leader is "3.", a heading of level 2 -/
example : (match blockPhase docCfg.block 40 docSample with
    | .ok (⟨[.setext [_, _] _ _, .quote [.list [.mk _ _ _ _ ['3', '.'] _ _] _ _] _ _ _, .heading 2 _ _ _ _], _⟩, _) => true
    | _ => false) = true := by decide +kernel

/-- a table buffer as the kernel computes it: three lines, the second one the delimiter row, from
    which `findall` returns the non-empty columns "---" and ":-:" -/
example : (match blockPhase docCfg.block 40 (["| a | b |\n", "|---|:-:|\n", "| 1 | *2* |\n"].map String.toList) with
    | .ok (⟨[.table [_, l1, _] 1 _ _], _⟩, _) =>
        delimiterRow l1 && l1.contains '-' && findAligns l1 == ["---".toList, ":-:".toList]
    | _ => false) = true := by decide +kernel

/-! ## The silent inner fuels never truncate

  `blockCodeLoop`, `codeFenceLoop`, `tableLoop`, `htmlBlockLoop`, `footnoteLines`, `skipBlanks` return
  what they have when their fuel is 0 (no `.err`).  With more fuel than lines remain after the
  cursor — every caller passes `fw.remaining + 1` for a cursor at or after `fw` — that branch never
  ends the loop: the result is the same for every such fuel, i.e. the model loop equals the
  unbounded Python loop. -/

/-- **the fuel of every silently-fuelled block loop is irrelevant once it exceeds the number of
    remaining lines** -/
theorem C01_block_inner_fuel_irrelevant (fuel fuel' : Nat) (fw : FW) (h : fw.remaining < fuel) (h' : fw.remaining < fuel') :
    (∀ buf tb, blockCodeLoop fuel fw buf tb = blockCodeLoop fuel' fw buf tb) ∧
    (∀ ld p buf, codeFenceLoop ld p fuel fw buf = codeFenceLoop ld p fuel' fw buf) ∧
    (∀ buf, tableLoop fuel fw buf = tableLoop fuel' fw buf) ∧
    (∀ ec buf, htmlBlockLoop ec fuel fw buf = htmlBlockLoop ec fuel' fw buf) ∧
    (∀ buf, footnoteLines fuel fw buf = footnoteLines fuel' fw buf) ∧
    (∀ n, skipBlanks fuel fw n = skipBlanks fuel' fw n) :=
  ⟨fun buf tb => by simp only [blockCodeLoop_eq, loop_fuel _ fuel fuel' fw h h'],
   fun ld p buf => by simp only [codeFenceLoop_eq, loop_fuel _ fuel fuel' fw h h'],
   fun buf => by simp only [tableLoop_eq, loop_fuel _ fuel fuel' fw h h'],
   fun ec buf => by simp only [htmlBlockLoop_eq, loop_fuel _ fuel fuel' fw h h'],
   fun buf => by simp only [footnoteLines_eq, loop_fuel _ fuel fuel' fw h h'],
   fun n => by simp only [skipBlanks_eq, loop_fuel _ fuel fuel' fw h h']⟩

/-- the same for the loops that report `.err .fuel` (Paragraph.read, Quote.read, ListItem.read) -/
theorem C01_block_inner_fuel_irrelevant_err (cfg : Cfg) (fuel fuel' : Nat) (fw : FW) (h : fw.remaining < fuel) (h' : fw.remaining < fuel') :
    (∀ so buf, paragraphLoop cfg so fuel fw buf = paragraphLoop cfg so fuel' fw buf) ∧
    (∀ buf fl, quoteLoop cfg fuel fw buf fl = quoteLoop cfg fuel' fw buf fl) ∧
    (∀ pre buf nl, itemLoop cfg pre fuel fw buf nl = itemLoop cfg pre fuel' fw buf nl) :=
  ⟨fun so => paragraphLoop_fuel cfg so fuel fuel' fw h h', quoteLoop_fuel cfg fuel fuel' fw h h',
   fun pre => itemLoop_fuel cfg pre fuel fuel' fw h h'⟩

/-- `Footnote.read`'s `while offset < len(string) - 1` loop: `len(string) + 2` rounds or more -/
theorem C01_footnote_fuel_irrelevant (s : Str) (fuel fuel' : Nat) (h : s.length + 2 ≤ fuel) (h' : s.length + 2 ≤ fuel') :
    footnoteRefs s fuel 0 [] = footnoteRefs s fuel' 0 [] :=
  footnoteRefs_fuel s fuel fuel' 0 (by omega) (by omega) []

/-- the fuelled regex scanners: `column_align_pattern.findall` (`findAligns`), the tail loop of
    `delimiter_row_pattern` (`delimiterRow`), the attribute loop of `_open_tag` (`attrs`), and
    `escaped_pipe_pattern.sub` (`unescapePipes`) do not depend on their fuel once it exceeds the
    length of the text -/
theorem C01_scanner_fuel_irrelevant (s : Str) (fuel fuel' : Nat) (h : s.length < fuel) (h' : s.length < fuel') :
    alignCols fuel s = alignCols fuel' s ∧ delimRest fuel s = delimRest fuel' s ∧ attrs fuel s = attrs fuel' s ∧
    delimiterRowWith fuel s = delimiterRowWith fuel' s ∧
    (∀ prev, Document.unescapePipes fuel prev s = Document.unescapePipes fuel' prev s) :=
  ⟨alignCols_fuel fuel fuel' s h h', delimRest_fuel fuel fuel' s h h', attrs_fuel fuel fuel' s h h',
   delimiterRowWith_fuel s fuel fuel' h h', Document.unescapePipes_fuel fuel fuel' s h h'⟩

example (line : Str) : delimiterRow line = delimiterRowWith (line.length + 1) line := delimiterRow_eq_with line

/-- non-vacuity: a fenced block read with fuel 4 (three lines remain) and with fuel 1000 -/
example :
    let fw : FW := { lines := docBuf (["```\n", "x\n", "```\n", "y\n"].map String.toList), pos := 1 }
    fw.remaining = 3 ∧ (codeFenceLoop "```".toList 0 4 fw []).1 = ["x\n".toList] ∧
      codeFenceLoop "```".toList 0 4 fw [] = codeFenceLoop "```".toList 0 1000 fw [] := by
  refine ⟨by decide +kernel, by decide +kernel, ?_⟩
  exact (C01_block_inner_fuel_irrelevant 4 1000 _ (by decide +kernel) (by decide +kernel)).2.1 _ _ _

/-! ### Parse-and-render is total: the three phases together

  The hypothesis `hinl` of the Document-level theorems (the inline phase returns) is discharged by
  `C06_tokenize_inner_total` (Props/C06.lean, proved in Proofs/CoreTotal.lean: `find_core_tokens`,
  `process_emphasis`, the link matchers and the span tokenizer never raise and their fuels suffice),
  for EVERY span-token list.
  The HTML renderer model (`Html.render`) is a total Lean function, so parse-and-render returns a
  string whenever the parse does. -/

/-- **`Document(text)` never raises**, for every text, every block- and span-token list and every gas:
    the only error value the model can return is running out of gas. -/
theorem C01_parse_no_raise (cfg : Document.Cfg) (gas : Nat) (t : Str) (e : Err)
    (h : Document.parse cfg gas t = .err e) : e = .fuel :=
  C01_document_str_no_raise cfg gas t (fun fn s => C06.C06_tokenize_inner_total cfg.span fn s) e h

/-- **`Document(text)` terminates and returns a document** once the gas is at least the closed-form bound
    `gasBound` of the normalised lines (and then more gas changes nothing: `C01_document_gas_mono`). -/
theorem C01_parse_terminates (cfg : Document.Cfg) (gas : Nat) (t : Str)
    (hg : gasBound cfg.block (docBuf (normalize (.str t))) ≤ gas) : ∃ d, Document.parse cfg gas t = .ok d :=
  C01_document_str_terminates cfg gas t (fun fn s => C06.C06_tokenize_inner_total cfg.span fn s) hg

/-- the same for a document given as a list of complete lines -/
theorem C01_parse_lines_total (cfg : Document.Cfg) (gas : Nat) (lines : List Str) (hl : ∀ s ∈ lines, NlEnd s)
    (hg : gasBound cfg.block (docBuf lines) ≤ gas) : ∃ d, Document.parseLines cfg gas lines = .ok d :=
  Document.parseLines_total cfg gas lines hl (fun fn s => C06.C06_tokenize_inner_total cfg.span fn s) hg

/-- **Parse-and-render with the HTML renderer returns a string for every text**: with the token lists
    the HTML renderer installs (regenerated from /repo) and enough gas, `Config.renderHtml` is `some _`,
    whatever the options. -/
theorem C01_html_total (opts : Html.Opts) (cfg : Document.Cfg) (hc : Config.html = some cfg) (gas : Nat) (t : Str)
    (hg : gasBound cfg.block (docBuf (normalize (.str t))) ≤ gas) : ∃ out, Config.renderHtml opts gas t = some out := by
  obtain ⟨d, hd⟩ := C01_parse_terminates cfg gas t hg
  exact ⟨_, Pipeline.renderHtml_of_parse hc opts hd⟩

/-- the configuration exists: the regenerated lists are known to the model -/
example : Config.html.isSome = true := by rw [Config.html_eq]; rfl

end Mistletoe.Props.C01
