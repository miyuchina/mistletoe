/-
  C06 (the <em>/<strong> structure of the OUTPUT).  Props/C06.lean shows that the MATCHES `find_core_tokens` returns are the
  emphasis nodes of the specification (`Spec/Emphasis.lean`, with backslash escapes `Spec/EmphasisEsc.lean`); the property
  speaks of the output.  Here: the span resolver (`span_tokenizer.tokenize`: ordering, nesting by parse group, gap filling),
  the token builder and the HTML renderer turn those matches into `<em>` / `<strong>` elements nested exactly as the
  specification's spans, around the escaped text.  `Spec.EmphasisHtml.specHtmlQ dq sq s` is the specification's HTML, defined
  from the text, the specification's span list and the character escaper only; it is kernel-checked against the expected HTML
  of spec examples inside Proofs/EmphHtml.lean, where the proofs are (it imports Props/C06.lean and Props/C14.lean, hence
  this second file).
  Hypotheses beyond those of Props/C06.lean: one line (no "\n": a line ending in two spaces would be a hard break) and no
  `~~` (strikethrough is a GFM construct the 6.2 algorithm does not know) - both have kernel-checked counterexamples that
  reproduce on the real code, with model and code agreeing.
-/
import Mistletoe.Proofs.EmphHtml
namespace Mistletoe.Props.C06H
open Mistletoe Mistletoe.Py Mistletoe.Span Mistletoe.Inline Mistletoe.Html Mistletoe.Escape Mistletoe.Spec.EmphasisHtml
open Mistletoe.Core Mistletoe.InertInline Mistletoe.RefResolve Mistletoe.InlineScan Mistletoe.Spec.EmphasisEsc Mistletoe.EmphHtml
open Mistletoe.Props.C14 (inertLine)

/-- **The output of the inline phase is the specification's HTML**: for every one-line text of the property's alphabet
    (no backslash, backquote, bracket, `<`, `&`; standard whitespace; no `~~`), every span-token list of covered classes with
    `CoreTokens` once and every table of definitions, `tokenize_inner` returns tokens whose HTML rendering is `specHtmlQ`,
    for every quote option: `<em>` / `<strong>` exactly where the specification's algorithm puts them, nested as it nests them. -/
theorem C06_html_is_spec_partial (types : List STok) (fn : Footnotes.Table) (s : Str)
    (hp : Spec.Emphasis.plain s = true) (hw : EmphRefine.stdWs s = true) (hnl : '\n' ∉ s) (htl : tildeOk s = true)
    (ht : ∀ t ∈ types, inertClass t = true) (hc : types.count .coreTokens = 1) :
    ∃ ks, tokenizeInner types fn s = .ok ks ∧
      ∀ q : Quotes, flat (renderInlines q ks) = specHtmlQ q.dq q.sq s :=
  emph_html_is_spec types fn s hp hw hnl htl ht hc

/-- the same with backslash escapes (the property's whole alphabet except brackets): an escaping backslash is dropped, the
    escaped character is literal text -/
theorem C06_html_is_spec_esc_partial (types : List STok) (fn : Footnotes.Table) (s : Str)
    (hp : plainEsc s = true) (hw : EmphRefine.stdWs s = true) (hnl : '\n' ∉ s) (htl : tildeOk s = true)
    (ht : ∀ t ∈ types, inertClass t = true) (hc : types.count .coreTokens = 1)
    (he : types.count .escapeSequence = 1) :
    ∃ ks, tokenizeInner types fn s = .ok ks ∧
      ∀ q : Quotes, flat (renderInlines q ks) = specHtmlEscQ q.dq q.sq s :=
  emph_html_is_spec_esc types fn s hp hw hnl htl ht hc he

/-- **At document level**, through the parse-and-render pipeline of the working tree's HTML configuration: a one-line paragraph
    `s` of the alphabet renders as `<p>` + the specification's HTML of `strip s` + `</p>`. -/
theorem C06_paragraph_html_is_spec_partial (o : Opts) (gas : Nat) (s : Str)
    (hp : Spec.Emphasis.plain s = true) (hw : EmphRefine.stdWs s = true) (htl : tildeOk s = true)
    (h1 : oneLine (s ++ ['\n']) = true) (hl : inertLine (s ++ ['\n']) = true) :
    Config.renderHtml o (gas + 14) (s ++ ['\n']) =
      some ("<p>".toList ++ specHtmlQ o.dq o.sq (strip s) ++ "</p>\n".toList) :=
  Mistletoe.EmphHtml.C06_paragraph_html_is_spec_partial o gas s hp hw htl h1 hl

theorem C06_paragraph_html_is_spec_esc_partial (o : Opts) (gas : Nat) (s : Str)
    (hp : Spec.EmphasisEsc.plainEsc s = true) (hw : EmphRefine.stdWs s = true) (htl : tildeOk s = true)
    (h1 : oneLine (s ++ ['\n']) = true) (hl : inertLine (s ++ ['\n']) = true) :
    Config.renderHtml o (gas + 14) (s ++ ['\n']) =
      some ("<p>".toList ++ specHtmlEscQ o.dq o.sq (strip s) ++ "</p>\n".toList) :=
  Mistletoe.EmphHtml.C06_paragraph_html_is_spec_esc_partial o gas s hp hw htl h1 hl

end Mistletoe.Props.C06H
