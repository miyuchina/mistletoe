/-
  C03 (fragment with tables and indented code blocks) — property theorems only; the proofs are in Proofs/ComposeTable.lean.

  The tree type `T4` keeps everything `T3` (Props/C03_Code.lean) has and adds
    * TABLES: header row, delimiter row with per-column alignment (`---`, `:--`, `:-:`, `--:`, any padding), body rows; outer
      pipes chosen per row; cells of inert one-line text; body rows shorter than the header (padded with empty cells) or longer
      (the excess cells are kept, with no alignment - a deviation from GFM recorded as an observation);
    * INDENTED CODE BLOCKS: lines indented by four or more spaces, interior blank lines kept;
  at top level, inside block quotes and inside list items (an indented code block not as the first block of an item), to any
  depth.  `T4.oks` is the decidable admissibility predicate; the delimiter row needs no scanner check (its shape is proved).
  Not covered: rows indented 1-3 spaces, cells with backslashes / escaped pipes / inline markup, a table directly after a
  paragraph, tabs.
  `BlockCode` is that of /repo since 0b09465 and 2952153 (before them, a whitespace-only line of four spaces started a
  code block and trailing whitespace-only lines stayed in the block).
-/
import Mistletoe.Proofs.ComposeTable
namespace Mistletoe.Props.C03T
open Mistletoe Mistletoe.Block Mistletoe.Html Mistletoe.InertInline Mistletoe.ComposeT

/-- **The document written from a tree with tables and indented code blocks parses back to that tree** (`blocks4`: a `Table` token
    with `column_align`, the header `TableRow`, the body rows, `TableCell`s with their alignment and inline children; a
    `BlockCode` token with the content minus four columns), every token on the line the writer put it on; no definitions. -/
theorem C03_table_document_partial (cfg : Document.Cfg) (ti : Bool)
    (hb : cfg.block = { types := Props.C14.defaultTypes, tableInterrupt := ti })
    (ht : ∀ t ∈ cfg.span, inertClass t = true) (hc : cfg.span.count .lineBreak = 1)
    (ts : List T4) (h : T4.oks ts = true) (hne : ts ≠ []) (gas : Nat) (hg : needs4 ts ≤ gas) :
    Document.parseLines cfg gas (writes4 ts) = .ok { kids := blocks4 1 ts, footnotes := [] } ∧
    Document.parse cfg gas (writes4 ts).flatten = .ok { kids := blocks4 1 ts, footnotes := [] } :=
  Mistletoe.ComposeT.C03_table_document_partial cfg ti hb ht hc ts h hne gas hg

/-- **… and the HTML renderer gives, byte for byte, the HTML written directly from the tree** (`<table>`, `<thead>`, `<tbody>`,
    `align` attributes, escaped cell text; `<pre><code>` for code), for every option set, through the parse-and-render
    pipeline of the working tree's HTML configuration. -/
theorem C03_table_html_partial (o : Opts) (ts : List T4) (h : T4.oks ts = true) (hne : ts ≠ []) (gas : Nat) (hg : needs4 ts ≤ gas) :
    Config.renderHtml o gas (writes4 ts).flatten = some (htmlOf4 o ts) :=
  Mistletoe.ComposeT.C03_table_html_partial o ts h hne gas hg

end Mistletoe.Props.C03T
