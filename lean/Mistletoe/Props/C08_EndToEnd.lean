/-
  C08 (for every text); the proofs are in Proofs/HtmlEndToEnd.lean (which imports Props/C08.lean, hence this second file).

  Props/C08.lean proves well-formedness for EVERY token tree under the hypothesis "heading levels are 1..6".  Every parsed
  document satisfies it (`C12_parsed_shape`), and the parser returns a document for every text (`C01_parse_terminates`), so
  the statement holds for every input text with no hypothesis left.
-/
import Mistletoe.Proofs.HtmlEndToEnd
namespace Mistletoe.Props.C08E
open Mistletoe Mistletoe.Html Mistletoe.Pred Mistletoe.Escape Mistletoe.Block Mistletoe.Lines Mistletoe.HtmlEndToEnd

/-- **For every input text and every option set the HTML renderer's output is well formed** (HTML token lists of the
    working tree, enough gas): the parse returns a document `d`, the output is the serialisation of an event list that is
    properly nested, uses only the renderer's tag vocabulary and attribute names, has quote- and angle-free attribute values
    and escaped text (`WellFormed`), and its raw leaves are exactly the contents of `d`'s HTML blocks and spans, in order. -/
theorem C08_every_text (o : Opts) (cfg : Document.Cfg) (hc : Config.html = some cfg) (gas : Nat) (t : Str)
    (hg : gasBound cfg.block (docBuf (normalize (.str t))) ≤ gas) :
    ∃ d, Document.parse cfg gas t = .ok d ∧ Config.renderHtml o gas t = some (render o d) ∧
      render o d = flat (renderDoc o.q d) ∧ WellFormed (renderDoc o.q d)
      ∧ rawsOf (renderDoc o.q d) = (if (renderDoc o.q d).isEmpty then [] else htmlOfL d.kids) :=
  Mistletoe.Props.C08.C08_every_text o cfg hc gas t hg

/-- **With raw-HTML processing disabled nothing raw reaches the output**: under every configuration whose token lists contain
    neither `HtmlBlock` nor `HtmlSpan` (that is `HtmlRenderer(process_html_tokens=False)`, `C08_no_raw_config_current`), for
    every text, the output is well formed and contains no raw leaf at all - document text cannot inject markup. -/
theorem C08_every_text_no_raw (o : Opts) (cfg : Document.Cfg)
    (hhb : BTok.htmlBlock ∉ cfg.block.types) (hsp : Inline.STok.htmlSpan ∉ cfg.span) (gas : Nat) (t : Str)
    (hg : gasBound cfg.block (docBuf (normalize (.str t))) ≤ gas) :
    ∃ d, Document.parse cfg gas t = .ok d ∧ render o d = flat (renderDoc o.q d) ∧
      WellFormed (renderDoc o.q d) ∧ ∀ e ∈ renderDoc o.q d, isRaw e = false :=
  Mistletoe.Props.C08.C08_every_text_no_raw_general o cfg hhb hsp gas t hg

/-- the token lists `HtmlRenderer(process_html_tokens=False)` installs in the working tree satisfy that hypothesis -/
theorem C08_no_raw_config_current (cfg : Document.Cfg) (hc : Config.htmlNoRaw = some cfg) :
    BTok.htmlBlock ∉ cfg.block.types ∧ Inline.STok.htmlSpan ∉ cfg.span :=
  Mistletoe.Props.C08.htmlNoRaw_no_html_classes cfg hc

end Mistletoe.Props.C08E
