/-
  C12 — The token tree is well-formed and its generic views are faithful.

  Proved here (for every tree): the tree-walking utility yields exactly the proper descendants,
  each once, with its true parent and depth (as a permutation of the pre-order list, because
  `traverse` is breadth-first); its `klass`, `depth` and `include_source` options act as filters of
  that walk; `get_ast` mirrors the tree node for node.
  Child kinds and scalar ranges of *parsed* documents: `C12_parsed_shape` (Props/C12_Shape.lean) and the
  two theorems at the end of this file.  Parent links of the real object graph are checked by the
  exporter (harness/export.py) on every generated input - see DESIGN.md.
  The namespace `Props.C12` is continued in Proofs/DocShape.lean (`C12_parsed_shape`; restated in Props/C12_Shape.lean).
-/
import Mistletoe.Proofs.Traverse
import Mistletoe.Props.C01
import Mistletoe.Model.AstJson
namespace Mistletoe.Props.C12
open Mistletoe Mistletoe.Traverse Mistletoe.AstJson

/-- **Traversal**: with default arguments `traverse` yields each token reachable through
    `children` exactly once (a permutation of the pre-order list of proper descendants), each with
    its true parent and depth. -/
theorem C12_traverse (t : RTree) :
    (traverse t (fun _ => true) none false).Perm (descendants 1 t) := by
  unfold traverse
  simp only [Bool.false_and, Bool.false_eq_true, if_false, List.nil_append]
  rw [descendants_eq]
  exact loop_perm _ 0 _ (by have := heightLevel_childPairs t; omega)

mutual
theorem descendants_parent (d : Nat) : ∀ (t : RTree), ∀ r ∈ descendants d t,
    ∃ p, r.parent = some p ∧ r.node ∈ p.kids ∧ d ≤ r.depth
  | .node i c kids, r, hr => by
    simp only [descendants] at hr
    exact descendantsL_parent d (.node i c kids) kids (fun k hk => hk) r hr
theorem descendantsL_parent (d : Nat) (p : RTree) : ∀ (ks : List RTree), (∀ k ∈ ks, k ∈ p.kids) →
    ∀ r ∈ descendantsL d p ks, ∃ q, r.parent = some q ∧ r.node ∈ q.kids ∧ d ≤ r.depth
  | [], _, r, hr => by simp [descendantsL] at hr
  | k :: ks, hsub, r, hr => by
    simp only [descendantsL, List.mem_cons, List.mem_append] at hr
    rcases hr with rfl | hr | hr
    · exact ⟨p, rfl, hsub k (List.mem_cons_self ..), Nat.le_refl _⟩
    · obtain ⟨q, h1, h2, h3⟩ := descendants_parent (d + 1) k r hr
      exact ⟨q, h1, h2, by omega⟩
    · exact descendantsL_parent d p ks (fun k' hk' => hsub k' (List.mem_cons_of_mem _ hk')) r hr
end

/-- **True parent**: every yielded token is listed by the token reported as its parent. -/
theorem C12_traverse_true_parent (t : RTree) :
    ∀ r ∈ traverse t (fun _ => true) none false, ∃ p, r.parent = some p ∧ r.node ∈ p.kids := by
  intro r hr
  have := (C12_traverse t).mem_iff.mp hr
  obtain ⟨p, h1, h2, _⟩ := descendants_parent 1 t r this
  exact ⟨p, h1, h2⟩

/-- **Class filter**: `klass` only filters what is yielded; it never prunes the walk. -/
theorem C12_traverse_klass (t : RTree) (klass : Nat → Bool) (limit : Option Nat) :
    traverse t klass limit false =
      (traverse t (fun _ => true) limit false).filter (fun r => klass r.node.cls) := by
  simp only [traverse, Bool.false_and, Bool.false_eq_true, if_false, List.nil_append]
  exact loop_filter klass limit _ _ _

/-- **include_source** prepends the source (depth 0, no parent) when it passes the class filter. -/
theorem C12_traverse_include_source (t : RTree) (klass : Nat → Bool) (limit : Option Nat) :
    traverse t klass limit true =
      (if klass t.cls then [{ node := t, parent := none, depth := 0 }] else []) ++ traverse t klass limit false := by
  simp [traverse]

/-- **AST renderer mirrors the tree**: the dictionary of a token starts with its class name, carries
    its `repr_attributes`, its header's dictionary when it has one, and - exactly when `children` is
    not None - the list of its children's dictionaries, in order. -/
theorem C12_ast_mirror (t : GTok) :
    ∃ fields, getAst t = .obj (("type".toList, .str t.cls) :: fields)
      ∧ (∀ kv ∈ t.reprAttrs, kv ∈ fields)
      ∧ (∀ h ∈ t.header.head?, ("header".toList, getAst h) ∈ fields)
      ∧ (∀ ks, t.kids = some ks → ("children".toList, JVal.arr (ks.map getAst)) ∈ fields) := by
  have hmap : ∀ ks : List GTok, getAsts ks = ks.map getAst := by
    intro ks; induction ks with
    | nil => rfl
    | cons k ks ih => simp [getAsts, ih]
  cases t with
  | mk cls vars reprAttrs header kids =>
    refine ⟨pickVars vars ++ reprAttrs ++ headerField header ++ kidsField kids,
      by simp [getAst, GTok.cls], ?_, ?_, ?_⟩
    · intro kv hkv
      simp only [GTok.reprAttrs] at hkv
      simp only [List.mem_append]
      exact Or.inl (Or.inl (Or.inr hkv))
    · intro h hh
      cases header with
      | nil => simp [GTok.header] at hh
      | cons x xs =>
        simp only [GTok.header, List.head?_cons, Option.mem_def, Option.some.injEq] at hh
        subst hh
        simp [headerField]
    · intro ks hks
      simp only [GTok.kids] at hks
      subst hks
      simp [kidsField, hmap]

def sample : RTree := .node 0 0 [.node 1 1 [.node 3 2 [], .node 4 2 []], .node 2 1 [.node 5 2 [.node 6 3 []]]]

example : (traverse sample (fun _ => true) none false).map (·.node.id) = [1, 2, 3, 4, 5, 6] := by decide
example : (descendants 1 sample).map (·.node.id) = [1, 3, 4, 2, 5, 6] := by decide
example : (traverse sample (fun c => c == 2) (some 2) true).map (fun r => (r.node.id, r.depth)) = [(3, 2), (4, 2), (5, 2)] := by decide

/-! ### Scalar ranges of parsed documents (clause "scalar attributes are in range")

  Proved over the block-parser model in `Proofs/DocTotal.lean` (well-formedness of every parse buffer,
  at every nesting depth, for every list of complete lines): given here too because they are C12's clauses.
  `subEntriesL` lists every entry of a buffer at any depth. -/

open Mistletoe.Block in
/-- **heading level 1-6**: every ATX heading entry produced by the block phase, at any nesting depth, has a
    level between 1 and 6 (the level the `Heading` constructor stores) -/
theorem C12_heading_level_range (cfg : Cfg) (gas : Nat) (lines : List Str) (b : Buf) (st : St)
    (hl : ∀ s ∈ lines, NlEnd s) (h : blockPhase cfg gas lines = .ok (b, st))
    (lvl : Nat) (c cl : Str) (ln og : Nat) (hm : Entry.heading lvl c cl ln og ∈ subEntriesL b.entries) : 1 ≤ lvl ∧ lvl ≤ 6 :=
  blockPhase_heading_level cfg gas lines b st hl h lvl c cl ln og hm

open Mistletoe.Block in
/-- **lists hold items**: every list entry at any depth has at least one item, each with a well-formed leader
    (one bullet character, or 1-9 digits and a delimiter - so that `int(leader[:-1])`, the list's `start`, is
    defined and is read off the first item's marker) -/
theorem C12_list_items (cfg : Cfg) (gas : Nat) (lines : List Str) (b : Buf) (st : St)
    (hl : ∀ s ∈ lines, NlEnd s) (h : blockPhase cfg gas lines = .ok (b, st))
    (items : List Item) (ln og : Nat) (hm : Entry.list items ln og ∈ subEntriesL b.entries) : 1 ≤ items.length ∧ ItemsWF items :=
  blockPhase_list_nonempty cfg gas lines b st hl h items ln og hm

end Mistletoe.Props.C12
