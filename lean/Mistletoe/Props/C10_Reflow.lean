/-
  C10 (on parsed documents) — reflowing prose to a maximum line length: bound, same words, same meaning, idempotent.

  The property theorems, for the token lists of the working tree; they are instances of the theorems for arbitrary
  covered token lists in Proofs/Reflow.lean and Proofs/ReflowQuote.lean (which build on Props/C09.lean, Props/C10.lean
  and Props/C14.lean).  Props/C10.lean proves the clauses for the fill loop on arbitrary
  fragment lists; here they are carried through `Document(text)` and `MarkdownRenderer(max_line_length=L).render` for the
  **plain-word prose fragment** (all `_partial`: the fragment is a hypothesis): documents of paragraphs separated by
  single empty lines whose lines are plain words joined by single spaces — `plainWord`: non-empty, no whitespace, first
  character not a digit and none of # > ` ~ - _ * + = < [ | :, no character among \ ` < & ~ [ * _ — which is the
  property's quantifier "prose words that cannot be mistaken for block markers at the start of a line" (any word may
  land at a line start after re-breaking), at top level and inside any number of nested block quotes
  (Proofs/ReflowQuote.lean).  List items as containers are in Props/C10_Lists.lean.  Not covered: bare `>` markers and
  lazy lines, hard breaks, inline markup.
  Gas: the term `2 * rest.length + types.length + 4 + k * (pre.length + 3)` of `ReflowQuote.parse_quoted` at the two token
  lists: 15 = 11 + 4 (`markdownTypes`), 14 = 10 + 4 (`defaultTypes`); `k * 8` and `k * 6`: five, resp. three, types stand
  before `Quote` (`markdown_quoteCfg`, `html_quoteCfg`).
-/
import Mistletoe.Proofs.Reflow
import Mistletoe.Proofs.ReflowQuote
namespace Mistletoe.Props.C10R
open Mistletoe Mistletoe.Py Mistletoe.Wrap Mistletoe.Markdown Mistletoe.InertInline Mistletoe.MdRound Mistletoe.Reflow Mistletoe.ReflowQuote
open Mistletoe.Props.C10 (joinWords)

/-- **Idempotent**, for every covered configuration: reflowing the output again with the same `L` changes nothing. -/
theorem C10_prose_reflow_idempotent_partial (cfg : Document.Cfg) (hpar : .paragraph ∈ cfg.block.types)
    (hbl : .blankLine ∈ cfg.block.types)
    (ht : ∀ t ∈ cfg.span, inertClass t = true) (hc : cfg.span.count .lineBreak = 1)
    (p : List (List Str)) (rest : List (List (List Str))) (hp : plainPara p = true) (hrest : ∀ q ∈ rest, plainPara q = true)
    (o : Opts) (L : Nat) (hL : 1 ≤ L) (ho : o.maxLineLength = some (L : Int)) (gas : Nat) :
    ∃ d, Document.parse cfg (gas + (2 * rest.length + cfg.block.types.length + 4)) (textOf p rest) = .ok d ∧
      ∃ d', Document.parse cfg (gas + (2 * rest.length + cfg.block.types.length + 4)) (render o d) = .ok d' ∧
        renderRes o d' = renderRes o d ∧ render o d' = render o d :=
  reflowQ_idempotent cfg [] [] 0 (.top hpar ht hc) hbl p rest hp hrest o (L : Int) (by omega) ho gas

/-- **Reflow of plain-word prose for the token lists of the working tree** (`Config.markdown`): with
    `max_line_length = L ≥ 1`, `MarkdownRenderer.render(Document(text))` is the text whose paragraphs are re-broken by
    the greedy fill (`reflowG`); every output line is again a non-empty sequence of the same plain words in the same
    order; an output line longer than `L` is a single word without whitespace (no breakable space); and rendering the
    rendered text again with the same `L` reproduces it. -/
theorem C10_prose_reflow_markdown_partial (cfg : Document.Cfg) (hcfg : Config.markdown = some cfg)
    (p : List (List Str)) (rest : List (List (List Str))) (hp : plainPara p = true) (hrest : ∀ q ∈ rest, plainPara q = true)
    (o : Opts) (L : Nat) (hL : 1 ≤ L) (ho : o.maxLineLength = some (L : Int)) (gas : Nat) :
    ∃ d, Document.parse cfg (gas + (2 * rest.length + 15)) (textOf p rest) = .ok d ∧
      render o d = textOf (reflowG L p) (rest.map (reflowG L)) ∧
      (∀ q ∈ p :: rest, plainPara (reflowG L q) = true ∧ (reflowG L q).flatten = q.flatten ∧
        fill L q.flatten = (reflowG L q).map joinWords) ∧
      (∀ q ∈ p :: rest, ∀ l ∈ fill L q.flatten, L < l.length → l ∈ q.flatten ∧ ∀ c ∈ l, pyIsSpace c = false) ∧
      ∃ d', Document.parse cfg (gas + (2 * rest.length + 15)) (render o d) = .ok d' ∧ render o d' = render o d := by
  obtain ⟨hty, hpar, hbl, ht, hc⟩ := markdown_facts cfg hcfg
  obtain ⟨d, h1, _, h2, h3, h4, _, h5⟩ := reflowQ_all cfg [] [] 0 (.top hpar ht hc) hbl p rest hp hrest o L hL ho gas
  obtain ⟨d0, g1, d', g2, _, g4⟩ := C10_prose_reflow_idempotent_partial cfg hpar hbl ht hc p rest hp hrest o L hL ho gas
  have e : d0 = d := by cases h1.symm.trans g1; rfl
  subst e
  rw [qBudget_zero L hL] at h3 h4 h5
  rw [hty] at h1 g2
  exact ⟨d0, h1, h3, h4, fun q hq l hl hlong => h5 q hq l hl (Or.inl hlong), d', g2, g4⟩

/-- **Same meaning** under the Html, Markdown and default token lists, as parsed documents: the hypotheses of
    `reflowQ_meaning` (at depth 0) hold for them. -/
theorem C10_prose_reflow_meaning_configs_partial (cfg : Document.Cfg)
    (hcfg : Config.html = some cfg ∨ Config.markdown = some cfg ∨ Config.default = some cfg)
    (p : List (List Str)) (rest : List (List (List Str))) (hp : plainPara p = true) (hrest : ∀ q ∈ rest, plainPara q = true)
    (L : Nat) (gas : Nat) :
    ∃ d d', Document.parse cfg (gas + (2 * rest.length + cfg.block.types.length + 4)) (textOf p rest) = .ok d ∧
      Document.parse cfg (gas + (2 * rest.length + cfg.block.types.length + 4)) (textOf (reflowG L p) (rest.map (reflowG L))) = .ok d' ∧
      ∀ o : Html.Opts, nlToSp (Html.render o d') = nlToSp (Html.render o d) := by
  obtain ⟨hpar, ht, hc⟩ := Mistletoe.Props.C14.C14_config_covered cfg hcfg
  obtain ⟨_, d, d', h1, h2, _, _, h3⟩ := reflowQ_meaning cfg [] [] 0 (.top hpar ht hc) p rest hp hrest L gas
  exact ⟨d, d', h1, h2, fun o => (h3 o).1⟩

/-- **Same meaning**: the HTML of the reflowed text and the HTML of the original text are equal once every "\n" is
    replaced by a space (`nlToSp`: the position of soft line breaks is the only difference), for every HTML option
    set, through the parse-and-render pipeline of the working tree's HTML configuration. -/
theorem C10_prose_reflow_meaning_partial (p : List (List Str)) (rest : List (List (List Str))) (hp : plainPara p = true)
    (hrest : ∀ q ∈ rest, plainPara q = true) (L : Nat) (o : Html.Opts) (gas : Nat) :
    ∃ h h', Config.renderHtml o (gas + (2 * rest.length + 14)) (textOf p rest) = some h ∧
      Config.renderHtml o (gas + (2 * rest.length + 14)) (textOf (reflowG L p) (rest.map (reflowG L))) = some h' ∧
      nlToSp h' = nlToSp h := by
  obtain ⟨cfg, hcfg, hty⟩ := html_facts
  obtain ⟨d, d', h1, h2, h3⟩ := C10_prose_reflow_meaning_configs_partial cfg (Or.inl hcfg) p rest hp hrest L gas
  rw [hty] at h1 h2
  exact ⟨_, _, Pipeline.renderHtml_of_parse hcfg o h1, Pipeline.renderHtml_of_parse hcfg o h2, h3 o⟩

/-- **C10 inside block quotes: what the renderer does with a line limit, that nothing is lost, and the limit after
    the container prefix** (clauses 1, 2 and the word part of 3), for the token lists `MarkdownRenderer` installs in
    the working tree (`Config.markdown`).

    Fragment (`_partial`: it is a hypothesis).  Paragraphs `p, q₁, q₂, …` of plain words as in
    `C10_prose_reflow_markdown_partial` (`plainPara`), one empty line between consecutive paragraphs, and EVERY line —
    separators included — behind `k` markers "> " (`textOfQ k`; `k = 0` is the top-level theorem).
    `MarkdownRenderer(max_line_length=L)`, `L ≥ 1`, either `normalize_whitespace`.

    Then `Document(text)` succeeds, it is `k` nested `Quote`s around the `Paragraph`s and `BlankLine`s, and
    * (1) the renderer does not raise; its output is the text of the same fragment at the same depth `k` whose
      paragraphs are `reflowG B q`: ALL the words of the paragraph re-filled by the greedy loop with the budget
      `B = qBudget L k = max (L - 2k) 1` — each `render_quote` takes the width 2 of its prefix off the limit, and the
      clamp keeps the budget truthy so that wrapping never switches off;
    * (3, words) every re-filled paragraph is a paragraph of plain words with exactly the same word sequence;
    * (2) every output line is `"> " * k ++ body ++ "\n"`, the body empty (separator) or a line of the fill loop; a
      body longer than the budget `B`, and likewise the body of a line (without "\n") longer than `L`, is one single
      word of the paragraph — it contains no whitespace, hence no breakable space after the container prefix. -/
theorem C10_quoted_reflow_partial (cfg : Document.Cfg) (hcfg : Config.markdown = some cfg)
    (p : List (List Str)) (rest : List (List (List Str))) (hp : plainPara p = true) (hrest : ∀ q ∈ rest, plainPara q = true)
    (k : Nat) (o : Opts) (L : Nat) (hL : 1 ≤ L) (ho : o.maxLineLength = some (L : Int)) (gas : Nat) :
    ∃ d, Document.parse cfg (gas + (2 * rest.length + 15) + k * 8) (textOfQ k p rest) = .ok d ∧
      d.kids = qBlocks 1 (proseBlocks 1 (paraLines p) (rest.map paraLines)) k ∧
      renderRes o d = .ok (textOfQ k (reflowG (qBudget L k) p) (rest.map (reflowG (qBudget L k)))) ∧
      render o d = textOfQ k (reflowG (qBudget L k) p) (rest.map (reflowG (qBudget L k))) ∧
      (∀ q ∈ p :: rest, plainPara (reflowG (qBudget L k) q) = true ∧ (reflowG (qBudget L k) q).flatten = q.flatten ∧
        fill (qBudget L k) q.flatten = (reflowG (qBudget L k) q).map joinWords) ∧
      (∀ l ∈ linesQ k (reflowG (qBudget L k) p) (rest.map (reflowG (qBudget L k))),
        ∃ body, l = qPre k ++ body ++ ['\n'] ∧ (body = [] ∨ ∃ q ∈ p :: rest, body ∈ fill (qBudget L k) q.flatten) ∧
          ((qBudget L k < body.length ∨ L < (qPre k ++ body).length) → ∀ c ∈ body, pyIsSpace c = false)) ∧
      (∀ q ∈ p :: rest, ∀ body ∈ fill (qBudget L k) q.flatten,
        (qBudget L k < body.length ∨ L < (qPre k ++ body).length) → body ∈ q.flatten ∧ ∀ c ∈ body, pyIsSpace c = false) := by
  obtain ⟨hty, _, hbl, _, _⟩ := markdown_facts cfg hcfg
  have := reflowQ_all cfg _ _ k (markdown_quoteCfg cfg hcfg k) hbl p rest hp hrest o L hL ho gas
  rw [hty] at this
  exact this

/-- **Same meaning inside quotes**: the rendered text parses to `k` quotes around the re-filled paragraphs, and its HTML
    equals the original's once every "\n" is replaced by a space. -/
theorem C10_quoted_reflow_meaning_partial (cfg : Document.Cfg) (hcfg : Config.markdown = some cfg)
    (p : List (List Str)) (rest : List (List (List Str))) (hp : plainPara p = true) (hrest : ∀ q ∈ rest, plainPara q = true)
    (k : Nat) (o : Opts) (L : Nat) (hL : 1 ≤ L) (ho : o.maxLineLength = some (L : Int)) (hopts : Html.Opts) (gas : Nat) :
    ∃ d d', Document.parse cfg (gas + (2 * rest.length + 15) + k * 8) (textOfQ k p rest) = .ok d ∧
      Document.parse cfg (gas + (2 * rest.length + 15) + k * 8) (render o d) = .ok d' ∧
      d'.kids = qBlocks 1 (proseBlocks 1 (paraLines (reflowG (qBudget L k) p))
        ((rest.map (reflowG (qBudget L k))).map paraLines)) k ∧
      (∀ q ∈ p :: rest, plainPara (reflowG (qBudget L k) q) = true ∧ (reflowG (qBudget L k) q).flatten = q.flatten) ∧
      ∃ h h', Config.renderHtml hopts (gas + (2 * rest.length + 14) + k * 6) (textOfQ k p rest) = some h ∧
        Config.renderHtml hopts (gas + (2 * rest.length + 14) + k * 6) (render o d) = some h' ∧
        nlToSp h' = nlToSp h ∧
        nlToSp h = nlToSp (qHtml k (htmlParas hopts.dq hopts.sq ['\n'] (joinWords p.flatten)
          (rest.map (fun q => joinWords q.flatten)))) := by
  obtain ⟨d, h1, _, _, h4, _⟩ := C10_quoted_reflow_partial cfg hcfg p rest hp hrest k o L hL ho gas
  obtain ⟨hty, _, hbl, _, _⟩ := markdown_facts cfg hcfg
  obtain ⟨hw, _, d', _, g2, _, g4, _⟩ := reflowQ_meaning cfg _ _ k (markdown_quoteCfg cfg hcfg k) p rest hp hrest (qBudget L k) gas
  rw [List.contains_iff_mem.mpr hbl, proseBlocksB_true] at g4
  rw [hty] at g2
  obtain ⟨hcfg', hh, hty'⟩ := html_facts
  have hb' : hcfg'.block.types.contains .blankLine = false := by rw [hty']; decide
  obtain ⟨_, e, e', m1, m2, _, _, m5⟩ := reflowQ_meaning hcfg' _ _ k (html_quoteCfg hcfg' hh k) p rest hp hrest (qBudget L k) gas
  rw [hty'] at m1 m2
  rw [hb'] at m5
  exact ⟨d, d', h1, by rw [h4]; exact g2, g4, hw, _, _, Pipeline.renderHtml_of_parse hh hopts m1,
    by rw [h4]; exact Pipeline.renderHtml_of_parse hh hopts m2, (m5 hopts).1, (m5 hopts).2⟩

/-- **Idempotent inside quotes**, for every `L ≥ 1` and every depth `k`, including where the budget clamps (`L ≤ 2k`). -/
theorem C10_quoted_reflow_idempotent_partial (cfg : Document.Cfg) (hcfg : Config.markdown = some cfg)
    (p : List (List Str)) (rest : List (List (List Str))) (hp : plainPara p = true) (hrest : ∀ q ∈ rest, plainPara q = true)
    (k : Nat) (o : Opts) (L : Nat) (hL : 1 ≤ L) (ho : o.maxLineLength = some (L : Int)) (gas : Nat) :
    ∃ d, Document.parse cfg (gas + (2 * rest.length + 15) + k * 8) (textOfQ k p rest) = .ok d ∧
      ∃ d', Document.parse cfg (gas + (2 * rest.length + 15) + k * 8) (render o d) = .ok d' ∧
        renderRes o d' = renderRes o d ∧ render o d' = render o d := by
  obtain ⟨hty, _, hbl, _, _⟩ := markdown_facts cfg hcfg
  have := reflowQ_idempotent cfg _ _ k (markdown_quoteCfg cfg hcfg k) hbl p rest hp hrest o (L : Int) (by omega) ho gas
  rwa [hty] at this

/-! ### Non-vacuity (the kernel evaluations of the same documents are in Proofs/Reflow.lean and Proofs/ReflowQuote.lean) -/

open Mistletoe.Props.C09 (mdCfg mdCfg_ok) in
example : ∃ d, Document.parse mdCfg 17 (textOf para1 [para2]) = .ok d ∧
    ∃ d', Document.parse mdCfg 17 (render { maxLineLength := some 12 } d) = .ok d' ∧
      render { maxLineLength := some 12 } d' = render { maxLineLength := some 12 } d := by
  obtain ⟨d, h1, d', h2, _, h4⟩ := C10_prose_reflow_idempotent_partial mdCfg mdCfg_ok.1 mdCfg_ok.2.1 mdCfg_ok.2.2.1
    mdCfg_ok.2.2.2 para1 [para2] paras_plain.1 (by simp [paras_plain.2]) { maxLineLength := some 12 } 12 (by omega) rfl 0
  exact ⟨d, h1, d', h2, h4⟩

example : ∃ h h', Config.renderHtml {} 16 (textOf para1 [para2]) = some h ∧
    Config.renderHtml {} 16 (textOf (reflowG 12 para1) [reflowG 12 para2]) = some h' ∧ nlToSp h' = nlToSp h :=
  C10_prose_reflow_meaning_partial para1 [para2] paras_plain.1 (by simp [paras_plain.2]) 12 {} 0

example : ∃ cfg d, Config.markdown = some cfg ∧ Document.parse cfg 31 (textOfQ 2 paraQ []) = .ok d ∧
    render { maxLineLength := some 14 } d = textOfQ 2 (reflowG 10 paraQ) [] := by
  obtain ⟨cfg, hcfg⟩ := markdown_cfg_exists
  obtain ⟨d, h1, _, _, h4, _⟩ := C10_quoted_reflow_partial cfg hcfg paraQ [] parasQ_plain.1 (by simp) 2
    { maxLineLength := some 14 } 14 (by omega) rfl 0
  exact ⟨cfg, d, hcfg, h1, h4⟩

example : ∃ cfg d, Config.markdown = some cfg ∧ Document.parse cfg 33 (textOfQ 2 paraQ [paraQ2]) = .ok d ∧
    ∃ d', Document.parse cfg 33 (render { maxLineLength := some 14 } d) = .ok d' ∧
      render { maxLineLength := some 14 } d' = render { maxLineLength := some 14 } d := by
  obtain ⟨cfg, hcfg⟩ := markdown_cfg_exists
  obtain ⟨d, h1, d', h2, _, h4⟩ := C10_quoted_reflow_idempotent_partial cfg hcfg paraQ [paraQ2] parasQ_plain.1
    (by simp [parasQ_plain.2]) 2 { maxLineLength := some 14 } 14 (by omega) rfl 0
  exact ⟨cfg, d, hcfg, h1, d', h2, h4⟩

example : ∃ cfg d, Config.markdown = some cfg ∧ Document.parse cfg 31 (textOfQ 2 paraQ []) = .ok d ∧
    ∃ h h', Config.renderHtml {} 26 (textOfQ 2 paraQ []) = some h ∧
      Config.renderHtml {} 26 (render { maxLineLength := some 14 } d) = some h' ∧ nlToSp h' = nlToSp h := by
  obtain ⟨cfg, hcfg⟩ := markdown_cfg_exists
  obtain ⟨d, _, h1, _, _, _, h, h', g1, g2, g3, _⟩ := C10_quoted_reflow_meaning_partial cfg hcfg paraQ [] parasQ_plain.1
    (by simp) 2 { maxLineLength := some 14 } 14 (by omega) rfl {} 0
  exact ⟨cfg, d, hcfg, h1, h, h', g1, g2, g3⟩

example : plainPara [["an".toList, "extraordinarily".toList, "long".toList], ["word".toList, "here".toList]] = true := by
  decide_lit

end Mistletoe.Props.C10R
