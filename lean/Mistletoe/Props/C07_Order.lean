/-
  C07 (document order); the proofs are in Proofs/DefOrder.lean (which imports Props/C07.lean, hence this second file).

  Props/C07.lean proves first-wins over the list of definitions in the order `append_footnotes` is CALLED and that all
  inline content is resolved against the one table built from them (`C07_two_phase`).  Here: call order IS document
  order.  `defsOfEntries` lists the matches of every definition entry (`Footnote` / `LinkReferenceDefinitionBlock`) of
  the parse buffer in pre-order, descending into block quotes and list items; the block phase leaves exactly that list in
  its state, whatever the nesting, whatever the token list, whatever the gas (simultaneous induction over the four
  tokenizer functions, `all_s` of Proofs/BlockState.lean; `List.read` does not read an item it then discards (commit d98312e
  of /repo), so every nested tokenization's definitions end up in a kept item).
-/
import Mistletoe.Proofs.DefOrder
namespace Mistletoe.Props.C07O
open Mistletoe Mistletoe.Py Mistletoe.Footnotes Mistletoe.Block Mistletoe.Document

/-- **The table is built from the definitions in document order**: if `Document(lines)` returns `d`, the definitions the
    block phase collected are the matches of the definition entries of the parse buffer in pre-order (top level, inside
    block quotes, inside list items alike), and `d.footnotes` is the first-wins table over that list. -/
theorem C07_table_is_document_order (cfg : Document.Cfg) (gas : Nat) (lines : List Str) (d : Doc)
    (h : parseLines cfg gas lines = .ok d) :
    ∃ buf st, blockPhase cfg.block gas lines = .ok (buf, st) ∧
      st.defs = defsOfEntries buf.entries ∧
      d.footnotes = Document.footnotesOf (defsOfEntries buf.entries) :=
  Mistletoe.Props.C07.C07_table_is_document_order cfg gas lines d h

/-- **A label resolves to the first definition in document order** whose normalised label equals it - wherever that
    definition sits relative to the use, at whatever nesting depth - with the destination and title of that definition;
    to nothing when there is none. -/
theorem C07_first_in_document_order (cfg : Document.Cfg) (gas : Nat) (lines : List Str) (d : Doc)
    (h : parseLines cfg gas lines = .ok d) (lbl : Str) :
    ∃ buf st, blockPhase cfg.block gas lines = .ok (buf, st) ∧
      resolve d.footnotes lbl =
        ((defsOfEntries buf.entries).find? (fun m => normalizeLabel m.label == normalizeLabel lbl)).map
          (fun m => (Unescape.escStrip false (strip m.dest), Unescape.escStrip false m.title)) :=
  Mistletoe.Props.C07.C07_first_in_document_order cfg gas lines d h lbl

/-- **Position independence**: two documents (under any two configurations) whose parse buffers list the same
    definitions in the same pre-order have the same table - where the definitions sit does not matter. -/
theorem C07_position_independent (cfg₁ cfg₂ : Document.Cfg) (gas₁ gas₂ : Nat) (lines₁ lines₂ : List Str)
    (d₁ d₂ : Doc) (buf₁ buf₂ : Buf) (st₁ st₂ : St)
    (h₁ : parseLines cfg₁ gas₁ lines₁ = .ok d₁) (h₂ : parseLines cfg₂ gas₂ lines₂ = .ok d₂)
    (hb₁ : blockPhase cfg₁.block gas₁ lines₁ = .ok (buf₁, st₁))
    (hb₂ : blockPhase cfg₂.block gas₂ lines₂ = .ok (buf₂, st₂))
    (hsame : defsOfEntries buf₁.entries = defsOfEntries buf₂.entries) :
    d₁.footnotes = d₂.footnotes :=
  Mistletoe.Props.C07.C07_position_independent cfg₁ cfg₂ gas₁ gas₂ lines₁ lines₂ d₁ d₂ buf₁ buf₂ st₁ st₂ h₁ h₂ hb₁ hb₂ hsame

end Mistletoe.Props.C07O
