/-
  C07 (a reference in the text reaches the lookup); the proofs are in Proofs/RefResolve.lean (which imports
  Props/C07_Order.lean, hence this third file).

  Props/C07.lean and Props/C07_Order.lean are about the TABLE (first definition in document order wins, normalisation,
  lookup).  Here: the inline parser (the model of core_tokens.py / span_tokenizer.py) meeting a reference written in
  otherwise plain text - shortcut `[lbl]`, collapsed `[lbl][]`, full `[text][lbl]`, and the image forms `![…]` - calls
  that lookup with `normalize_label(lbl)`, produces ONE Link / Image token carrying the looked-up destination and title
  when the lookup succeeds, and leaves the text literal (no token at all) when it fails.
  "Plain" (`plainStr`): any characters but `\ ` < & ~ [ ] * _ !` and newline; the label is not blank; behind a shortcut
  reference no `(` (it would be read as an inline link).  `img = true` is the image form.
-/
import Mistletoe.Proofs.RefResolve
namespace Mistletoe.Props.C07R
open Mistletoe Mistletoe.Py Mistletoe.Core Mistletoe.Inline Mistletoe.InertInline Mistletoe.RefResolve Mistletoe.Html

/-- **A shortcut reference with a matching definition resolves to it**: exactly one core match - a link (image) from
    the `[` (`![`) to the `]` whose text span is the label and whose destination and title are the looked-up ones - and
    `tokenize_inner` returns the text before, ONE Link / Image token, the text after. -/
theorem C07_shortcut_resolves (img : Bool) (types : List STok) (fn : Footnotes.Table) (pre lbl post dest title : Str)
    (h : RefText pre lbl post) (ht : ∀ t ∈ types, inertClass t = true) (hc : types.count .coreTokens = 1)
    (hl : Footnotes.lookup fn (Footnotes.normalizeLabel lbl) = some (dest, title)) :
    findCoreTokens (pre ++ opener img ++ lbl ++ ']' :: post) fn =
        .ok ([refMatch img pre.length lbl.length (pre.length + (opener img).length + lbl.length + 1)
          dest title "shortcut" none], []) ∧
      tokenizeInner types fn (pre ++ opener img ++ lbl ++ ']' :: post) =
        .ok (rawOf pre ++ [refToken img dest title "shortcut" none [.rawText lbl]] ++ rawOf post) :=
  ref_resolves .shortcut img types fn pre lbl post dest title h.hpre h.hlbl (nonblank_ne lbl h.nonblank) h.hlbl h.nonblank h.hpost
    (fun _ => h.noParen) ht hc hl

/-- **A reference with no matching definition stays literal text**: no core match at all; one RawText with the whole text. -/
theorem C07_shortcut_unresolved (img : Bool) (types : List STok) (fn : Footnotes.Table) (pre lbl post : Str)
    (h : RefText pre lbl post) (ht : ∀ t ∈ types, inertClass t = true)
    (hl : Footnotes.lookup fn (Footnotes.normalizeLabel lbl) = none) :
    findCoreTokens (pre ++ opener img ++ lbl ++ ']' :: post) fn = .ok ([], []) ∧
      tokenizeInner types fn (pre ++ opener img ++ lbl ++ ']' :: post) =
        .ok [.rawText (pre ++ opener img ++ lbl ++ ']' :: post)] :=
  ref_unresolved .shortcut img types fn pre lbl post h.hpre h.hlbl h.hlbl h.nonblank h.hpost h.noParen ht hl

/-- **Full reference `[text][lbl]`**: the lookup is done with `lbl`; the token's child is `text`. -/
theorem C07_full_resolves (img : Bool) (types : List STok) (fn : Footnotes.Table) (pre text lbl post dest title : Str)
    (hpre : plainStr pre = true) (htext : plainStr text = true) (hne : text ≠ [])
    (hlbl : plainStr lbl = true) (hb : isBlank lbl = false) (hpost : plainStr post = true)
    (ht : ∀ t ∈ types, inertClass t = true) (hc : types.count .coreTokens = 1)
    (hl : Footnotes.lookup fn (Footnotes.normalizeLabel lbl) = some (dest, title)) :
    findCoreTokens (pre ++ opener img ++ text ++ ']' :: '[' :: (lbl ++ ']' :: post)) fn =
        .ok ([refMatch img pre.length text.length (pre.length + (opener img).length + text.length + 1 + (1 + lbl.length + 1))
          dest title "full" (some lbl)], []) ∧
      tokenizeInner types fn (pre ++ opener img ++ text ++ ']' :: '[' :: (lbl ++ ']' :: post)) =
        .ok (rawOf pre ++ [refToken img dest title "full" (some lbl) [.rawText text]] ++ rawOf post) :=
  ref_resolves (.full lbl) img types fn pre text post dest title hpre htext hne hlbl hb hpost nofun ht hc hl

/-- … and when `lbl` has no definition the whole text stays literal - even if `text` itself is a defined label. -/
theorem C07_full_unresolved (img : Bool) (types : List STok) (fn : Footnotes.Table) (pre text lbl post : Str)
    (htext : plainStr text = true) (h : RefText pre lbl post) (ht : ∀ t ∈ types, inertClass t = true)
    (hl : Footnotes.lookup fn (Footnotes.normalizeLabel lbl) = none) :
    findCoreTokens (pre ++ opener img ++ text ++ ']' :: '[' :: (lbl ++ ']' :: post)) fn = .ok ([], []) ∧
      tokenizeInner types fn (pre ++ opener img ++ text ++ ']' :: '[' :: (lbl ++ ']' :: post)) =
        .ok [.rawText (pre ++ opener img ++ text ++ ']' :: '[' :: (lbl ++ ']' :: post))] :=
  ref_unresolved (.full lbl) img types fn pre text post h.hpre htext h.hlbl h.nonblank h.hpost h.noParen ht hl

/-- the span-token lists of the bundled configurations satisfy the hypotheses `ht` and `hc` (regenerated lists) -/
theorem C07_resolve_config_current : ∀ cfg, (Config.html = some cfg ∨ Config.markdown = some cfg ∨ Config.default = some cfg) →
    (∀ t ∈ cfg.span, inertClass t = true) ∧ cfg.span.count .coreTokens = 1 :=
  C07_config_covered

/-- **Document level**: `[defLbl]: dest`, a blank line, `pre[lbl]post` under the HTML renderer's configuration renders
    `<p>pre<a href="dest">lbl</a>post</p>` when the two labels are equal after normalisation and `<p>pre[lbl]post</p>`
    otherwise; the definition produces no output.  `hbp` (a Boolean, evaluated per instance) is the one assumption: the block
    phase reads the first line as one definition and the last as one paragraph; the table, the lookup, the token and the
    HTML are proved. -/
theorem C07_shortcut_document_text_partial (cfg : Document.Cfg) (hcfg : Config.html = some cfg) (gas : Nat)
    (defLbl dest pre lbl post : Str) (hd : ∀ c ∈ dest, urlCh c = true) (htext : DocText pre lbl post)
    (hh : ∀ c, pre.head? = some c → pyIsSpace c = false) (hl : ∀ c, post.getLast? = some c → pyIsSpace c = false)
    (hbp : blockPhaseIs cfg.block gas (Lines.normalize (.str (docText defLbl dest pre lbl post)))
      { label := defLbl, dest := dest, title := [], destType := "uri".toList, titleDelim := none }
      (pre ++ ['['] ++ lbl ++ [']'] ++ post ++ ['\n']) = true) (o : Opts) :
    Config.renderHtml o gas (docText defLbl dest pre lbl post) =
      some (if Footnotes.normalizeLabel defLbl = Footnotes.normalizeLabel lbl
        then "<p>".toList ++ pre ++ "<a href=\"".toList ++ dest ++ "\">".toList ++ lbl ++ "</a>".toList ++ post ++ "</p>\n".toList
        else "<p>".toList ++ pre ++ ['['] ++ lbl ++ [']'] ++ post ++ "</p>\n".toList) :=
  C07_shortcut_document_text cfg hcfg gas defLbl dest pre lbl post hd htext hh hl hbp o

end Mistletoe.Props.C07R
