/-
  C09 (inline markup: emphasis, strong emphasis, backslash escapes) — the property theorems; what they rest on is in
  Proofs/MdRoundEmph.lean (which builds on Proofs/EmphHtml.lean and Proofs/MdRoundCode.lean).

  The theorems of the other C09 files speak of INERT text.  Here a paragraph line may hold inline markup of the C06 alphabet
  (any text without backquote, brackets, `<`, `&`, `~~`; standard whitespace): emphasis and strong emphasis with either
  delimiter character, nested in any way, unmatched delimiter runs, backslash escapes.  The span resolver drops no candidate
  (Proofs/EmphHtml.lean), and the Markdown renderer writes every piece back as the source slice it came from: `Emphasis` /
  `Strong` tokens keep their delimiter character, raw text is written unchanged, an escape sequence with its backslash.  So
  the inline rendering IS the source text (`C09_inline_exact_partial`), and documents of such one-line paragraphs, inert
  paragraphs, ATX headings, thematic breaks and code blocks, inside k >= 0 block quotes, are reproduced byte for byte
  (`C09_emphasis_blocks_roundtrip_partial`).  Nothing is respelled (`__a__` stays `__a__`), no escape is dropped.
  Not covered: links, code spans, autolinks, raw HTML, strikethrough, hard breaks; paragraphs with markup that span several
  lines; a line limit.
-/
import Mistletoe.Proofs.MdRoundEmph
namespace Mistletoe.Props.C09E
open Mistletoe Mistletoe.Span Mistletoe.Inline Mistletoe.Wrap Mistletoe.Markdown Mistletoe.EmphHtml
open Mistletoe.Core Mistletoe.InertInline Mistletoe.RefResolve Mistletoe.InlineScan
open Mistletoe.Py Mistletoe.Spec.EmphasisEsc
open Mistletoe.MdRound Mistletoe.MdRoundEmph

/-- **The Markdown rendering of the inline tokens of a text of the alphabet is the text itself** (one line; without a limit). -/
theorem C09_inline_exact_partial (types : List STok) (fn : Footnotes.Table) (s : Str)
    (hp : plainEsc s = true) (hw : EmphRefine.stdWs s = true) (hnl : '\n' ∉ s) (htl : tildeOk s = true)
    (ht : ∀ t ∈ types, inertClass t = true) (hc : types.count .coreTokens = 1)
    (he : types.count .escapeSequence = 1) :
    ∃ ks, tokenizeInner types fn s = .ok ks ∧
      (∃ fs, renderInlines ks = .ok fs ∧ texts fs = s) ∧
      spanToLines ks none = .ok (if s.isEmpty then [] else [s]) :=
  Mistletoe.MdRoundEmph.md_inline_exact_esc types fn s hp hw hnl htl ht hc he

/-- **Round trip of documents whose paragraphs hold emphasis, strong emphasis and escapes**: exact reproduction, idempotence,
    same document under every token list, same HTML - for the token lists the Markdown renderer installs. -/
theorem C09_emphasis_blocks_roundtrip_partial (cfg : Document.Cfg) (hcfg : Config.markdown = some cfg)
    (it : Blk3) (rest : List Blk3) (hok : it.ok = true) (hrest : ∀ x ∈ rest, x.ok = true) (hadj : adjOk3 it rest = true)
    (k : Nat) (hnt : k = 0 ∨ ∀ l ∈ itemsLines3 it rest, '\t' ∉ l)
    (o : Opts) (ho : o.maxLineLength = none) (gas : Nat) :
    ∃ d, Document.parse cfg (gas + (2 * rest.length + 14) + k * 8) (qStrs k (itemsLines3 it rest)).flatten = .ok d ∧
      render o d = (qStrs k (itemsLines3 it rest)).flatten ∧
      (∃ d', Document.parse cfg (gas + (2 * rest.length + 14) + k * 8) (render o d) = .ok d' ∧
        render o d' = render o d) ∧
      (∀ (cfg' : Document.Cfg) (g : Nat),
        Document.parse cfg' g (render o d) = Document.parse cfg' g (qStrs k (itemsLines3 it rest)).flatten) ∧
      (∀ (hopts : Html.Opts) (g : Nat),
        Config.renderHtml hopts g (render o d) = Config.renderHtml hopts g (qStrs k (itemsLines3 it rest)).flatten) := by
  obtain ⟨hty, _, _⟩ := markdown_cfg cfg hcfg
  obtain ⟨d, _, _, _, h⟩ := MdRoundDoc.doc_roundtrip (frag3 cfg (Document.footnotesOf [])) (·.ok = true) cfg hty o ho it rest
    hok hrest hadj gas k hnt (fun st _ x h => blk3_laws cfg hcfg _ o st x h)
  exact ⟨d, h⟩

/-! the theorem applies to the sample document of Proofs/MdRoundEmph.lean, at the top level and inside a block quote -/
open Mistletoe.MdRoundEmph.Examples

example (cfg : Document.Cfg) (hcfg : Config.markdown = some cfg) :
    ∃ d, Document.parse cfg 22 (itemsLines3 doc docRest).flatten = .ok d ∧ render {} d = (itemsLines3 doc docRest).flatten := by
  obtain ⟨d, h1, h2, _⟩ := C09_emphasis_blocks_roundtrip_partial cfg hcfg doc docRest doc_ok.1 doc_ok.2.1 doc_ok.2.2.1 0
    (Or.inl rfl) {} rfl 0
  exact ⟨d, h1, h2⟩

example (cfg : Document.Cfg) (hcfg : Config.markdown = some cfg) :
    ∃ d, Document.parse cfg 30 (qStrs 1 (itemsLines3 doc docRest)).flatten = .ok d ∧
      render {} d = (qStrs 1 (itemsLines3 doc docRest)).flatten := by
  obtain ⟨d, h1, h2, _⟩ := C09_emphasis_blocks_roundtrip_partial cfg hcfg doc docRest doc_ok.1 doc_ok.2.1 doc_ok.2.2.1 1
    (Or.inr doc_ok.2.2.2) {} rfl 0
  exact ⟨d, h1, h2⟩

end Mistletoe.Props.C09E
