/-
  C07 (the definition line itself); the proofs are in Proofs/DefLine.lean.

  Props/C07_Resolve.lean left ONE assumption at document level: that the block phase reads `[label]: dest` as a definition.
  Here it is proved: `Footnote.start` / `Footnote.read` / `match_reference` on one or several definition lines in a row
  (`[lbl]: dest` or `[lbl]: dest "title"`; label of any characters but `\ [ ]` and line separators, not blank; URL-safe
  destination; title without `\ "` and line separators), followed by a blank line, return exactly those definitions in
  order; no earlier token type starts on a line beginning with `[`.  So the document-level statements hold with NO
  assumption about the block phase, and "the first definition of a run wins" is proved through to the HTML.
-/
import Mistletoe.Proofs.DefLine
namespace Mistletoe.Props.C07D
open Mistletoe Mistletoe.Py Mistletoe.Scan Mistletoe.Block Mistletoe.RefResolve
open Mistletoe.Document Mistletoe.Html Mistletoe.Escape Mistletoe.Inline Mistletoe.InertInline
open Mistletoe.DefLine

/-- **`[defLbl]: dest`, a blank line, `pre[lbl]post`** under the HTML renderer's configuration renders the link exactly when the two
    labels are equal after normalisation, and the literal text otherwise - no hypothesis about the block phase left. -/
theorem C07_shortcut_document_text_full (cfg : Document.Cfg) (hcfg : Config.html = some cfg) (gas : Nat) (hg : 14 ≤ gas)
    (defLbl dest pre lbl post : Str) (hlb : ∀ c ∈ defLbl, lblCh c = true) (hnb : isBlank defLbl = false)
    (hd : ∀ c ∈ dest, urlCh c = true) (hne : dest ≠ []) (htext : DocText pre lbl post)
    (hh : ∀ c, pre.head? = some c → pyIsSpace c = false) (hl : ∀ c, post.getLast? = some c → pyIsSpace c = false)
    (hsep : ∀ c ∈ pre ++ lbl ++ post, isLineSep c = false)
    (hin : Props.C14.inertLine (pre ++ ['['] ++ lbl ++ [']'] ++ post ++ ['\n']) = true) (o : Opts) :
    Config.renderHtml o gas (docText defLbl dest pre lbl post) =
      some (if Footnotes.normalizeLabel defLbl = Footnotes.normalizeLabel lbl
        then "<p>".toList ++ pre ++ "<a href=\"".toList ++ dest ++ "\">".toList ++ lbl ++ "</a>".toList ++ post ++ "</p>\n".toList
        else "<p>".toList ++ pre ++ ['['] ++ lbl ++ [']'] ++ post ++ "</p>\n".toList) :=
  Mistletoe.DefLine.C07_shortcut_document_text_full cfg hcfg gas hg defLbl dest pre lbl post hlb hnb hd hne htext hh hl hsep hin o

/-- **Two definition lines in a row, the first matching**: the link goes to the FIRST definition's destination (and title), whatever the
    second one is. -/
theorem C07_first_of_run_wins (cfg : Document.Cfg) (hcfg : Config.html = some cfg) (gas : Nat) (hg : 14 ≤ gas)
    (d₁ d₂ : DefSpec) (h₁ : d₁.Ok) (h₂ : d₂.Ok) (a₁ : d₁.NoAmp) (a₂ : d₂.NoAmp)
    (pre lbl post : Str) (htext : DocText pre lbl post)
    (hh : ∀ c, pre.head? = some c → pyIsSpace c = false) (hl : ∀ c, post.getLast? = some c → pyIsSpace c = false)
    (hsep : ∀ c ∈ pre ++ lbl ++ post, isLineSep c = false)
    (hin : Props.C14.inertLine (refLine pre lbl post) = true) (o : Opts)
    (hk : Footnotes.normalizeLabel d₁.lbl = Footnotes.normalizeLabel lbl) :
    Config.renderHtml o gas (d₁.line ++ d₂.line ++ '\n' :: refLine pre lbl post) =
      some ("<p>".toList ++ pre ++ "<a href=\"".toList ++ d₁.dest ++ ['"'] ++ titleHtml (d₁.title.getD []) ++ ['>'] ++ lbl ++
        "</a>".toList ++ post ++ "</p>\n".toList) :=
  Mistletoe.DefLine.C07_first_of_run_wins cfg hcfg gas hg d₁ d₂ h₁ h₂ a₁ a₂ pre lbl post htext hh hl hsep hin o hk

/-- when the first does not match: the link to the second definition, or the literal text -/
theorem C07_second_of_run (cfg : Document.Cfg) (hcfg : Config.html = some cfg) (gas : Nat) (hg : 14 ≤ gas)
    (d₁ d₂ : DefSpec) (h₁ : d₁.Ok) (h₂ : d₂.Ok) (a₁ : d₁.NoAmp) (a₂ : d₂.NoAmp)
    (pre lbl post : Str) (htext : DocText pre lbl post)
    (hh : ∀ c, pre.head? = some c → pyIsSpace c = false) (hl : ∀ c, post.getLast? = some c → pyIsSpace c = false)
    (hsep : ∀ c ∈ pre ++ lbl ++ post, isLineSep c = false)
    (hin : Props.C14.inertLine (refLine pre lbl post) = true) (o : Opts)
    (hk : Footnotes.normalizeLabel d₁.lbl ≠ Footnotes.normalizeLabel lbl) :
    Config.renderHtml o gas (d₁.line ++ d₂.line ++ '\n' :: refLine pre lbl post) =
      some (if Footnotes.normalizeLabel d₂.lbl = Footnotes.normalizeLabel lbl
        then "<p>".toList ++ pre ++ "<a href=\"".toList ++ d₂.dest ++ ['"'] ++ titleHtml (d₂.title.getD []) ++ ['>'] ++ lbl ++
          "</a>".toList ++ post ++ "</p>\n".toList
        else "<p>".toList ++ pre ++ ['['] ++ lbl ++ [']'] ++ post ++ "</p>\n".toList) :=
  Mistletoe.DefLine.C07_second_of_run cfg hcfg gas hg d₁ d₂ h₁ h₂ a₁ a₂ pre lbl post htext hh hl hsep hin o hk

/-- **Any run of definition lines** (each with or without a title), a blank line, the paragraph with the reference: the HTML is the link to
    the FIRST definition of the run whose normalised label equals the reference's, with its title, or the literal text when there is none
    (`refHtml`); the definitions produce no output. -/
theorem C07_defs_document (cfg : Document.Cfg) (hcfg : Config.html = some cfg) (gas : Nat) (hg : 14 ≤ gas)
    (d : DefSpec) (ds : List DefSpec) (hok : ∀ x ∈ d :: ds, x.Ok) (hamp : ∀ x ∈ d :: ds, x.NoAmp)
    (pre lbl post : Str) (htext : DocText pre lbl post)
    (hh : ∀ c, pre.head? = some c → pyIsSpace c = false) (hl : ∀ c, post.getLast? = some c → pyIsSpace c = false)
    (hsep : ∀ c ∈ pre ++ lbl ++ post, isLineSep c = false)
    (hin : Props.C14.inertLine (refLine pre lbl post) = true) (o : Opts) :
    Config.renderHtml o gas (defsText (d :: ds) pre lbl post) = some (refHtml (d :: ds) pre lbl post) :=
  Mistletoe.DefLine.C07_defs_document cfg hcfg gas hg d ds hok hamp pre lbl post htext hh hl hsep hin o

end Mistletoe.Props.C07D
