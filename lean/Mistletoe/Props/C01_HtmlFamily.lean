/-
  C01 (the HTML family of renderers never meets a token it cannot render) — property theorems only; the proofs are in
  Proofs/HtmlFamilyTotal.lean (which builds on Proofs/ContribSame.lean and Proofs/HtmlEndToEnd.lean, hence this file).

  `Html.render` / `Html.renderFlavored` (the model of HtmlRenderer, TocRenderer, GithubWikiRenderer, MathJaxRenderer,
  PygmentsRenderer) are total functions to strings; the trees on which the PYTHON raises - a token class without a
  `render_map` entry (a Math token handed to the plain HtmlRenderer: KeyError), a `column_align` entry outside None / 0 / 1,
  a table header that is not a row of cells - are described by the decidable predicate `Html.supported`.  `C01_html_total`
  (Props/C01.lean) says the model function returns; the theorems here say that every PARSED document is supported by the
  renderer whose token lists it was parsed with, so the Python finds a render method for every token and returns that
  string.  Pygments is outside the model (`highlight`, lexers): for it `supported` is, exactly, "no code block".
-/
import Mistletoe.Proofs.HtmlFamilyTotal
namespace Mistletoe.Props.C01F
open Mistletoe Mistletoe.Block Mistletoe.Lines Mistletoe.Html Mistletoe.HtmlFamily Mistletoe.Props.C01

/-- **Parse-and-render with a renderer of the HTML family returns a string for every text**: with the token lists the
    renderer installs (regenerated from /repo) and enough gas, `Document(text)` returns a document `d`, `d` is supported by
    that renderer (`famSide`: code blocks aside for Pygments, no condition otherwise), and the renderer returns
    `Html.renderFlavored (famOpts f o) d`. -/
theorem C01_html_family_total (f : Flavor) (o : Opts) (cfg : Document.Cfg) (hc : Config.ofFlavor f = some cfg)
    (gas : Nat) (t : Str) (hg : gasBound cfg.block (docBuf (normalize (.str t))) ≤ gas) :
    ∃ d, Document.parse cfg gas t = .ok d ∧ supported (famOpts f o) d = famSide f d ∧
      Config.renderContrib (Config.ofFlavor f) (famOpts f o) gas t = some (renderFlavored (famOpts f o) d) :=
  Mistletoe.Props.C01.C01_html_family_total f o cfg hc gas t hg

/-- for the four flavours other than Pygments there is no side condition -/
theorem C01_html_family_no_raise (f : Flavor) (hf : f ≠ .pygments) (o : Opts) (cfg : Document.Cfg)
    (hc : Config.ofFlavor f = some cfg) (gas : Nat) (t : Str) (hg : gasBound cfg.block (docBuf (normalize (.str t))) ≤ gas) :
    ∃ d, Document.parse cfg gas t = .ok d ∧ supported (famOpts f o) d = true :=
  Mistletoe.Props.C01.C01_html_family_total' f hf o cfg hc gas t hg

/-- **HtmlRenderer(process_html_tokens=False)**: a parsed document holds no HtmlBlock / HtmlSpan token and is supported by
    the renderer WITHOUT the two HTML `render_map` entries. -/
theorem C01_html_noraw_total (o : Opts) (cfg : Document.Cfg) (hc : Config.htmlNoRaw = some cfg)
    (gas : Nat) (t : Str) (hg : gasBound cfg.block (docBuf (normalize (.str t))) ≤ gas) :
    ∃ d, Document.parse cfg gas t = .ok d ∧ supported { o with flavor := .html, processHtml := false } d = true ∧
      Config.renderHtmlNoRaw { o with flavor := .html, processHtml := false } gas t =
        some (render { o with flavor := .html, processHtml := false } d) :=
  Mistletoe.Props.C01.C01_html_noraw_total o cfg hc gas t hg

/-- **the general form**: ANY configuration without BlankLine / LinkReferenceDefinitionBlock whose span classes the flavour
    renders (e.g. `GithubWikiRenderer(process_html_tokens=False)`, which is not among the regenerated configurations). -/
theorem C01_html_family_supported_general (o : Opts) (hpy : o.flavor ≠ .pygments) (cfg : Document.Cfg)
    (hbl : .blankLine ∉ cfg.block.types) (hlr : .linkRefDefBlock ∉ cfg.block.types)
    (hhb : o.processHtml = true ∨ .htmlBlock ∉ cfg.block.types)
    (hsp : ∀ t ∈ cfg.span, clsH o t = true)
    (gas : Nat) (t : Str) (d : Doc) (h : Document.parse cfg gas t = .ok d) : supported o d = true :=
  Mistletoe.HtmlFamily.parse_supported o hpy cfg hbl hlr hhb hsp gas t d h

/-- the configurations exist: the regenerated lists are known to the model -/
example : ∀ f, (Config.ofFlavor f).isSome = true := by
  intro f
  cases f <;> simp only [Config.ofFlavor, Config.html_eq, Config.toc_eq, Config.githubWiki_eq, Config.mathjax_eq,
    Config.pygments_eq, Option.isSome_some]

end Mistletoe.Props.C01F
