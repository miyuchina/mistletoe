/-
  C17 (for every text); the proof is in Proofs/LatexEndToEnd.lean: Props/C17.lean's structure theorem for every tree,
  composed with the parser's totality and Proofs/LatexTotal.lean.
-/
import Mistletoe.Proofs.LatexEndToEnd
namespace Mistletoe.Props.C17E
open Mistletoe Mistletoe.Block Mistletoe.Lines

/-- **For every input text** (LaTeX token lists of the working tree, enough gas) the parse returns a document and the LaTeX
    renderer EITHER refuses with the documented `\verb` refusal (some inline code uses every candidate delimiter) OR its
    output is the serialisation of an event list with balanced groups, properly nested environments, only the renderer's own
    commands and every special character of the text escaped (`WellFormed`). -/
theorem C17_every_text (cfg : Document.Cfg) (hc : Config.latex = some cfg) (gas : Nat) (t : Str)
    (hg : gasBound cfg.block (docBuf (normalize (.str t))) ≤ gas) :
    ∃ d, Document.parse cfg gas t = .ok d ∧ Config.renderLatex gas t = some (Latex.renderRes d) ∧
      ((Latex.renderRes d = .err (.refusal 0) ∧ ∃ c ∈ Latex.codes d, Latex.UsesAllDelims c) ∨
       (Latex.renderRes d = .ok (Latex.flat (Latex.renderDoc d)) ∧ PredLatex.WellFormed (Latex.renderDoc d))) :=
  Mistletoe.Props.C17.C17_every_text cfg hc gas t hg

end Mistletoe.Props.C17E
