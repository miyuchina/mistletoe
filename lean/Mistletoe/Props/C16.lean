/-
  C16 — Inline tokenization tiles the source; custom tokens obey precedence rules.

  The lemmas are in Proofs/Span.lean.  All statements quantify over
  arbitrary candidate lists, i.e. over every set of user-defined token classes, every pattern,
  precedence, parse_inner flag and parse group at once.  The only hypothesis is `WFCands`:
  each match's parse group lies inside the match and the match inside the string (true of every
  `re` match whose parse group participated in the match).
-/
import Mistletoe.Proofs.Span
namespace Mistletoe.Props.C16
open Mistletoe Mistletoe.Span

/-- Every candidate is a genuine match of a string of length `n`. -/
def WFCands (n : Nat) (cs : List Cand) : Prop := ∀ c ∈ cs, CandWF c ∧ c.stop ≤ n

mutual
/-- The readable form of "in source order, pairwise disjoint, children inside the parent's
    parse group", recursively. -/
def Nested : Out → Prop
  | .raw a b => a < b
  | .tok c kids => NestedL kids c.pstart c.pend
def NestedL : List Out → Nat → Nat → Prop
  | [], _, _ => True
  | o :: os, lo, hi => lo ≤ o.lo ∧ o.lo ≤ o.hi ∧ o.hi ≤ hi ∧ Nested o ∧ NestedL os o.hi hi
end

mutual
theorem nested_of_ok : ∀ (o : Out), OutOK o → Nested o
  | .raw a b, h => by simpa [OutOK, Nested] using h
  | .tok c kids, h => by
    simp only [OutOK] at h
    simp only [Nested]
    by_cases hin : c.inner = true
    · exact nestedL_of_tiles kids _ _ (h.2.1 hin)
    · have : kids = [] := h.2.2 (by simpa using hin)
      subst this; simp [NestedL]
theorem nestedL_of_tiles : ∀ (os : List Out) (a b : Nat), TilesL os a b → NestedL os a b
  | [], _, _, _ => by simp [NestedL]
  | o :: os, a, b, h => by
    simp only [TilesL] at h
    simp only [NestedL]
    have h1 := OutOK_le o h.2.1
    have h2 := TilesL_le _ _ _ h.2.2
    exact ⟨by omega, h1, h2, nested_of_ok o h.2.1, nestedL_of_tiles os _ _ h.2.2⟩
end

/-- **Tiling (intervals).** The output tokens cover `[0, n)` exactly, in order, without overlap,
    and recursively each token's children cover exactly its parse group. -/
theorem C16_tiles_intervals (cs : List Cand) (n : Nat) (h : WFCands n cs) :
    TilesL (tokenize cs n) 0 n :=
  makeTokensRev_tiles _ 0 n (resolve_ok n cs h) (Nat.zero_le n)

/-- **Ordered, disjoint, children inside the parse group** (at every depth). -/
theorem C16_ordered_disjoint_nested (cs : List Cand) (n : Nat) (h : WFCands n cs) :
    NestedL (tokenize cs n) 0 n :=
  nestedL_of_tiles _ _ _ (C16_tiles_intervals cs n h)

/-- **The source text is recovered exactly** by concatenating raw text, token delimiters and
    children. -/
theorem C16_tiles (s : Str) (cs : List Cand) (h : WFCands s.length cs) :
    flattenOuts s (tokenize cs s.length) = s := by
  rw [flattenOuts_eq s _ 0 s.length (C16_tiles_intervals cs s.length h), slice_full]

/-- **Candidate ordering** (`find_tokens`): sorted by start offset; candidates with equal
    start keep the order (class position in the token list, then match order) they were found in. -/
theorem C16_stable_order (cs : List Cand) :
    SortedByStart (sortByStart cs) ∧ (∀ c, c ∈ sortByStart cs ↔ c ∈ cs) ∧
    ∀ k, (sortByStart cs).filter (fun c => c.start = k) = cs.filter (fun c => c.start = k) :=
  ⟨sorted_sortByStart cs, fun c => mem_sortByStart c cs, fun k => filter_sortByStart k cs⟩

/-- **The pair rule**, as the code implements it, for two candidates with `x` found first
    (`x.start ≤ y.start`): disjoint → both; `y` inside `x`'s parse group → nests (is dropped when
    `x` does not parse its inner text); `y` inside `x`'s closing delimiter → ignored; any other
    overlap → higher precedence wins, ties go to the earlier match. -/
theorem C16_pair_rule (x y : Cand) (hxy : x.start ≤ y.start) :
    resolve [x, y] =
      if x.stop ≤ y.start then [.mk x [], .mk y []]
      else if x.stop ≥ y.stop ∧ x.pstart ≤ y.start ∧ x.pend ≥ y.stop then
        (if x.inner then [.mk x [.mk y []]] else [.mk x []])
      else if x.stop ≥ y.stop ∧ x.pend ≤ y.start then [.mk x []]
      else if x.prec ≥ y.prec then [.mk x []] else [.mk y []] := by
  have hs : sortByStart [x, y] = [x, y] := by
    simp [sortByStart, insertByStart, hxy]
  unfold resolve
  rw [hs]
  simp only [resolveSorted, List.map_cons, List.map_nil, List.foldl_cons, List.foldl_nil,
    evalTokens, PTok.c, relation]
  by_cases h0 : x.stop ≤ y.start
  · simp [h0]
  · simp only [h0, if_false]
    by_cases h1 : x.stop ≥ y.stop
    · simp only [h1, if_true, true_and]
      by_cases h2 : x.pstart ≤ y.start ∧ x.pend ≥ y.stop
      · simp only [h2, and_self, if_true, appendChild, evalNewChild]
        by_cases hin : x.inner = true <;> simp [hin]
      · simp only [h2, if_false]
        by_cases h3 : x.pend ≤ y.start
        · simp [h3]
        · simp only [h3, if_false]
          by_cases hp : x.prec ≥ y.prec <;> simp [hp]
    · simp only [h1, if_false, false_and]
      by_cases hp : x.prec ≥ y.prec <;> simp [hp]

/-! Non-vacuity: a concrete candidate set with nesting, a conflict and an ignored match meets the
    hypothesis, and the theorems' conclusions are visible by evaluation. -/
def exampleCands : List Cand :=
  [ { start := 2, stop := 12, pstart := 4, pend := 10, prec := 5, inner := true, cls := 0, ord := 0 },
    { start := 5, stop := 8, pstart := 6, pend := 7, prec := 5, inner := false, cls := 1, ord := 0 },
    { start := 7, stop := 9, pstart := 7, pend := 9, prec := 6, inner := true, cls := 2, ord := 0 },
    { start := 11, stop := 14, pstart := 12, pend := 13, prec := 9, inner := true, cls := 2, ord := 1 } ]

example : WFCands 16 exampleCands := by
  intro c hc
  simp only [exampleCands, List.mem_cons, List.not_mem_nil, or_false] at hc
  rcases hc with rfl | rfl | rfl | rfl <;> simp [CandWF]

example : (tokenize exampleCands 16).length = 3 := by decide

end Mistletoe.Props.C16
