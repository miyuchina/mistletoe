/-
  C10 — Reflowing to a maximum line length preserves meaning and honours the limit.

  Proved here, for every fragment list and every limit L (no bound on either): the word-wrapping
  core of the Markdown renderer (`make_words` + `fragments_to_lines`) emits only lines that are
  within the limit or consist of a single unbreakable word; it neither drops, adds nor reorders
  words.  (That re-filling filled words changes nothing is `Reflow.fill_idem`, Proofs/Reflow.lean, for plain
  words.)  The container budget arithmetic is stated outright, including
  the value at which wrapping would silently switch off.
  The clauses that involve re-parsing the output (meaning, idempotence of the whole round trip)
  are carried through parser and renderer for fragments in Props/C10_Reflow.lean (plain-word
  prose, also inside block quotes) and Props/C10_Lists.lean (list items); the non-rebreaking of
  code/HTML/table/ATX blocks is in Props/C10_NoRebreak.lean (DESIGN.md C10).
-/
import Mistletoe.Model.Wrap
import Mistletoe.Proofs.Lit
namespace Mistletoe.Props.C10
open Mistletoe Mistletoe.Wrap

/-- Invariant of the fill loop: the pending line is empty, or one of the words, or within the limit.  (Not `Compose.LineOk`,
    the complete tab-free lines of the C03 trees.) -/
def LineOk (L : Nat) (ws : List Str) (l : Str) : Prop := l.length ≤ L ∨ l ∈ ws

theorem fillAux_bound (L : Nat) (all : List Str) : ∀ (ws : List Str) (cur : Str),
    (∀ w ∈ ws, w ∈ all) → LineOk L all cur → ∀ l ∈ fillAux L ws cur, LineOk L all l
  | [], cur, _, hc, l, hl => by
    simp only [fillAux] at hl
    split at hl
    · simp at hl
    · simp only [List.mem_singleton] at hl; subst hl; exact hc
  | w :: rest, cur, hws, hc, l, hl => by
    have hrest : ∀ x ∈ rest, x ∈ all := fun x hx => hws x (List.mem_cons_of_mem _ hx)
    have hw : w ∈ all := hws w (List.mem_cons_self ..)
    simp only [fillAux] at hl
    split at hl
    · rcases List.mem_cons.mp hl with rfl | hl
      · exact hc
      · exact fillAux_bound L all rest [] hrest (Or.inl (Nat.zero_le _)) l hl
    · split at hl
      · exact fillAux_bound L all rest w hrest (Or.inr hw) l hl
      · split at hl
        · rename_i hfit
          exact fillAux_bound L all rest _ hrest (Or.inl hfit) l hl
        · rcases List.mem_cons.mp hl with rfl | hl
          · exact hc
          · exact fillAux_bound L all rest w hrest (Or.inr hw) l hl

/-- **The limit is honoured**: every output line either fits in `L` or is exactly one word (a
    word has no breakable space, so such a line cannot be broken further). -/
theorem C10_bound (L : Nat) (fs : List Fragment) :
    ∀ l ∈ fill L (makeWords fs), l.length ≤ L ∨ l ∈ makeWords fs :=
  fillAux_bound L (makeWords fs) (makeWords fs) [] (fun _ h => h) (Or.inl (Nat.zero_le _))

def joinWords : List Str → Str
  | [] => []
  | [w] => w
  | w :: rest => w ++ [' '] ++ joinWords rest

/-- Grouping version of the fill loop: which words go on which line (`cur` = words of the pending
    line, in reverse order). -/
def fillG (L : Nat) : List Str → List Str → List (List Str)
  | [], cur => if cur.isEmpty then [] else [cur.reverse]
  | w :: rest, cur =>
    if w = brk then cur.reverse :: fillG L rest []
    else if cur.isEmpty then fillG L rest [w]
    else if (joinWords (cur.reverse ++ [w])).length ≤ L then fillG L rest (w :: cur)
    else cur.reverse :: fillG L rest [w]

theorem joinWords_cons (w : Str) (ws : List Str) : joinWords (w :: ws) = w ++ ws.flatMap (' ' :: ·) := by
  induction ws generalizing w with
  | nil => simp [joinWords]
  | cons y ys ih => simp [joinWords, ih]

theorem joinWords_append (a b : List Str) (ha : a ≠ []) (hb : b ≠ []) :
    joinWords (a ++ b) = joinWords a ++ [' '] ++ joinWords b := by
  obtain ⟨x, xs, rfl⟩ := List.exists_cons_of_ne_nil ha
  obtain ⟨y, ys, rfl⟩ := List.exists_cons_of_ne_nil hb
  simp [joinWords_cons]

theorem joinWords_snoc (ws : List Str) (w : Str) (h : ws ≠ []) :
    joinWords (ws ++ [w]) = joinWords ws ++ [' '] ++ w :=
  joinWords_append ws [w] h (List.cons_ne_nil _ _)

theorem joinWords_mem (ws : List Str) (x : Char) (h : x ∈ joinWords ws) : x = ' ' ∨ ∃ w ∈ ws, x ∈ w := by
  cases ws with
  | nil => cases h
  | cons w ws =>
    rw [joinWords_cons, List.mem_append, List.mem_flatMap] at h
    rcases h with h | ⟨y, hy, h⟩
    · exact Or.inr ⟨w, by simp, h⟩
    · rcases List.mem_cons.mp h with h | h
      · exact Or.inl h
      · exact Or.inr ⟨y, List.mem_cons_of_mem _ hy, h⟩

theorem joinWords_isEmpty (ws : List Str) (hne : ∀ w ∈ ws, w ≠ []) : (joinWords ws).isEmpty = ws.isEmpty := by
  cases ws with
  | nil => rfl
  | cons x xs =>
    have := hne x (List.mem_cons_self ..)
    cases x with
    | nil => exact absurd rfl this
    | cons c r => rw [joinWords_cons]; rfl

/-- The string loop is the grouping loop, joined: the pending line is the pending group joined, so the two loops
    take the same branch at every word. -/
theorem fillAux_eq_fillG (L : Nat) : ∀ (ws : List Str) (cur : List Str),
    (∀ w ∈ ws, w ≠ []) → (∀ w ∈ cur, w ≠ []) →
    fillAux L ws (joinWords cur.reverse) = (fillG L ws cur).map joinWords
  | [], cur, _, hc => by
    rw [fillAux, fillG, joinWords_isEmpty _ (fun w hw => hc w (List.mem_reverse.mp hw)), List.isEmpty_reverse]
    cases cur.isEmpty <;> rfl
  | w :: rest, cur, hws, hc => by
    have ih := fun cur' => fillAux_eq_fillG L rest cur' (fun x hx => hws x (List.mem_cons_of_mem _ hx))
    have hw : w ≠ [] := hws w (List.mem_cons_self ..)
    rw [fillAux, fillG, joinWords_isEmpty _ (fun w hw => hc w (List.mem_reverse.mp hw)), List.isEmpty_reverse]
    by_cases hb : w = brk
    · rw [if_pos hb, if_pos hb, List.map_cons, ← ih [] (by simp)]; rfl
    · rw [if_neg hb, if_neg hb]
      cases cur with
      | nil => exact ih [w] (by simpa using hw)
      | cons x xs =>
        simp only [List.isEmpty_cons, Bool.false_eq_true, if_false]
        rw [← joinWords_snoc _ w (by simp), ← List.reverse_cons]
        by_cases hfit : (joinWords (w :: x :: xs).reverse).length ≤ L
        · rw [if_pos hfit, if_pos hfit]
          exact ih (w :: x :: xs) (List.forall_mem_cons.mpr ⟨hw, hc⟩)
        · rw [if_neg hfit, if_neg hfit, List.map_cons, ← ih [w] (by simpa using hw)]; rfl

theorem fill_eq_fillG (L : Nat) (ws : List Str) (h : ∀ w ∈ ws, w ≠ []) : fill L ws = (fillG L ws []).map joinWords :=
  fillAux_eq_fillG L ws [] h (by simp)

theorem fillG_flatten (L : Nat) : ∀ (ws cur : List Str),
    (fillG L ws cur).flatten = cur.reverse ++ ws.filter (· ≠ brk)
  | [], cur => by
    rw [fillG]
    cases cur with
    | nil => rfl
    | cons x xs => simp
  | w :: rest, cur => by
    rw [fillG]
    by_cases hb : w = brk
    · simp [hb, fillG_flatten L rest []]
    · rw [if_neg hb, List.filter_cons_of_pos (by simpa using hb)]
      cases cur with
      | nil => simp [fillG_flatten L rest [w]]
      | cons x xs =>
        simp only [List.isEmpty_cons, Bool.false_eq_true, if_false]
        split
        · simp [fillG_flatten L rest (w :: x :: xs)]
        · simp [fillG_flatten L rest [w]]

theorem fillG_nil_flatten (L : Nat) (ws : List Str) : (fillG L ws []).flatten = ws.filter (· ≠ brk) := by
  simpa using fillG_flatten L ws []

/-- **Nothing is dropped, added or reordered**: the output lines are the words, grouped in order
    and joined by single spaces; the only separators consumed are the hard-break markers. -/
theorem C10_words (L : Nat) (ws : List Str) (h : ∀ w ∈ ws, w ≠ []) :
    ∃ groups : List (List Str), fill L ws = groups.map joinWords ∧ groups.flatten = ws.filter (· ≠ brk) :=
  ⟨fillG L ws [], fill_eq_fillG L ws h, fillG_nil_flatten L ws⟩

theorem childBudget_some (L : Int) (k : Nat) (hL : L ≠ 0) : childBudget (some L) k = some (max (L - k) 1) := by
  simp [childBudget, hL]

/-- **Container budgets**: a block quote hands `L − 2` to its children and a list item
    `L − prepend`, but never less than 1; "no limit" stays "no limit".  In particular the child
    budget of a wrapping parent is never the falsy value 0, so wrapping cannot silently switch off
    inside a container (it did on the code as checked out: fixed, see known_findings.json). -/
theorem C10_budget (L : Int) (k : Nat) (hL : L ≠ 0) :
    childBudget (some L) k = some (max (L - k) 1) ∧ childBudget none k = none
    ∧ ∀ b, childBudget (some L) k = some b → b ≠ 0 := by
  refine ⟨childBudget_some L k hL, rfl, ?_⟩
  intro b hb
  rw [childBudget_some L k hL] at hb
  cases hb
  omega

/-- Wrapping stays on at every nesting depth: a child of a wrapping parent wraps. -/
theorem C10_wrapping_stays_on (fs : List Fragment) (L : Int) (k : Nat) (hL : L ≠ 0) :
    fragmentsToLines fs (childBudget (some L) k) = fill (max (L - k) 1).toNat (makeWords fs) := by
  rw [childBudget_some L k hL, fragmentsToLines, if_neg (by omega)]

/-! Non-vacuity -/
example : fill 9 (makeWords [{ text := "aaaa bb".toList, wordwrap := true }, { text := "  \n".toList, hardLineBreak := true },
      { text := "c dddddddddddd e".toList, wordwrap := true }])
    = ["aaaa bb  ", "c", "dddddddddddd", "e"].map String.toList := by
  simp only [List.map]; decide_lit

end Mistletoe.Props.C10
