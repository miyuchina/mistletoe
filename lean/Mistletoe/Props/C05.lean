/-
  C05 — Blocks separated by a blank line are parsed independently of each other.

  "If text A ends in a closed block (paragraph, heading, thematic break, block quote or table) and
  neither A nor B defines link references, then parsing A, a blank line and B as one document yields
  exactly A's blocks followed by B's blocks, with B's blocks reporting line numbers shifted by the
  number of lines that precede B."

  Two independent halves, both over the block-parser model (`Model/Block.lean`), for every flag setting
  and every token-type list ((P): every list without the Markdown renderer's `BlankLine`, `C05_config_current`):

  (S) SUFFIX SHIFT (`C05_suffix_local`, `C05_shift`, `C05_suffix_shift`): what follows a block
      boundary is parsed as if it stood alone.  No reader looks at, or steps back into, the lines
      before the position where its block started (`backstep`, BlockCode's trailing-blank give-back,
      `Footnote.read`'s `_index -= count('\n')`, `List.read`'s `set_pos(anchor)` all stay at or after
      it), and the only way `start_line` enters a result is through the reported line numbers.
      Proved in full.  Side condition: every line of B ends with its only '\n' (what
      `Document.__init__` guarantees, C15); without it `Footnote.read` can hand back more lines than
      it consumed — see `suffix_needs_complete_lines` below.

  (P) PREFIX INDEPENDENCE (`C05_prefix`): A's blocks do not depend on what follows the blank line:
        if `tokenizeBlock cfg gas A start st = .ok (bA, stA)`, `.blankLine ∉ cfg.types` and the LAST
        entry of `bA.entries` is a paragraph / setext / heading / thematicBreak / quote / table, then
        for every `rest` the run on `A ++ "\n" :: rest` reaches position `A.length + 1` with
        accumulator `bA.entries.reverse`, state `stA`, `loose := true`.
      How (`Proofs/Locality.lean`): the readers of the closed kinds (and `Footnote.read`, the
      `Table.read` probes, an HTML block of kind 6/7) stop at a blank line exactly as at the end of
      input; BlockCode, CodeFence, the other HTML blocks and `ListItem.read` read across blank lines,
      but when a later block exists a line that is not whitespace-only remains at or after the cursor
      they returned, which forces them to have stopped before looking at the end of A.
      `List.read` tests the next marker BEFORE reading its item (`otherMarkerType`).  Reading a whole
      item first, finding that its marker does not fit the list and re-reading it from `anchor` (what
      mistletoe did before the repair in /repo) makes the statement FALSE, even for the default token
      order: the discarded read may reach the end of A (so it continues into `rest` on the longer
      buffer) and the definitions registered while reading it stay (`former_counterexample_*` in
      `Proofs/LocalityLists.lean`; see also `list_other_marker_not_read`).
      `C05_prefix_partial` is the special case in which no top-level entry of `bA.entries` is a list.

  Combination (`C05_blank_line_independent_full`, special case `_partial`): under the hypotheses of
  (P) and (S), `blockPhase (A ++ ["\n"] ++ B)` = A's entries ++ B's entries shifted by `A.length + 1`,
  `loose = true`.  Link definitions: `St.defs` is only ever appended to (`st.defs ++ ms`) and never
  read by the block phase, so B is read in the state A leaves behind
  (`C05_blank_line_independent_state_full`); when A defines no link reference that state is the
  initial one (`blockPhase_st_init`), which gives the statement with `blockPhase B` itself.
  The namespace `Props.C05` is continued in Proofs/LocalityLists.lean (instances with lists; restated in Props/C05_Lists.lean).
-/
import Mistletoe.Proofs.ConfigValues
import Mistletoe.Proofs.Locality
import Mistletoe.Proofs.BlockState
import Mistletoe.Proofs.Lit
namespace Mistletoe.Props.C05
open Mistletoe Mistletoe.Py Mistletoe.Scan Mistletoe.Block

/-! ### (S) -/

/-- **No reader looks before its block.**  The dispatch loop started at the first line of `B` inside
    the buffer `pre ++ B` (first line numbered `start`) returns exactly what it returns on the buffer
    `B` alone whose first line is numbered `start + pre.length` — same entries, same reported line
    numbers, same state, same errors — for every token-type list, gas, state and accumulator. -/
theorem C05_suffix_local (cfg : Cfg) (gas : Nat) (pre B : List Line) (start : Nat) (st : St) (acc : List Entry) (loose : Bool)
    (hB : AllNlEnd B) :
    tokLoop cfg gas { lines := pre ++ B, pos := pre.length, start := start } st acc loose =
      tokLoop cfg gas { lines := B, pos := 0, start := start + pre.length } st acc loose :=
  tokLoop_suffix cfg gas pre B start st acc loose hB

/-- **`start_line` only shifts the numbers.**  `tokenize_block` on the same lines numbered `k` higher
    (ghost origins shifted alike) returns the same buffer with every `line_number` (and ghost origin),
    at every nesting depth, `k` higher (`shiftEntries`; for a table also the first row's number). -/
theorem C05_shift (cfg : Cfg) (k gas : Nat) (lines : List Line) (start : Nat) (st : St) :
    tokenizeBlock cfg gas (lines.map (Line.sh k)) (start + k) st =
      rmap (fun r => ({ entries := shiftEntries k r.1.entries, loose := r.1.loose }, r.2)) (tokenizeBlock cfg gas lines start st) :=
  tokenizeBlock_shift cfg k gas lines start st

/-- **Suffix shift.**  Inside `pre ++ B` (B's ghost origins being those of `B0` raised by
    `pre.length`), the dispatch loop started at B's first line appends to its accumulator exactly the
    entries of `tokenize_block(B0, start)`, each reporting a line number `pre.length` higher. -/
theorem C05_suffix_shift (cfg : Cfg) (gas : Nat) (pre B0 : List Line) (start : Nat) (st : St)
    (acc : List Entry) (loose : Bool) (hB : AllNlEnd B0) :
    tokLoop cfg gas { lines := pre ++ B0.map (Line.sh pre.length), pos := pre.length, start := start } st acc loose =
      rmap (fun r => ({ entries := acc.reverse ++ shiftEntries pre.length r.1.entries, loose := loose || r.1.loose }, r.2))
        (tokenizeBlock cfg (gas + 1) B0 start st) := by
  rw [tokLoop_suffix_shift cfg gas pre B0 start st acc loose hB]
  cases tokenizeBlock cfg (gas + 1) B0 start st <;> rfl

/-- more gas never changes a result that was reached -/
theorem C05_gas_monotone (cfg : Cfg) (lines : List Line) (start : Nat) (st : St) (r) (g g' : Nat) (h : g ≤ g')
    (hr : tokenizeBlock cfg g lines start st = .ok r) : tokenizeBlock cfg g' lines start st = .ok r :=
  tokenizeBlock_mono cfg lines start st r g g' h hr

/-! ### (P) -/

/-- **Prefix independence.**  Let `tokenize_block(A)` return the buffer `bA` and the state `stA`, the
    last of `bA`'s top-level entries being a paragraph, setext/ATX heading, thematic break, block quote
    or table (`lastClosed`), A's lines ending with their only newline, and `BlankLine` not among the
    token types.  Then for ANY lines `rest`, the tokenizer on `A ++ "\n" :: rest` is, after some steps,
    the dispatch loop standing on the line after the "\n" with exactly A's entries accumulated, A's
    final state, and `loose = true` (with at least `extra` gas left, for any `extra` exceeding the
    number of token types).  No restriction on lists: they may be among A's earlier blocks. -/
theorem C05_prefix (cfg : Cfg) (hbl : .blankLine ∉ cfg.types) (A : List Line) (nl : Line) (hnl : nl.s = ['\n'])
    (rest : List Line) (start : Nat) (st : St) (gas : Nat) (bA : Buf) (stA : St)
    (hA : tokenizeBlock cfg gas A start st = .ok (bA, stA)) (hlast : lastClosed bA.entries)
    (hnlA : AllNlEnd A) (extra : Nat) (hex : cfg.types.length < extra) :
    ∃ g', extra ≤ g' ∧
      tokenizeBlock cfg (gas + extra) (A ++ nl :: rest) start st =
        tokLoop cfg g' { lines := A ++ nl :: rest, pos := A.length + 1, start := start } stA bA.entries.reverse true :=
  tokenizeBlock_prefix cfg hbl A nl hnl rest start st gas bA stA hA hlast hnlA extra hex

/-- **Prefix independence (partial).**  The same for `A` none of whose top-level blocks is a list. -/
theorem C05_prefix_partial (cfg : Cfg) (hbl : .blankLine ∉ cfg.types) (A : List Line) (nl : Line) (hnl : nl.s = ['\n'])
    (rest : List Line) (start : Nat) (st : St) (gas : Nat) (bA : Buf) (stA : St)
    (hA : tokenizeBlock cfg gas A start st = .ok (bA, stA)) (hnol : ∀ e ∈ bA.entries, noList e = true) (hlast : lastClosed bA.entries)
    (hnlA : AllNlEnd A) (extra : Nat) (hex : cfg.types.length < extra) :
    ∃ g', extra ≤ g' ∧
      tokenizeBlock cfg (gas + extra) (A ++ nl :: rest) start st =
        tokLoop cfg g' { lines := A ++ nl :: rest, pos := A.length + 1, start := start } stA bA.entries.reverse true :=
  C05_prefix cfg hbl A nl hnl rest start st gas bA stA hA hlast hnlA extra hex

/-! ### Combination -/

/-- the lines `Document` hands to the tokenizer: ghost origin = 1-based index -/
def numbered (k : Nat) (ls : List Str) : List Line := (ls.zipIdx k).map (fun (s, i) => ({ s := s, origin := i + 1 } : Line))

theorem numbered_cons (k : Nat) (x : Str) (xs : List Str) :
    numbered k (x :: xs) = { s := x, origin := k + 1 } :: numbered (k + 1) xs := by
  simp [numbered, List.zipIdx_cons]

theorem numbered_append (a b : List Str) (k : Nat) : numbered k (a ++ b) = numbered k a ++ numbered (k + a.length) b := by
  simp [numbered, List.zipIdx_append]

theorem numbered_sh : ∀ (ls : List Str) (k j : Nat), numbered (k + j) ls = (numbered k ls).map (Line.sh j)
  | [], _, _ => by simp [numbered]
  | x :: xs, k, j => by
    rw [numbered_cons, numbered_cons, List.map_cons]
    have := numbered_sh xs (k + 1) j
    have e : k + 1 + j = k + j + 1 := by omega
    rw [e] at this
    rw [this]
    simp only [Line.sh, List.cons.injEq, Line.mk.injEq, true_and, and_true]; omega

theorem numbered_length (k : Nat) (ls : List Str) : (numbered k ls).length = ls.length := by simp [numbered]

theorem numbered_nlEnd (k : Nat) (ls : List Str) (h : ∀ s ∈ ls, NlEnd s) : AllNlEnd (numbered k ls) :=
  allNlEnd_zipIdx ls k h

theorem blockPhase_eq (cfg : Cfg) (gas : Nat) (lines : List Str) :
    blockPhase cfg gas lines = tokenizeBlock cfg gas (numbered 0 lines) 1 {} := rfl

/-- **Blocks separated by a blank line are independent, B read in A's final state.**
    If the block phase on `A` returns `bA`/`stA` with the last entry a paragraph, setext/ATX heading,
    thematic break, block quote or table, and the block phase on `B`, started in the state `stA`, returns
    `bB`/`stB`, then the block phase on `A ++ ["\n"] ++ B` returns `bA`'s entries followed by `bB`'s
    entries with every line number raised by `A.length + 1`, `loose = true`, state `stB`. -/
theorem C05_blank_line_independent_state_full (cfg : Cfg) (hbl : .blankLine ∉ cfg.types) (A B : List Str) (gA gB : Nat)
    (bA bB : Buf) (stA stB : St)
    (hA : blockPhase cfg gA A = .ok (bA, stA)) (hlast : lastClosed bA.entries)
    (hB : tokenizeBlock cfg gB (numbered 0 B) 1 stA = .ok (bB, stB))
    (hnlA : ∀ s ∈ A, NlEnd s) (hnlB : ∀ s ∈ B, NlEnd s) :
    blockPhase cfg (gA + (gB + cfg.types.length + 1)) (A ++ [['\n']] ++ B) =
      .ok ({ entries := bA.entries ++ shiftEntries (A.length + 1) bB.entries, loose := true }, stB) := by
  rw [blockPhase_eq] at hA ⊢
  have hl : numbered 0 (A ++ [['\n']] ++ B) =
      numbered 0 A ++ { s := ['\n'], origin := A.length + 1 } :: (numbered 0 B).map (Line.sh ((numbered 0 A).length + 1)) := by
    rw [List.append_assoc, numbered_append, List.singleton_append, numbered_cons, numbered_length]
    have := numbered_sh B 0 (A.length + 1)
    simp only [Nat.zero_add] at this ⊢
    rw [this]
  rw [hl]
  have := tokenizeBlock_concat cfg hbl (numbered 0 A) (numbered 0 B) { s := ['\n'], origin := A.length + 1 } rfl 1 {}
    gA gB bA bB stA stB hA hlast hB (numbered_nlEnd 0 A hnlA) (numbered_nlEnd 0 B hnlB)
  rw [numbered_length] at this ⊢
  exact this

/-- **Blocks separated by a blank line are independent (partial), B read in A's final state.**  The same for `A` with
    no top-level list (the hypothesis `hnol` is not needed: this is `C05_blank_line_independent_state_full`). -/
theorem C05_blank_line_independent_state (cfg : Cfg) (hbl : .blankLine ∉ cfg.types) (A B : List Str) (gA gB : Nat)
    (bA bB : Buf) (stA stB : St)
    (hA : blockPhase cfg gA A = .ok (bA, stA)) (hnol : ∀ e ∈ bA.entries, noList e = true) (hlast : lastClosed bA.entries)
    (hB : tokenizeBlock cfg gB (numbered 0 B) 1 stA = .ok (bB, stB))
    (hnlA : ∀ s ∈ A, NlEnd s) (hnlB : ∀ s ∈ B, NlEnd s) :
    blockPhase cfg (gA + (gB + cfg.types.length + 1)) (A ++ [['\n']] ++ B) =
      .ok ({ entries := bA.entries ++ shiftEntries (A.length + 1) bB.entries, loose := true }, stB) :=
  C05_blank_line_independent_state_full cfg hbl A B gA gB bA bB stA stB hA hlast hB hnlA hnlB

/-- a block phase that registers no link reference definition ends in the initial state
    (`Paragraph.parse_setext` is `True` again after every top-level read, `tokenizeBlock_setext`) -/
theorem blockPhase_st_init (cfg : Cfg) (g : Nat) (lines : List Str) (b : Buf) (st : St)
    (h : blockPhase cfg g lines = .ok (b, st)) (hdef : st.defs = []) : st = {} := by
  have hsx : st.setext = true := tokenizeBlock_setext cfg g _ _ _ _ rfl h
  cases st
  simp only at hsx hdef
  subst hsx; subst hdef; rfl

/-- **C05. Blocks separated by a blank line are independent.**  If `A` ends in a closed block
    (paragraph, setext/ATX heading, thematic break, block quote or table) and defines no link
    reference (`stA.defs = []`), then the block phase on `A ++ ["\n"] ++ B` returns `A`'s entries
    followed by `B`'s entries with every line number (at every depth) raised by `A.length + 1`, and
    the state `B` alone leaves.  (`B` may define link references; they end up in `stB`.) -/
theorem C05_blank_line_independent_full (cfg : Cfg) (hbl : .blankLine ∉ cfg.types) (A B : List Str) (gA gB : Nat)
    (bA bB : Buf) (stA stB : St)
    (hA : blockPhase cfg gA A = .ok (bA, stA)) (hlast : lastClosed bA.entries)
    (hdef : stA.defs = [])
    (hB : blockPhase cfg gB B = .ok (bB, stB))
    (hnlA : ∀ s ∈ A, NlEnd s) (hnlB : ∀ s ∈ B, NlEnd s) :
    blockPhase cfg (gA + (gB + cfg.types.length + 1)) (A ++ [['\n']] ++ B) =
      .ok ({ entries := bA.entries ++ shiftEntries (A.length + 1) bB.entries, loose := true }, stB) := by
  cases blockPhase_st_init cfg gA A bA stA hA hdef
  exact C05_blank_line_independent_state_full cfg hbl A B gA gB bA bB _ stB hA hlast hB hnlA hnlB

/-- **Blocks separated by a blank line are independent (partial).**  The same for `A` none of whose
    top-level blocks is a list. -/
theorem C05_blank_line_independent_partial (cfg : Cfg) (hbl : .blankLine ∉ cfg.types) (A B : List Str) (gA gB : Nat)
    (bA bB : Buf) (stA stB : St)
    (hA : blockPhase cfg gA A = .ok (bA, stA)) (hnol : ∀ e ∈ bA.entries, noList e = true) (hlast : lastClosed bA.entries)
    (hdef : stA.defs = [])
    (hB : blockPhase cfg gB B = .ok (bB, stB))
    (hnlA : ∀ s ∈ A, NlEnd s) (hnlB : ∀ s ∈ B, NlEnd s) :
    blockPhase cfg (gA + (gB + cfg.types.length + 1)) (A ++ [['\n']] ++ B) =
      .ok ({ entries := bA.entries ++ shiftEntries (A.length + 1) bB.entries, loose := true }, stB) :=
  C05_blank_line_independent_full cfg hbl A B gA gB bA bB stA stB hA hlast hdef hB hnlA hnlB

/-! ### Non-vacuity -/

/-- HtmlRenderer's block list, with `HtmlBlock` in front (= `Config.htmlBlockList`, = `Props.C14.defaultTypes`); not
    `Config.default`, the list in force without a renderer, which has no `HtmlBlock` -/
def defaultTypes : List BTok :=
  [.htmlBlock, .blockCode, .heading, .quote, .codeFence, .thematicBreak, .list, .table, .footnote, .paragraph]
def cfg0 : Cfg := { types := defaultTypes }
def L (s : String) : Str := s.toList

def sampleA : List Str := [L "# h\n", L "```\n", L "code\n", L "```\n", L "> q\n", L "> r\n"]
def sampleB : List Str := [L "- a\n", L "\n", L "  b\n"]

attribute [lit] L sampleA sampleB

/-- (kind, reported line number, ghost origin) of every entry, outermost first; kinds: 0 blockCode,
    1 heading, 2 quote, 3 codeFence, 4 thematicBreak, 5 list, 6 table, 7 footnote, 8 linkRefDefs,
    9 paragraph, 10 setext, 11 htmlBlock, 12 blankLine, 13 list item -/
def digest : List Entry → List (Nat × Nat × Nat)
  | [] => []
  | e :: es => (match e with
      | .blockCode _ ln og => [(0, ln, og)]
      | .heading _ _ _ ln og => [(1, ln, og)]
      | .quote inner _ ln og => (2, ln, og) :: digest inner
      | .codeFence _ _ _ _ _ ln og => [(3, ln, og)]
      | .thematicBreak _ ln og => [(4, ln, og)]
      | .list items ln og => (5, ln, og) :: digestI items
      | .table _ _ ln og => [(6, ln, og)]
      | .footnote _ ln og => [(7, ln, og)]
      | .linkRefDefs _ ln og => [(8, ln, og)]
      | .paragraph _ ln og => [(9, ln, og)]
      | .setext _ ln og => [(10, ln, og)]
      | .htmlBlock _ ln og => [(11, ln, og)]
      | .blankLine ln og => [(12, ln, og)]) ++ digest es
where digestI : List Item → List (Nat × Nat × Nat)
  | [] => []
  | .mk inner _ _ _ _ ln og :: is => (13, ln, og) :: digest inner ++ digestI is

def digestR : Res (Buf × St) → Option (List (Nat × Nat × Nat) × Bool × Nat)
  | .ok (b, st) => some (digest b.entries, b.loose, st.defs.length)
  | .err _ => none

/-- A = heading, fenced code, two-line quote; B = a loose list item: the three parses, with the numbers shown -/
example : digestR (blockPhase cfg0 30 sampleA) = some ([(1, 1, 1), (3, 2, 2), (2, 5, 5), (9, 5, 5)], false, 0) := by decide_lit
example : digestR (blockPhase cfg0 30 sampleB) = some ([(5, 1, 1), (13, 1, 1), (9, 1, 1), (9, 3, 3)], false, 0) := by decide_lit
example : digestR (blockPhase cfg0 71 (sampleA ++ [['\n']] ++ sampleB)) =
    some ([(1, 1, 1), (3, 2, 2), (2, 5, 5), (9, 5, 5), (5, 8, 8), (13, 8, 8), (9, 8, 8), (9, 10, 10)], true, 0) := by decide_lit

def okClosed : Res (Buf × St) → Bool
  | .ok (b, st) => b.entries.all noList && (match b.entries.getLast? with | some e => closedE e | none => true) && st.defs.isEmpty
  | .err _ => false

theorem okClosed_spec (b : Buf) (st : St) (h : okClosed (.ok (b, st)) = true) :
    (∀ e ∈ b.entries, noList e = true) ∧ lastClosed b.entries ∧ st.defs = [] := by
  simp only [okClosed, Bool.and_eq_true, List.all_eq_true, List.isEmpty_iff] at h
  exact ⟨h.1.1, lastClosed_of_check _ h.1.2, h.2⟩

/-- the hypotheses of `C05_blank_line_independent_partial` hold for `sampleA`, `sampleB` (kernel-evaluated),
    so its conclusion does: an instance of the theorem -/
example : ∃ bA bB stB, blockPhase cfg0 30 sampleA = .ok (bA, {}) ∧ blockPhase cfg0 30 sampleB = .ok (bB, stB) ∧
    blockPhase cfg0 71 (sampleA ++ [['\n']] ++ sampleB) =
      .ok ({ entries := bA.entries ++ shiftEntries (sampleA.length + 1) bB.entries, loose := true }, stB) := by
  have hcA : okClosed (blockPhase cfg0 30 sampleA) = true := by decide_lit
  have hlB : (digestR (blockPhase cfg0 30 sampleB)).map (·.1.length) = some 4 := by decide_lit
  have hnA : ∀ s ∈ sampleA, NlEnd s := nlEnd_of_checks sampleA (by decide)
  have hnB : ∀ s ∈ sampleB, NlEnd s := nlEnd_of_checks sampleB (by decide)
  cases hA : blockPhase cfg0 30 sampleA with
  | err e => rw [hA] at hcA; cases hcA
  | ok rA =>
    obtain ⟨bA, stA⟩ := rA
    cases hB : blockPhase cfg0 30 sampleB with
    | err e => rw [hB] at hlB; cases hlB
    | ok rB =>
      obtain ⟨bB, stB⟩ := rB
      rw [hA] at hcA
      obtain ⟨hnol, hlast, hdef⟩ := okClosed_spec bA stA hcA
      cases blockPhase_st_init cfg0 30 sampleA bA stA hA hdef
      exact ⟨bA, bB, stB, rfl, rfl,
        C05_blank_line_independent_partial cfg0 (by decide) sampleA sampleB 30 30 bA bB _ stB hA hnol hlast rfl hB hnA hnB⟩

/-- instance of `C05_suffix_shift` / `C05_suffix_local`: B = `sampleB` (a list: `ListItem.read` backsteps over
    its trailing blank line, `List.read` re-anchors) behind the seven lines of `sampleA ++ ["\n"]` -/
example : digestR (tokLoop cfg0 40
      { lines := numbered 0 (sampleA ++ [['\n']]) ++ (numbered 0 sampleB).map (Line.sh 7), pos := 7, start := 1 } {} [] false) =
    (digestR (tokenizeBlock cfg0 41 (numbered 0 sampleB) 1 {})).map
      (fun r => (r.1.map (fun x => (x.1, x.2.1 + 7, x.2.2 + 7)), r.2)) := by decide +kernel

example := C05_suffix_shift cfg0 40 (numbered 0 (sampleA ++ [['\n']])) (numbered 0 sampleB) 1 {} [] false
  (numbered_nlEnd 0 sampleB (nlEnd_of_checks sampleB (by decide)))

/-- readers that step back at the very start of B: an HTML block ended by a blank line (`backstep`),
    indented code with trailing blank lines (gives them back) — same digest with three lines in front -/
example :
    let B : List Line := numbered 3 [L "<div>\n", L "\n", L "    code\n", L "\n", L "\n"]
    let pre : List Line := numbered 0 [L "x\n", L "y\n", L "\n"]
    digestR (tokLoop cfg0 40 { lines := pre ++ B, pos := 3, start := 1 } {} [] false) =
      digestR (tokLoop cfg0 40 { lines := B, pos := 0, start := 4 } {} [] false) ∧
    digestR (tokLoop cfg0 40 { lines := B, pos := 0, start := 4 } {} [] false) = some ([(11, 4, 4), (0, 6, 6)], true, 0) := by
  decide_lit

/-- **The side condition of (S) is needed.**  A "line" with two newlines (impossible after
    `Document.__init__` on a string or on file lines, C15): `Footnote.read` finds no definition and
    hands back `count('\n') = 2` lines although it consumed one, so the cursor lands inside the
    preceding lines; the paragraph then reports line 3 instead of 4.  (The real code does the same:
    `Document(['# x\n','# y\n','# z\n','[a\n\n'])` ends with a Paragraph at line 3 that re-reads `# z`.) -/
theorem suffix_needs_complete_lines :
    let B : List Line := [{ s := L "[a\n\n", origin := 4 }]
    let pre : List Line := numbered 0 [L "# x\n", L "# y\n", L "# z\n"]
    digestR (tokLoop cfg0 40 { lines := pre ++ B, pos := 3, start := 1 } {} [] false) = some ([(9, 3, 4)], false, 0) ∧
    digestR (tokLoop cfg0 40 { lines := B, pos := 0, start := 4 } {} [] false) = some ([(9, 4, 4)], false, 0) := by
  decide +kernel

/-- instance of `C05_prefix_partial`: whatever follows the blank line after `sampleA` -/
example (rest : List Line) : ∃ bA stA g', 30 ≤ g' ∧ tokenizeBlock cfg0 30 (numbered 0 sampleA) 1 {} = .ok (bA, stA) ∧
    tokenizeBlock cfg0 60 (numbered 0 sampleA ++ { s := ['\n'], origin := 7 } :: rest) 1 {} =
      tokLoop cfg0 g' { lines := numbered 0 sampleA ++ { s := ['\n'], origin := 7 } :: rest, pos := 7, start := 1 } stA
        bA.entries.reverse true := by
  have hcA : okClosed (blockPhase cfg0 30 sampleA) = true := by decide_lit
  cases hA : blockPhase cfg0 30 sampleA with
  | err e => rw [hA] at hcA; cases hcA
  | ok rA =>
    obtain ⟨bA, stA⟩ := rA
    rw [hA] at hcA
    obtain ⟨hnol, hlast, _⟩ := okClosed_spec bA stA hcA
    obtain ⟨g', hg, heq⟩ := C05_prefix_partial cfg0 (by decide) (numbered 0 sampleA) { s := ['\n'], origin := 7 } rfl rest 1 {} 30
      bA stA hA hnol hlast (numbered_nlEnd 0 sampleA (nlEnd_of_checks sampleA (by decide))) 30 (by decide)
    exact ⟨bA, stA, g', hg, hA, heq⟩

/-- (P) fails without the restriction on the LAST block, as it must: A = a list item; B continues it -/
example : digestR (blockPhase cfg0 30 [L "- a\n"]) = some ([(5, 1, 1), (13, 1, 1), (9, 1, 1)], false, 0) ∧
    digestR (blockPhase cfg0 30 [L "- a\n", L "\n", L "  b\n"]) =
      some ([(5, 1, 1), (13, 1, 1), (9, 1, 1), (9, 3, 3)], false, 0) := by decide_lit

def cfgX : Cfg := { types := [.table, .list, .footnote, .paragraph] }
def exA : List Str := [L "- a\n", L "* b | c\n", L "|-|-|\n"]
def exB : List Str := [L "  [x]: y\n"]

attribute [lit] exA exB

/-- **A marker of another type is left unread** (behaviour after the repair of `List.read`; before it, the
    item behind such a marker was read and then discarded, but the link reference definitions found
    in it stayed registered — `append_footnotes` was called twice for `[x]` on this input, and in
    `["- \n", "\n", "* * *\n", "para [foo]\n"] ++ ["\n"] ++ ["      [foo]: /url\n"]` a definition that
    neither part contains was registered, turning `[foo]` into a link).
    Token order `[Table, List, Footnote, Paragraph]`: A = "- a", "* b | c", "|-|-|" gives a list and a
    table (closed last block), no definition.  `List.read` sees that `*` does not fit the `-` list
    and stops in front of "* b | c", which the dispatcher reads as a table.  With B = "  [x]: y"
    behind a blank line, `[x]` is registered once, by B's own `Footnote.read`
    (kinds: 5 list, 6 table, 7 footnote; last component = number of definitions registered). -/
theorem list_other_marker_not_read :
    digestR (blockPhase cfgX 60 exA) = some ([(5, 1, 1), (13, 1, 1), (9, 1, 1), (6, 2, 2)], false, 0) ∧
    digestR (blockPhase cfgX 60 exB) = some ([(7, 1, 1)], false, 1) ∧
    digestR (blockPhase cfgX 60 (exA ++ [['\n']] ++ exB)) =
      some ([(5, 1, 1), (13, 1, 1), (9, 1, 1), (6, 2, 2), (7, 5, 5)], true, 1) := by
  refine ⟨?_, ?_, ?_⟩ <;> decide_lit

/-- the hypothesis `.blankLine ∉ cfg.types` of the prefix theorems holds for the token lists of the working
    tree outside the Markdown renderer (default list and the HTML renderer's list, regenerated from /repo) -/
theorem C05_config_current : ∀ cfg, (Config.html = some cfg ∨ Config.default = some cfg) → BTok.blankLine ∉ cfg.block.types := by
  intro cfg hc
  rw [Config.html_eq, Config.default_eq] at hc
  rcases hc with hc | hc <;> cases hc <;> decide

end Mistletoe.Props.C05
