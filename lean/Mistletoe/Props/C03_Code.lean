/-
  C03 (fragment with fenced code blocks and setext headings) — property theorems only; the proofs are in
  Proofs/ComposeEmbed.lean (the tree `T3` of Proofs/ComposeCode.lean inside the tree `T4` of Proofs/ComposeTable.lean).

  The tree type `T3` keeps everything `T2` (Props/C03_Lists.lean) has - paragraphs, ATX headings, thematic breaks, block
  quotes with either marker, bullet and ordered lists nested to any depth - and adds
    * FENCED CODE BLOCKS: either fence character, >= 3 characters, at indentation 0-3, any info string the specification
      admits, any content lines that do not close the fence (blank lines, lines that look like other blocks, shorter fences,
      fences of the other character, the fence followed by text), a closing fence of the same character at least as long, at
      indentation 0-3, with trailing spaces; at top level, inside block quotes and as the first or a later block of a list
      item, to any depth;
    * SETEXT HEADINGS: one or more text lines and an underline `=+` / `-+` at indentation 0-3 with trailing spaces; at top
      level and inside list items (not inside block quotes: the recorded finding `setext-in-quote`).
  `T3.oks` is the decidable admissibility predicate.  Not covered: tabs, unclosed fences, a fence directly adjacent to another
  block, a fence at indentation 1-3 as the first block of a list item or directly behind a list, whitespace-only content lines
  inside list items, and what `T2` already excludes.
  `CodeFence.read` is that of /repo since 99c8328 (before it, a content line beginning with the fence and one word long
  closed the block); sample in Proofs/ComposeCode2.lean.
-/
import Mistletoe.Proofs.ComposeEmbed
namespace Mistletoe.Props.C03C
open Mistletoe Mistletoe.Block Mistletoe.Html Mistletoe.InertInline Mistletoe.ComposeC

/-- **The document written from a tree with code blocks and setext headings parses back to that tree**: for every admissible
    forest `ts` (`T3.oks`), under the default block token list and every covered span list, `Document(write(ts))` - from the
    lines and from the `str` - is exactly `blocks3 1 ts`: a `CodeFence` token per fenced block with `language` = the first word
    of the info string (escapes and character references resolved), the indentation, the fence, the info string and `content`
    = the content lines with the opening indentation removed; a `SetextHeading` token per setext heading with its level and
    text lines; everything else as in Props/C03_Lists.lean; every token on the line the writer put it on; no definitions. -/
theorem C03_code_document_partial (cfg : Document.Cfg) (ti : Bool)
    (hb : cfg.block = { types := Props.C14.defaultTypes, tableInterrupt := ti })
    (ht : ∀ t ∈ cfg.span, inertClass t = true) (hc : cfg.span.count .lineBreak = 1)
    (ts : List T3) (h : T3.oks ts = true) (hne : ts ≠ []) (gas : Nat) (hg : needs3 ts ≤ gas) :
    Document.parseLines cfg gas (writes3 ts) = .ok { kids := blocks3 1 ts, footnotes := [] } ∧
    Document.parse cfg gas (writes3 ts).flatten = .ok { kids := blocks3 1 ts, footnotes := [] } :=
  Mistletoe.ComposeC.C03_code_document_partial cfg ti hb ht hc ts h hne gas hg

/-- **… and the HTML renderer gives, byte for byte, the HTML written directly from the tree** (`htmlOf3`: a fenced block is
    `<pre><code class="language-…">` - no `class` without a language -, the escaped content, `</code></pre>`; a setext
    heading is `<h1>` / `<h2>` around the escaped text lines), for every option set, through the parse-and-render pipeline of
    the working tree's HTML configuration. -/
theorem C03_code_html_partial (o : Opts) (ts : List T3) (h : T3.oks ts = true) (hne : ts ≠ []) (gas : Nat) (hg : needs3 ts ≤ gas) :
    Config.renderHtml o gas (writes3 ts).flatten = some (htmlOf3 o ts) :=
  Mistletoe.ComposeC.C03_code_html_partial o ts h hne gas hg

end Mistletoe.Props.C03C
