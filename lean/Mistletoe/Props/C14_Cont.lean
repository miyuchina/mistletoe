/-
  C14 (continuation lines); the proofs are in Proofs/InertCont.lean.

  `inertLine` (Props/C14.lean) asks of every line what is only needed of the FIRST line of a paragraph.  A later line only has
  to survive `Paragraph.read`: not blank, no `check_interrupts_paragraph` fires, not a setext underline - `inertCont`.  It may
  begin with `[` (a definition cannot interrupt a paragraph), be an ordered-list-looking line not numbered 1, a lone `*` / `+`,
  be indented four or more spaces, start an HTML block of condition 7.  The table condition stays (a delimiter row on a LATER
  line ends the paragraph before it: model and code agree).
-/
import Mistletoe.Proofs.InertCont
namespace Mistletoe.Props.C14C
open Mistletoe Mistletoe.Py Mistletoe.Scan Mistletoe.Block
open Mistletoe Mistletoe.Py Mistletoe.Scan Mistletoe.Block Mistletoe.Inline Mistletoe.InertInline Mistletoe.InertInline5
open Mistletoe.Html Mistletoe.Escape Mistletoe.InertCont
open Mistletoe.Props.C14

/-- the condition on continuation lines is weaker than `inertLine` -/
theorem C14_inertCont_weaker (l : Str) (h : inertLine l = true) : inertCont l = true :=
  Mistletoe.Props.C14.C14_inertCont_weaker l h

/-- **Block phase**: a first line that is `inertLine` and later lines that are `inertCont` form ONE paragraph entry, for every
    token list containing Paragraph. -/
theorem C14_block_phase_cont (cfg : Cfg) (hpar : .paragraph ∈ cfg.types) (l0 : Str) (tl : List Str)
    (h0 : inertLine l0 = true) (h : ∀ s ∈ tl, inertCont s = true) (gas : Nat) :
    blockPhase cfg (gas + (cfg.types.length + 4)) (l0 :: tl) =
      .ok ({ entries := [.paragraph (l0 :: tl) 1 1], loose := false }, {}) :=
  Mistletoe.Props.C14.C14_block_phase_cont cfg hpar l0 tl h0 h gas

/-- **End to end** with the widest inline condition (`inertBody5` of the joined stripped text): one paragraph of raw text and soft
    breaks, rendered `<p>` + escaped text + `</p>`, for every option set. -/
theorem C14_prose_text6 (cfg : Document.Cfg) (hpar : .paragraph ∈ cfg.block.types)
    (ht : ∀ t ∈ cfg.span, inertClass t = true) (hc : cfg.span.count .lineBreak = 1)
    (l0 : Str) (tl : List Str) (h1 : ∀ l ∈ l0 :: tl, oneLine l = true)
    (h0 : inertLine l0 = true) (hk : ∀ l ∈ tl, inertCont l = true)
    (hl : ∀ l ∈ l0 :: tl, proseLine l = true)
    (hi : inertBody5 (Document.joinNl ((l0 :: tl).map strip)) = true) (gas : Nat) :
    Document.parse cfg (gas + (cfg.block.types.length + 4)) (l0 :: tl).flatten =
        .ok { kids := [.paragraph (proseInlines ((l0 :: tl).map strip)) 1], footnotes := [] } ∧
    ∀ o : Opts, render o { kids := [.paragraph (proseInlines ((l0 :: tl).map strip)) 1], footnotes := [] } =
        "<p>".toList ++ escapeHtmlText o.dq o.sq (Document.joinNl ((l0 :: tl).map strip)) ++ "</p>\n".toList :=
  Mistletoe.Props.C14.C14_prose_text6 cfg hpar ht hc l0 tl h1 h0 hk hl hi gas

end Mistletoe.Props.C14C
