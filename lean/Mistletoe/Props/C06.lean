/-
  C06 — property theorems only, about the model of mistletoe/core_tokens.py (`Mistletoe.Core`):
  `find_core_tokens`, `find_link_image`, `process_emphasis`, `Delimiter.remove`.

  Second clause, no inline text makes the parser fail (proofs in Proofs/CoreTotal.lean): in the model every
  Python indexing that could raise is an explicit `.err .index` / `.err .type`, and both loops take fuel
  (`.err .fuel`); the theorems say none of the three can happen, for every string and every table of link
  reference definitions.

  First clause, the emphasis structure is the specification's: the opener bottoms of `process_emphasis` are an
  optimisation only (Proofs/EmphSpec.lean), and the matches are the emphasis nodes of `Spec/Emphasis.lean` /
  `Spec/EmphasisEsc.lean` (Proofs/EmphRefine.lean, Proofs/EmphRefineEsc.lean).  The HTML output is the subject of
  Props/C06_Html.lean.
-/
import Mistletoe.Proofs.CoreTotal
import Mistletoe.Proofs.EmphSpec
import Mistletoe.Proofs.EmphRefine
import Mistletoe.Proofs.EmphRefineEsc
import Mistletoe.Proofs.Lit
namespace Mistletoe.Props.C06
open Mistletoe Mistletoe.Core

/-- **The inline core never fails.**  For every inline text `s` and every table `fn` of link
    reference definitions, `find_core_tokens(s, root)` returns a list of matches: no delimiter or
    string index is ever out of range (`IndexError`), no `None` is used as a match (`TypeError`),
    and both loops end within the fuel the model gives them (`len(s) + 2` iterations of the
    character loop, `2·len(s) + 2·len(delimiters) + 4` iterations of each `process_emphasis`
    loop), i.e. the scan terminates. -/
theorem C06_core_never_fails (s : Str) (fn : Footnotes.Table) :
    ∃ r, findCoreTokens s fn = .ok r :=
  findCoreTokens_ok s fn

/-- **`tokenize_inner` is total.**  Under every list of span token classes and every table of link
    reference definitions, tokenizing the inline text `s` returns a list of span tokens; it never
    raises and never runs out of fuel. -/
theorem C06_tokenize_inner_total (types : List Inline.STok) (fn : Footnotes.Table) (s : Str) :
    ∃ ks, Inline.tokenizeInner types fn s = .ok ks :=
  tokenizeInner_ok types fn s

/-- the match is a `Strong` or an `Emphasis` token (not a link or an image) -/
def IsEmph (m : CoreM) : Prop := m.kind = .strong ∨ m.kind = .emphasis

instance (m : CoreM) : Decidable (IsEmph m) := by unfold IsEmph; exact inferInstance

/-- **Emphasis matches are well formed.**  Every `Strong`/`Emphasis` match that `find_core_tokens`
    returns lies inside the string, has an opening delimiter `[start, ts)`, a non-empty text
    `[ts, te)` and a closing delimiter `[te, stop)` in this order, the two delimiters have the same
    width, the width is 2 for `Strong` and 1 for `Emphasis`, and the token's `delimiter` attribute
    is the first character of the opening delimiter. -/
theorem C06_emphasis_wellformed (s : Str) (fn : Footnotes.Table) (ms : List CoreM) (codes : List InlineScan.CodeM)
    (h : findCoreTokens s fn = .ok (ms, codes)) :
    ∀ m ∈ ms, IsEmph m →
      m.start < m.ts ∧ m.ts < m.te ∧ m.te < m.stop ∧ m.stop ≤ s.length ∧
      m.ts - m.start = m.stop - m.te ∧
      ((m.kind = .strong ∧ m.ts - m.start = 2) ∨ (m.kind = .emphasis ∧ m.ts - m.start = 1)) ∧
      s[m.start]? = some m.delimiter := by
  intro m hm he
  have hD := findCoreTokens_inv h
  have hw := (hD.cinv.dinv.wf m (List.mem_reverse.2 hm) he).1
  exact ⟨hw.lt_ts, hD.nonempty m (List.mem_reverse.2 hm) he, hw.te_lt, hw.stop_le, hw.width, hw.kind, hw.delim⟩

/-- **Emphasis matches nest.**  In the list `find_core_tokens` returns (in the order the matches
    were found), a `Strong`/`Emphasis` match found earlier (`a`) and one found later (`b`) are
    either disjoint, or the earlier one lies inside the text `[ts, te)` of the later one.  (A later
    match is never inside an earlier one, and two matches never overlap partially.) -/
theorem C06_emphasis_nested (s : Str) (fn : Footnotes.Table) (ms : List CoreM) (codes : List InlineScan.CodeM)
    (h : findCoreTokens s fn = .ok (ms, codes)) :
    ms.Pairwise (fun a b => IsEmph a → IsEmph b →
      a.stop ≤ b.start ∨ b.stop ≤ a.start ∨ (b.ts ≤ a.start ∧ a.stop ≤ b.te)) :=
  (List.pairwise_reverse.1 (findCoreTokens_inv h).cinv.dinv.nest).imp (fun hab ha hb => hab hb ha)

/-- The same for any two different positions of the result: disjoint or properly nested. -/
theorem C06_emphasis_disjoint_or_nested (s : Str) (fn : Footnotes.Table) (ms : List CoreM)
    (codes : List InlineScan.CodeM) (h : findCoreTokens s fn = .ok (ms, codes))
    (i j : Nat) (hi : i < ms.length) (hj : j < ms.length) (hij : i ≠ j) (hei : IsEmph ms[i]) (hej : IsEmph ms[j]) :
    ms[i].stop ≤ ms[j].start ∨ ms[j].stop ≤ ms[i].start ∨
    (ms[j].ts ≤ ms[i].start ∧ ms[i].stop ≤ ms[j].te) ∨ (ms[i].ts ≤ ms[j].start ∧ ms[j].stop ≤ ms[i].te) := by
  have hp := List.pairwise_iff_getElem.1 (C06_emphasis_nested s fn ms codes h)
  rcases Nat.lt_or_gt_of_ne hij with hlt | hlt
  · rcases hp i j hi hj hlt hei hej with h1 | h1 | h1
    · exact Or.inl h1
    · exact Or.inr (Or.inl h1)
    · exact Or.inr (Or.inr (Or.inl h1))
  · rcases hp j i hj hi hlt hej hei with h1 | h1 | h1
    · exact Or.inr (Or.inl h1)
    · exact Or.inl h1
    · exact Or.inr (Or.inr (Or.inr h1))

/-- **Delimiter characters.**  For every text and every table of definitions, the characters of
    both delimiters of every `Strong`/`Emphasis` match are all equal to the token's `delimiter`
    attribute, which is `*` or `_`.

    This was false for the code as first pinned (`!\*[a*` gave an `Emphasis` whose opening delimiter
    was `[`; `**a *b**\` gave a `Strong` whose closing delimiter was `*\`); it holds for the code
    repaired by /repo commits 88886ba and 501955e, which this model follows: see the examples at the end of this file. -/
theorem C06_emphasis_delimiters (s : Str) (fn : Footnotes.Table)
    (ms : List CoreM) (codes : List InlineScan.CodeM) (h : findCoreTokens s fn = .ok (ms, codes)) :
    ∀ m ∈ ms, IsEmph m →
      (m.delimiter = '*' ∨ m.delimiter = '_') ∧
      (∀ k, m.start ≤ k → k < m.ts → s[k]? = some m.delimiter) ∧
      (∀ k, m.te ≤ k → k < m.stop → s[k]? = some m.delimiter) := by
  intro m hm he
  have hc := (findCoreTokens_inv h).cinv.ch m (List.mem_reverse.2 hm) he
  exact ⟨hc.star, hc.opening, hc.closing⟩

/-! Non-vacuity: the kernel evaluates the model on concrete texts. -/

/-- the input that raised `IndexError` in the pinned code before `Delimiter.type` and `number`
    were kept in step -/
example : (findCoreTokens "**a****b*".toList []).isOk = true := by decide_lit

/-- (start, text start, text end, end, kind) of the matches `find_core_tokens` returns, in the order
    they were appended; `none` if it failed -/
def spans (s : String) (fn : Footnotes.Table := []) : Option (List (Nat × Nat × Nat × Nat × Kind)) :=
  match findCoreTokens s.toList fn with
  | .ok (ms, _) => some (ms.map (fun m => (m.start, m.ts, m.te, m.stop, m.kind)))
  | .err _ => none

/-- what the historical crash input returns: one emphasis, `*b*` -/
example : spans "**a****b*" = some [(6, 7, 8, 9, .emphasis)] := by decide +kernel

/-- strong inside emphasis: `***a** b*` -/
example : spans "***a** b*" = some [(1, 3, 4, 6, .strong), (0, 1, 8, 9, .emphasis)] := by decide +kernel

/-- emphasis inside strong inside emphasis, with `_` and `*` mixed -/
example : spans "_x **y *z* y** x_" =
    some [(7, 8, 9, 10, .emphasis), (3, 5, 12, 14, .strong), (0, 1, 16, 17, .emphasis)] := by decide +kernel

/-- a link whose text contains emphasis, followed by emphasis -/
example : spans "[*a*](u) **b**" =
    some [(1, 2, 3, 4, .emphasis), (0, 1, 4, 8, .link), (9, 11, 12, 14, .strong)] := by decide +kernel

example : ∃ ks, Inline.tokenizeInner [.escapeSequence, .coreTokens, .inlineCode] [] "**a****b*".toList = .ok ks :=
  C06_tokenize_inner_total _ _ _

/-! The two theorems about emphasis apply to these results. -/

example : ∀ m ∈ [({ start := 1, stop := 6, kind := .strong, ts := 3, te := 4, dest := [], title := [], delimiter := '*' } : CoreM),
                  { start := 0, stop := 9, kind := .emphasis, ts := 1, te := 8, dest := [], title := [], delimiter := '*' }],
    IsEmph m → m.start < m.ts ∧ m.ts < m.te ∧ m.te < m.stop ∧ m.stop ≤ "***a** b*".toList.length ∧
      m.ts - m.start = m.stop - m.te ∧
      ((m.kind = .strong ∧ m.ts - m.start = 2) ∨ (m.kind = .emphasis ∧ m.ts - m.start = 1)) ∧
      "***a** b*".toList[m.start]? = some m.delimiter :=
  C06_emphasis_wellformed "***a** b*".toList [] _ [] (by decide_lit)

example : ∀ m ∈ [({ start := 1, stop := 6, kind := .strong, ts := 3, te := 4, dest := [], title := [], delimiter := '*' } : CoreM),
                  { start := 0, stop := 9, kind := .emphasis, ts := 1, te := 8, dest := [], title := [], delimiter := '*' }],
    IsEmph m → (m.delimiter = '*' ∨ m.delimiter = '_') ∧
      (∀ k, m.start ≤ k → k < m.ts → "***a** b*".toList[k]? = some m.delimiter) ∧
      (∀ k, m.te ≤ k → k < m.stop → "***a** b*".toList[k]? = some m.delimiter) :=
  C06_emphasis_delimiters "***a** b*".toList [] _ [] (by decide_lit)

/-! ### The inputs on which the delimiter-character clause failed before the repair

  * `!\*[a*` used to give an `Emphasis` `[3, 6)` with `delimiter = '['` (rendered
    `<p>!*<em>a</em></p>`): `in_image` survived the escaped `*`, so the `![` delimiter was built
    from `"*["`.  Now `in_image` is reset by an escaped character and by a code span.
  * `**a *b**\` used to give a `Strong` `[0, 9)` whose closing delimiter was `*\` (the trailing
    backslash was lost): the pending run was closed by `Delimiter(start, i, string)` without
    looking at `escaped`.  Now the run ends before the backslash.
  * `!` + a code span + `[a](b)` lost its link for the same reason as the first. -/

/-- no emphasis any more; `mistletoe.markdown` gives `<p>!*[a*</p>` -/
example : findCoreTokens "!\\*[a*".toList [] = .ok ([], []) := by decide_lit

/-- two nested `Emphasis` whose delimiters are all `*`, the backslash stays outside;
    `mistletoe.markdown` gives `<p>*<em>a <em>b</em></em>\</p>` -/
example : findCoreTokens "**a *b**\\".toList [] =
    .ok ([{ start := 4, stop := 7, kind := .emphasis, ts := 5, te := 6, dest := [], title := [], delimiter := '*' },
          { start := 1, stop := 8, kind := .emphasis, ts := 2, te := 7, dest := [], title := [], delimiter := '*' }], []) := by
  decide_lit

/-- the link after `!` and a code span is found -/
example : spans "!`x`[a](b)" = some [(4, 5, 6, 10, .link)] := by decide +kernel

/-! ### The opener bottoms of `process_emphasis` are sound (first clause of C06, step 1)

  `process_emphasis` records, per closer kind (delimiter character, whether the closer can also
  open, original run length modulo 3), a lower bound below which no opener has to be looked for
  (the specification's "openers_bottom"), and re-indexes the bounds after every match.  The
  theorems say this is only an optimisation: the opener found, the matches and the remaining
  delimiters are those of the plain algorithm that always searches down to the stack bottom
  (`emphLoopNB`, `processEmphasisNB`, `findCoreTokensNB` in Proofs/EmphSpec.lean). -/

/-- **The recorded bottoms never change which opener is found.**  `BInv sb ds bs curr` is the
    invariant of `bottoms`: every recorded bound lies below the current closer and not below the
    stack bottom, and no delimiter between the stack bottom and the bound is an opener that a
    closer with that key accepts.  It holds for the empty `bottoms` and is kept by every iteration
    (`BInv.step`).  Under it, searching down to the bound recorded for the closer's key finds the
    same opener as searching down to the stack bottom. -/
theorem C06_bottoms_sound (sb : Option Nat) (ds : List Delim) (bs : List (BKey × Option Nat)) (curr : Nat)
    (closer : Delim) (ch : Char) (hB : BInv sb ds bs curr)
    (hall : ∀ d ∈ ds, d.emph = true → d.type ≠ [])
    (hc : ds[curr]? = some closer) (hh : closer.type.head? = some ch) (hcl : closer.closes = true) :
    matchingOpener curr ds (bottomsGet bs (ch, closer.opens, closer.runLength % 3) sb) =
      matchingOpener curr ds sb :=
  bottoms_sound sb ds bs curr closer ch hB hall hc hh hcl

/-- **`process_emphasis` = `process_emphasis` without bottoms**, for every delimiter list that
    satisfies the chain invariant (well-formed, ordered, disjoint delimiters inside the string) and
    whose stack-bottom delimiter (the `[` / `![` of the link being closed) is not an emphasis
    delimiter: same matches, same remaining delimiters, same (absence of) error. -/
theorem C06_process_emphasis_no_bottoms (s : Str) (sb : Option Nat) (lo hi : Nat) (hhi : hi ≤ s.length)
    (ds : List Delim) (ms : List CoreM) (hC : Chain lo hi ds)
    (hsb : ∀ x d, sb = some x → ds[x]? = some d → d.emph = false) :
    processEmphasis s sb ds ms = processEmphasisNB s sb ds ms :=
  processEmphasis_eq_noBottoms s sb lo hi hhi ds ms hC hsb

/-- **`find_core_tokens` does not depend on the bottoms**, unconditionally: for every text and every
    table of definitions, it returns exactly what it returns when every `process_emphasis` call
    (those made by `find_link_image` and the final one) searches openers down to the stack bottom
    without any bottoms bookkeeping. -/
theorem C06_find_core_tokens_no_bottoms (s : Str) (fn : Footnotes.Table) :
    findCoreTokens s fn = findCoreTokensNB s fn :=
  findCoreTokens_eq_noBottoms s fn

/-- non-vacuity: the loop without bottoms evaluates; here closers fail to find an opener (which
    records bottoms in the real loop) before later closers match -/
example : (match findCoreTokensNB "a* *b c* **d* e**".toList [] with
    | .ok (ms, _) => some (ms.map (fun m => (m.start, m.ts, m.te, m.stop, m.kind)))
    | .err _ => none) =
    some [(3, 4, 7, 8, .emphasis), (10, 11, 12, 13, .emphasis), (9, 10, 15, 16, .emphasis)] := by decide +kernel

example : findCoreTokens "a* *b c* **d* e**".toList [] = findCoreTokensNB "a* *b c* **d* e**".toList [] :=
  C06_find_core_tokens_no_bottoms _ _

/-- the invariant of `bottoms` holds at the start of every `process_emphasis` -/
example (sb : Option Nat) (ds : List Delim) (curr : Nat) : BInv sb ds [] curr := fun e he => by cases he

/-! ### The matches are the specification's

  `Mistletoe/Spec/Emphasis.lean` is an independent formal reading of CommonMark 0.30 section 6.2 and of the appendix
  "An algorithm for parsing nested emphasis and links" (delimiter runs, left/right flanking with the specification's
  own definition of Unicode whitespace, the restrictions on `_`, *process emphasis* with `openers_bottom`, the rule of
  three on original run lengths, strong iff both runs have two or more delimiters left).  It does not import the model
  of core_tokens.py; 114 of the 131 examples of that section are kernel-evaluated against it in the file itself, and
  the harness ties it to the Python oracle (harness/spec_emph.py) on every run (unit `spec.emph`). -/

open Mistletoe.EmphRefine

/-- **The emphasis structure is the specification's.**  For every inline text `s` without backslash, backquote,
    brackets, `<` and `&` (`Spec.Emphasis.plain`: the property's "letters, spaces, punctuation and runs of `*` and
    `_`") that contains none of the eight code points U+000B, U+001C-U+001F, U+0085, U+2028, U+2029 (`StdWs`, see
    `C06_whitespace_deviation`), and every table of definitions: `find_core_tokens(s, root)` does not fail, returns no
    code span, and its matches are - one for one, in the order found - the emphasis nodes the specification's algorithm
    computes for `s`: same opening delimiter `[start, ts)`, same closing delimiter `[te, stop)`, same kind. -/
theorem C06_emphasis_is_spec_partial (s : Str) (fn : Footnotes.Table) (hp : Spec.Emphasis.plain s = true) (hw : StdWs s) :
    ∃ ms, findCoreTokens s fn = .ok (ms, []) ∧
      ms = (Spec.Emphasis.emphasis s).map (toCoreM s) ∧
      (∀ m ∈ ms, m.kind = .strong ∨ m.kind = .emphasis) ∧
      ms.map (fun m => (m.start, m.ts, m.te, m.stop, m.kind == .strong)) = Spec.Emphasis.spans s :=
  Mistletoe.EmphRefine.C06_emphasis_is_spec_partial s fn hp hw

/-- **… with backslash escapes** (`Spec/EmphasisEsc.lean`: after an unescaped backslash an ASCII punctuation character is
    escaped, anything else leaves the backslash literal; delimiter runs are made of UNescaped `*`/`_` only; flanking reads the
    source characters next to the run; the same *process emphasis*): for every text without backquote, brackets, `<`, `&`
    - backslashes allowed - and without the eight exotic whitespace code points, the matches of `find_core_tokens` are, one
    for one and in order, the specification's emphasis nodes. -/
theorem C06_emphasis_is_spec_esc_partial (s : Str) (fn : Footnotes.Table) (hp : Spec.EmphasisEsc.plainEsc s = true) (hw : StdWs s) :
    ∃ ms, findCoreTokens s fn = .ok (ms, []) ∧
      ms = (Spec.EmphasisEsc.emphasisEsc s).map (toCoreM s) ∧
      (∀ m ∈ ms, m.kind = .strong ∨ m.kind = .emphasis) ∧
      ms.map (fun m => (m.start, m.ts, m.te, m.stop, m.kind == .strong)) = Spec.EmphasisEsc.spansEsc s :=
  Mistletoe.EmphRefineEsc.C06_emphasis_is_spec_esc_partial s fn hp hw

/-- the two specifications coincide on texts without backslash -/
theorem C06_specs_coincide (s : Str) (hp : Spec.Emphasis.plain s = true) :
    Spec.EmphasisEsc.emphasisEsc s = Spec.Emphasis.emphasis s :=
  Mistletoe.EmphRefineEsc.emphasisEsc_plain s hp

/-- without the whitespace hypothesis: `find_core_tokens` is the specification's *process emphasis* run on the
    specification's delimiter runs classified by mistletoe's own `is_opener` / `is_closer` (`runsM`) -/
theorem C06_emphasis_is_spec_process (s : Str) (fn : Footnotes.Table) (hp : Spec.Emphasis.plain s = true) :
    findCoreTokens s fn = .ok ((Spec.Emphasis.process (runsM s)).map (toCoreM s), []) :=
  C06_emphasis_is_process s fn hp

/-- **Where mistletoe and the specification differ**: `core_tokens.unicode_whitespace` is the specification's Unicode
    whitespace plus eight code points (control characters and line/paragraph separators) the specification does not
    count as whitespace; next to a delimiter run they change the flanking: `*␟a*` (U+001F) stays literal in mistletoe
    and is emphasis in the specification.  Kernel-evaluated on the model and the Lean specification; reproduced on the
    real code by the harness (`c06.theorem` note).  Control characters are outside the property's alphabet. -/
theorem C06_whitespace_deviation :
    (∀ c : Char, uniWs c = (Spec.Emphasis.isUnicodeWhitespace c || deviantWs c)) ∧
    Spec.Emphasis.plain "*\x1fa*".toList = true ∧ findCoreTokens "*\x1fa*".toList [] = .ok ([], []) ∧
    Spec.Emphasis.spans "*\x1fa*".toList = [(0, 1, 3, 4, false)] :=
  ⟨uniWs_eq, not_refines_deviant⟩


end Mistletoe.Props.C06
