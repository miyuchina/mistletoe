/-
  C07 — Link reference definitions: position-independent, first wins, case-folded.

  Proved here for every list of definitions (in the order `append_footnotes` is called) and every
  label: a reference resolves to the destination and title of the FIRST definition whose label
  equals the reference's after normalisation (`normalize_label`: case folding after whitespace
  collapsing), and to nothing when there is none.
  That every inline parse sees the final table (two-phase parse) is `C07_two_phase` below; that the
  call order is document order at any nesting depth is Props/C07_Order.lean.
-/
import Mistletoe.Model.Footnotes
import Mistletoe.Model.Document
import Mistletoe.Proofs.Lit
import Mistletoe.Proofs.Pipeline
namespace Mistletoe.Props.C07
open Mistletoe Mistletoe.Footnotes

theorem lookup_append (t u : Table) (k : Str) : lookup (t ++ u) k = (lookup t k).or (lookup u k) := by
  unfold lookup
  rw [List.find?_append]
  cases t.find? (fun e => e.1 == k) <;> rfl

theorem lookup_addDef (t : Table) (d : Def) (k : Str) :
    lookup (addDef t d) k = (lookup t k).or (if normalizeLabel d.1 == k then some (d.2.1, d.2.2) else none) := by
  unfold addDef
  by_cases h : (lookup t (normalizeLabel d.1)).isSome
  · rw [if_pos h]
    by_cases hk : normalizeLabel d.1 == k
    · rw [← eq_of_beq hk, Option.or_of_isSome h]
    · rw [if_neg hk, Option.or_none]
  · rw [if_neg h, lookup_append]
    unfold lookup
    rw [List.find?_singleton]
    cases normalizeLabel d.1 == k <;> rfl

theorem foldl_addDef (defs : List Def) (t : Table) (k : Str) :
    lookup (defs.foldl addDef t) k =
      (lookup t k).or ((defs.find? (fun d => normalizeLabel d.1 == k)).map (fun d => (d.2.1, d.2.2))) := by
  induction defs generalizing t with
  | nil => simp
  | cons d ds ih =>
    rw [List.foldl_cons, ih, lookup_addDef, Option.or_assoc, List.find?_cons]
    cases normalizeLabel d.1 == k <;> rfl

/-- **First wins, case-folded**: a reference with label `lbl` resolves to the destination and title
    of the first definition (in `append_footnotes` call order) whose label normalises to the same
    key, wherever that definition is; with no such definition it does not resolve. -/
theorem C07_first_wins (defs : List Def) (lbl : Str) :
    resolve (footnotesOf defs) lbl =
      (defs.find? (fun d => normalizeLabel d.1 == normalizeLabel lbl)).map (fun d => (d.2.1, d.2.2)) := by
  unfold resolve footnotesOf
  rw [foldl_addDef]
  simp [lookup]

/-- **Later duplicates never change an earlier answer.** -/
theorem C07_later_definitions_irrelevant (defs more : List Def) (lbl : Str)
    (h : (resolve (footnotesOf defs) lbl).isSome) :
    resolve (footnotesOf (defs ++ more)) lbl = resolve (footnotesOf defs) lbl := by
  rw [C07_first_wins, C07_first_wins] at *
  rw [List.find?_append]
  cases hf : defs.find? (fun d => normalizeLabel d.1 == normalizeLabel lbl) with
  | none => simp [hf] at h
  | some d => simp

/-- **Unresolved stays unresolved**: with no matching definition the lookup fails (the reference is
    left as literal text by `match_link_image`). -/
theorem C07_unresolved (defs : List Def) (lbl : Str)
    (h : ∀ d ∈ defs, normalizeLabel d.1 ≠ normalizeLabel lbl) : resolve (footnotesOf defs) lbl = none := by
  rw [C07_first_wins]
  have : defs.find? (fun d => normalizeLabel d.1 == normalizeLabel lbl) = none := by
    rw [List.find?_eq_none]
    intro d hd
    simpa using h d hd
  simp [this]

/-! Non-vacuity and the Unicode clause: `ẞ`, `SS` and `ss` are one label; inner whitespace collapses. -/

/-- the three examples as one evaluation: each evaluation of `normalize_label` first walks the whole case-folding
    table, which the kernel does once per declaration -/
theorem demo_norm : normalizeLabel "  Foo \n  BAR ".toList = "foo bar".toList ∧
    normalizeLabel "ẞ".toList = normalizeLabel "SS".toList ∧
    resolve (footnotesOf [("Foo".toList, "/first".toList, []), ("FOO".toList, "/second".toList, [])]) "fOO".toList
      = some ("/first".toList, []) := by decide_lit

example : normalizeLabel "  Foo \n  BAR ".toList = "foo bar".toList := demo_norm.1
example : normalizeLabel "ẞ".toList = normalizeLabel "SS".toList := demo_norm.2.1
example : resolve (footnotesOf [("Foo".toList, "/first".toList, []), ("FOO".toList, "/second".toList, [])]) "fOO".toList
    = some ("/first".toList, []) := demo_norm.2.2


/-! ### Position independence: the two-phase parse (over the whole-document model)

  `Document.parseLines` (model of `Document.__init__`): the block phase runs over the WHOLE document,
  containers included, collecting every definition handed to `append_footnotes` in call order
  (`st.defs`); only then are the block tokens constructed, and every inline tokenization, at every
  nesting depth, is given the one table built from all of them.  So whether a definition sits before or
  after its use, at top level or inside a block quote or list item, cannot matter: there is one table. -/

open Mistletoe.Document in
/-- **All inline content of a document is resolved against one table, built from every definition of
    the document**: if `Document(lines)` returns `d`, then there are a parse buffer `buf` and a final
    block-phase state `st` with `blockPhase = (buf, st)`, the document's `footnotes` is
    `footnotesOf st.defs` (first-wins over all definitions in call order, see `C07_first_wins`), and the
    token tree is `make_tokens buf` computed with exactly that table. -/
theorem C07_two_phase (cfg : Document.Cfg) (gas : Nat) (lines : List Str) (d : Doc)
    (h : parseLines cfg gas lines = .ok d) :
    ∃ buf st, Block.blockPhase cfg.block gas lines = .ok (buf, st) ∧
      d.footnotes = Document.footnotesOf st.defs ∧
      mkBlocks cfg (Document.footnotesOf st.defs) buf.entries = .ok d.kids := by
  obtain ⟨buf, st, hb, hk, hf⟩ := Pipeline.parseLines_ok h
  exact ⟨buf, st, hb, hf, hk⟩

open Mistletoe.Document in
/-- **Definitions produce no output of their own**: the constructor of a `Footnote` entry returns no
    token (`None`), whatever the table and the configuration. -/
theorem C07_definitions_no_token (cfg : Document.Cfg) (fn : Footnotes.Table) (ms : List Block.FnMatch) (ln og : Nat) :
    mkBlock cfg fn (.footnote ms ln og) = .ok none := by
  simp [mkBlock]

end Mistletoe.Props.C07
