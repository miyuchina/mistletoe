/-
  C09 — Markdown round trip.

  "Rendering a parsed document back to Markdown yields text that parses to the same document (identical
  HTML and identical link definitions); rendering that text again reproduces it byte for byte; and a
  document already written in the renderer's own normal form is reproduced byte for byte."

  The Markdown renderer is modelled in `Model/Markdown.lean` (`Markdown.renderRes` / `Markdown.render`,
  tied to mistletoe/markdown_renderer.py by the correspondence unit `md.render`, harness/md_units.py).
  Proved here, for the **prose fragment** (everything is `_partial`: the fragment is a hypothesis):

  documents made of paragraphs of inert prose lines (the C14 hypotheses: no block pattern fires on a line —
  `inertLine`; every line is text + "\n" without whitespace at either end of the text — `proseLine` and
  `lstrip l = l`; the stripped lines joined by "\n" are inline-inert — `inertBody`), separated by single
  empty lines ("\n"), parsed under token lists that contain `Paragraph` and `BlankLine` (the Markdown
  renderer's lists).

  Exact reproduction (the third clause, `C09_prose_exact_partial`) comes first; idempotence and same meaning are
  corollaries of it, the rendered text being the original.  Then the same documents inside `k` nested block quotes
  written the way the renderer writes them ("> " before every line), via C04; and the fragment `Blk`: prose paragraphs,
  ATX headings `# text` and thematic breaks `***`/`---`/`___` separated by single empty lines, inside `k` ≥ 0 quotes.
  The `…_markdown` theorems are those for the lists the `MarkdownRenderer` of the working tree installs
  (`Config.markdown`, regenerated from /repo).
  Gas.  Prose: `2 * rest.length + types.length + 4` is what `C14.tokenize_blank_separated` asks (15 for the eleven types of
  `markdownTypes`), `pre.length + 3` per quote level what `MdRound.parseLines_quoted` adds (8: five types stand before `Quote`
  in `markdownTypes`, `MdRound.exact_markdown`).  Blocks: `2 * rest.length + 14`, see `MdRoundDoc.tokenize_doc`.
-/
import Mistletoe.Proofs.MdRoundDoc
import Mistletoe.Proofs.Lit
namespace Mistletoe.Props.C09
open Mistletoe Mistletoe.Py Mistletoe.Block Mistletoe.Inline Mistletoe.InertInline Mistletoe.MdRound
open Mistletoe.Props.C14 (inertLine joinBlank markdownTypes)

/-- One paragraph in the renderer's normal form (decidable): at least one line; on every line no block
    pattern fires (`inertLine`), the line is text + "\n" with no whitespace at either end of the text
    (`proseLine`, `lstrip l == l`) and contains no other line-boundary character (`oneLine`); the lines
    without their "\n", joined by "\n", are inline-inert (`inertBody`: no backslash, backquote, `<` that could
    begin a tag, `&` that could begin a character reference, `~~`, closing bracket after an opening one,
    emphasis run that can both open and close). -/
def normalPara (q : List Str) : Bool :=
  !q.isEmpty && q.all (fun l => inertLine l && proseLine l && lstrip l == l && oneLine l)
    && inertBody (Document.joinNl (q.map strip))

/-- the lines of the document: paragraphs `p, q₁, q₂, …` with one "\n" line between consecutive ones -/
abbrev docLines (p : List Str) (rest : List (List Str)) : List Str := joinBlank p rest

abbrev docText (p : List Str) (rest : List (List Str)) : Str := (joinBlank p rest).flatten

structure ParaFacts (q : List Str) : Prop where
  ne : q ≠ []
  inert : ∀ l ∈ q, inertLine l = true
  prose : ∀ l ∈ q, proseLine l = true
  flush : ∀ l ∈ q, lstrip l = l
  one : ∀ l ∈ q, oneLine l = true
  body : inertBody (Document.joinNl (q.map strip)) = true

theorem normalPara_facts (q : List Str) (h : normalPara q = true) : ParaFacts q :=
  have f := blkParaFacts_of q h
  ⟨f.ne, f.inert, f.prose, f.flush, f.one, f.body⟩

theorem ParaFacts.para {q : List Str} (f : ParaFacts q) : ProsePara q := ⟨f.ne, f.prose, f.body⟩

theorem oneLine_joinBlank : ∀ (rest : List (List Str)) (p : List Str),
    (∀ l ∈ p, oneLine l = true) → (∀ q ∈ rest, ∀ l ∈ q, oneLine l = true) → ∀ l ∈ joinBlank p rest, oneLine l = true :=
  joinBlank_all (oneLine · = true) (by decide)

/-- **A document already in the renderer's normal form is reproduced byte for byte** (prose fragment).
    For every token configuration whose block types contain `Paragraph` and `BlankLine` and whose span
    classes are covered ones with `LineBreak` once (the Markdown renderer's lists, `C09_prose_exact_markdown`),
    every paragraph list `p, rest` in normal form (`normalPara`), every renderer option set without a line
    limit (`normalize_whitespace` either way) and enough fuel: `Document(lines)` succeeds, the Markdown
    renderer does not raise on it, and its output is exactly the concatenation of the lines.
    `_partial`: the hypothesis `normalPara` restricts the statement to paragraphs of inert prose separated
    by single empty lines; ATX headings and thematic breaks are in `C09_blocks_exact_partial`, lists, code blocks,
    emphasis, setext headings and HTML blocks in Props/C09_Lists.lean, C09_Code.lean, C09_Emph.lean, C09_Setext.lean;
    links are not covered. -/
theorem C09_prose_exact_partial (cfg : Document.Cfg) (hpar : .paragraph ∈ cfg.block.types)
    (hbl : .blankLine ∈ cfg.block.types)
    (ht : ∀ t ∈ cfg.span, inertClass t = true) (hc : cfg.span.count .lineBreak = 1)
    (p : List Str) (rest : List (List Str)) (hp : normalPara p = true) (hrest : ∀ q ∈ rest, normalPara q = true)
    (o : Markdown.Opts) (ho : o.maxLineLength = none) (gas : Nat) :
    ∃ d, Document.parseLines cfg (gas + (2 * rest.length + cfg.block.types.length + 4)) (docLines p rest) = .ok d ∧
      Markdown.renderRes o d = .ok (docText p rest) ∧ Markdown.render o d = docText p rest := by
  have fp := normalPara_facts p hp
  have fr := fun q hq => normalPara_facts q (hrest q hq)
  have hb : cfg.block.types.contains .blankLine = true := by simpa using hbl
  have hphase := C14.C14_blank_separated_phase cfg.block hpar p rest ⟨fp.ne, fp.inert⟩
    (fun q hq => ⟨(fr q hq).ne, (fr q hq).inert⟩) gas
  rw [hb] at hphase
  obtain ⟨d, h1, _, h2, h3⟩ := exact_of_phases cfg _ _ _ _ rfl hphase _
    (mkBlocks_paraEntries cfg (Document.footnotesOf []) ht hc rest p 1 fp.para (fun q hq => (fr q hq).para))
    o ho _ (renderBlocks_prose o rest p 1 fp.prose (fun q hq => (fr q hq).prose))
    (proseOut_lines rest p (fun l hl => ⟨fp.prose l hl, fp.flush l hl⟩)
      (fun q hq l hl => ⟨(fr q hq).prose l hl, (fr q hq).flush l hl⟩))
  exact ⟨d, h1, h2, h3⟩

/-- **The same from a `str`**: `MarkdownRenderer().render(Document(text)) == text` for the text of a prose
    document in normal form. -/
theorem C09_prose_exact_text_partial (cfg : Document.Cfg) (hpar : .paragraph ∈ cfg.block.types)
    (hbl : .blankLine ∈ cfg.block.types)
    (ht : ∀ t ∈ cfg.span, inertClass t = true) (hc : cfg.span.count .lineBreak = 1)
    (p : List Str) (rest : List (List Str)) (hp : normalPara p = true) (hrest : ∀ q ∈ rest, normalPara q = true)
    (o : Markdown.Opts) (ho : o.maxLineLength = none) (gas : Nat) :
    ∃ d, Document.parse cfg (gas + (2 * rest.length + cfg.block.types.length + 4)) (docText p rest) = .ok d ∧
      Markdown.renderRes o d = .ok (docText p rest) ∧ Markdown.render o d = docText p rest := by
  have h1 := oneLine_joinBlank rest p (normalPara_facts p hp).one (fun q hq => (normalPara_facts q (hrest q hq)).one)
  rw [show docText p rest = (joinBlank p rest).flatten from rfl, parse_lines cfg _ (joinBlank p rest) h1]
  exact C09_prose_exact_partial cfg hpar hbl ht hc p rest hp hrest o ho gas

/-- **One paragraph** (several lines) in normal form is reproduced byte for byte. -/
theorem C09_prose_paragraph_exact_partial (cfg : Document.Cfg) (hpar : .paragraph ∈ cfg.block.types)
    (hbl : .blankLine ∈ cfg.block.types)
    (ht : ∀ t ∈ cfg.span, inertClass t = true) (hc : cfg.span.count .lineBreak = 1)
    (p : List Str) (hp : normalPara p = true) (o : Markdown.Opts) (ho : o.maxLineLength = none) (gas : Nat) :
    ∃ d, Document.parse cfg (gas + (cfg.block.types.length + 4)) p.flatten = .ok d ∧
      Markdown.render o d = p.flatten := by
  obtain ⟨d, h1, _, h3⟩ := C09_prose_exact_text_partial cfg hpar hbl ht hc p [] hp (by simp) o ho gas
  exact ⟨d, by simpa [docText, joinBlank] using h1, by simpa [docText, joinBlank] using h3⟩

/-- **One line** of prose in normal form — `text` + "\n" — is reproduced byte for byte. -/
theorem C09_prose_line_exact_partial (cfg : Document.Cfg) (hpar : .paragraph ∈ cfg.block.types)
    (hbl : .blankLine ∈ cfg.block.types)
    (ht : ∀ t ∈ cfg.span, inertClass t = true) (hc : cfg.span.count .lineBreak = 1)
    (l : Str) (hl : normalPara [l] = true) (o : Markdown.Opts) (ho : o.maxLineLength = none) (gas : Nat) :
    ∃ d, Document.parse cfg (gas + (cfg.block.types.length + 4)) l = .ok d ∧ Markdown.render o d = l := by
  have := C09_prose_paragraph_exact_partial cfg hpar hbl ht hc [l] hl o ho gas
  simpa using this

/-- **Rendering the rendered text again reproduces it byte for byte** (prose fragment):
    `render(Document(render(Document(text)))) == render(Document(text))`. -/
theorem C09_prose_idempotent_partial (cfg : Document.Cfg) (hpar : .paragraph ∈ cfg.block.types)
    (hbl : .blankLine ∈ cfg.block.types)
    (ht : ∀ t ∈ cfg.span, inertClass t = true) (hc : cfg.span.count .lineBreak = 1)
    (p : List Str) (rest : List (List Str)) (hp : normalPara p = true) (hrest : ∀ q ∈ rest, normalPara q = true)
    (o : Markdown.Opts) (ho : o.maxLineLength = none) (gas : Nat) :
    ∃ d, Document.parse cfg (gas + (2 * rest.length + cfg.block.types.length + 4)) (docText p rest) = .ok d ∧
      ∃ d', Document.parse cfg (gas + (2 * rest.length + cfg.block.types.length + 4)) (Markdown.render o d) = .ok d' ∧
        Markdown.render o d' = Markdown.render o d := by
  obtain ⟨d, h1, _, h3⟩ := C09_prose_exact_text_partial cfg hpar hbl ht hc p rest hp hrest o ho gas
  refine ⟨d, h1, d, ?_, rfl⟩
  rw [h3]; exact h1

/-- **The rendered text means the same as the original** (prose fragment): under every token
    configuration and fuel, the rendered text parses to the same result as the original text — the same
    `Document` (children and link definitions), hence the same HTML under every HTML option set. -/
theorem C09_prose_same_meaning_partial (cfg : Document.Cfg) (hpar : .paragraph ∈ cfg.block.types)
    (hbl : .blankLine ∈ cfg.block.types)
    (ht : ∀ t ∈ cfg.span, inertClass t = true) (hc : cfg.span.count .lineBreak = 1)
    (p : List Str) (rest : List (List Str)) (hp : normalPara p = true) (hrest : ∀ q ∈ rest, normalPara q = true)
    (o : Markdown.Opts) (ho : o.maxLineLength = none) (gas : Nat) :
    ∃ d, Document.parse cfg (gas + (2 * rest.length + cfg.block.types.length + 4)) (docText p rest) = .ok d ∧
      (∀ (cfg' : Document.Cfg) (g : Nat),
        Document.parse cfg' g (Markdown.render o d) = Document.parse cfg' g (docText p rest)) ∧
      (∀ (ho : Html.Opts) (g : Nat),
        Config.renderHtml ho g (Markdown.render o d) = Config.renderHtml ho g (docText p rest)) := by
  obtain ⟨d, h1, _, h3⟩ := C09_prose_exact_text_partial cfg hpar hbl ht hc p rest hp hrest o ho gas
  exact ⟨d, h1, fun _ _ => by rw [h3], fun _ _ => by rw [h3]⟩

/-- the lines `ss` behind `k` markers "> " (the empty separator lines become "> \n", which is how the
    renderer writes them: `prefix_lines` blanks only lines that are all whitespace) -/
abbrev quoted (k : Nat) (ss : List Str) : List Str := qStrs k ss

/-- **A prose document inside `k` nested block quotes, written the way the renderer writes it, is
    reproduced byte for byte.**  `cfg.block.types = pre ++ Quote :: post` with neither `Quote` nor
    `Paragraph` in `pre` (C04's hypothesis; the Markdown renderer's list has 5 types before `Quote`); the
    lines are tab-free (`Quote.convert_leading_tabs` rewrites tabs); every line of the normal-form prose
    document `p, rest` carries `k` markers "> ".  Then `Document(lines)` is `k` nested `Quote`s around the
    paragraphs and blank lines, and `MarkdownRenderer().render` gives back exactly the lines.
    Uses `C04_quote_wraps` (the quote's content is the parse of the unmarked lines) and the C14 block theorem
    in every parser state (so the switched-off setext rule inside a quote does not matter). -/
theorem C09_quoted_prose_exact_partial (cfg : Document.Cfg) (pre post : List BTok)
    (hty : cfg.block.types = pre ++ .quote :: post) (hnq : .quote ∉ pre) (hnp : .paragraph ∉ pre)
    (hpar : .paragraph ∈ cfg.block.types) (hbl : .blankLine ∈ cfg.block.types)
    (ht : ∀ t ∈ cfg.span, inertClass t = true) (hc : cfg.span.count .lineBreak = 1)
    (p : List Str) (rest : List (List Str)) (hp : normalPara p = true) (hrest : ∀ q ∈ rest, normalPara q = true)
    (hnt : ∀ l ∈ docLines p rest, '\t' ∉ l) (k : Nat)
    (o : Markdown.Opts) (ho : o.maxLineLength = none) (gas : Nat) :
    ∃ d, Document.parseLines cfg (gas + (2 * rest.length + cfg.block.types.length + 4) + k * (pre.length + 3))
          (quoted k (docLines p rest)) = .ok d ∧
      d.kids = qBlocks 1 (proseBlocks 1 p rest) k ∧
      Markdown.renderRes o d = .ok (quoted k (docLines p rest)).flatten ∧
      Markdown.render o d = (quoted k (docLines p rest)).flatten := by
  have fp := normalPara_facts p hp
  have fr := fun q hq => normalPara_facts q (hrest q hq)
  have hb : cfg.block.types.contains .blankLine = true := by simpa using hbl
  have hphase : ∀ st, tokenizeBlock cfg.block (gas + (2 * rest.length + cfg.block.types.length + 4))
      (C14.numbered 0 (joinBlank p rest)) 1 st = .ok ({ entries := C14.paraEntries true 1 p rest, loose := false }, st) := by
    intro st
    have := Mistletoe.Props.C14.tokenize_blank_separated cfg.block hpar p rest ⟨fp.ne, fp.inert⟩ (fun q hq => ⟨(fr q hq).ne, (fr q hq).inert⟩) gas st
    rw [hb] at this
    simpa using this
  exact quoted_exact_of_phases cfg pre post hty hnq hnp _ _ (joinBlank_ne p rest fp.ne) hnt _ hphase _
    (mkBlocks_paraEntries cfg (Document.footnotesOf []) ht hc rest p 1 fp.para (fun q hq => (fr q hq).para))
    o ho _ (renderBlocks_prose o rest p 1 fp.prose (fun q hq => (fr q hq).prose))
    (proseOut_lines rest p (fun l hl => ⟨fp.prose l hl, fp.flush l hl⟩)
      (fun q hq l hl => ⟨(fr q hq).prose l hl, (fr q hq).flush l hl⟩)) k

/-- the same from a `str`, for the token lists of the working tree (`Config.markdown`) -/
theorem C09_quoted_prose_exact_markdown (cfg : Document.Cfg) (hcfg : Config.markdown = some cfg)
    (p : List Str) (rest : List (List Str)) (hp : normalPara p = true) (hrest : ∀ q ∈ rest, normalPara q = true)
    (hnt : ∀ l ∈ docLines p rest, '\t' ∉ l) (k : Nat)
    (o : Markdown.Opts) (ho : o.maxLineLength = none) (gas : Nat) :
    ∃ d, Document.parse cfg (gas + (2 * rest.length + 15) + k * 8) (quoted k (docLines p rest)).flatten = .ok d ∧
      Markdown.render o d = (quoted k (docLines p rest)).flatten := by
  obtain ⟨hty, ht, hc⟩ := markdown_cfg cfg hcfg
  have h1 := qStrs_oneLine k _ (oneLine_joinBlank rest p (normalPara_facts p hp).one
    (fun q hq => (normalPara_facts q (hrest q hq)).one))
  rw [parse_lines cfg _ _ h1]
  obtain ⟨d, h, _, _, h3⟩ := C09_quoted_prose_exact_partial cfg
    [.linkRefDefBlock, .blankLine, .htmlBlock, .blockCode, .heading] [.codeFence, .thematicBreak, .list, .table, .paragraph]
    (by rw [hty]; rfl) (by decide) (by decide) (by rw [hty]; decide) (by rw [hty]; decide) ht hc p rest hp hrest hnt k o ho gas
  rw [hty] at h
  exact ⟨d, h, h3⟩

theorem item_para_ok (q : List Str) : (Blk.para q).ok = normalPara q := rfl

/-- **Paragraphs, ATX headings and thematic breaks in the renderer's normal form, inside `k` nested block
    quotes, are reproduced byte for byte.**  The blocks `it, rest` (`Blk.ok`: prose paragraphs as above;
    headings `#…# text` of level 1–6 whose text is inline-inert, without `#`, without whitespace at either
    end; thematic breaks `***`, `---`, `___`) are separated by single empty lines; every line carries `k`
    markers "> " (k = 0: no quote); the lines are tab-free; the block token types are the Markdown renderer's
    list, the span classes are covered ones with `LineBreak` once.  Then `Document(lines)` succeeds, its
    children are `k` nested `Quote`s around `Paragraph` / `Heading` / `ThematicBreak` tokens with `BlankLine`s
    between them, and `MarkdownRenderer().render` (no line limit) gives back exactly the concatenated lines. -/
theorem C09_blocks_exact_partial (cfg : Document.Cfg) (hty : cfg.block.types = markdownTypes)
    (ht : ∀ t ∈ cfg.span, inertClass t = true) (hc : cfg.span.count .lineBreak = 1)
    (it : Blk) (rest : List Blk) (hok : it.ok = true) (hrest : ∀ x ∈ rest, x.ok = true)
    (hnt : ∀ l ∈ itemsLines it rest, '\t' ∉ l) (k : Nat)
    (o : Markdown.Opts) (ho : o.maxLineLength = none) (gas : Nat) :
    ∃ d, Document.parseLines cfg (gas + (2 * rest.length + 14) + k * 8) (quoted k (itemsLines it rest)) = .ok d ∧
      d.kids = qBlocks 1 (itemBlocks 1 it rest) k ∧
      Markdown.renderRes o d = .ok (quoted k (itemsLines it rest)).flatten ∧
      Markdown.render o d = (quoted k (itemsLines it rest)).flatten := by
  obtain ⟨d, h1, h2, h3, _, h4, _⟩ := MdRoundDoc.doc_roundtrip frag1 (·.ok = true) cfg hty o ho it rest hok hrest rfl gas k
    (Or.inr hnt) (fun st _ x h => blk_laws cfg _ o st hty ht hc x h)
  rw [docBlocks_blk] at h2
  exact ⟨d, h1, h2, h3, h4⟩

/-- **The same from a `str`, for the token lists of the working tree** (`Config.markdown`), with the two
    corollaries: rendering again reproduces the text, and the rendered text parses like the original under
    every configuration (same document, same link definitions, same HTML). -/
theorem C09_blocks_roundtrip_markdown (cfg : Document.Cfg) (hcfg : Config.markdown = some cfg)
    (it : Blk) (rest : List Blk) (hok : it.ok = true) (hrest : ∀ x ∈ rest, x.ok = true)
    (hnt : ∀ l ∈ itemsLines it rest, '\t' ∉ l) (k : Nat)
    (o : Markdown.Opts) (ho : o.maxLineLength = none) (gas : Nat) :
    ∃ d, Document.parse cfg (gas + (2 * rest.length + 14) + k * 8) (quoted k (itemsLines it rest)).flatten = .ok d ∧
      Markdown.render o d = (quoted k (itemsLines it rest)).flatten ∧
      (∃ d', Document.parse cfg (gas + (2 * rest.length + 14) + k * 8) (Markdown.render o d) = .ok d' ∧
        Markdown.render o d' = Markdown.render o d) ∧
      (∀ (cfg' : Document.Cfg) (g : Nat),
        Document.parse cfg' g (Markdown.render o d) = Document.parse cfg' g (quoted k (itemsLines it rest)).flatten) ∧
      (∀ (hopts : Html.Opts) (g : Nat),
        Config.renderHtml hopts g (Markdown.render o d) = Config.renderHtml hopts g (quoted k (itemsLines it rest)).flatten) := by
  obtain ⟨hty, ht, hc⟩ := markdown_cfg cfg hcfg
  obtain ⟨d, _, _, _, h⟩ := MdRoundDoc.doc_roundtrip frag1 (·.ok = true) cfg hty o ho it rest hok hrest rfl gas k
    (Or.inr hnt) (fun st _ x h => blk_laws cfg _ o st hty ht hc x h)
  exact ⟨d, h⟩

/-- **For the lists `MarkdownRenderer` installs in the working tree** (`Config.markdown`, regenerated from
    /repo on every run): the hypotheses on the token lists hold, so a prose document in normal form is
    reproduced byte for byte by `MarkdownRenderer(normalize_whitespace=…).render(Document(text))`. -/
theorem C09_prose_exact_markdown (cfg : Document.Cfg) (hcfg : Config.markdown = some cfg)
    (p : List Str) (rest : List (List Str)) (hp : normalPara p = true) (hrest : ∀ q ∈ rest, normalPara q = true)
    (o : Markdown.Opts) (ho : o.maxLineLength = none) (gas : Nat) :
    ∃ d, Document.parse cfg (gas + (2 * rest.length + 15)) (docText p rest) = .ok d ∧
      Markdown.renderRes o d = .ok (docText p rest) ∧ Markdown.render o d = docText p rest := by
  obtain ⟨hty, ht, hc⟩ := markdown_cfg cfg hcfg
  have := C09_prose_exact_text_partial cfg (by rw [hty]; decide) (by rw [hty]; decide) ht hc p rest hp hrest o ho gas
  rw [hty] at this
  exact this

/-! ### Non-vacuity -/

def L (s : String) : Str := s.toList

/-- the Markdown renderer's token lists as literals -/
def mdCfg : Document.Cfg :=
  { block := { types := markdownTypes },
    span := [.escapeSequence, .htmlSpan, .strikethrough, .autoLink, .coreTokens, .inlineCode, .lineBreak] }

theorem mdCfg_ok : BTok.paragraph ∈ mdCfg.block.types ∧ BTok.blankLine ∈ mdCfg.block.types ∧
    (∀ t ∈ mdCfg.span, inertClass t = true) ∧ mdCfg.span.count .lineBreak = 1 := by decide

def para1 : List Str := [L "a_b_c * d - 3.14) x | y # z\n", L "1.5 is + or - = ~ ^ $ % @ [ & AT&T\n"]
def para2 : List Str := [L "c < d <, \"e\"! ![ x\n"]
def para3 : List Str := [L "snake_case and 2 * 3 (a) é 日本\n", L "last line.\n"]
attribute [lit] L para1 para2 para3

theorem paras_ok : normalPara para1 = true ∧ normalPara para2 = true ∧ normalPara para3 = true := by decide_lit

/-- the theorem applies to a three-paragraph document … -/
example : ∃ d, Document.parse mdCfg 19 (docText para1 [para2, para3]) = .ok d ∧
    Markdown.render {} d = docText para1 [para2, para3] := by
  obtain ⟨d, h1, _, h3⟩ := C09_prose_exact_text_partial mdCfg mdCfg_ok.1 mdCfg_ok.2.1 mdCfg_ok.2.2.1 mdCfg_ok.2.2.2
    para1 [para2, para3] paras_ok.1 (by simp [paras_ok.2.1, paras_ok.2.2]) {} rfl 0
  exact ⟨d, h1, h3⟩

/-- … and evaluating parser and renderer in the kernel on that document gives the same answer -/
example : (Document.parse mdCfg 19 (docText para1 [para2, para3])).bind (fun d => Markdown.renderRes {} d) =
    .ok (L ("a_b_c * d - 3.14) x | y # z\n1.5 is + or - = ~ ^ $ % @ [ & AT&T\n\nc < d <, \"e\"! ![ x\n\n" ++
            "snake_case and 2 * 3 (a) é 日本\nlast line.\n")) := by
  simp only [lit, String.toList_append]
  decide_lit

example : ∃ d, Document.parse mdCfg 15 (L "c < d <, \"e\"! ![ x\n") = .ok d ∧ Markdown.render {} d = L "c < d <, \"e\"! ![ x\n" :=
  C09_prose_line_exact_partial mdCfg mdCfg_ok.1 mdCfg_ok.2.1 mdCfg_ok.2.2.1 mdCfg_ok.2.2.2 _ paras_ok.2.1 {} rfl 0

example : ∃ d, Document.parse mdCfg 15 para1.flatten = .ok d ∧
    Markdown.render { normalizeWhitespace := true } d = para1.flatten :=
  C09_prose_paragraph_exact_partial mdCfg mdCfg_ok.1 mdCfg_ok.2.1 mdCfg_ok.2.2.1 mdCfg_ok.2.2.2 _ paras_ok.1 _ rfl 0

/-- the hypotheses exclude what the renderer normalises: leading spaces are dropped (so the text is not
    reproduced), and a line limit re-breaks lines -/
example : normalPara [L "  indented\n"] = false := by decide_lit
example : (Document.parse mdCfg 15 (L "  indented\n")).bind (fun d => Markdown.renderRes {} d) = .ok (L "indented\n") := by
  decide_lit
example : (Document.parse mdCfg 15 (L "one two three\n")).bind (fun d => Markdown.renderRes { maxLineLength := some 7 } d) =
    .ok (L "one two\nthree\n") := by decide_lit

example : ∃ d, Document.parseLines mdCfg 35 (quoted 2 (docLines para1 [para2, para3])) = .ok d ∧
    Markdown.render {} d = (quoted 2 (docLines para1 [para2, para3])).flatten := by
  obtain ⟨d, h1, _, _, h3⟩ := C09_quoted_prose_exact_partial mdCfg
    [.linkRefDefBlock, .blankLine, .htmlBlock, .blockCode, .heading] [.codeFence, .thematicBreak, .list, .table, .paragraph]
    rfl (by decide) (by decide) mdCfg_ok.1 mdCfg_ok.2.1 mdCfg_ok.2.2.1 mdCfg_ok.2.2.2
    para1 [para2, para3] paras_ok.1 (by simp [paras_ok.2.1, paras_ok.2.2]) (by decide_lit) 2 {} rfl 0
  exact ⟨d, h1, h3⟩

example : (Document.parse mdCfg 35 (L "> > first line\n> > second\n> > \n> > next paragraph\n")).bind
    (fun d => Markdown.renderRes {} d) = .ok (L "> > first line\n> > second\n> > \n> > next paragraph\n") := by decide_lit
example : (quoted 2 (docLines [L "first line\n", L "second\n"] [[L "next paragraph\n"]])).flatten =
    L "> > first line\n> > second\n> > \n> > next paragraph\n" := by decide_lit

def blocks : List Blk := [.para para2, .hr '*', .heading 2 (L "Sub-title, with * and _ inside"), .para para3]
attribute [lit] blocks

theorem blocks_ok : (Blk.heading 1 (L "Title: a_b")).ok = true ∧ ∀ x ∈ blocks, x.ok = true := by decide_lit

example : ∃ d, Document.parseLines mdCfg 30 (quoted 1 (itemsLines (.heading 1 (L "Title: a_b")) blocks)) = .ok d ∧
    Markdown.render {} d = (quoted 1 (itemsLines (.heading 1 (L "Title: a_b")) blocks)).flatten := by
  obtain ⟨d, h1, _, _, h3⟩ := C09_blocks_exact_partial mdCfg rfl mdCfg_ok.2.2.1 mdCfg_ok.2.2.2
    (.heading 1 (L "Title: a_b")) blocks blocks_ok.1 blocks_ok.2 (by decide_lit) 1 {} rfl 0
  exact ⟨d, h1, h3⟩

example : (Document.parse mdCfg 30 (L "# Title: a_b\n\nc < d\n\n***\n\n## Sub-title, with * and _ inside\n\nlast line.\n")).bind
    (fun d => Markdown.renderRes {} d) =
      .ok (L "# Title: a_b\n\nc < d\n\n***\n\n## Sub-title, with * and _ inside\n\nlast line.\n") := by decide_lit
example : (itemsLines (.heading 1 (L "Title: a_b")) [.para [L "c < d\n"], .hr '*']).flatten = L "# Title: a_b\n\nc < d\n\n***\n" := by
  decide_lit

/-- outside the fragment: a closing sequence is kept (normalised only in its spacing), and a heading with leading
    spaces is not reproduced (setext headings are in Props/C09_Setext.lean) -/
example : (Document.parse mdCfg 30 (L "  # Title ##\n")).bind (fun d => Markdown.renderRes {} d) = .ok (L "# Title ##\n") := by
  decide_lit

/-- `mdCfg` is the configuration of the working tree (so the examples are about `Config.markdown`) -/
example : Config.markdown.map (fun c => (c.block.types, c.block.tableInterrupt, c.span)) =
    some (mdCfg.block.types, mdCfg.block.tableInterrupt, mdCfg.span) := by rw [Config.markdown_eq]; rfl

end Mistletoe.Props.C09
