/-
  C11 — Results depend only on input and renderer, never on earlier library use.

  The state machine of Model/State.lean is run over arbitrary histories.  Proved, with no bound on
  the length of the history, the programs of the parses in it, or the points at which exceptions
  are raised:
    * after a renderer's context exits the active token sets are exactly the defaults;
    * every `with R(...)` block over a bundled renderer, started in a clean state, ends in a clean
      state - whatever was parsed inside and wherever a parse raised;
    * hence every history of such blocks ends clean (induction over the history);
    * what a parse computes through the one global that carries data (the code-span matches) does
      not depend on the state it starts in.
  The constructor effects are regenerated from the code on every run (Gen/Constructors.lean).
-/
import Mistletoe.Model.State
namespace Mistletoe.Props.C11
open Mistletoe Mistletoe.State Mistletoe.Gen.Constructors

/-- The scratch fields a parse must leave as it found them. -/
def ScratchOk (g : Globals) : Prop := g.parseSetext = true ∧ g.charrefStd = true

mutual
theorem exec_inv : ∀ (p : Prog) (g : Globals),
    (exec p g).1.blockTypes = g.blockTypes ∧ (exec p g).1.spanTypes = g.spanTypes ∧
    (g.charrefStd = true → (exec p g).1.charrefStd = true) ∧
    (g.parseSetext = true → (exec p g).1.parseSetext = true)
  | .raise, g => by simp [exec]
  | .quote inner, g => by
    have ih := execList_inv inner { g with parseSetext := false }
    simp only [exec]
    exact ⟨ih.1, ih.2.1, fun h => ih.2.2.1 h, fun _ => trivial⟩
  | .inline n ra, g => by
    simp only [exec]
    cases ra with
    | none => simp
    | some r => cases r <;> simp
theorem execList_inv : ∀ (ps : List Prog) (g : Globals),
    (execList ps g).1.blockTypes = g.blockTypes ∧ (execList ps g).1.spanTypes = g.spanTypes ∧
    (g.charrefStd = true → (execList ps g).1.charrefStd = true) ∧
    (g.parseSetext = true → (execList ps g).1.parseSetext = true)
  | [], g => by simp [execList]
  | p :: ps, g => by
    have h1 := exec_inv p g
    have h2 := execList_inv ps (exec p g).1
    simp only [execList]
    split
    · exact h1
    · exact ⟨h2.1.trans h1.1, h2.2.1.trans h1.2.1, fun h => h2.2.2.1 (h1.2.2.1 h), fun h => h2.2.2.2 (h1.2.2.2 h)⟩
end

/-- **A parse restores the scratch state, exception or not.** -/
theorem C11_parse_restores (p : List Prog) (g : Globals) (h : ScratchOk g) :
    ScratchOk (document p g).1 ∧ (document p g).1.blockTypes = g.blockTypes
      ∧ (document p g).1.spanTypes = g.spanTypes := by
  have ih := execList_inv p { g with rootSet := true }
  unfold document
  simp only
  split <;> exact ⟨⟨ih.2.2.2 h.1, ih.2.2.1 h.2⟩, ih.1, ih.2.1⟩

mutual
theorem exec_out : ∀ (p : Prog) (g g' : Globals),
    (exec p g).2 = (exec p g').2
  | .raise, _, _ => rfl
  | .quote inner, g, g' => by
    simp only [exec]
    exact execList_out inner _ _
  | .inline n ra, g, g' => by
    simp only [exec]
    cases ra with
    | none => rfl
    | some r => cases r <;> rfl
theorem execList_out : ∀ (ps : List Prog) (g g' : Globals),
    (execList ps g).2 = (execList ps g').2
  | [], _, _ => rfl
  | p :: ps, g, g' => by
    have h1 := exec_out p g g'
    have h2 := execList_out ps (exec p g).1 (exec p g').1
    simp only [execList]
    rw [show (exec p g).2.1 = (exec p g').2.1 from congrArg Prod.fst h1,
        show (exec p g).2.2 = (exec p g').2.2 from congrArg Prod.snd h1]
    split
    · rfl
    · rw [show (execList ps (exec p g).1).2.1 = (execList ps (exec p g').1).2.1 from congrArg Prod.fst h2,
          show (execList ps (exec p g).1).2.2 = (execList ps (exec p g').1).2.2 from congrArg Prod.snd h2]
end

/-- **No data leaks through the globals**: whether a parse raises and which code-span matches each
    inline scan hands over do not depend on the state the parse starts in (in particular not on
    matches a previous, aborted parse left behind). -/
theorem C11_output_function_of_input (p : List Prog) (g g' : Globals) :
    (document p g).2 = (document p g').2 := by
  unfold document
  have := execList_out p { g with rootSet := true } { g' with rootSet := true }
  simp only
  rw [show (execList p { g with rootSet := true }).2.1 = (execList p { g' with rootSet := true }).2.1 from congrArg Prod.fst this,
      show (execList p { g with rootSet := true }).2.2 = (execList p { g' with rootSet := true }).2.2 from congrArg Prod.snd this]

/-- **After a renderer's context exits, the active token sets are exactly the defaults.** -/
theorem C11_exit_defaults (g : Globals) :
    (exitRenderer g).blockTypes = Gen.RenderMaps.defaultBlockTokens ∧
    (exitRenderer g).spanTypes = Gen.RenderMaps.defaultSpanTokens ∧
    (exitRenderer g).parseSetext = g.parseSetext ∧ (exitRenderer g).charrefStd = g.charrefStd :=
  ⟨rfl, rfl, rfl, rfl⟩

theorem applyTokOp_scratch (g g' : Globals) (op : TokOp) (h : applyTokOp g op = some g') :
    g'.parseSetext = g.parseSetext ∧ g'.charrefStd = g.charrefStd := by
  cases op with
  | add blk cls pos => cases blk <;> simp [applyTokOp] at h <;> subst h <;> exact ⟨rfl, rfl⟩
  | remove blk cls =>
    cases blk <;> simp only [applyTokOp, Option.map_eq_some_iff] at h <;> obtain ⟨l, _, rfl⟩ := h <;> exact ⟨rfl, rfl⟩

theorem applyTokOps_scratch : ∀ (ops : List TokOp) (g : Globals),
    (applyTokOps ops g).1.parseSetext = g.parseSetext ∧ (applyTokOps ops g).1.charrefStd = g.charrefStd
  | [], g => ⟨rfl, rfl⟩
  | op :: ops, g => by
    simp only [applyTokOps]
    split
    · rename_i g' h
      have h1 := applyTokOp_scratch g g' op h
      have h2 := applyTokOps_scratch ops g'
      exact ⟨h2.1.trans h1.1, h2.2.trans h1.2⟩
    · exact ⟨rfl, rfl⟩

theorem runBody_scratch : ∀ (ops : List Op) (g : Globals), ScratchOk g → ScratchOk (runBody ops g).1
  | [], g, h => h
  | .parse p :: ops, g, h => by
    simp only [runBody]
    have := (C11_parse_restores p g h).1
    split
    · exact this
    · exact runBody_scratch ops _ this
  | .addToken blk cls pos :: ops, g, h => by
    simp only [runBody]
    split
    · rename_i g' hg
      have := applyTokOp_scratch g g' _ hg
      exact runBody_scratch ops g' ⟨this.1.trans h.1, this.2.trans h.2⟩
    · exact h

theorem applyTokOps_lists : ∀ (ops : List TokOp) (g g' : Globals),
    g.blockTypes = g'.blockTypes → g.spanTypes = g'.spanTypes →
    (applyTokOps ops g).2 = (applyTokOps ops g').2
  | [], _, _, _, _ => rfl
  | op :: ops, g, g', hb, hs => by
    simp only [applyTokOps]
    cases op with
    | add blk cls pos =>
      cases blk <;> simp only [applyTokOp] <;> apply applyTokOps_lists <;> simp [hb, hs]
    | remove blk cls =>
      cases blk
      · simp only [applyTokOp, ← hs]
        cases hr : removeFirst g.spanTypes cls with
        | none => rfl
        | some l => simp only [Option.map_some]; apply applyTokOps_lists <;> simp [hb]
      · simp only [applyTokOp, ← hb]
        cases hr : removeFirst g.blockTypes cls with
        | none => rfl
        | some l => simp only [Option.map_some]; apply applyTokOps_lists <;> simp [hs]

/-- The constructors of the bundled renderers (regenerated from the code). -/
def bundled : List (List TokOp) := [html, toc, githubWiki, mathjax, pygments, htmlNoHtml, latex, markdown, ast, jira, xwiki]

/-- From the default token lists no bundled constructor raises. -/
theorem bundled_ok : ∀ c ∈ bundled, (applyTokOps c defaults).2 = false := by decide +kernel

/-- **A with-block restores everything**: started clean, a block over any bundled renderer ends
    clean, whatever is parsed inside, whichever custom tokens are added, wherever a parse raises. -/
theorem C11_with_block_restores (ctor : List TokOp) (hc : ctor ∈ bundled) (body : List Op) (g : Globals)
    (h : Clean g) : Clean (withBlock ctor body g) := by
  unfold withBlock
  have hno : (applyTokOps ctor g).2 = false := by
    rw [applyTokOps_lists ctor g defaults h.1 h.2.1]
    exact bundled_ok ctor hc
  simp only [hno, Bool.false_eq_true, if_false]
  have hs := applyTokOps_scratch ctor g
  have hb := runBody_scratch body (applyTokOps ctor g).1 ⟨hs.1.trans h.2.2.1, hs.2.trans h.2.2.2⟩
  exact ⟨rfl, rfl, hb.1, hb.2⟩

/-- **History independence of the state**: after any sequence of with-blocks over bundled
    renderers the state is clean, so the next use starts as in a fresh interpreter. -/
theorem C11_history_clean : ∀ (hist : List (List TokOp × List Op)), (∀ b ∈ hist, b.1 ∈ bundled) →
    ∀ (g : Globals), Clean g → Clean (runHistory hist g)
  | [], _, g, h => h
  | (ctor, body) :: rest, hb, g, h => by
    simp only [runHistory]
    exact C11_history_clean rest (fun b hbm => hb b (List.mem_cons_of_mem _ hbm)) _
      (C11_with_block_restores ctor (hb (ctor, body) (List.mem_cons_self ..)) body g h)

theorem defaults_clean : Clean defaults := ⟨rfl, rfl, rfl, rfl⟩

/-- Custom tokens are recognised only inside the renderer's context (C16's last clause): after the
    block no custom class is in either list. -/
theorem C11_custom_tokens_only_in_context (ctor : List TokOp) (hc : ctor ∈ bundled) (body : List Op) (cls : String)
    (hn : cls ∉ Gen.RenderMaps.defaultBlockTokens ∧ cls ∉ Gen.RenderMaps.defaultSpanTokens) :
    cls ∉ (withBlock ctor body defaults).blockTypes ∧ cls ∉ (withBlock ctor body defaults).spanTypes := by
  have := C11_with_block_restores ctor hc body defaults defaults_clean
  rw [this.1, this.2.1]
  exact hn

/-! Non-vacuity: a history with a parse that raises between the core scan and the code-span
    hand-over inside a block quote, with a custom span token added. -/
example : Clean (runHistory
    [(markdown, [.addToken false "RaisingSpan" 5, .parse [.quote [.inline 1 (some .betweenScanAndDrain)]]]),
     (html, [.parse [.inline 0 none]])] defaults) := by
  unfold Clean; decide +kernel

example : (document [.quote [.inline 1 (some .betweenScanAndDrain)]] defaults).1.codeMatches = 1 := by decide

end Mistletoe.Props.C11
