/-
  C04 (list half, general form) — property theorems only; the proofs are in Proofs/WrapIndent.lean (which builds on
  Props/C04.lean, hence this second file).

  Props/C04.lean proves the list-item wrap for a marker at indentation 0 with blank lines that are exactly "\n".
  Here the marker may stand at indentation 0-3 (the continuation lines move with it), whitespace-only lines are
  allowed (indented or left as they are), and what remains as hypothesis is needed (kernel-checked counterexamples at
  the end of Proofs/WrapIndent.lean and `edge` in Props/C04.lean, all reproduced on the real code): the first
  character is not `str.isspace` (` foo` changes the content offset), every other line is spaces-only or begins, after
  its own spaces, with a non-`isspace` character (the recorded finding unicode-whitespace-edge), the text does not end
  in a blank line (the property's own condition), marker/thematic-break coincidences (`* ` before `* *`), padding 1-4,
  indentation <= 3.
  The item's content is the parse of the text with its spaces-only lines read as "\n" (`normDoc`): inside an item the
  reader hands "\n" to the nested tokenizer for such a line, and the two are NOT the same to the top-level tokenizer
  (a spaces-only line inside an indented code block, a fence or an HTML block keeps its spaces) - so "content is exactly
  B" holds when the text has no spaces-only line other than "\n" (`C04_item_phase_general_h2_partial`) or when the two
  parses agree.
-/
import Mistletoe.Proofs.WrapIndent
namespace Mistletoe.Props.C04G
open Mistletoe Mistletoe.Block Mistletoe.Props.C04

/-- **A document indented as one list item (marker at indentation i ≤ 3, padding 1-4, every other line behind
    i + |marker| + padding spaces; spaces-only lines indented too or left alone) parses to exactly one single-item List whose
    item content is the parse B of the document with its spaces-only lines read as "\n", with B's link definitions**, for
    every token list in which `List` is consulted before `Paragraph` and `Table`. -/
theorem C04_item_phase_general_partial (cfg : Cfg) (pre post : List BTok) (hty : cfg.types = pre ++ .list :: post)
    (hnl : .list ∉ pre) (hnp : .paragraph ∉ pre) (hnt : .table ∉ pre)
    (m : Str) (hm : ListLeader m) (i : Nat) (hi : i ≤ 3) (pad : Nat) (h1 : 1 ≤ pad) (h4 : pad ≤ 4)
    (s0 : Str) (ss : List Str) (hok : itemDocOk2 (s0 :: ss) = true)
    (htb : Scan.thematicBreak (List.replicate i ' ' ++ (m ++ List.replicate pad ' ' ++ s0)) = false)
    (blanksToo : Bool) (gas : Nat) (B : Buf) (st' : St) (hB : blockPhase cfg gas (normDoc (s0 :: ss)) = .ok (B, st')) :
    blockPhase cfg (gas + (pre.length + 4)) (indentDocAt i m pad blanksToo (s0 :: ss)) =
      .ok ({ entries := [.list [.mk B.entries (decide (B.entries.length > 1) && B.loose) i (i + m.length + pad) m 1 1] 1 1],
             loose := false }, st') :=
  Mistletoe.Props.C04.C04_item_phase_general_partial cfg pre post hty hnl hnp hnt m hm i hi pad h1 h4 s0 ss hok htb blanksToo gas B st' hB

/-- **… and the content is exactly the document's own parse B** when the document has no spaces-only line other than "\n"
    (what the property's "W spaces before every other non-blank line" produces from a text whose blank lines are empty). -/
theorem C04_item_phase_general_h2_partial (cfg : Cfg) (pre post : List BTok) (hty : cfg.types = pre ++ .list :: post)
    (hnl : .list ∉ pre) (hnp : .paragraph ∉ pre) (hnt : .table ∉ pre)
    (m : Str) (hm : ListLeader m) (i : Nat) (hi : i ≤ 3) (pad : Nat) (h1 : 1 ≤ pad) (h4 : pad ≤ 4)
    (s0 : Str) (ss : List Str) (hok : itemDocOk2 (s0 :: ss) = true) (hH2 : ∀ s ∈ ss, spLine s = true → s = ['\n'])
    (htb : Scan.thematicBreak (List.replicate i ' ' ++ (m ++ List.replicate pad ' ' ++ s0)) = false)
    (blanksToo : Bool) (gas : Nat) (B : Buf) (st' : St) (hB : blockPhase cfg gas (s0 :: ss) = .ok (B, st')) :
    blockPhase cfg (gas + (pre.length + 4)) (indentDocAt i m pad blanksToo (s0 :: ss)) =
      .ok ({ entries := [.list [.mk B.entries (decide (B.entries.length > 1) && B.loose) i (i + m.length + pad) m 1 1] 1 1],
             loose := false }, st') :=
  Mistletoe.Props.C04.C04_item_phase_general_h2_partial cfg pre post hty hnl hnp hnt m hm i hi pad h1 h4 s0 ss hok hH2 htb blanksToo gas B st' hB

/-- the thematic-break coincidence can only arise with the markers `-` and `*` -/
theorem C04_marker_never_a_break (m : Str) (hm : ListLeader m) (i : Nat) (hi : i ≤ 3) (rest : Str)
    (h : ∀ c m', m = c :: m' → c ≠ '-' ∧ c ≠ '*') :
    Scan.thematicBreak (List.replicate i ' ' ++ (m ++ rest)) = false :=
  C04_htb_of_marker m hm i hi rest h

end Mistletoe.Props.C04G
