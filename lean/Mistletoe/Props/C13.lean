/-
  C13 — Every block token reports the source line on which it starts.

  The block-parser model (`Model/Block.lean`, tied to `tokenize_block` and every `start`/`read` by
  the `block.buffer` and `scan.*` correspondence units) carries a *ghost* `origin` on every line:
  the 1-based index of the input line it was cut from.  `Quote.read` and `ListItem.read` strip a
  prefix off a line but keep its origin; nothing else creates lines.  Every entry records, next to
  the `line_number` the code computes (`lines.line_number() + 1` = `start_line + _index`), the
  origin of the line it was dispatched on.  The theorems say the two are equal at every nesting depth.
-/
import Mistletoe.Proofs.Block
import Mistletoe.Proofs.DocLines
namespace Mistletoe.Props.C13
open Mistletoe Mistletoe.Py Mistletoe.Scan Mistletoe.Block Mistletoe.Lines

/-- **Every block token, at every nesting depth, reports the input line on which it starts**: for
    every token set and flag setting, every nesting fuel, and every list of complete lines, if the
    block phase returns, then in every entry of the result (recursively through quotes, lists and
    list items) `line_number` equals the index of the input line the entry was dispatched on. -/
theorem C13_line_numbers (cfg : Cfg) (fuel : Nat) (lines : List Str) (b : Buf) (st : St)
    (hl : ∀ s ∈ lines, NlEnd s) (h : blockPhase cfg fuel lines = .ok (b, st)) : EntriesOk b.entries :=
  blockPhase_ok cfg fuel lines b st hl h

/-- the same for a document given as one string -/
theorem C13_document (cfg : Cfg) (fuel : Nat) (t : Str) (b : Buf) (st : St)
    (h : blockPhase cfg fuel (normalize (.str t)) = .ok (b, st)) : EntriesOk b.entries :=
  C13_line_numbers cfg fuel _ b st (normalize_str_nlEnd t) h

/-- **The lines handed to a nested tokenizer** (`Quote.read`, `ListItem.read`: the `start_line`
    hand-off): their origins are `start_line, start_line + 1, …` -/
theorem C13_buffer_origin_quote (cfg : Cfg) (fw : FW) (l0 : Line) (r) (h : quoteLines cfg fw l0 = .ok r)
    (hok : fw.Ok) (hp : fw.peek = some l0) : OriginsFrom r.2.1 r.1 :=
  (quoteLines_origins cfg fw l0 r h hok hp).2

theorem C13_buffer_origin_item (cfg : Cfg) (fw : FW) (prev) (buf : List Line) (cstart i p : Nat) (ld : Str) (ln og : Nat) (nx) (fw' : FW)
    (h : itemLines cfg fw prev = .ok (.lines buf cstart i p ld ln og nx fw')) (hok : fw.Ok) : ln = og ∧ OriginsFrom cstart buf := by
  have := itemLines_origins cfg fw prev _ h hok
  exact ⟨this.2.1, this.2.2⟩

/-- **Table rows**: the k-th line of the buffer `Table.read` returns is the text of the input line
    `start_line + k` (`Table.__init__` gives row k the number `start_line + k`). -/
theorem C13_table_rows (fw : FW) (b : List Str) (sl : Nat) (fw' : FW) (h : readTable fw = some (b, sl, fw')) (hok : fw.Ok) :
    ∀ (k : Nat) (s : Str), b[k]? = some s → ∃ l, fw.lines[fw.pos + k]? = some l ∧ l.s = s ∧ l.origin = sl + k :=
  readTable_rows fw b sl fw' h hok

/-! ### Non-vacuity: a nested document on which the block phase returns, with the numbers shown -/

def sampleCfg : Cfg := { types := [.htmlBlock, .blockCode, .heading, .quote, .codeFence, .thematicBreak, .list, .table, .footnote, .paragraph, .blankLine], tableInterrupt := false }
def sampleDoc : List Str := ["\n", "> - a\n", ">\n", ">   b\n", "> # h\n", "1.\n", "   x\n"].map String.toList

/-- `ln`/`og` of every entry, outermost first -/
def numbers : List Entry → List (Nat × Nat)
  | [] => []
  | e :: es => (match e with
      | .blockCode _ ln og => [(ln, og)]
      | .heading _ _ _ ln og => [(ln, og)]
      | .quote inner _ ln og => (ln, og) :: numbers inner
      | .codeFence _ _ _ _ _ ln og => [(ln, og)]
      | .thematicBreak _ ln og => [(ln, og)]
      | .list items ln og => (ln, og) :: numbersI items
      | .table _ _ ln og => [(ln, og)]
      | .footnote _ ln og => [(ln, og)]
      | .linkRefDefs _ ln og => [(ln, og)]
      | .paragraph _ ln og => [(ln, og)]
      | .setext _ ln og => [(ln, og)]
      | .htmlBlock _ ln og => [(ln, og)]
      | .blankLine ln og => [(ln, og)]) ++ numbers es
where numbersI : List Item → List (Nat × Nat)
  | [] => []
  | .mk inner _ _ _ _ ln og :: is => (ln, og) :: numbers inner ++ numbersI is

example : (match blockPhase sampleCfg 1000 sampleDoc with
    | .ok (b, _) => numbers b.entries
    | .err _ => []) = [(1, 1), (2, 2), (2, 2), (2, 2), (2, 2), (3, 3), (4, 4), (5, 5), (6, 6), (6, 6), (7, 7)] := by decide +kernel

example : ∀ s ∈ sampleDoc, NlEnd s := nlEnd_of_checks _ (by decide +kernel)

/-! ## From the parse buffer to the tokens: the block token constructors

  `make_tokens` (`Document.mkBlock`/`mkBlocks`/`mkItems`, `tableRow`/`tableRows` of `Model/Document.lean`)
  builds the tokens from the buffer entries: `token.line_number = line_number` for every entry,
  `ListItem(…, line_number)`, `Table.__init__`: header row `start_line`, body row k
  `start_line + 2 + k`, `TableRow.__init__`: every cell the row's number.  `Document.blockLns` is the
  pre-order listing (kind, line_number) of a block and everything nested in it; `entriesLns` the same
  listing computed from the buffer's reported numbers, `entriesOgs` from its ghost origins (a table's
  header row = the origin of the table's first line, body row k = that origin + 2 + k). -/

open Mistletoe.Document in
/-- **The constructors copy the numbers, never recompute them**: whenever `make_tokens` returns, the
    listing of the tokens equals the listing computed from the buffer (for every buffer, well-formed
    or not; Footnote entries yield no token). -/
theorem C13_constructors_copy (cfg : Document.Cfg) (fn : Footnotes.Table) (es : List Entry) (bs : List Mistletoe.Block)
    (h : Document.mkBlocks cfg fn es = .ok bs) : blocksLns bs = entriesLns es :=
  mkBlocks_lns cfg fn es bs h

open Mistletoe.Document in
/-- **Every block token of `Document(lines)`, at every nesting depth (children of block quotes and
    list items, list items, table rows and cells included), reports the 1-based index of the input
    line it was found on**: the listing of the document equals the listing of ghost origins of the
    parse buffer the block phase returned. -/
theorem C13_document_line_numbers (cfg : Document.Cfg) (gas : Nat) (lines : List Str) (d : Doc)
    (hl : ∀ s ∈ lines, NlEnd s) (h : Document.parseLines cfg gas lines = .ok d) :
    ∃ b st, blockPhase cfg.block gas lines = .ok (b, st) ∧ docLns d = entriesOgs b.entries :=
  let ⟨b, st, h1, _, h3⟩ := parseLines_lns cfg gas lines d hl h
  ⟨b, st, h1, h3⟩

open Mistletoe.Document in
/-- the same for a document given as one string -/
theorem C13_document_str_line_numbers (cfg : Document.Cfg) (gas : Nat) (t : Str) (d : Doc)
    (h : Document.parse cfg gas t = .ok d) :
    ∃ b st, blockPhase cfg.block gas (normalize (.str t)) = .ok (b, st) ∧ docLns d = entriesOgs b.entries :=
  C13_document_line_numbers cfg gas _ d (normalize_str_nlEnd t) h

/-- **Table rows**: the number `Table.__init__` gives the header row (`start_line`) is the origin of
    the first line `Table.read` consumed, and the number of body row k (`start_line + 2 + k`) is the
    origin of the line that row was built from (the delimiter row, `start_line + 1`, yields no token). -/
theorem C13_table_row_numbers (fw : FW) (b : List Str) (sl : Nat) (fw' : FW) (h : readTable fw = some (b, sl, fw')) (hok : fw.Ok) :
    (∃ l, fw.peek = some l ∧ some l.s = b[0]? ∧ l.origin = sl) ∧
    ∀ (k : Nat) (s : Str), b[k + 2]? = some s → ∃ l, fw.lines[fw.pos + (k + 2)]? = some l ∧ l.s = s ∧ l.origin = sl + 2 + k := by
  have hr := readTable_rows fw b sl fw' h hok
  obtain ⟨l0, l1, rest, hb, _⟩ := readTable_shape fw b sl fw' h
  constructor
  · obtain ⟨l, h1, h2, h3⟩ := hr 0 l0 (by rw [hb]; rfl)
    exact ⟨l, by simpa [FW.peek] using h1, by rw [hb, h2]; rfl, by simpa using h3⟩
  · intro k s hk
    obtain ⟨l, h1, h2, h3⟩ := hr (k + 2) s hk
    exact ⟨l, h1, h2, by omega⟩

/-- in the listing, the rows of a table are numbered consecutively from the number of the first -/
theorem C13_rows_consecutive (ls : List Str) (a n : Nat) :
    Document.rowsLns ls a n = (ls.zipIdx n).flatMap (fun (l, k) => Document.rowLns l a k) :=
  Document.rowsLns_eq ls a n

/-! ### Non-vacuity: a list item that begins with a blank line, a quote containing a table, a lazy
    continuation line, a link reference definition (no token), a heading -/

def docCfg : Document.Cfg :=
  { block := { types := [.htmlBlock, .blockCode, .heading, .quote, .codeFence, .thematicBreak, .list, .table, .footnote, .paragraph] },
    span := [.escapeSequence, .htmlSpan, .autoLink, .coreTokens, .inlineCode, .lineBreak, .strikethrough] }

/-- line 1 `-` (item that begins with a blank line), 2 its paragraph, 3–5 a table inside a quote
    (4 is the delimiter row), 6 `>`, 7 a paragraph inside the quote, 8 its lazy continuation,
    9 a link reference definition, 10 a heading -/
def docLines10 : List Str :=
  ["-\n", "  foo\n", "> | a | b |\n", "> |---|---|\n", "> | 1 | 2 |\n", ">\n", "> para\n", "lazy\n", "[r]: /u\n", "# h\n"].map String.toList

open Mistletoe.Document in
/-- the listing the kernel computes from the full model: every token reports the index of the line
    that contains its first character (the same list is obtained by walking the token tree of the
    real `Document(lines)` and reading `line_number`) -/
example : (match Document.parseLines docCfg 60 docLines10 with
    | .ok d => docLns d
    | .err _ => []) =
    [(.list, 1), (.listItem, 1), (.paragraph, 2),
     (.quote, 3), (.table, 3), (.tableRow, 3), (.tableCell, 3), (.tableCell, 3),
       (.tableRow, 5), (.tableCell, 5), (.tableCell, 5), (.paragraph, 7),
     (.heading, 10)] := by decide +kernel

open Mistletoe.Document in
/-- and it is the listing of ghost origins of the parse buffer, as `C13_document_line_numbers` says -/
example : (match Document.parseLines docCfg 60 docLines10, blockPhase docCfg.block 60 docLines10 with
    | .ok d, .ok (b, _) => docLns d == entriesOgs b.entries && !(docLns d).isEmpty
    | _, _ => false) = true := by decide +kernel

example : ∀ s ∈ docLines10, NlEnd s := nlEnd_of_checks _ (by decide +kernel)

end Mistletoe.Props.C13
