/-
  C09 (fragment with code blocks) — the round trip from the `str`: what the chain needs of a fenced or an indented code block is
  proved in Proofs/MdRoundCode.lean, the chain for a document of blocks in Proofs/MdRoundDoc.lean (`doc_roundtrip`).

  Extends the fragment of Props/C09.lean (`Blk`: inert prose paragraphs, ATX headings, thematic breaks) by fenced code
  blocks and indented code blocks in the renderer's normal form (`Blk2`): an opening fence of three or more backquotes
  or tildes at indentation 0 with any info string on the same line (not starting with the fence character; without
  backquote for a backquote fence), content lines that are complete lines, do not close the fence and are empty or not
  all whitespace, closed by the same fence string; an indented block of lines "    text" (no blank line inside, first
  non-blank character not `[`), no two indented blocks adjacent.  Excluded because the renderer of the working tree does NOT
  reproduce them (kernel-checked in Proofs/MdRoundCode.lean and reproduced on the real code): a whitespace-only content
  line (blanked by prefix_lines), a tilde info string starting with `~`, a content line that closes the fence.
  Gas: `2 * rest.length + 14` and `k * 8` as `MdRoundDoc.doc_roundtrip` says.
-/
import Mistletoe.Proofs.MdRoundCode
import Mistletoe.Proofs.Lit
namespace Mistletoe.Props.C09C
open Mistletoe Mistletoe.MdRound Mistletoe.MdRoundCode

/-- **Round trip of the fragment with code blocks, for the token lists of the working tree** (`Config.markdown`), inside
    `k ≥ 0` nested block quotes ("> " before every line; tab-free lines when quoted): `MarkdownRenderer(no line limit,
    either normalize_whitespace).render(Document(text))` is the text; rendering again reproduces it; the rendered text
    parses like the original under every configuration (same document, same definitions, same HTML). -/
theorem C09_code_blocks_roundtrip_partial (cfg : Document.Cfg) (hcfg : Config.markdown = some cfg)
    (it : Blk2) (rest : List Blk2) (hok : it.ok = true) (hrest : ∀ x ∈ rest, x.ok = true) (hadj : adjOk it rest = true)
    (hnt : ∀ l ∈ itemsLines2 it rest, '\t' ∉ l) (k : Nat)
    (o : Markdown.Opts) (ho : o.maxLineLength = none) (gas : Nat) :
    ∃ d, Document.parse cfg (gas + (2 * rest.length + 14) + k * 8) (qStrs k (itemsLines2 it rest)).flatten = .ok d ∧
      Markdown.render o d = (qStrs k (itemsLines2 it rest)).flatten ∧
      (∃ d', Document.parse cfg (gas + (2 * rest.length + 14) + k * 8) (Markdown.render o d) = .ok d' ∧
        Markdown.render o d' = Markdown.render o d) ∧
      (∀ (cfg' : Document.Cfg) (g : Nat),
        Document.parse cfg' g (Markdown.render o d) = Document.parse cfg' g (qStrs k (itemsLines2 it rest)).flatten) ∧
      (∀ (hopts : Html.Opts) (g : Nat),
        Config.renderHtml hopts g (Markdown.render o d) = Config.renderHtml hopts g (qStrs k (itemsLines2 it rest)).flatten) := by
  obtain ⟨hty, ht, hc⟩ := markdown_cfg cfg hcfg
  obtain ⟨d, _, _, _, h⟩ := MdRoundDoc.doc_roundtrip frag2 (·.ok = true) cfg hty o ho it rest hok hrest hadj gas k (Or.inr hnt)
    (fun st _ x h => blk2_laws cfg _ o st hty ht hc x h)
  exact ⟨d, h⟩

/-- at top level no hypothesis on tabs is needed (a tab inside a code line is reproduced) -/
theorem C09_code_blocks_top_level_partial (cfg : Document.Cfg) (hcfg : Config.markdown = some cfg)
    (it : Blk2) (rest : List Blk2) (hok : it.ok = true) (hrest : ∀ x ∈ rest, x.ok = true) (hadj : adjOk it rest = true)
    (o : Markdown.Opts) (ho : o.maxLineLength = none) (gas : Nat) :
    ∃ d, Document.parse cfg (gas + (2 * rest.length + 14)) (itemsLines2 it rest).flatten = .ok d ∧
      Markdown.render o d = (itemsLines2 it rest).flatten ∧
      (∃ d', Document.parse cfg (gas + (2 * rest.length + 14)) (Markdown.render o d) = .ok d' ∧
        Markdown.render o d' = Markdown.render o d) ∧
      (∀ (cfg' : Document.Cfg) (g : Nat),
        Document.parse cfg' g (Markdown.render o d) = Document.parse cfg' g (itemsLines2 it rest).flatten) ∧
      (∀ (hopts : Html.Opts) (g : Nat),
        Config.renderHtml hopts g (Markdown.render o d) = Config.renderHtml hopts g (itemsLines2 it rest).flatten) := by
  obtain ⟨hty, ht, hc⟩ := markdown_cfg cfg hcfg
  obtain ⟨d, _, _, _, h⟩ := MdRoundDoc.doc_roundtrip frag2 (·.ok = true) cfg hty o ho it rest hok hrest hadj gas 0 (Or.inl rfl)
    (fun st _ x h => blk2_laws cfg _ o st hty ht hc x h)
  exact ⟨d, h⟩

/-- non-vacuity: a fenced block with an info string, an empty content line and a line that looks like a heading -/
example : (Blk2.fence "```".toList "py".toList ["x = 1\n".toList, "\n".toList, "# not a heading\n".toList]).ok = true := by
  decide_lit

end Mistletoe.Props.C09C
