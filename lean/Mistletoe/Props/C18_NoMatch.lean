/-
  C18 (GitHub-wiki renderer under the property's own side condition); the proofs are in Proofs/ContribSame2.lean.

  Props/C18_Text.lean proves the GitHub-wiki clause for texts without "[[".  The property says "no '[[..|..]]'": a text such
  as `a [[b c` or `x[[1]] y` is inside the property.  Here the hypothesis is the property's: the wiki pattern
  `\[\[ *(.+?) *\| *(.+?) *\]\]` matches nowhere in the text (`noWikiLine`, the model's own scanner run on every line; it is
  proved equivalent to the declarative reading "the text has no infix `[[` x `|` y `]]` with x, y non-empty and free of
  newlines").  The invariant carried through the block phase is an 8-state recogniser closed under the operations the
  parser applies to lines (strip, cut, split at `|`, unescape `\|`, join with "\n").
  Not proved: the MathJax clause under "at most one `$`" (`[^$]` matches newlines, so the condition is global; the per-line
  invariant cannot carry it) - Props/C18_Text.lean has it for texts without `$`.
-/
import Mistletoe.Proofs.ContribSame2
namespace Mistletoe.Props.C18N
open Mistletoe Mistletoe.Py Mistletoe.Inline Mistletoe.Html Mistletoe.ContribSame2

/-- **GitHub-wiki renderer**: for every text in which the wiki pattern matches nowhere and every option set, parse-and-render
    under the GithubWiki renderer's token lists and functions gives exactly the HTML renderer's output. -/
theorem C18_githubwiki_same_output_nomatch (o : Opts) (gas : Nat) (t : Str) (ht : noWikiLine t = true) :
    Config.renderContrib Config.githubWiki { o with flavor := .githubWiki } gas t = Config.renderHtml o gas t :=
  Mistletoe.ContribSame2.C18_githubwiki_same_output_nomatch o gas t ht

/-- what the side condition says, declaratively -/
theorem C18_nomatch_spelled_out (t : Str) : noWikiLine t = true ↔
    ¬ ∃ a x y b, t = a ++ '[' :: '[' :: (x ++ '|' :: (y ++ ']' :: ']' :: b)) ∧ x ≠ [] ∧ y ≠ [] ∧ '\n' ∉ x ∧ '\n' ∉ y :=
  noWikiLine_iff_decl t

/-- the hypothesis of Props/C18_Text.lean (no "[[") implies this one -/
theorem C18_nomatch_weaker (t : Str) (h : isInfix ['[', '['] t = false) : noWikiLine t = true :=
  noWikiLine_of_noBB t h

end Mistletoe.Props.C18N
