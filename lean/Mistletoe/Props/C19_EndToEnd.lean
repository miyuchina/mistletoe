/-
  C19 (end to end) — property theorems only; the proofs are in Proofs/TocEndToEnd.lean (which builds on Props/C19.lean,
  Proofs/Outline.lean and Proofs/TocPlain.lean, hence this second file).

  Props/C19.lean proves four separate pieces: the collected `_headings` are the qualifying headings in pre-order
  (`C19_collection`), the list lines (`C19_lines`), the nesting of the list parsed from them (`C19_toc_nested`) and the plain
  text of a heading (`C19_plain_text_*`).  Here they are COMPOSED into the property as stated, about a document and about a
  text: hypotheses (all decidable, evaluated on the parsed tree) - every heading of the document has children made of raw
  text, emphasis, strong, strikethrough, inline code and escapes whose text holds no `<`, `>`, `&` (`plainHeadings`); the
  qualifying headings form an outline (`isOutline`: none shallower than the first, none more than one level deeper than its
  predecessor) and their texts are plain-word titles (`titlesPlain`: a letter first, no newline).
  Not covered here: the inline phase on each title of the toc list (`make_tokens`) - Props/C19_Tokens.lean carries it along
  for titles that are inert inline text.  Not covered at all: headings with links, images or raw HTML; outlines that skip a
  level.
-/
import Mistletoe.Proofs.TocEndToEnd
namespace Mistletoe.Props.C19E
open Mistletoe Mistletoe.Html Mistletoe.Toc Mistletoe.Escape Mistletoe.Props.C19

/-- **After rendering, `_headings` is exactly the list of qualifying headings** - level within `depth`, level 1 left out under
    `omit_title`, not filtered - of the document, at any depth (block quotes, lists), in document order, each with its level
    and its plain text. -/
theorem C19_document_headings (q : Quotes) (cfg : Toc.Cfg) (d : Doc) (hp : plainHeadings q d = true) :
    collectL q cfg d.kids = expectedHs cfg d :=
  Mistletoe.Props.C19.C19_document_headings q cfg d hp

/-- what "qualifying" means, spelled out -/
theorem C19_expected_spelled_out (cfg : Toc.Cfg) (d : Doc) (l : Nat) (c : Str) : (l, c) ∈ expectedHs cfg d ↔
    ∃ k, (l, k) ∈ headingsL d.kids ∧ c = leafTexts k ∧
      ¬ (cfg.omitTitle = true ∧ l = 1) ∧ l ≤ cfg.depth ∧ cfg.excluded c = false :=
  Mistletoe.Props.C19.mem_expectedHs cfg d l c

open Mistletoe.Block in
/-- **From a text, under the TocRenderer's token lists of the working tree**: if `Document(text)` is `d` and the hypotheses
    hold, the pipeline text → document → `_headings` → list lines → `tokenize` (inside the `with` block or after it) returns
    ONE list, not loose, nested exactly as the outline of the qualifying headings: one item per qualifying heading, in
    document order, carrying its plain text, a nested list iff deeper headings follow.  (`15 · n + 14` and `14 · n + 13`: the gas
    of `C19_toc_nested`, `(|types| + 5) · n + |types| + 4`, at the ten block types inside the context and the nine after it.) -/
theorem C19_text_toc_current (q : Quotes) (cfg : Toc.Cfg) (pcfg : Document.Cfg)
    (hpcfg : Config.cfgOf Gen.RenderMaps.tocBlockTokens Gen.RenderMaps.tocSpanTokens = some pcfg)
    (gasP : Nat) (t : Str) (d : Doc)
    (hparse : Document.parse pcfg gasP t = .ok d) (hp : plainHeadings q d = true)
    (ho : isOutline (expectedHs cfg d) = true) (ht : titlesPlain (expectedHs cfg d) = true) :
    collectL q cfg d.kids = expectedHs cfg d
    ∧ (∀ gasT, 15 * (expectedHs cfg d).length + 14 ≤ gasT →
        tocOfText q cfg pcfg pcfg.block gasP gasT t =
          .ok ({ entries := [.list (expItems 0 1 (toForest (expectedHs cfg d))) 1 1], loose := false }, {}))
    ∧ (∀ acfg, Config.cfgOf Gen.RenderMaps.tocBlockTokensAfterExit Gen.RenderMaps.tocSpanTokensAfterExit = some acfg →
        ∀ gasT, 14 * (expectedHs cfg d).length + 13 ≤ gasT →
        tocOfText q cfg pcfg acfg.block gasP gasT t =
          .ok ({ entries := [.list (expItems 0 1 (toForest (expectedHs cfg d))) 1 1], loose := false }, {})) :=
  Mistletoe.Props.C19.C19_text_toc_current q cfg pcfg hpcfg gasP t d hparse hp ho ht

end Mistletoe.Props.C19E
