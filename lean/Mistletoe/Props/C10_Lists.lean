/-
  C10 (paragraphs inside list items) — the property theorems, from the clauses proved in Proofs/ReflowList.lean (which builds on
  Proofs/MdRoundLists2.lean and Proofs/ReflowQuote.lean).

  Props/C10_Reflow.lean carries the four clauses through `Document(text)` and `MarkdownRenderer(max_line_length=L)` for
  plain-word prose at top level and inside k nested block quotes.  Here the CONTAINER IS A LIST ITEM (the property's
  mechanism: "containers shrink the budget by their prefix width (render_quote, render_list_item)"): documents of
  plain-word paragraphs and lists in the renderer's normal form (`PT`, mapped into the `MB` trees of Proofs/MdRoundLists.lean:
  bullet and ordered lists, padding 1-4, tight or loose, nested to any depth, items holding paragraphs and lists), at top
  level and with `k` block quotes around the whole document.  `oksP` is the decidable admissibility predicate; it asks for
  `plainPara` of every paragraph and the list rules of C09, nothing about the lines (the line shape is proved).
  A paragraph behind item prefixes of total width `w` (and `k` quote markers) is filled with the budget
  `max (L − 2k − w) 1`; clamping at 1 does not break idempotence.
  Not covered: a list directly behind a paragraph inside an item (no empty line), block quotes inside items, hard breaks,
  inline markup; the meaning clause compares the HTML of the trees parsed under the Markdown renderer's token list.
-/
import Mistletoe.Proofs.ReflowList
namespace Mistletoe.Props.C10L
open Mistletoe Mistletoe.Py Mistletoe.Wrap Mistletoe.Markdown Mistletoe.InertInline Mistletoe.MdRound Mistletoe.Reflow Mistletoe.ReflowQuote
open Mistletoe.ReflowList
open Mistletoe.Props.C10 (joinWords)

/-- **The general form: the document of `C10_list_reflow_partial` (below; the fragment and the clauses are described there)
    inside `k ≥ 0` nested block quotes** (clauses 1, 2, words of 3): every line of the text — empty lines
    included — behind `k` markers "> " (`textLQ k`; `k = 0` is `C10_list_reflow_partial`).  The quotes take `2k` off the
    limit (`qBudget L k = max (L − 2k) 1`, `C10_quoted_reflow_partial`), the items go on from there: the output is, at
    the same quote depth, the text of `reflows (qBudget L k) 0 ts`; a paragraph behind `k` quote markers and item
    prefixes of total width `w` is filled with the budget `bud (qBudget L k) w = max (L − 2k − w) 1`. -/
theorem C10_list_reflow_quoted_partial (cfg : Document.Cfg) (hcfg : Config.markdown = some cfg)
    (o : Opts) (L : Nat) (hL : 1 ≤ L) (ho : o.maxLineLength = some (L : Int))
    (ts : List PT) (hne : ts ≠ []) (hok : oksP o.normalizeWhitespace ts = true) (k : Nat) (gas : Nat) :
    ∃ d, Document.parse cfg (gas + (needsM (mbs ts) + 1) + k * 8) (textLQ k ts) = .ok d ∧
      d.kids = qBlocks 1 (blks 1 (mbs ts)) k ∧
      renderRes o d = .ok (textLQ k (reflows (qBudget L k) 0 ts)) ∧ render o d = textLQ k (reflows (qBudget L k) 0 ts) ∧
      (oksP o.normalizeWhitespace (reflows (qBudget L k) 0 ts) = true ∧ norms (reflows (qBudget L k) 0 ts) = norms ts ∧
        parasS 0 (reflows (qBudget L k) 0 ts) = (parasS 0 ts).map (refillAt (qBudget L k)) ∧
        ∀ p ∈ parasS 0 ts, plainPara p.2 = true ∧ plainPara (reflowG (bud (qBudget L k) p.1) p.2) = true ∧
          (reflowG (bud (qBudget L k) p.1) p.2).flatten = p.2.flatten ∧
          fill (bud (qBudget L k) p.1) p.2.flatten = (reflowG (bud (qBudget L k) p.1) p.2).map joinWords) ∧
      (∀ l ∈ qStrs k (wrs (mbs (reflows (qBudget L k) 0 ts))), l = qPre k ++ ['\n'] ∨
        ∃ p ∈ parasS 0 ts, ∃ pre body, l = qPre k ++ (pre ++ body ++ ['\n']) ∧
          pre.length = p.1 ∧ (∀ c ∈ pre, preChar c = true) ∧ body ∈ fill (bud (qBudget L k) p.1) p.2.flatten ∧
          ((bud (qBudget L k) p.1 < body.length ∨ L < (qPre k ++ pre ++ body).length) →
            body ∈ p.2.flatten ∧ ∀ c ∈ body, pyIsSpace c = false)) := by
  obtain ⟨hty, ht, hc⟩ := markdown_cfg cfg hcfg
  obtain ⟨d, h1, h2, h3⟩ := reflowLQ_render cfg hty ht hc o L hL ho ts hne hok k gas
  exact ⟨d, h1, h2, h3, by simp only [render, h3], reflowL_same_words _ _ ts hok, reflowLQ_line_bound _ L k ts hok⟩

/-- **C10 inside list items: what the renderer does with a line limit, that nothing is lost, and the limit after the
    container prefix** (clauses 1, 2 and the word part of 3), for the token lists `MarkdownRenderer` installs in the
    working tree (`Config.markdown`).

    Fragment (`_partial`: it is a hypothesis, decidable: `oksP`).  A document is a non-empty list of blocks separated
    by single empty lines; a block is a paragraph of plain words (`plainPara`, as in `C10_prose_reflow_markdown_partial`) or a
    LIST — bullet `-`/`+`/`*` or ordered `n.`/`n)` numbered consecutively from any start below 10⁹, marker in column 0
    of its container, 1…4 spaces of padding (exactly 1 under `normalize_whitespace=True`), tight or with one empty
    line between items, every item a non-empty list of blocks of the fragment again (nested lists to any depth), the
    lines of an item behind marker + padding (first) and as many spaces (others); behind a list comes a paragraph or a
    list of another marker type.  `textL ts` is that text (the writer `MdRound.wrs` of C09).
    `MarkdownRenderer(max_line_length=L)`, `L ≥ 1`, either `normalize_whitespace`.

    Then `Document(text)` succeeds (tokens `MdRound.blks`), and
    * (1) the renderer does not raise; its output is the text of the tree `reflows L 0 ts`: same lists, markers,
      numbering, padding, looseness, and every paragraph re-filled by the greedy loop with the budget
      `bud L w = max (L − w) 1`, `w` the total width of the prefixes (`prepend` = marker + padding) of the items around
      it — each `render_list_item` takes its prefix width off the limit and the clamp keeps the budget truthy
      (`childBudget_bud`);
    * (3, words) the re-filled tree is in the fragment and differs from `ts` only in the line division of the
      paragraphs (`norms`); paragraph by paragraph (`parasS`: in document order, with its prefix width) the new
      paragraph is `reflowG (bud L w) g`, of plain words, with exactly the same word sequence;
    * (2) every output line is "\n", or `prefix ++ body ++ "\n"` with the prefix of the width `w` recorded for one
      paragraph `g` and the body a line of the fill loop over the words of `g`; a body longer than the budget, and
      likewise the body of a line (without "\n") longer than `L`, is one single word of `g` — it contains no
      whitespace, hence no breakable space after the container prefix. -/
theorem C10_list_reflow_partial (cfg : Document.Cfg) (hcfg : Config.markdown = some cfg)
    (o : Opts) (L : Nat) (hL : 1 ≤ L) (ho : o.maxLineLength = some (L : Int))
    (ts : List PT) (hne : ts ≠ []) (hok : oksP o.normalizeWhitespace ts = true) (gas : Nat) :
    ∃ d, Document.parse cfg (gas + (needsM (mbs ts) + 1)) (textL ts) = .ok d ∧ d.kids = blks 1 (mbs ts) ∧
      renderRes o d = .ok (textL (reflows L 0 ts)) ∧ render o d = textL (reflows L 0 ts) ∧
      (oksP o.normalizeWhitespace (reflows L 0 ts) = true ∧ norms (reflows L 0 ts) = norms ts ∧
        parasS 0 (reflows L 0 ts) = (parasS 0 ts).map (refillAt L) ∧
        ∀ p ∈ parasS 0 ts, plainPara p.2 = true ∧ plainPara (reflowG (bud L p.1) p.2) = true ∧
          (reflowG (bud L p.1) p.2).flatten = p.2.flatten ∧
          fill (bud L p.1) p.2.flatten = (reflowG (bud L p.1) p.2).map joinWords) ∧
      (∀ l ∈ wrs (mbs (reflows L 0 ts)), l = ['\n'] ∨ ∃ p ∈ parasS 0 ts, ∃ pre body, l = pre ++ body ++ ['\n'] ∧
        pre.length = p.1 ∧ (∀ c ∈ pre, preChar c = true) ∧ body ∈ fill (bud L p.1) p.2.flatten ∧
        ((bud L p.1 < body.length ∨ L < (pre ++ body).length) → body ∈ p.2.flatten ∧ ∀ c ∈ body, pyIsSpace c = false)) := by
  have h := C10_list_reflow_quoted_partial cfg hcfg o L hL ho ts hne hok 0 gas
  rw [qBudget_zero L hL] at h
  exact h

example : ∃ cfg d, Config.markdown = some cfg ∧ Document.parse cfg 128 exText = .ok d ∧
    render { maxLineLength := some 12 } d = exOut := by
  obtain ⟨cfg, hcfg⟩ := Mistletoe.ReflowQuote.markdown_cfg_exists
  obtain ⟨d, h1, _, _, h4, _⟩ := C10_list_reflow_partial cfg hcfg { maxLineLength := some 12 } 12 (by omega) rfl
    exDoc exDoc_ok.2.2 exDoc_ok.1 0
  rw [exDoc_text, exDoc_need] at h1
  exact ⟨cfg, d, hcfg, h1, h4.trans exDoc_out⟩

example : ∃ cfg d, Config.markdown = some cfg ∧
    Document.parse cfg (needsM (mbs exDoc) + 1 + 1 * 8) (textLQ 1 exDoc) = .ok d ∧
    render { maxLineLength := some 14 } d = textLQ 1 (reflows 12 0 exDoc) := by
  obtain ⟨cfg, hcfg⟩ := Mistletoe.ReflowQuote.markdown_cfg_exists
  obtain ⟨d, h1, _, _, h4, _⟩ := C10_list_reflow_quoted_partial cfg hcfg { maxLineLength := some 14 } 14 (by omega) rfl
    exDoc exDoc_ok.2.2 exDoc_ok.1 1 0
  exact ⟨cfg, d, hcfg, by simpa using h1, h4⟩

/-- **Same meaning** (clause 3) at quote depth `k ≥ 0`: the output parses again, to the token tree of the re-filled tree, which has
    the same lists / items / markers and the same words per paragraph; the HTML of the two trees is equal once every "\n" is
    replaced by a space. -/
theorem C10_list_reflow_quoted_meaning_partial (cfg : Document.Cfg) (hcfg : Config.markdown = some cfg)
    (o : Opts) (L : Nat) (hL : 1 ≤ L) (ho : o.maxLineLength = some (L : Int))
    (ts : List PT) (hne : ts ≠ []) (hok : oksP o.normalizeWhitespace ts = true) (k : Nat) (gas : Nat) :
    ∃ d d', Document.parse cfg (gas + (needsM (mbs ts) + 1) + k * 8) (textLQ k ts) = .ok d ∧
      Document.parse cfg (gas + (needsM (mbs ts) + 1) + k * 8) (render o d) = .ok d' ∧
      d.kids = qBlocks 1 (blks 1 (mbs ts)) k ∧ d'.kids = qBlocks 1 (blks 1 (mbs (reflows (qBudget L k) 0 ts))) k ∧
      oksP o.normalizeWhitespace (reflows (qBudget L k) 0 ts) = true ∧ norms (reflows (qBudget L k) 0 ts) = norms ts ∧
      ∀ hopts : Html.Opts, nlToSp (Html.render hopts d') = nlToSp (Html.render hopts d) :=
  Mistletoe.ReflowList.C10_list_reflow_quoted_meaning_partial cfg hcfg o L hL ho ts hne hok k gas

/-- **Reflowing again changes nothing** (clause 4) at quote depth `k ≥ 0`, for every `L ≥ 1`, also where budgets are clamped to 1. -/
theorem C10_list_reflow_quoted_idempotent_partial (cfg : Document.Cfg) (hcfg : Config.markdown = some cfg)
    (o : Opts) (L : Nat) (hL : 1 ≤ L) (ho : o.maxLineLength = some (L : Int))
    (ts : List PT) (hne : ts ≠ []) (hok : oksP o.normalizeWhitespace ts = true) (k : Nat) (gas : Nat) :
    ∃ d, Document.parse cfg (gas + (needsM (mbs ts) + 1) + k * 8) (textLQ k ts) = .ok d ∧
      ∃ d', Document.parse cfg (gas + (needsM (mbs ts) + 1) + k * 8) (render o d) = .ok d' ∧
        renderRes o d' = renderRes o d ∧ render o d' = render o d := by
  obtain ⟨hty, ht, hc⟩ := markdown_cfg cfg hcfg
  exact reflowLQ_idempotent cfg hty ht hc o L hL ho ts hne hok k gas

end Mistletoe.Props.C10L
