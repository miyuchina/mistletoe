/-
  C03 (fragment with lists) — property theorems only; the proofs are in Proofs/ComposeLists.lean (what
  the readers do on written items) and Proofs/ComposeLists2.lean (the tree `T2` inside the larger trees of Proofs/ComposeEmbed.lean
  and Proofs/ComposeTable.lean, where the induction is done).

  The tree type `T2` keeps the paragraphs, ATX headings, thematic breaks and block quotes of Props/C03.lean and adds LISTS
  at every nesting depth: bullet lists (`-`, `+`, `*`) and ordered lists (any start below 10^9, delimiter `.` or `)`),
  padding 1-4, tight (one block per item, no blank line) or loose (one blank line between items, any number of blocks per
  item), items holding any block of the fragment - nested lists and quotes included; lists inside quotes and quotes inside
  lists.  `T2.oks` is the decidable admissibility predicate (it follows the rules of the Python tree generator, which were
  debugged against the code).
  Not covered: marker indentation 1-3, items beginning with a blank line, lazy lines, tight items made of a paragraph
  directly followed by a nested list, more than one blank line, two lists in a row (the recorded finding
  `C03-adjacent-lists-looseness`).
-/
import Mistletoe.Proofs.ComposeLists2
namespace Mistletoe.Props.C03L
open Mistletoe Mistletoe.Block Mistletoe.Html Mistletoe.InertInline Mistletoe.ComposeL

/-- **The document written from a tree with lists parses back to that tree**: for every admissible forest `ts`
    (`T2.oks`), under the default block token list and every covered span list, `Document(write(ts))` - from the lines and
    from the `str` - is exactly `blocks2 1 ts`: one `List` token per list node with `loose` and `start` as the tree says, one
    `ListItem` per item with its marker, content offset and line number, the items' blocks recursively, line numbers as written. -/
theorem C03_lists_document_partial (cfg : Document.Cfg) (ti : Bool)
    (hb : cfg.block = { types := Props.C14.defaultTypes, tableInterrupt := ti })
    (ht : ∀ t ∈ cfg.span, inertClass t = true) (hc : cfg.span.count .lineBreak = 1)
    (ts : List T2) (h : T2.oks ts = true) (hne : ts ≠ []) (gas : Nat) (hg : needs2 ts ≤ gas) :
    Document.parseLines cfg gas (writes2 ts) = .ok { kids := blocks2 1 ts, footnotes := [] } ∧
    Document.parse cfg gas (writes2 ts).flatten = .ok { kids := blocks2 1 ts, footnotes := [] } :=
  Mistletoe.ComposeL.C03_lists_document_partial cfg ti hb ht hc ts h hne gas hg

/-- **… and the HTML renderer gives, byte for byte, the HTML written directly from the tree** (`htmlOf2`: `<ul>` / `<ol>`
    with `start` when it is not 1, `<li>` with or without `<p>` according to tight / loose), for every option set, through
    the parse-and-render pipeline of the working tree's HTML configuration. -/
theorem C03_lists_html_partial (o : Opts) (ts : List T2) (h : T2.oks ts = true) (hne : ts ≠ []) (gas : Nat) (hg : needs2 ts ≤ gas) :
    Config.renderHtml o gas (writes2 ts).flatten = some (htmlOf2 o ts) :=
  Mistletoe.ComposeL.C03_lists_html_partial o ts h hne gas hg

end Mistletoe.Props.C03L
