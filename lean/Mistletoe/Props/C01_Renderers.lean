/-
  C01 (renderers other than HTML) — parse-and-render never raises with the Markdown, Jira, XWiki and LaTeX renderers
  (LaTeX: except the documented refusal).

  Property theorems only; the proofs are in Proofs/MdTotal.lean, Proofs/ContribTotal.lean and Proofs/LatexTotal.lean (which build on
  Props/C01.lean, hence this second file).  Each is about the parser model (`Document.parse`, tied to the code by the
  doc / block.buffer / inline units) followed by the renderer's model (`Model/Markdown.lean`, `Model/Jira.lean`,
  `Model/XWiki.lean`, tied to the code by the md.render / jira.render / xwiki.render units), in which every Python
  raise site is an explicit `.err`: a class without render-map entry (`KeyError`), a table header, row or cell of the
  wrong kind, for Markdown also a table without header and a missing title delimiter or label (`TypeError`).
  `children[-1]` / `children[0]` of an empty quote or list item are guarded in jira_renderer.py / xwiki20_renderer.py
  as repaired in /repo, so the models have no `IndexError` site.  The theorems say that none of the `.err` is reachable
  from a parsed document.
-/
import Mistletoe.Proofs.MdTotal
import Mistletoe.Proofs.ContribTotal
import Mistletoe.Proofs.LatexTotal
namespace Mistletoe.Props.C01R
open Mistletoe Mistletoe.Block Mistletoe.Lines

/-- **Parse-and-render with the Markdown renderer returns a string for every text**: with the token lists
    `MarkdownRenderer` installs (regenerated from /repo) and enough gas, `Document(text)` returns a document and
    `MarkdownRenderer(**o).render` returns a string on it, for EVERY option set `o` (every `max_line_length`,
    negative and zero included, both values of `normalize_whitespace`). -/
theorem C01_markdown_total (cfg : Document.Cfg) (hc : Config.markdown = some cfg) (gas : Nat) (t : Str)
    (hg : gasBound cfg.block (docBuf (normalize (.str t))) ≤ gas) (o : Markdown.Opts) :
    ∃ d out, Document.parse cfg gas t = .ok d ∧ Markdown.renderRes o d = .ok out :=
  Mistletoe.Proofs.MdTotal.C01_markdown_total cfg hc gas t hg o

/-- the only error value parse-and-render can return at all is `.fuel` (too little gas given to the model) -/
theorem C01_markdown_no_raise (cfg : Document.Cfg) (hc : Config.markdown = some cfg) (gas : Nat) (t : Str)
    (o : Markdown.Opts) (e : Err) (h : (Document.parse cfg gas t).bind (Markdown.renderRes o) = .err e) : e = .fuel :=
  Mistletoe.Proofs.MdTotal.C01_markdown_no_raise cfg hc gas t o e h

/-- **The Markdown renderer raises on a tree exactly when the tree is outside `mdOk`** (a decidable shape predicate:
    no Math / GithubWiki / XWiki-macro token, every table has a header row of cells, titles carry their delimiter,
    full references their label), for every option set — and every parsed document is inside it. -/
theorem C01_markdown_render_exact (o : Markdown.Opts) (d : Doc) :
    (Markdown.renderRes o d).isOk = Mistletoe.Proofs.MdTotal.mdOk d :=
  Mistletoe.Proofs.MdTotal.renderRes_isOk o d

/-- **Parse-and-render with the Jira renderer returns a string for every text** (token lists regenerated from /repo). -/
theorem C01_jira_total (cfg : Document.Cfg) (hc : Config.jira = some cfg) (gas : Nat) (t : Str)
    (hg : gasBound cfg.block (docBuf (normalize (.str t))) ≤ gas) : ∃ out, Config.renderJira gas t = some out :=
  Mistletoe.Props.C01.C01_jira_total cfg hc gas t hg

/-- **Parse-and-render with the XWiki renderer returns a string for every text** (token lists regenerated from
    /repo: the block list with `HtmlBlock`, the span list with `HtmlSpan`, `XWikiBlockMacroStart` and
    `XWikiBlockMacroEnd`).  The parse model runs the `find` of the two macro classes (`Model/InlineScanX.lean`,
    wired into `Inline.findOne` / `Inline.build`: `parse_group = 1`, `parse_inner = False`, `content = match.group(1)`),
    so `{{name …}}` lines become `XWikiBlockMacroStart` / `XWikiBlockMacroEnd` tokens as in the code, and the
    renderer model renders them (`render_x_wiki_block_macro_start` / `_end`). -/
theorem C01_xwiki_total (cfg : Document.Cfg) (hc : Config.xwiki = some cfg) (gas : Nat) (t : Str)
    (hg : gasBound cfg.block (docBuf (normalize (.str t))) ≤ gas) : ∃ out, Config.renderXWiki gas t = some out :=
  Mistletoe.Props.C01.C01_xwiki_total cfg hc gas t hg

/-- a macro block, kernel-evaluated end to end: the opening and the closing line become the two macro tokens
    (each keeps its own line), the soft line break after the body becomes a space — byte for byte what
    `XWiki20Renderer().render(Document(text))` returns -/
example : Config.renderXWiki 50 "{{info}}\nsome macro body\n{{/info}}\n".toList =
    some "{{info}}\nsome macro body \n{{/info}}\n\n".toList :=
  Contrib.renderXWiki_of Contrib.xwiki_eq (by decide_lit)

/-- the parsed paragraph of that text: `XWikiBlockMacroStart`, `RawText`, soft `LineBreak`, `XWikiBlockMacroEnd` -/
example : (match Config.xwiki with
    | some cfg => (match Document.parse cfg 50 "{{info}}\nsome macro body\n{{/info}}\n".toList with
      | .ok ⟨[.paragraph [.xwikiMacroStart a, .rawText b, .lineBreak _ true, .xwikiMacroEnd c] _], _⟩ =>
          a == "{{info}}".toList && b == "some macro body".toList && c == "{{/info}}".toList
      | _ => false)
    | none => false) = true := by rw [Contrib.xwiki_eq]; decide +kernel

/-- **The Jira and XWiki renderers raise on a tree exactly when it is outside `docOk`** — in particular they return a
    string on empty quotes, empty list items, lists without items and tables without header (the crashes of the
    pinned revision that were repaired). -/
theorem C01_contrib_render_exact (d : Doc) :
    (Jira.render d).isOk = Mistletoe.Contrib.docOk false d ∧ (XWiki.render d).isOk = Mistletoe.Contrib.docOk true d :=
  ⟨Mistletoe.Contrib.jira_render_isOk d, Mistletoe.Contrib.xwiki_render_isOk d⟩

/-- **Parse-and-render with the LaTeX renderer returns a string or the documented refusal, for every text**: with
    the token lists the LaTeX renderer installs (regenerated from /repo) and enough gas, `Document(text)` returns a
    document, and `Latex.renderRes` (the renderer model with every Python raise site made explicit: render-map
    `KeyError`, `token.header` of a table, the align option, the `\verb` delimiter search) returns either the rendered
    string or the refusal `RuntimeError('Unable to find delimiter for verb macro')`, the latter only when some inline
    code of the document contains every candidate delimiter. -/
theorem C01_latex_total_or_refusal (cfg : Document.Cfg) (hc : Config.latex = some cfg) (gas : Nat) (t : Str)
    (hg : gasBound cfg.block (docBuf (normalize (.str t))) ≤ gas) :
    ∃ d, Document.parse cfg gas t = .ok d ∧
      (Latex.renderRes d = .ok (Latex.render d) ∨
       (Latex.renderRes d = .err (.refusal 0) ∧ ∃ c ∈ Latex.codes d, Latex.UsesAllDelims c)) :=
  Mistletoe.Props.C01.C01_latex_total cfg hc gas t hg

/-- the only error values parse-and-render with the LaTeX renderer can return: `.fuel` (model gas) and the refusal -/
theorem C01_latex_no_raise (cfg : Document.Cfg) (hc : Config.latex = some cfg) (gas : Nat) (t : Str) (e : Err)
    (h : (Document.parse cfg gas t).bind Latex.renderRes = .err e) : e = .fuel ∨ e = .refusal 0 :=
  Mistletoe.Props.C01.C01_latex_no_raise cfg hc gas t e h

/-- the configurations exist: the regenerated lists are known to the model -/
example : Config.markdown.isSome = true ∧ Config.jira.isSome = true ∧ Config.xwiki.isSome = true ∧ Config.latex.isSome = true := by
  rw [Config.markdown_eq, Contrib.jira_eq, Contrib.xwiki_eq, Latex.latex_eq]; exact ⟨rfl, rfl, rfl, rfl⟩

end Mistletoe.Props.C01R
