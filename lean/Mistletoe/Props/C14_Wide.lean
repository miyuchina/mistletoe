/-
  C14 (wider inline condition).  The conditions and the proof that they are silent are in Proofs/InertWide.lean, the
  inline-level theorems and the test vectors in Proofs/InertInline2.lean (which imports Props/C14.lean, hence this second
  file), Proofs/InertInline3.lean and Proofs/InertInline5.lean.  The end-to-end theorems are
  `Props.C14.prose_text_of_silent` at the `Silent` proof of each condition.

  `C14_prose_text` (Props/C14.lean) needs `inertBody`: every run of `*`/`_` unable to close, no `]` after a `[`, `&` not
  followed by anything that looks like a reference.  Here the same conclusion is proved under weaker decidable
  conditions: `inertBody2` - runs may open or close as long as no run that can open is followed later by a run of the same
  character that can close (so `process_emphasis` finds no pair); `&…;` allowed when `html.unescape` leaves it alone
  (`&foo;`, `&;`, `&#;`); `<=`, `<3`, `<-` allowed - and `inertBody3` - additionally `]` after `[` when neither `(` nor
  `[` follows it directly (a document of inert lines has no definitions, so no bracket pair becomes a link).  Measured
  on the generator of the C14 check: inertBody accepts 61 %, inertBody2 82 %, inertBody3 95 % of the spec-derived inert
  domain; what is left are texts with a backslash before a non-punctuation character, which `inertBody4` admits;
  `inertBody5` admits a `<` that cannot be completed to raw HTML or an autolink.
-/
import Mistletoe.Proofs.InertInline2
import Mistletoe.Proofs.InertInline3
import Mistletoe.Proofs.InertInline5
namespace Mistletoe.Props.C14W
open Mistletoe Mistletoe.Py Mistletoe.Scan Mistletoe.Block Mistletoe.Inline Mistletoe.InertInline Mistletoe.InertInline2 Mistletoe.InertInline3
open Mistletoe.Html Mistletoe.Escape
open Mistletoe.Props.C14 (inertLine)

/-- **End to end under `inertBody3`**: the document `l₁ ++ … ++ lₙ` of "\n"-terminated, block-inert prose lines whose
    stripped lines joined by "\n" satisfy `inertBody3` is ONE `Paragraph` holding the lines as `RawText`s separated by
    soft `LineBreak`s, and the HTML renderer gives `<p>`, the HTML-escaped text, `</p>` and a newline, for every option
    set; for every configuration with `Paragraph` among the block types and covered span classes. -/
theorem C14_prose_text3 (cfg : Document.Cfg) (hpar : .paragraph ∈ cfg.block.types)
    (ht : ∀ t ∈ cfg.span, inertClass t = true) (hc : cfg.span.count .lineBreak = 1)
    (ls : List Str) (hne : ls ≠ []) (h1 : ∀ l ∈ ls, oneLine l = true)
    (hl : ∀ l ∈ ls, inertLine l = true ∧ proseLine l = true)
    (hi : inertBody3 (Document.joinNl (ls.map strip)) = true) (gas : Nat) :
    Document.parse cfg (gas + (cfg.block.types.length + 4)) ls.flatten =
        .ok { kids := [.paragraph (proseInlines (ls.map strip)) 1], footnotes := [] } ∧
    ∀ o : Opts, render o { kids := [.paragraph (proseInlines (ls.map strip)) 1], footnotes := [] } =
        "<p>".toList ++ escapeHtmlText o.dq o.sq (Document.joinNl (ls.map strip)) ++ "</p>\n".toList :=
  Mistletoe.Props.C14.prose_text_of_silent cfg hpar ht hc ls hne h1 hl (Mistletoe.InertInline2.inertBody3_silent _ hi) gas

/-- **End to end under `inertBody4`** (Proofs/InertWide.lean): as `C14_prose_text3`, and a backslash is allowed when the
    next character exists, is not ASCII punctuation and is not a newline (`C:\dir`, `a \ b`: a literal backslash in
    CommonMark - no escape, no hard break); in the HTML every backslash stands unchanged. -/
theorem C14_prose_text4 (cfg : Document.Cfg) (hpar : .paragraph ∈ cfg.block.types)
    (ht : ∀ t ∈ cfg.span, inertClass t = true) (hc : cfg.span.count .lineBreak = 1)
    (ls : List Str) (hne : ls ≠ []) (h1 : ∀ l ∈ ls, oneLine l = true)
    (hl : ∀ l ∈ ls, inertLine l = true ∧ proseLine l = true)
    (hi : inertBody4 (Document.joinNl (ls.map strip)) = true) (gas : Nat) :
    Document.parse cfg (gas + (cfg.block.types.length + 4)) ls.flatten =
        .ok { kids := [.paragraph (proseInlines (ls.map strip)) 1], footnotes := [] } ∧
    ∀ o : Opts, render o { kids := [.paragraph (proseInlines (ls.map strip)) 1], footnotes := [] } =
        "<p>".toList ++ escapeHtmlText o.dq o.sq (Document.joinNl (ls.map strip)) ++ "</p>\n".toList :=
  Mistletoe.Props.C14.prose_text_of_silent cfg hpar ht hc ls hne h1 hl (Mistletoe.InertInline3.inertBody4_silent _ hi) gas

/-- **End to end under `inertBody5`** (Proofs/InertWide.lean): as `C14_prose_text4`, and a `<` before a letter, `/`, `!` or `?`
    is allowed when no tag, comment, instruction, declaration or autolink can be completed: no `>` follows in the paragraph, or
    - after a letter - the tag name is followed by neither `>`, `/>` nor whitespace and an attribute name, the scheme run is not
    followed by `:` and the e-mail local part not by `@` (`a <b c`, `if i<n; then j>0`, `x </3 > y`); in the HTML every `<` is
    `&lt;` and every `>` is `&gt;`. -/
theorem C14_prose_text5 (cfg : Document.Cfg) (hpar : .paragraph ∈ cfg.block.types)
    (ht : ∀ t ∈ cfg.span, inertClass t = true) (hc : cfg.span.count .lineBreak = 1)
    (ls : List Str) (hne : ls ≠ []) (h1 : ∀ l ∈ ls, oneLine l = true)
    (hl : ∀ l ∈ ls, inertLine l = true ∧ proseLine l = true)
    (hi : Mistletoe.InertInline5.inertBody5 (Document.joinNl (ls.map strip)) = true) (gas : Nat) :
    Document.parse cfg (gas + (cfg.block.types.length + 4)) ls.flatten =
        .ok { kids := [.paragraph (proseInlines (ls.map strip)) 1], footnotes := [] } ∧
    ∀ o : Opts, render o { kids := [.paragraph (proseInlines (ls.map strip)) 1], footnotes := [] } =
        "<p>".toList ++ escapeHtmlText o.dq o.sq (Document.joinNl (ls.map strip)) ++ "</p>\n".toList :=
  Mistletoe.Props.C14.prose_text_of_silent cfg hpar ht hc ls hne h1 hl (Mistletoe.InertInline5.inertBody5_silent _ hi) gas

theorem C14_conditions_nested5 (s : Str) (h : inertBody4 s = true) : Mistletoe.InertInline5.inertBody5 s = true :=
  Mistletoe.InertInline5.inertBody4_inertBody5 s h

theorem C14_conditions_nested4 (s : Str) (h : inertBody3 s = true) : inertBody4 s = true :=
  Mistletoe.InertInline3.inertBody3_inertBody4 s h

/-- the same under `inertBody2` (any table of definitions at the inline level: `C14_core_inert2`) -/
theorem C14_prose_text2 (cfg : Document.Cfg) (hpar : .paragraph ∈ cfg.block.types)
    (ht : ∀ t ∈ cfg.span, inertClass t = true) (hc : cfg.span.count .lineBreak = 1)
    (ls : List Str) (hne : ls ≠ []) (h1 : ∀ l ∈ ls, oneLine l = true)
    (hl : ∀ l ∈ ls, inertLine l = true ∧ proseLine l = true)
    (hi : inertBody2 (Document.joinNl (ls.map strip)) = true) (gas : Nat) :
    Document.parse cfg (gas + (cfg.block.types.length + 4)) ls.flatten =
        .ok { kids := [.paragraph (proseInlines (ls.map strip)) 1], footnotes := [] } ∧
    ∀ o : Opts, render o { kids := [.paragraph (proseInlines (ls.map strip)) 1], footnotes := [] } =
        "<p>".toList ++ escapeHtmlText o.dq o.sq (Document.joinNl (ls.map strip)) ++ "</p>\n".toList :=
  Mistletoe.Props.C14.C14_prose_text2 cfg hpar ht hc ls hne h1 hl hi gas

theorem C14_conditions_nested (s : Str) :
    (inertBody s = true → inertBody2 s = true) ∧ (inertBody2 s = true → inertBody3 s = true) :=
  ⟨Mistletoe.InertInline2.inertBody_inertBody2 s, Mistletoe.InertInline2.inertBody2_inertBodyG false s⟩

/-- **No opener before a closer, no emphasis**: for every text in which no run of `*`/`_` that can open is followed by a
    run of the same character that can close (and without backslash / backquote / link-forming brackets), under ANY table
    of definitions, `find_core_tokens` returns nothing. -/
theorem C14_core_inert2 (s : Str) (fn : Footnotes.Table) (h : inertBody2 s = true) : Core.findCoreTokens s fn = .ok ([], []) :=
  (Mistletoe.InertInline2.inertBody2_silent fn s h).core

/-- strictly weaker: accepted by `inertBody3` (resp. `inertBody2`) and rejected by the narrower condition; and still
    rejecting what is markup -/
example : inertBody2 "a* b_ c".toList = true ∧ inertBody "a* b_ c".toList = false ∧
    inertBody3 "[a] b, [x] [y]".toList = true ∧ inertBody2 "[a] b, [x] [y]".toList = false ∧
    inertBody3 "2*3* x".toList = false ∧ inertBody3 "[a](b)".toList = false := by decide_lit

end Mistletoe.Props.C14W
