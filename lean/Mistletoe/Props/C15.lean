/-
  C15 — The same text gives the same result however it is supplied.

  Everything the parser and every renderer compute is a function of the line list produced by
  `Document.__init__` (`Lines.normalize`).  The theorems show that this list is the same for the
  three in-process forms, and unchanged by a final newline, for every text whose only line
  terminator is '\n'.  (The CLI form is file I/O: tied by the `cli` correspondence unit only.)
-/
import Mistletoe.Proofs.Lines
namespace Mistletoe.Props.C15
open Mistletoe Mistletoe.Lines

/-- The text contains none of `str.splitlines`' separators except '\n'
    (`\r \v \f \x1c \x1d \x1e \x85 U+2028 U+2029`; table regenerated from the interpreter). -/
def OnlyLf (t : Str) : Prop := ∀ c ∈ t, isLineSep c = true → c = '\n'

theorem isLineSep_nl : isLineSep '\n' = true := by decide

theorem splitlines_eq_aux (t acc : Str) (h : OnlyLf t) :
    splitlinesAux t acc = splitKeepLfAux t acc := by
  induction t generalizing acc with
  | nil => rfl
  | cons c rest ih =>
    have hrest : OnlyLf rest := fun d hd => h d (List.mem_cons_of_mem _ hd)
    have hc := h c (List.mem_cons_self ..)
    unfold splitlinesAux splitKeepLfAux
    by_cases hnl : c = '\n'
    · subst hnl
      simp only [isLineSep_nl, if_true]
      rw [if_neg (by decide)]
      simp [ih _ hrest]
    · have hsep : isLineSep c = false := by
        cases hs : isLineSep c with
        | false => rfl
        | true => exact absurd (hc hs) hnl
      have hcr : c ≠ '\r' := by
        intro h'; subst h'; revert hsep; decide
      simp only [hcr, if_false, hsep, hnl, Bool.false_eq_true]
      exact ih _ hrest

/-- **str = list of lines = file**: for a text with only '\n' terminators the three in-process
    forms hand the same line list to the parser. -/
theorem C15_forms (t : Str) (h : OnlyLf t) :
    normalize (.str t) = normalize (.list (splitKeepLf t)) ∧
    normalize (.str t) = normalize (.file t) := by
  have : pySplitlines t = splitKeepLf t := splitlines_eq_aux t [] h
  simp [normalize, this]

theorem split_final_aux (t acc : Str) (hne : ¬ (t = [] ∧ acc = []))
    (hlast : endsWithNl (acc.reverse ++ t) = false) :
    (splitKeepLfAux (t ++ ['\n']) acc).map complete = (splitKeepLfAux t acc).map complete := by
  induction t generalizing acc with
  | nil =>
    have hacc : acc ≠ [] := fun h => hne ⟨rfl, h⟩
    have hemp : acc.isEmpty = false := by cases acc <;> simp_all
    simp only [List.append_nil] at hlast
    have h1 : complete (acc.reverse ++ ['\n']) = acc.reverse ++ ['\n'] := by
      unfold complete; rw [endsWithNl_snoc]; rfl
    have h2 : complete acc.reverse = acc.reverse ++ ['\n'] := by
      unfold complete; rw [hlast]; rfl
    simp [splitKeepLfAux, hemp, h1, h2]
  | cons c rest ih =>
    simp only [List.cons_append, splitKeepLfAux]
    by_cases hnl : c = '\n'
    · subst hnl
      simp only [if_true, List.map_cons, List.cons.injEq, true_and]
      by_cases hr : rest = []
      · subst hr
        exfalso
        rw [endsWithNl_snoc] at hlast
        cases hlast
      · apply ih
        · intro h; exact hr h.1
        · have e : acc.reverse ++ '\n' :: rest = (acc.reverse ++ ['\n']) ++ rest := by simp
          rw [e, endsWithNl_append _ _ hr] at hlast
          simpa [endsWithNl_append _ _ hr] using hlast
    · simp only [hnl, if_false]
      apply ih
      · intro h; simp at h
      · simpa using hlast

/-- **With or without a final newline**: if the last line of the text is non-empty and
    unterminated, adding the final '\n' gives the same line list. -/
theorem C15_final_newline (t : Str) (h : OnlyLf t) (hne : t ≠ []) (hlast : endsWithNl t = false) :
    normalize (.str (t ++ ['\n'])) = normalize (.str t) := by
  have h' : OnlyLf (t ++ ['\n']) := by
    intro c hc hs
    rcases List.mem_append.mp hc with hc | hc
    · exact h c hc hs
    · simpa using hc
  simp only [normalize, pySplitlines]
  rw [splitlines_eq_aux _ [] h', splitlines_eq_aux _ [] h]
  exact split_final_aux t [] (fun hh => hne hh.1) (by simpa using hlast)

/-- The hypothesis of `C15_final_newline` cannot be dropped: `""` and `"\n"` differ. -/
theorem C15_final_newline_needs_nonempty :
    normalize (.str ([] ++ ['\n'])) ≠ normalize (.str []) := by decide

example : OnlyLf "a b\n\nc".toList ∧ "a b\n\nc".toList ≠ [] ∧ endsWithNl "a b\n\nc".toList = false := by
  refine ⟨?_, by decide, by decide⟩
  intro c hc; revert c; decide

end Mistletoe.Props.C15
