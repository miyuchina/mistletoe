/-
  C12 (kind discipline of parsed trees) — property theorems only; the proofs are in Proofs/DocShape.lean.

  In the Lean AST inline tokens cannot contain blocks, leaf blocks hold inline tokens and code / HTML blocks keep their
  single raw text as a field - typing facts of the model, enforced on the REAL object graph by the exporter
  (harness/export.py refuses any graph that does not fit).  What typing does not give - which KINDS of blocks sit in a
  `List`, a `ListItem`, a `Quote`, a `Table`, a `TableRow`, and the range of the scalar attributes - is the decidable
  predicate `Doc.shapeOk`, proved here for every parsed document.
-/
import Mistletoe.Proofs.DocShape
namespace Mistletoe.Props.C12S
open Mistletoe Mistletoe.Block

/-- **Every parsed document is well shaped** (`Doc.shapeOk`), for every configuration and every gas: the document, quotes
    and list items hold only flow blocks (no ListItem, TableRow, TableCell); a List is not empty, holds only ListItems, and
    its `start` agrees with its first item's marker (`None` for a bullet `-`/`+`/`*`; the number before `.`/`)`, below
    10^9, for an ordered marker); a Table holds at most one header row and only TableRows, a TableRow only TableCells; a
    link-reference-definition block only definitions; heading levels are 1-6, setext levels 1-2. -/
theorem C12_parsed_shape (cfg : Document.Cfg) (gas : Nat) (lines : List Str) (d : Doc)
    (h : Document.parseLines cfg gas lines = .ok d) (hl : ∀ s ∈ lines, NlEnd s) : d.shapeOk = true :=
  Mistletoe.Props.C12.C12_parsed_shape cfg gas lines d h hl

/-- the same for `Document(text)` on a `str` -/
theorem C12_parsed_shape_str (cfg : Document.Cfg) (gas : Nat) (t : Str) (d : Doc)
    (h : Document.parse cfg gas t = .ok d) : d.shapeOk = true :=
  Mistletoe.Props.C12.C12_parsed_shape_str cfg gas t d h

/-- the predicate is not trivially true: a list holding a paragraph, a start that disagrees with the marker -/
example : (Block.list false none [.paragraph [] 1] 1).shapeOk = false := by decide +kernel
example : (Block.list false (some 4) [.listItem "3.".toList 0 3 false [] 1] 1).shapeOk = false := by decide +kernel
example : (Block.list false (some 3) [.listItem "3.".toList 0 3 false [] 1] 1).shapeOk = true := by decide +kernel

end Mistletoe.Props.C12S
