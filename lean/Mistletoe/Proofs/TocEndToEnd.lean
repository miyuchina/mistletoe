/-
  C19 end to end: the separately proved pieces of Props/C19.lean composed into one statement about a
  document tree, and then about a text.

  The pieces: `C19_collection` (the collected `_headings` are the entries of the headings in pre-order at any
  depth), `C19_plain_text_formatted` (the entry of a heading made of raw text / emphasis / strong / strikethrough /
  inline code / escape sequences carries the concatenated leaf text), `C19_lines` (the list lines), `C19_toc_nested`
  (the block phase on the lines of an outline with plain-word titles gives ONE `List` nested as the outline) and
  `C19_toc_config_current` (the token lists of the working tree ask `List` before `Table` and `Paragraph`).

  Here: under the decidable hypothesis `plainHeadings` (every heading of the document has plain children) the
  collected `_headings` are `expectedHs` (the qualifying headings with their plain text, in document order:
  `C19_document_headings`), and for every block token list with `List` before `Table`/`Paragraph` the block phase
  on their list lines is ONE list nested as `toForest (expectedHs cfg d)` (`C19_document_toc`); `C19_text_toc` is
  the same starting from a text; the `…_current` versions instantiate the token lists of /repo (inside an
  `HtmlRenderer` context, inside the TocRenderer's, and after the `with` block is left).  Last, a concrete text:
  hypotheses by `decide +kernel`, the theorems applied, and the whole pipeline evaluated in the kernel
  independently of the theorems; /repo gives the same.
-/
import Mistletoe.Props.C19
import Mistletoe.Proofs.ConfigValues
import Mistletoe.Proofs.Lit
namespace Mistletoe.Props.C19
open Mistletoe Mistletoe.Html Mistletoe.Toc Mistletoe.Escape

/-! ## 1. The qualifying headings of a document -/

def docHeadings (d : Doc) : List (Nat × List Inline) := headingsL d.kids

/-- the heading's children render to attribute-free tags and text the escaper leaves alone -/
def plainHeading (q : Quotes) (h : Nat × List Inline) : Bool := plainInlines h.2 && plainStr q (leafTexts h.2)

/-- **hypothesis on the tree** (decidable): every heading of the document has plain children -/
def plainHeadings (q : Quotes) (d : Doc) : Bool := (docHeadings d).all (plainHeading q)

theorem plainHeadings_iff (q : Quotes) (d : Doc) : plainHeadings q d = true ↔
    ∀ l k, (l, k) ∈ headingsL d.kids → plainInlines k = true ∧ plainStr q (leafTexts k) = true := by
  simp only [plainHeadings, docHeadings, List.all_eq_true, plainHeading, Bool.and_eq_true]
  exact ⟨fun h l k hm => h (l, k) hm, fun h x hm => h x.1 x.2 hm⟩

def expectedEntry (cfg : Toc.Cfg) (h : Nat × List Inline) : Option (Nat × Str) :=
  if qualifies cfg h.1 (leafTexts h.2) then some (h.1, leafTexts h.2) else none

/-- **the expected `_headings`**: the qualifying headings with their plain text, in document order.
    (The quote options play no part in it: they enter only through the hypothesis `plainHeadings q d`.) -/
def expectedHs (cfg : Toc.Cfg) (d : Doc) : List (Nat × Str) := (docHeadings d).filterMap (expectedEntry cfg)

theorem expectedHs_eq_map_filter (cfg : Toc.Cfg) (d : Doc) :
    expectedHs cfg d =
      ((docHeadings d).filter (fun h => qualifies cfg h.1 (leafTexts h.2))).map (fun h => (h.1, leafTexts h.2)) := by
  unfold expectedHs
  generalize docHeadings d = hs
  induction hs with
  | nil => rfl
  | cons h hs ih =>
    simp only [List.filterMap_cons, List.filter_cons, expectedEntry]
    cases qualifies cfg h.1 (leafTexts h.2) <;> simp [ih]

theorem mem_expectedHs (cfg : Toc.Cfg) (d : Doc) (l : Nat) (c : Str) : (l, c) ∈ expectedHs cfg d ↔
    ∃ k, (l, k) ∈ headingsL d.kids ∧ c = leafTexts k ∧
      ¬ (cfg.omitTitle = true ∧ l = 1) ∧ l ≤ cfg.depth ∧ cfg.excluded c = false := by
  simp only [expectedHs, docHeadings, List.mem_filterMap, expectedEntry]
  constructor
  · rintro ⟨⟨l', k⟩, hm, he⟩
    split at he
    · rename_i hq
      simp only [Option.some.injEq, Prod.mk.injEq] at he
      obtain ⟨rfl, rfl⟩ := he
      exact ⟨k, hm, rfl, (qualifies_iff cfg _ _).mp hq⟩
    · cases he
  · rintro ⟨k, hm, rfl, hq⟩
    exact ⟨(l, k), hm, by simp [(qualifies_iff cfg l (leafTexts k)).mpr hq]⟩

/-! ## 2. The collected headings -/

theorem flatMap_entry_eq (q : Quotes) (cfg : Toc.Cfg) : ∀ (hs : List (Nat × List Inline)),
    (∀ h ∈ hs, plainHeading q h = true) →
    hs.flatMap (fun h => entry q cfg h.1 h.2) = hs.filterMap (expectedEntry cfg)
  | [], _ => rfl
  | h :: hs, hp => by
    have h1 := hp h (List.mem_cons_self ..)
    simp only [plainHeading, Bool.and_eq_true] at h1
    have ih := flatMap_entry_eq q cfg hs (fun x hx => hp x (List.mem_cons_of_mem _ hx))
    rw [List.flatMap_cons, ih, C19_plain_text_formatted q cfg h.1 h.2 h1.1 h1.2, entryWith_eq,
      List.filterMap_cons, expectedEntry]
    cases qualifies cfg h.1 (leafTexts h.2) <;> simp

/-- **C19, the collected headings of a document**: if every heading of the document - at any depth: in block quotes,
    lists, list items - has children made of raw text, emphasis, strong, strikethrough, inline code and escape
    sequences whose text holds no character the HTML escaper changes, then after rendering, `_headings` is exactly
    the list of the qualifying headings (level within `depth`, level 1 left out under `omit_title`, not filtered)
    in document order, each with its level and its plain text. -/
theorem C19_document_headings (q : Quotes) (cfg : Toc.Cfg) (d : Doc) (hp : plainHeadings q d = true) :
    collectL q cfg d.kids = expectedHs cfg d := by
  rw [(C19_collection q cfg d).1]
  exact flatMap_entry_eq q cfg _ (by simpa [plainHeadings, docHeadings, List.all_eq_true] using hp)

/-! ## 3. The table of contents of a document -/

/-- **hypothesis on the expected titles** (decidable): each begins with an ASCII letter and holds no newline - the
    hypothesis of `C19_toc_nested`.  It is about the plain text `leafTexts k` of the qualifying headings; it is
    independent of `plainStr` (which excludes `<`, `>`, `&` but allows any first character). -/
def titlesPlain (hs : List (Nat × Str)) : Bool := hs.all (fun h => Block.plainTitle h.2)

theorem titlesPlain_iff (hs : List (Nat × Str)) : titlesPlain hs = true ↔ ∀ h ∈ hs, Block.plainTitle h.2 = true := by
  simp [titlesPlain, List.all_eq_true]

open Mistletoe.Block in
/-- **C19, the table of contents of a document**.  Let every heading of `d` have plain children, let the qualifying
    headings form an outline (`isOutline`: not empty, none shallower than the first, none more than one level deeper
    than its predecessor) and let their texts be plain-word titles.  Then, for every block token list with `List`
    before `Table` and `Paragraph`, `block_token.tokenize` on the list lines `TocRenderer.toc` builds from the
    collected `_headings` returns exactly ONE `List`, not loose, nested exactly as the outline of the qualifying
    headings (`expItems 0 1 (toForest …)`: one item per heading, a `Paragraph` with its plain text, then - iff deeper
    headings follow - one nested `List`); and that outline, read in pre-order with levels, is the list of qualifying
    headings: one entry per qualifying heading, in document order, carrying the heading's plain text. -/
theorem C19_document_toc (q : Quotes) (cfg : Toc.Cfg) (d : Doc) (hp : plainHeadings q d = true)
    (ho : isOutline (expectedHs cfg d) = true) (ht : titlesPlain (expectedHs cfg d) = true)
    (bcfg : Block.Cfg) (tpre tpost : List BTok) (hc : ListCfg bcfg tpre tpost)
    (gas : Nat) (hg : (bcfg.types.length + 5) * (expectedHs cfg d).length + bcfg.types.length + 4 ≤ gas) :
    blockPhase bcfg gas (Toc.tocLines (collectL q cfg d.kids)) =
      .ok ({ entries := [.list (expItems 0 1 (toForest (expectedHs cfg d))) 1 1], loose := false }, {})
    ∧ ∃ lv, (expectedHs cfg d).head?.map (·.1) = some lv ∧
        flatten lv (toForest (expectedHs cfg d)) = expectedHs cfg d := by
  rw [C19_document_headings q cfg d hp]
  refine ⟨Mistletoe.Props.C19.C19_toc_nested bcfg tpre tpost hc _ ho ((titlesPlain_iff _).mp ht) gas hg, ?_⟩
  obtain ⟨lv, h1, h2⟩ := (C19_outline_iff_levels (expectedHs cfg d)).2 ho
  exact ⟨lv, h1, h2.symm⟩

theorem listCfg_length {bcfg : Block.Cfg} {tpre tpost : List Block.BTok} (hc : Block.ListCfg bcfg tpre tpost) :
    bcfg.types.length = tpre.length + tpost.length + 1 := by
  rw [hc.types]; simp only [List.length_append, List.length_cons]; omega

open Mistletoe.Block in
/-- **… under the token lists of the working tree** (regenerated from /repo): `toc` read inside an `HtmlRenderer`
    context (`Config.html`), inside the `TocRenderer`'s own context, and after the `with` block has been left
    (where `toc` is usually read; the lists are the defaults again).  The gas is that of `C19_toc_nested`,
    `(|types| + 5) · n + |types| + 4`, at the ten block types of the first two lists and the nine of the third. -/
theorem C19_document_toc_current (q : Quotes) (cfg : Toc.Cfg) (d : Doc) (hp : plainHeadings q d = true)
    (ho : isOutline (expectedHs cfg d) = true) (ht : titlesPlain (expectedHs cfg d) = true) :
    (∀ c, Config.html = some c → ∀ gas, 15 * (expectedHs cfg d).length + 14 ≤ gas →
      blockPhase c.block gas (Toc.tocLines (collectL q cfg d.kids)) =
        .ok ({ entries := [.list (expItems 0 1 (toForest (expectedHs cfg d))) 1 1], loose := false }, {}))
    ∧ (∀ c, Config.cfgOf Gen.RenderMaps.tocBlockTokens Gen.RenderMaps.tocSpanTokens = some c →
      ∀ gas, 15 * (expectedHs cfg d).length + 14 ≤ gas →
      blockPhase c.block gas (Toc.tocLines (collectL q cfg d.kids)) =
        .ok ({ entries := [.list (expItems 0 1 (toForest (expectedHs cfg d))) 1 1], loose := false }, {}))
    ∧ (∀ c, Config.cfgOf Gen.RenderMaps.tocBlockTokensAfterExit Gen.RenderMaps.tocSpanTokensAfterExit = some c →
      ∀ gas, 14 * (expectedHs cfg d).length + 13 ≤ gas →
      blockPhase c.block gas (Toc.tocLines (collectL q cfg d.kids)) =
        .ok ({ entries := [.list (expItems 0 1 (toForest (expectedHs cfg d))) 1 1], loose := false }, {})) := by
  obtain ⟨⟨c1, e1, l1⟩, ⟨c2, e2, l2⟩, ⟨c3, e3, l3⟩, _⟩ := C19_toc_config_current
  refine ⟨?_, ?_, ?_⟩
  · intro c hc gas hg
    obtain rfl : c1 = c := Option.some.inj (e1.symm.trans hc)
    have := listCfg_length l1
    exact (C19_document_toc q cfg d hp ho ht _ _ _ l1 gas (by rw [this]; simp only [List.length_cons, List.length_nil]; omega)).1
  · intro c hc gas hg
    obtain rfl : c2 = c := Option.some.inj (e2.symm.trans hc)
    have := listCfg_length l2
    exact (C19_document_toc q cfg d hp ho ht _ _ _ l2 gas (by rw [this]; simp only [List.length_cons, List.length_nil]; omega)).1
  · intro c hc gas hg
    obtain rfl : c3 = c := Option.some.inj (e3.symm.trans hc)
    have := listCfg_length l3
    exact (C19_document_toc q cfg d hp ho ht _ _ _ l3 gas (by rw [this]; simp only [List.length_cons, List.length_nil]; omega)).1

/-! ## 4. From a text -/

/-- `with TocRenderer(depth, omit_title, filter_conds, **opts) as r: r.render(Document(text))` followed by the block
    phase of `r.toc`: parse under the token lists `pcfg` (gas `gasP`), collect the headings while rendering, build the
    list lines, tokenize them under the block token list `bcfg` in force when `toc` is read (gas `gasT`).
    Every Python exception of the parser is an `err`. -/
def tocOfText (q : Quotes) (cfg : Toc.Cfg) (pcfg : Document.Cfg) (bcfg : Block.Cfg) (gasP gasT : Nat) (t : Str) :
    Res (Block.Buf × Block.St) :=
  match Document.parse pcfg gasP t with
  | .err e => .err e
  | .ok d => Block.blockPhase bcfg gasT (Toc.tocLines (collectL q cfg d.kids))

open Mistletoe.Block in
/-- **C19 from a text**: if `Document(text)` is `d` (under any token lists `pcfg`), the headings of `d` have plain
    children, the qualifying ones form an outline with plain-word titles, then the collected `_headings` are the
    qualifying headings of `d` and the pipeline text → document → `_headings` → list lines → `tokenize` returns ONE
    list nested as their outline - for every block token list `bcfg` with `List` before `Table` and `Paragraph`. -/
theorem C19_text_toc (q : Quotes) (cfg : Toc.Cfg) (pcfg : Document.Cfg) (gasP : Nat) (t : Str) (d : Doc)
    (hparse : Document.parse pcfg gasP t = .ok d) (hp : plainHeadings q d = true)
    (ho : isOutline (expectedHs cfg d) = true) (ht : titlesPlain (expectedHs cfg d) = true)
    (bcfg : Block.Cfg) (tpre tpost : List BTok) (hc : ListCfg bcfg tpre tpost)
    (gasT : Nat) (hg : (bcfg.types.length + 5) * (expectedHs cfg d).length + bcfg.types.length + 4 ≤ gasT) :
    collectL q cfg d.kids = expectedHs cfg d
    ∧ tocOfText q cfg pcfg bcfg gasP gasT t =
      .ok ({ entries := [.list (expItems 0 1 (toForest (expectedHs cfg d))) 1 1], loose := false }, {})
    ∧ ∃ lv, (expectedHs cfg d).head?.map (·.1) = some lv ∧
        flatten lv (toForest (expectedHs cfg d)) = expectedHs cfg d := by
  have h := C19_document_toc q cfg d hp ho ht bcfg tpre tpost hc gasT hg
  refine ⟨C19_document_headings q cfg d hp, ?_, h.2⟩
  unfold tocOfText
  rw [hparse]
  exact h.1

open Mistletoe.Block in
/-- **… under the TocRenderer's token lists** (regenerated from /repo): the text is parsed inside the `with` block
    (`tocBlockTokens` / `tocSpanTokens`); `toc` is read inside it (same block list) or after it
    (`tocBlockTokensAfterExit`). -/
theorem C19_text_toc_current (q : Quotes) (cfg : Toc.Cfg) (pcfg : Document.Cfg)
    (hpcfg : Config.cfgOf Gen.RenderMaps.tocBlockTokens Gen.RenderMaps.tocSpanTokens = some pcfg)
    (gasP : Nat) (t : Str) (d : Doc)
    (hparse : Document.parse pcfg gasP t = .ok d) (hp : plainHeadings q d = true)
    (ho : isOutline (expectedHs cfg d) = true) (ht : titlesPlain (expectedHs cfg d) = true) :
    collectL q cfg d.kids = expectedHs cfg d
    ∧ (∀ gasT, 15 * (expectedHs cfg d).length + 14 ≤ gasT →
        tocOfText q cfg pcfg pcfg.block gasP gasT t =
          .ok ({ entries := [.list (expItems 0 1 (toForest (expectedHs cfg d))) 1 1], loose := false }, {}))
    ∧ (∀ acfg, Config.cfgOf Gen.RenderMaps.tocBlockTokensAfterExit Gen.RenderMaps.tocSpanTokensAfterExit = some acfg →
        ∀ gasT, 14 * (expectedHs cfg d).length + 13 ≤ gasT →
        tocOfText q cfg pcfg acfg.block gasP gasT t =
          .ok ({ entries := [.list (expItems 0 1 (toForest (expectedHs cfg d))) 1 1], loose := false }, {})) := by
  obtain ⟨_, h2, h3⟩ := C19_document_toc_current q cfg d hp ho ht
  refine ⟨C19_document_headings q cfg d hp, ?_, ?_⟩
  · intro gasT hg
    unfold tocOfText; rw [hparse]
    exact h2 pcfg hpcfg gasT hg
  · intro acfg ha gasT hg
    unfold tocOfText; rw [hparse]
    exact h3 acfg ha gasT hg

/-! ## 5. Non-vacuity: a concrete text -/

/-- six headings: level 1 (left out: `omit_title`), level 2 with `*em*` and `` `code` `` in the title, level 3 inside
    a block quote, setext level 2, level 3 inside a list item, level 4 (left out: `depth=3`) -/
def sampleText : Str :=
  "# Title\n\n## Intro *em* and `code`\n\n> ### Quoted\n\nUsage\n-----\n\n- ### Item\n\n#### Deep\n".toList

/-- `TocRenderer(depth=3)`: `omit_title=True`, no filters, default quote options -/
def sampleTocCfg : Toc.Cfg := { depth := 3 }
def sampleQ : Quotes := ⟨false, false⟩

/-- token lists inside the `with TocRenderer(...)` block / after it (`C19_toc_config_current`) -/
def tocCfg : Document.Cfg :=
  { block := { types := [.htmlBlock, .blockCode, .heading, .quote, .codeFence, .thematicBreak, .list, .table, .footnote, .paragraph] },
    span := [.escapeSequence, .htmlSpan, .strikethrough, .autoLink, .coreTokens, .inlineCode, .lineBreak] }
def afterCfg : Document.Cfg :=
  { block := { types := [.blockCode, .heading, .quote, .codeFence, .thematicBreak, .list, .table, .footnote, .paragraph] },
    span := [.escapeSequence, .strikethrough, .autoLink, .coreTokens, .inlineCode, .lineBreak] }

theorem tocCfg_current : Config.cfgOf Gen.RenderMaps.tocBlockTokens Gen.RenderMaps.tocSpanTokens = some tocCfg :=
  Config.cfgOf_toc
theorem afterCfg_current :
    Config.cfgOf Gen.RenderMaps.tocBlockTokensAfterExit Gen.RenderMaps.tocSpanTokensAfterExit = some afterCfg :=
  Config.cfgOf_tocAfterExit

/-- `Document(sampleText)` under the TocRenderer's lists -/
def sampleDoc : Doc :=
  { kids := [
      .heading 1 [] [.rawText "Title".toList] 1,
      .heading 2 [] [.rawText "Intro ".toList, .emphasis "*".toList [.rawText "em".toList], .rawText " and ".toList,
        .inlineCode "`".toList [] "code".toList] 3,
      .quote [.heading 3 [] [.rawText "Quoted".toList] 5] 5,
      .setextHeading 2 "-----".toList [.rawText "Usage".toList] 7,
      .list false none [.listItem "-".toList 0 2 false [.heading 3 [] [.rawText "Item".toList] 10] 10] 10,
      .heading 4 [] [.rawText "Deep".toList] 12],
    footnotes := [] }

/-- what /repo prints for `r._headings` -/
def sampleHs : List (Nat × Str) :=
  [(2, "Intro em and code".toList), (3, "Quoted".toList), (2, "Usage".toList), (3, "Item".toList)]

/-- the parse buffer of `r.toc` (what /repo returns: line numbers 1..4, nested items at indentation 2, offset 4) -/
def sampleTocEntry : Block.Entry :=
  .list [
    .mk [.paragraph ["Intro em and code\n".toList] 1 1,
         .list [.mk [.paragraph ["Quoted\n".toList] 2 2] false 2 4 ['-'] 2 2] 2 2] false 0 2 ['-'] 1 1,
    .mk [.paragraph ["Usage\n".toList] 3 3,
         .list [.mk [.paragraph ["Item\n".toList] 4 4] false 2 4 ['-'] 4 4] 4 4] false 0 2 ['-'] 3 3] 1 1

attribute [lit] sampleDoc sampleHs sampleTocEntry

/-- all six headings of the tree, in document order, those inside the quote and the list item included -/
example : (docHeadings sampleDoc).map (·.1) = [1, 2, 3, 2, 3, 4] := by decide +kernel

theorem sample_plain : plainHeadings sampleQ sampleDoc = true := by decide +kernel
theorem sample_expected : expectedHs sampleTocCfg sampleDoc = sampleHs := by decide +kernel
theorem sample_outline : Block.isOutline (expectedHs sampleTocCfg sampleDoc) = true := by decide +kernel
theorem sample_titles : titlesPlain (expectedHs sampleTocCfg sampleDoc) = true := by decide +kernel

example : Block.toForest (expectedHs sampleTocCfg sampleDoc) =
    [.node "Intro em and code".toList [.node "Quoted".toList []], .node "Usage".toList [.node "Item".toList []]] := by
  rw [sample_expected]; rfl
theorem sample_entry :
    Block.Entry.list (Block.expItems 0 1 (Block.toForest (expectedHs sampleTocCfg sampleDoc))) 1 1 = sampleTocEntry := by
  rw [sample_expected]
  -- the literals as character lists first: `rfl` would decode each of them
  simp only [lit]; repeat rw [String.toList_ofList]
  rfl
example : Block.Entry.list (Block.expItems 0 1 (Block.toForest (expectedHs sampleTocCfg sampleDoc))) 1 1 = sampleTocEntry :=
  sample_entry

example : collectL sampleQ sampleTocCfg sampleDoc.kids = sampleHs :=
  (C19_document_headings sampleQ sampleTocCfg sampleDoc sample_plain).trans sample_expected

example : Block.blockPhase tocCfg.block 74 (Toc.tocLines (collectL sampleQ sampleTocCfg sampleDoc.kids)) =
      .ok ({ entries := [.list (Block.expItems 0 1 (Block.toForest (expectedHs sampleTocCfg sampleDoc))) 1 1], loose := false }, {})
    ∧ Block.blockPhase afterCfg.block 69 (Toc.tocLines (collectL sampleQ sampleTocCfg sampleDoc.kids)) =
      .ok ({ entries := [.list (Block.expItems 0 1 (Block.toForest (expectedHs sampleTocCfg sampleDoc))) 1 1], loose := false }, {}) := by
  obtain ⟨_, h2, h3⟩ := C19_document_toc_current sampleQ sampleTocCfg sampleDoc sample_plain sample_outline sample_titles
  exact ⟨h2 tocCfg tocCfg_current 74 (by rw [sample_expected]; decide),
    h3 afterCfg afterCfg_current 69 (by rw [sample_expected]; decide)⟩

mutual
/-- equality test on the inline tokens that occur in the sample -/
def sameInline : Inline → Inline → Bool
  | .rawText a, .rawText b => a == b
  | .emphasis a k, .emphasis b k' => a == b && sameInlines k k'
  | .inlineCode a p c, .inlineCode a' p' c' => a == a' && p == p' && c == c'
  | _, _ => false
def sameInlines : List Inline → List Inline → Bool
  | [], [] => true
  | i :: is, j :: js => sameInline i j && sameInlines is js
  | _, _ => false
end

mutual
/-- equality test on the block tokens that occur in the sample -/
def sameBlock : Mistletoe.Block → Mistletoe.Block → Bool
  | .heading l c k n, .heading l' c' k' n' => l == l' && c == c' && sameInlines k k' && n == n'
  | .setextHeading l c k n, .setextHeading l' c' k' n' => l == l' && c == c' && sameInlines k k' && n == n'
  | .paragraph k n, .paragraph k' n' => sameInlines k k' && n == n'
  | .blankLine n, .blankLine n' => n == n'
  | .quote k n, .quote k' n' => sameBlocks k k' && n == n'
  | .list lo s k n, .list lo' s' k' n' => lo == lo' && s == s' && sameBlocks k k' && n == n'
  | .listItem ld i p lo k n, .listItem ld' i' p' lo' k' n' =>
    ld == ld' && i == i' && p == p' && lo == lo' && sameBlocks k k' && n == n'
  | _, _ => false
def sameBlocks : List Mistletoe.Block → List Mistletoe.Block → Bool
  | [], [] => true
  | b :: bs, c :: cs => sameBlock b c && sameBlocks bs cs
  | _, _ => false
end

theorem sameInline_sound : (∀ (a b : Inline), sameInline a b = true → a = b) ∧
    (∀ (a b : List Inline), sameInlines a b = true → a = b) := by
  refine sameInline.mutual_induct (fun a b => sameInline a b = true → a = b) (fun a b => sameInlines a b = true → a = b)
    ?_ ?_ ?_ ?_ ?_ ?_ ?_
  · intro a b h; simp only [sameInline, beq_iff_eq] at h; rw [h]
  · intro a k b k' ih h; simp only [sameInline, Bool.and_eq_true, beq_iff_eq] at h; rw [h.1, ih h.2]
  · intro a p c a' p' c' h; simp only [sameInline, Bool.and_eq_true, beq_iff_eq] at h; rw [h.1.1, h.1.2, h.2]
  · intro t x h1 h2 h3 h; rw [sameInline.eq_4 t x h1 h2 h3] at h; cases h
  · intro _; rfl
  · intro i is j js ih1 ih2 h; simp only [sameInlines, Bool.and_eq_true] at h; rw [ih1 h.1, ih2 h.2]
  · intro t x h1 h2 h; rw [sameInlines.eq_3 t x h1 h2] at h; cases h

theorem sameBlock_sound : (∀ (a b : Mistletoe.Block), sameBlock a b = true → a = b) ∧
    (∀ (a b : List Mistletoe.Block), sameBlocks a b = true → a = b) := by
  refine sameBlock.mutual_induct (fun a b => sameBlock a b = true → a = b) (fun a b => sameBlocks a b = true → a = b)
    ?_ ?_ ?_ ?_ ?_ ?_ ?_ ?_ ?_ ?_ ?_
  · intro l c k n l' c' k' n' h
    simp only [sameBlock, Bool.and_eq_true, beq_iff_eq] at h
    rw [h.1.1.1, h.1.1.2, sameInline_sound.2 _ _ h.1.2, h.2]
  · intro l c k n l' c' k' n' h
    simp only [sameBlock, Bool.and_eq_true, beq_iff_eq] at h
    rw [h.1.1.1, h.1.1.2, sameInline_sound.2 _ _ h.1.2, h.2]
  · intro k n k' n' h
    simp only [sameBlock, Bool.and_eq_true, beq_iff_eq] at h
    rw [sameInline_sound.2 _ _ h.1, h.2]
  · intro n n' h; simp only [sameBlock, beq_iff_eq] at h; rw [h]
  · intro k n k' n' ih h
    simp only [sameBlock, Bool.and_eq_true, beq_iff_eq] at h
    rw [ih h.1, h.2]
  · intro lo s k n lo' s' k' n' ih h
    simp only [sameBlock, Bool.and_eq_true, beq_iff_eq] at h
    rw [h.1.1.1, h.1.1.2, ih h.1.2, h.2]
  · intro ld i p lo k n ld' i' p' lo' k' n' ih h
    simp only [sameBlock, Bool.and_eq_true, beq_iff_eq] at h
    rw [h.1.1.1.1.1, h.1.1.1.1.2, h.1.1.1.2, h.1.1.2, ih h.1.2, h.2]
  · intro t x h1 h2 h3 h4 h5 h6 h7 h; rw [sameBlock.eq_8 t x h1 h2 h3 h4 h5 h6 h7] at h; cases h
  · intro _; rfl
  · intro b bs c cs ih1 ih2 h; simp only [sameBlocks, Bool.and_eq_true] at h; rw [ih1 h.1, ih2 h.2]
  · intro t x h1 h2 h; rw [sameBlocks.eq_3 t x h1 h2] at h; cases h
def sameDoc : Res Doc → Doc → Bool
  | .ok d, e => sameBlocks d.kids e.kids && d.footnotes.isEmpty && e.footnotes.isEmpty
  | .err _, _ => false

/-- the parser, evaluated in the kernel, gives the sample tree -/
theorem sample_parse_same : sameDoc (Document.parse tocCfg 100 sampleText) sampleDoc = true := by
  unfold sampleText; decide_lit

theorem sample_parse : Document.parse tocCfg 100 sampleText = .ok sampleDoc := by
  have h := sample_parse_same
  cases hp : Document.parse tocCfg 100 sampleText with
  | err e => rw [hp] at h; cases h
  | ok d =>
    rw [hp] at h
    simp only [sameDoc, Bool.and_eq_true, List.isEmpty_iff] at h
    obtain ⟨kids, fn⟩ := d
    simp only at h
    rw [sameBlock_sound.2 _ _ h.1.1, h.1.2]
    rfl

/-- **`C19_text_toc_current` applied to the text**: the collected headings, and `toc` read inside the context and
    after leaving it -/
example :
    collectL sampleQ sampleTocCfg sampleDoc.kids = sampleHs
    ∧ tocOfText sampleQ sampleTocCfg tocCfg tocCfg.block 100 74 sampleText =
        .ok ({ entries := [sampleTocEntry], loose := false }, {})
    ∧ tocOfText sampleQ sampleTocCfg tocCfg afterCfg.block 100 69 sampleText =
        .ok ({ entries := [sampleTocEntry], loose := false }, {}) := by
  obtain ⟨h1, h2, h3⟩ := C19_text_toc_current sampleQ sampleTocCfg tocCfg tocCfg_current 100 sampleText sampleDoc
    sample_parse sample_plain sample_outline sample_titles
  rw [sample_entry] at h2 h3
  exact ⟨h1.trans sample_expected, h2 74 (by rw [sample_expected]; decide),
    h3 afterCfg afterCfg_current 69 (by rw [sample_expected]; decide)⟩

/-- **the whole pipeline evaluated in the kernel, independently of the theorems**: parse (TocRenderer's lists) →
    collect (depth 3, omit_title) → list lines → block phase, inside the context and after leaving it: the collected
    headings are `sampleHs` (what /repo prints for `_headings`) and the parse buffer of `toc` is the literal nested
    list `sampleTocEntry` (what /repo returns) -/
example :
    (match Document.parse tocCfg 100 sampleText with
     | .ok d => collectL sampleQ sampleTocCfg d.kids == sampleHs && plainHeadings sampleQ d
         && expectedHs sampleTocCfg d == sampleHs
         && Toc.tocLines (collectL sampleQ sampleTocCfg d.kids) ==
            ["- Intro em and code\n".toList, "    - Quoted\n".toList, "- Usage\n".toList, "    - Item\n".toList]
     | .err _ => false) = true
    ∧ Block.sameRes (tocOfText sampleQ sampleTocCfg tocCfg tocCfg.block 100 74 sampleText) [sampleTocEntry] = true
    ∧ Block.sameRes (tocOfText sampleQ sampleTocCfg tocCfg afterCfg.block 100 69 sampleText) [sampleTocEntry] = true := by
  decide +kernel

/-- the evaluation tells nestings apart: the flat list of four items is not what comes out -/
example : Block.sameRes (tocOfText sampleQ sampleTocCfg tocCfg tocCfg.block 100 74 sampleText)
    [.list (Block.expItems 0 1 (sampleHs.map (fun h => Block.O.node h.2 []))) 1 1] = false := by
  unfold sampleText; decide_lit

/-- the list token `toc` returns (`make_tokens` on the parse buffer), rendered by the same renderer: what
    `r.render(r.toc)` returns on /repo -/
example : (match Document.mkBlocks tocCfg [] [sampleTocEntry] with
    | .ok [b] => String.ofList (flat (renderBlock sampleQ false b))
    | _ => "") = "<ul>\n<li>Intro em and code\n<ul>\n<li>Quoted</li>\n</ul>\n</li>\n<li>Usage\n<ul>\n<li>Item</li>\n</ul>\n</li>\n</ul>" := by
  decide +kernel

/-- the hypotheses say something: other settings of the same document still give outlines (`depth=4` admits
    `#### Deep` after the level-3 `Item`; `omit_title=False` puts the level-1 title first), a document whose headings
    skip a level (`# A` / `### B`, `omit_title=False`) does not, and a title with a `<` is outside `plainHeadings`:
    it is collected in escaped form (`C19_escaped_text`). -/
example : Block.isOutline (expectedHs { depth := 4 } sampleDoc) = true
    ∧ Block.isOutline (expectedHs { depth := 3, omitTitle := false } sampleDoc) = true
    ∧ Block.isOutline (expectedHs { omitTitle := false }
        { kids := [.heading 1 [] [.rawText "A".toList] 1, .heading 3 [] [.rawText "B".toList] 2], footnotes := [] }) = false
    ∧ plainHeadings sampleQ { kids := [.heading 2 [] [.rawText "a<b".toList] 1], footnotes := [] } = false
    ∧ collectL sampleQ {} [.heading 2 [] [.rawText "a<b".toList] 1] = [(2, "a&lt;b".toList)] := by
  decide +kernel

end Mistletoe.Props.C19

section Audit
open Mistletoe.Props.C19
#print axioms C19_document_headings
#print axioms expectedHs_eq_map_filter
#print axioms mem_expectedHs
#print axioms C19_document_toc
#print axioms C19_document_toc_current
#print axioms C19_text_toc
#print axioms C19_text_toc_current
#print axioms sample_parse
end Audit
