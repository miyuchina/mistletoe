/-
  C19, the last step of `TocRenderer.toc`: `block_token.tokenize(lines)` is the block phase FOLLOWED BY
  `make_tokens` (the token constructors, which start the inline phase on each title), and `toc` returns `items[0]`.
  Proofs/TocEndToEnd.lean stops at the parse buffer (`blockPhase … = [.list (expItems 0 1 forest) 1 1]`).  Here
  `make_tokens` on the buffer `expItems` gives the token `expectedTocList` (`mkBlocks_expItems_gen`) for ANY predicate
  `p` on titles under which the `Paragraph` constructor on the line `title ++ "\n"` gives `[RawText title]`, with two
  instances: `titleInert` (`inertBody5`, the widest inert condition with a `tokenizeInner` lemma; needs the empty
  table of link definitions - which is what `toc` has: `token._root_node` is `None` when `toc` is read) and
  `titleInertFn` (`inertText`, narrower, any table `fn`).  A title with Markdown syntax (`a *b* c`) is outside the
  hypothesis and IS re-parsed as markup (kernel-evaluated; /repo does the same).

  /repo, for the sample (`with TocRenderer(depth=3) as r: r.render(Document(sampleText)); get_ast(r.toc)`):
    List(line 1, loose False, start None)[ ListItem(1, '-', ind 0, prepend 2)[Paragraph(1)[RawText 'Intro em and code'],
      List(2)[ListItem(2, '-', ind 2, prepend 4)[Paragraph(2)[RawText 'Quoted']]]],
      ListItem(3, '-', 0, 2)[Paragraph(3)[RawText 'Usage'], List(4)[ListItem(4, '-', 2, 4)[Paragraph(4)[RawText 'Item']]]] ]
  = `sampleTocToken` below.
-/
import Mistletoe.Proofs.TocEndToEnd
import Mistletoe.Proofs.InertInline5
import Mistletoe.Proofs.Lit
namespace Mistletoe.Props.C19
open Mistletoe Mistletoe.Py Mistletoe.Html Mistletoe.Escape Mistletoe.Block
open Mistletoe.Toc (collectL)
open Mistletoe.Document (mkBlock mkBlocks mkItems)

/-! ## 1. The expected token -/

mutual
/-- the `ListItem` of a heading found on line `n` at indentation `ind` -/
def tocItem (ind n : Nat) : O → Mistletoe.Block
  | .node t kids =>
    .listItem ['-'] ind (ind + 2) false
      (.paragraph [.rawText t] n ::
        (if kids.isEmpty then [] else [.list false none (tocItems 2 (n + 1) kids) (n + 1)])) n
def tocItems (ind n : Nat) : List O → List Mistletoe.Block
  | [] => []
  | o :: os => tocItem ind n o :: tocItems ind (n + sizeO o) os
end

/-- **the token `toc` is expected to return** for the outline `f` -/
def expectedTocList (f : List O) : Mistletoe.Block := .list false none (tocItems 0 1 f) 1

mutual
def allO (p : Str → Bool) : O → Bool
  | .node t kids => p t && allOs p kids
def allOs (p : Str → Bool) : List O → Bool
  | [] => true
  | o :: os => allO p o && allOs p os
end

mutual
theorem allO_of_flatten (p : Str → Bool) (lv : Nat) : ∀ (o : O), (∀ h ∈ flattenO lv o, p h.2 = true) → allO p o = true
  | .node t kids => by
    intro h
    simp only [flattenO, List.mem_cons] at h
    simp only [allO, Bool.and_eq_true]
    exact ⟨h (lv, t) (Or.inl rfl), allOs_of_flatten p (lv + 1) kids (fun x hx => h x (Or.inr hx))⟩
theorem allOs_of_flatten (p : Str → Bool) (lv : Nat) : ∀ (os : List O), (∀ h ∈ flatten lv os, p h.2 = true) → allOs p os = true
  | [] => fun _ => rfl
  | o :: os => by
    intro h
    simp only [flatten, List.mem_append] at h
    simp only [allOs, Bool.and_eq_true]
    exact ⟨allO_of_flatten p lv o (fun x hx => h x (Or.inl hx)), allOs_of_flatten p lv os (fun x hx => h x (Or.inr hx))⟩
end

theorem tocItems_notLoose : ∀ (os : List O) (ind n : Nat), (tocItems ind n os).any Document.itemLooseB = false
  | [], _, _ => rfl
  | .node t kids :: os, ind, n => by
    simp only [tocItems, tocItem, List.any_cons, Document.itemLooseB, Bool.false_or]
    exact tocItems_notLoose os ind _

/-! ## 2. `make_tokens` on the buffer, for any title condition under which the `Paragraph` constructor is known -/

section Gen
variable (cfg : Document.Cfg) (fn : Footnotes.Table) (p : Str → Bool)

/-- `List(matches)` on the items of a non-empty forest, given the items -/
theorem mkBlock_list_exp (o : O) (os : List O) (ind n ln og : Nat)
    (h : mkItems cfg fn (expItems ind n (o :: os)) = .ok (tocItems ind n (o :: os))) :
    mkBlock cfg fn (.list (expItems ind n (o :: os)) ln og) = .ok (some (.list false none (tocItems ind n (o :: os)) ln)) := by
  cases o with
  | node t kids =>
    simp only [expItems, expItem] at h ⊢
    rw [Document.mkBlock_list_of cfg fn _ _ _ _ _ _ _ _ _ ln og h, tocItems_notLoose]
    simp

variable (hp : ∀ t, p t = true → ∀ n og,
  mkBlock cfg fn (.paragraph [t ++ ['\n']] n og) = .ok (some (.paragraph [.rawText t] n)))
include hp

set_option linter.unusedSectionVars false

mutual
theorem mkItems_expItem_gen : ∀ (o : O), allO p o = true → ∀ (ind n : Nat) (rest : List Item) (more : List Mistletoe.Block),
    mkItems cfg fn rest = .ok more → mkItems cfg fn (expItem ind n o :: rest) = .ok (tocItem ind n o :: more)
  | .node t kids, h, ind, n, rest, more, hr => by
    simp only [allO, Bool.and_eq_true] at h
    have hk := mkItems_expItems_gen kids h.2 2 (n + 1)
    cases kids with
    | nil =>
      simp only [expItem, tocItem, List.isEmpty_nil, if_true, mkItems, mkBlocks, hp t h.1 n n, hr]
    | cons k ks =>
      have hlist := mkBlock_list_exp cfg fn k ks 2 (n + 1) (n + 1) (n + 1) hk
      simp only [expItem, tocItem, List.isEmpty_cons, Bool.false_eq_true, if_false, mkItems, mkBlocks, hp t h.1 n n,
        hlist, hr]
theorem mkItems_expItems_gen : ∀ (os : List O), allOs p os = true → ∀ (ind n : Nat),
    mkItems cfg fn (expItems ind n os) = .ok (tocItems ind n os)
  | [], _, _, _ => by simp [expItems, tocItems, mkItems]
  | o :: os, h, ind, n => by
    simp only [allOs, Bool.and_eq_true] at h
    simp only [expItems, tocItems]
    exact mkItems_expItem_gen o h.1 ind n _ _ (mkItems_expItems_gen os h.2 ind _)
end

/-- `make_tokens` on the one-entry buffer of `C19_toc_nested` -/
theorem mkBlocks_expItems_gen (f : List O) (hne : f ≠ []) (h : allOs p f = true) :
    mkBlocks cfg fn [.list (expItems 0 1 f) 1 1] = .ok [expectedTocList f] := by
  cases f with
  | nil => exact absurd rfl hne
  | cons o os =>
    have hl := mkBlock_list_exp cfg fn o os 0 1 1 1 (mkItems_expItems_gen cfg fn p hp (o :: os) h 0 1)
    simp only [mkBlocks, hl, expectedTocList]

end Gen

/-! ## 3. The two inert conditions on a title -/

/-- neither the first nor the last character is white space (so the text is not empty and `strip` leaves it alone) -/
def trimmed (t : Str) : Bool :=
  match t.head?, t.getLast? with
  | some a, some b => !pyIsSpace a && !pyIsSpace b
  | _, _ => false

theorem trimmed_facts (t : Str) (h : trimmed t = true) : t ≠ [] ∧ isBlank t = false ∧ strip t = t := by
  cases t with
  | nil => simp [trimmed] at h
  | cons c r =>
    unfold trimmed at h
    simp only [List.head?_cons] at h
    cases hl : (c :: r).getLast? with
    | none => simp [hl] at h
    | some b =>
      simp only [hl, Bool.and_eq_true, Bool.not_eq_true'] at h
      refine ⟨by simp, by simp [isBlank, h.1], ?_⟩
      unfold strip
      rw [Strip.lstrip_of_head c r h.1]
      apply Strip.rstrip_of_last
      intro d hd
      rw [hl] at hd
      cases hd
      exact h.2

theorem strip_title (t : Str) (h : trimmed t = true) : strip (t ++ ['\n']) = t := by
  obtain ⟨_, hb, hs⟩ := trimmed_facts t h
  rw [Strip.strip_snoc_nl t hb, hs]

/-- **inert title** (widest condition, `inertBody5` of Proofs/InertWide.lean, used in Props/C14_Wide.lean): one line,
    no white space at either end, and: no backslash that escapes, no backquote, `<` not before a tag / autolink, no `&` that `html.unescape` changes,
    no `~~`, no `]` after `[` followed by `(` or `[`, no `*` / `_` run that can open followed by one that can close -/
def titleInert (t : Str) : Bool := InertInline5.inertBody5 t && trimmed t && !t.contains '\n'

/-- **inert title, any table of link definitions** (`inertText` of Proofs/InertSilent.lean, the condition of
    Props/C14.lean: no `]` after the first `[`, …) -/
def titleInertFn (t : Str) : Bool := InertInline.inertText t && trimmed t

theorem mkBlock_title (cfg : Document.Cfg) (hs : ∀ t ∈ cfg.span, InertInline.inertClass t = true) (t : Str)
    (h : titleInert t = true) (n og : Nat) :
    mkBlock cfg [] (.paragraph [t ++ ['\n']] n og) = .ok (some (.paragraph [.rawText t] n)) := by
  simp only [titleInert, Bool.and_eq_true, Bool.not_eq_true'] at h
  obtain ⟨⟨h5, htr⟩, hnl⟩ := h
  have hne := (trimmed_facts t htr).1
  have hnl' : '\n' ∉ t := by
    intro hm
    have : t.contains '\n' = true := by simpa using hm
    rw [this] at hnl; cases hnl
  have hin : Inline.tokenizeInner cfg.span [] t = .ok [.rawText t] :=
    (InertInline5.inline_inert5 cfg.span t hs h5 hnl').2.2 hne
  simp only [mkBlock, InertInline.inl_one_line, strip_title t htr, hin]

theorem mkBlock_title_fn (cfg : Document.Cfg) (fn : Footnotes.Table)
    (hs : ∀ t ∈ cfg.span, InertInline.inertClass t = true) (t : Str)
    (h : titleInertFn t = true) (n og : Nat) :
    mkBlock cfg fn (.paragraph [t ++ ['\n']] n og) = .ok (some (.paragraph [.rawText t] n)) := by
  simp only [titleInertFn, Bool.and_eq_true] at h
  have hne := (trimmed_facts t h.2).1
  simp only [mkBlock, InertInline.inl_one_line, strip_title t h.2, InertInline.tokenizeInner_inert cfg.span fn t hs h.1 hne]

/-- **`make_tokens` on the toc buffer, inert titles**: under a span token list of covered classes (no `Math`,
    `GithubWiki`, XWiki macro), for a non-empty forest whose titles are inert, the token constructors - `List`,
    `ListItem`, `Paragraph` with the inline phase on each title - return exactly `expectedTocList f`. -/
theorem mkBlocks_expItems (cfg : Document.Cfg) (hs : ∀ t ∈ cfg.span, InertInline.inertClass t = true)
    (f : List O) (hne : f ≠ []) (titlesInert : allOs titleInert f = true) :
    mkBlocks cfg [] [.list (expItems 0 1 f) 1 1] = .ok [expectedTocList f] :=
  mkBlocks_expItems_gen cfg [] titleInert (fun t ht n og => mkBlock_title cfg hs t ht n og) f hne titlesInert

/-- … for any table of link definitions `fn`, under the narrower `titleInertFn` -/
theorem mkBlocks_expItems_fn (cfg : Document.Cfg) (fn : Footnotes.Table)
    (hs : ∀ t ∈ cfg.span, InertInline.inertClass t = true)
    (f : List O) (hne : f ≠ []) (titlesInert : allOs titleInertFn f = true) :
    mkBlocks cfg fn [.list (expItems 0 1 f) 1 1] = .ok [expectedTocList f] :=
  mkBlocks_expItems_gen cfg fn titleInertFn (fun t ht n og => mkBlock_title_fn cfg fn hs t ht n og) f hne titlesInert

/-! ## 4. The `toc` property and the composition with `C19_document_toc` -/

/-- **`TocRenderer.toc`** on the collected `_headings` `hs`: `items = block_token.tokenize(lines)` (block phase under
    the block token list in force, then `make_tokens` under the span token list in force and the table `fn` of link
    definitions of `token._root_node` - `None` once `Document.__init__` has returned, modelled by `fn = []`), then
    `items[0]` (`IndexError` when nothing was collected). -/
def tocToken (dcfg : Document.Cfg) (fn : Footnotes.Table) (gas : Nat) (hs : List (Nat × Str)) : Res Mistletoe.Block :=
  match blockPhase dcfg.block gas (Toc.tocLines hs) with
  | .err e => .err e
  | .ok (buf, _) =>
    match mkBlocks dcfg fn buf.entries with
    | .err e => .err e
    | .ok [] => .err .index
    | .ok (b :: _) => .ok b

def titlesInert (hs : List (Nat × Str)) : Bool := hs.all (fun h => titleInert h.2)
def titlesInertFn (hs : List (Nat × Str)) : Bool := hs.all (fun h => titleInertFn h.2)

theorem forest_facts (p : Str → Bool) (hs : List (Nat × Str)) (lv : Nat) (h1 : hs.head?.map (·.1) = some lv)
    (h2 : flatten lv (toForest hs) = hs) (hall : hs.all (fun h => p h.2) = true) :
    toForest hs ≠ [] ∧ allOs p (toForest hs) = true := by
  constructor
  · intro e
    rw [e] at h2
    simp only [flatten] at h2
    rw [← h2] at h1
    cases h1
  · apply allOs_of_flatten p lv
    rw [h2]
    intro h hm
    exact List.all_eq_true.mp hall h hm

/-- **C19, the token tree `toc` returns**.  Under the hypotheses of `C19_document_toc` (plain heading children, the
    qualifying headings form an outline with plain-word titles) plus: every expected title is inert inline text
    (`titlesInert`) and the span token list holds covered classes only - `Document(lines)` on the list lines `toc`
    builds has exactly one child, the `List` `expectedTocList (toForest (expectedHs tcfg d))`: one `ListItem` per
    qualifying heading in document order, each holding `Paragraph [RawText title]` and, iff deeper headings follow,
    one nested `List`. -/
theorem C19_document_toc_tokens (q : Quotes) (tcfg : Toc.Cfg) (d : Doc) (hp : plainHeadings q d = true)
    (ho : isOutline (expectedHs tcfg d) = true) (ht : titlesPlain (expectedHs tcfg d) = true)
    (hi : titlesInert (expectedHs tcfg d) = true)
    (cfg : Document.Cfg) (tpre tpost : List BTok) (hc : ListCfg cfg.block tpre tpost)
    (hs : ∀ t ∈ cfg.span, InertInline.inertClass t = true)
    (gas : Nat) (hg : (cfg.block.types.length + 5) * (expectedHs tcfg d).length + cfg.block.types.length + 4 ≤ gas) :
    Document.parseLines cfg gas (Toc.tocLines (collectL q tcfg d.kids)) =
      .ok { kids := [expectedTocList (toForest (expectedHs tcfg d))], footnotes := [] } := by
  obtain ⟨hb, lv, h1, h2⟩ := C19_document_toc q tcfg d hp ho ht cfg.block tpre tpost hc gas hg
  obtain ⟨hne, hall⟩ := forest_facts titleInert _ lv h1 h2 hi
  exact Pipeline.parseLines_of_phase hb (mkBlocks_expItems cfg hs _ hne hall)

/-- **… as the value of the `toc` property**: `tocToken` with `fn = []` (what `toc` has: `_root_node` is `None`)
    under `titlesInert`, and with any table `fn` under the narrower `titlesInertFn`. -/
theorem C19_document_toc_token (q : Quotes) (tcfg : Toc.Cfg) (d : Doc) (hp : plainHeadings q d = true)
    (ho : isOutline (expectedHs tcfg d) = true) (ht : titlesPlain (expectedHs tcfg d) = true)
    (cfg : Document.Cfg) (tpre tpost : List BTok) (hc : ListCfg cfg.block tpre tpost)
    (hs : ∀ t ∈ cfg.span, InertInline.inertClass t = true)
    (gas : Nat) (hg : (cfg.block.types.length + 5) * (expectedHs tcfg d).length + cfg.block.types.length + 4 ≤ gas) :
    (titlesInert (expectedHs tcfg d) = true →
      tocToken cfg [] gas (collectL q tcfg d.kids) = .ok (expectedTocList (toForest (expectedHs tcfg d))))
    ∧ (titlesInertFn (expectedHs tcfg d) = true → ∀ fn,
      tocToken cfg fn gas (collectL q tcfg d.kids) = .ok (expectedTocList (toForest (expectedHs tcfg d)))) := by
  obtain ⟨hb, lv, h1, h2⟩ := C19_document_toc q tcfg d hp ho ht cfg.block tpre tpost hc gas hg
  constructor
  · intro hi
    obtain ⟨hne, hall⟩ := forest_facts titleInert _ lv h1 h2 hi
    unfold tocToken
    rw [hb]
    simp only [mkBlocks_expItems cfg hs _ hne hall]
  · intro hi fn
    obtain ⟨hne, hall⟩ := forest_facts titleInertFn _ lv h1 h2 hi
    unfold tocToken
    rw [hb]
    simp only [mkBlocks_expItems_fn cfg fn hs _ hne hall]

/-! ## 5. Non-vacuity: the sample of TocEndToEnd.lean -/

/-- what /repo returns for `get_ast(r.toc)` on `sampleText` (header of this file) -/
def sampleTocToken : Mistletoe.Block :=
  .list false none [
    .listItem ['-'] 0 2 false [.paragraph [.rawText "Intro em and code".toList] 1,
      .list false none [.listItem ['-'] 2 4 false [.paragraph [.rawText "Quoted".toList] 2] 2] 2] 1,
    .listItem ['-'] 0 2 false [.paragraph [.rawText "Usage".toList] 3,
      .list false none [.listItem ['-'] 2 4 false [.paragraph [.rawText "Item".toList] 4] 4] 4] 3] 1

attribute [lit] sampleTocToken

theorem sample_inert : titlesInert (expectedHs sampleTocCfg sampleDoc) = true := by
  rw [sample_expected]; decide +kernel
theorem sample_inert_fn : titlesInertFn (expectedHs sampleTocCfg sampleDoc) = true := by
  rw [sample_expected]; decide +kernel

theorem sample_expected_token : expectedTocList (toForest (expectedHs sampleTocCfg sampleDoc)) = sampleTocToken := by
  rw [sample_expected]; rfl

theorem tocCfg_listCfg : ListCfg tocCfg.block [.htmlBlock, .blockCode, .heading, .quote, .codeFence, .thematicBreak]
    [.table, .footnote, .paragraph] := sampleCfg_list

theorem afterCfg_listCfg : ListCfg afterCfg.block [.blockCode, .heading, .quote, .codeFence, .thematicBreak]
    [.table, .footnote, .paragraph] := ⟨rfl, by decide, by decide, by decide, by decide⟩

theorem tocCfg_span : ∀ t ∈ tocCfg.span, InertInline.inertClass t = true := by decide
theorem afterCfg_span : ∀ t ∈ afterCfg.span, InertInline.inertClass t = true := by decide

/-- **`C19_document_toc_tokens` applied** to the sample document: `Document(lines)` on the list lines, under the
    TocRenderer's token lists and under those in force after the `with` block, is the literal tree of /repo -/
example :
    Document.parseLines tocCfg 74 (Toc.tocLines (collectL sampleQ sampleTocCfg sampleDoc.kids)) =
      .ok { kids := [sampleTocToken], footnotes := [] }
    ∧ Document.parseLines afterCfg 69 (Toc.tocLines (collectL sampleQ sampleTocCfg sampleDoc.kids)) =
      .ok { kids := [sampleTocToken], footnotes := [] } := by
  rw [← sample_expected_token]
  exact ⟨C19_document_toc_tokens sampleQ sampleTocCfg sampleDoc sample_plain sample_outline sample_titles sample_inert
      tocCfg _ _ tocCfg_listCfg tocCfg_span 74 (by rw [sample_expected]; decide),
    C19_document_toc_tokens sampleQ sampleTocCfg sampleDoc sample_plain sample_outline sample_titles sample_inert
      afterCfg _ _ afterCfg_listCfg afterCfg_span 69 (by rw [sample_expected]; decide)⟩

/-- **`C19_document_toc_token` applied**: the value of `toc` (with `_root_node = None`, and with any table) -/
example :
    tocToken tocCfg [] 74 (collectL sampleQ sampleTocCfg sampleDoc.kids) = .ok sampleTocToken
    ∧ ∀ fn, tocToken afterCfg fn 69 (collectL sampleQ sampleTocCfg sampleDoc.kids) = .ok sampleTocToken := by
  rw [← sample_expected_token]
  exact ⟨(C19_document_toc_token sampleQ sampleTocCfg sampleDoc sample_plain sample_outline sample_titles
      tocCfg _ _ tocCfg_listCfg tocCfg_span 74 (by rw [sample_expected]; decide)).1 sample_inert,
    (C19_document_toc_token sampleQ sampleTocCfg sampleDoc sample_plain sample_outline sample_titles
      afterCfg _ _ afterCfg_listCfg afterCfg_span 69 (by rw [sample_expected]; decide)).2 sample_inert_fn⟩

def sameTok : Res Mistletoe.Block → Mistletoe.Block → Bool
  | .ok b, c => sameBlock b c
  | .err _, _ => false

/-- `toc` from a text: parse under `pcfg`, collect while rendering, then `tocToken` under `acfg` -/
def tocTokenOfText (q : Quotes) (tcfg : Toc.Cfg) (pcfg acfg : Document.Cfg) (gasP gasT : Nat) (t : Str) : Res Mistletoe.Block :=
  match Document.parse pcfg gasP t with
  | .err e => .err e
  | .ok d => tocToken acfg [] gasT (collectL q tcfg d.kids)

/-- **the whole pipeline evaluated in the kernel, independently of the theorems**: text → `Document` → `_headings` →
    list lines → block phase → `make_tokens` (inline phase on every title) → `items[0]`, inside the `with` block and
    after it, is the tree /repo returns for `get_ast(r.toc)` -/
example : sameTok (tocTokenOfText sampleQ sampleTocCfg tocCfg tocCfg 100 74 sampleText) sampleTocToken = true
    ∧ sameTok (tocTokenOfText sampleQ sampleTocCfg tocCfg afterCfg 100 69 sampleText) sampleTocToken = true := by
  unfold sampleText; decide_lit

/-- … and the evaluation tells trees apart: the flat list of four items is not what comes out -/
example : sameTok (tocTokenOfText sampleQ sampleTocCfg tocCfg tocCfg 100 74 sampleText)
    (expectedTocList (sampleHs.map (fun h => O.node h.2 []))) = false := by unfold sampleText; decide_lit

/-! ### What the inert hypothesis excludes

  `## a \*b\* c` has the plain text `a *b* c` (the escapes are rendered as their characters; `plainHeadings`,
  `isOutline`, `titlesPlain` all hold), and `toc` tokenizes that text AGAIN: the entry is `a`, EMPHASIS `b`, ` c` - not
  the heading's plain text.  `titlesInert` is false for it.  /repo: `get_ast(r.toc)` after rendering
  `Document("# T\n\n## a \\*b\\* c\n")` has `_headings == [(2, 'a *b* c')]` and the Paragraph children
  `RawText 'a '`, `Emphasis[RawText 'b']`, `RawText ' c'` - the same.

  Also outside (and excluded by `inertBody5`: no `]` directly before `[`): a title with a full reference link shape,
  `## a [b][c] d` (no definition, so it stays text in the heading): on /repo `r.toc` RAISES
  `AttributeError: 'NoneType' object has no attribute 'footnotes'` (`match_link_label` reads `root.footnotes` and
  `token._root_node` is `None` outside `Document.__init__`); the model, which has a table and no `None`, returns text. -/

def markupText : Str := "# T\n\n## a \\*b\\* c\n".toList

example :
    (match Document.parse tocCfg 100 markupText with
     | .ok d => collectL sampleQ sampleTocCfg d.kids == [(2, "a *b* c".toList)]
         && plainHeadings sampleQ d && isOutline (expectedHs sampleTocCfg d) && titlesPlain (expectedHs sampleTocCfg d)
         && !titlesInert (expectedHs sampleTocCfg d)
     | .err _ => false) = true
    ∧ sameTok (tocTokenOfText sampleQ sampleTocCfg tocCfg tocCfg 100 74 markupText)
        (.list false none [.listItem ['-'] 0 2 false [.paragraph
          [.rawText "a ".toList, .emphasis "*".toList [.rawText "b".toList], .rawText " c".toList] 1] 1] 1) = true
    ∧ sameTok (tocTokenOfText sampleQ sampleTocCfg tocCfg tocCfg 100 74 markupText)
        (expectedTocList [.node "a *b* c".toList []]) = false := by
  decide +kernel

/-- the conditions on a title: the sample titles are inert under both; brackets without a link shape only under the
    wider one; markup, surrounding blanks and the reference shape under neither -/
example : titleInert "Intro em and code".toList = true ∧ titleInertFn "Intro em and code".toList = true
    ∧ titleInert "a [b] c".toList = true ∧ titleInertFn "a [b] c".toList = false
    ∧ titleInert "a *b* c".toList = false ∧ titleInert "a ".toList = false ∧ titleInert "a [b][c] d".toList = false
    ∧ titleInert "2 * 3 < 7 & more".toList = true := by
  decide_lit

end Mistletoe.Props.C19

section Audit
open Mistletoe.Props.C19
#print axioms mkBlocks_expItems_gen
#print axioms mkBlocks_expItems
#print axioms mkBlocks_expItems_fn
#print axioms C19_document_toc_tokens
#print axioms C19_document_toc_token
end Audit
