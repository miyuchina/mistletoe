/-
  C10, the clause "code blocks, HTML blocks, tables and ATX headings are NOT RE-BROKEN", for EVERY token
  tree (parsed or hand-made), every `max_line_length` (positive, zero, negative, `None`) and every option set.

  Which `render_*` methods of mistletoe/markdown_renderer.py look at their `max_line_length` argument?
  (read off the Python; the model `Markdown.renderBlock` agrees function for function)

    render_heading            NO   `span_to_lines(token.children, max_line_length=None)`, first line only
    render_block_code         NO   `token.content[:-1].split("\n")`, prefix "    "
    render_fenced_code_block  NO   fence line, content lines behind the indentation, fence line
    render_html_block         NO   `token.content.split("\n")`
    render_table              NO   `table_row_to_text` uses `span_to_lines(col.children, max_line_length=None)`
    render_thematic_break     NO   `[token.line]`
    render_blank_line         NO   `[""]`
    render_paragraph          YES  `span_to_lines(token.children, max_line_length=max_line_length)`
    render_setext_heading     YES  the same, then the underline
    render_link_reference_definition_block  YES  `span_to_lines([child], max_line_length=max_line_length)`
    render_quote / render_list_item         pass `max(max_line_length - k, 1)` down, prefix the lines (`prefix_lines`
                                            does not see the limit); render_list / render_document pass it unchanged
    (TableRow / TableCell through the render map: `TypeError` whatever the limit)

  * `rigid b`      — `b` is one of the seven kinds marked NO (the four the property names + thematic break + blank line);
  * `rigidDeep b`  — a rigid leaf, or a quote / list / list item all of whose leaves are rigid;
  * `C10_rigid_leaf`, `C10_rigid_deep` — the rendering (a `Res`: lines or the exception) of such a block is the same
    under any two budgets (in particular `some L` and `none`), for rigid LEAVES also under any two option sets;
  * `Block.walk2` — how `renderBlock` recurses: the leaves, the three containers (quote, list, list item) and the list of
    siblings; the four statements about all blocks (`rigidDeep_walk`, `errOf_walk`, `flat_walk`, `mask_walk`) go along it;
  * `renderBlock_errOf` — for an ARBITRARY block the exception (if any) does not depend on the limit;
  * `C10_mixed` — for an arbitrary list of sibling blocks `blocks_to_lines` is the concatenation of the per-block line
    lists, and the component of every `rigidDeep` sibling is the same with and without limit;
  * `C10_mixed_deep` — the same through any nesting of block quotes and lists (`pieces`): the output is the concatenation
    of pieces, one per leaf / list item reached through quotes and lists, the number and order of the pieces does not
    depend on the limit and the pieces of rigid blocks are equal.  (Through a NON-rigid list item the statement is false
    for hand-made trees: see `listItem_shift` below - a whitespace-only paragraph renders one line without limit and
    no line with a limit, which moves the item's leader onto the code block that follows.)
  * `C10_not_rebroken_document` — the statement for documents (the others: Props/C10_NoRebreak.lean); non-vacuity on a
    hand-made tree and on the parse of a text with a block of each of the four kinds the property names (`TEXT`; kernel
    evaluation), compared with the real code.
-/
import Mistletoe.Model.Markdown
import Mistletoe.Model.Config
import Mistletoe.Proofs.Lit
import Mistletoe.Proofs.Pipeline
namespace Mistletoe.Proofs.NoRebreak
open Mistletoe Mistletoe.Wrap Mistletoe.Markdown

/-- the block kinds whose `render_*` method never looks at `max_line_length` -/
def rigid : Block → Bool
  | .paragraph _ _ => false
  | .heading _ _ _ _ => true
  | .setextHeading _ _ _ _ => false
  | .quote _ _ => false
  | .blockCode _ _ => true
  | .codeFence _ _ _ _ _ _ => true
  | .list _ _ _ _ => false
  | .listItem _ _ _ _ _ _ => false
  | .table _ _ _ _ => true
  | .tableRow _ _ _ => false
  | .tableCell _ _ _ => false
  | .thematicBreak _ _ => true
  | .htmlBlock _ _ => true
  | .blankLine _ => true
  | .linkRefDefBlock _ _ => false

mutual
def rigidDeep : Block → Bool
  | .paragraph _ _ => false
  | .heading _ _ _ _ => true
  | .setextHeading _ _ _ _ => false
  | .quote kids _ => rigidDeepAll kids
  | .blockCode _ _ => true
  | .codeFence _ _ _ _ _ _ => true
  | .list _ _ items _ => rigidDeepAll items
  | .listItem _ _ _ _ kids _ => rigidDeepAll kids
  | .table _ _ _ _ => true
  | .tableRow _ _ _ => false
  | .tableCell _ _ _ => false
  | .thematicBreak _ _ => true
  | .htmlBlock _ _ => true
  | .blankLine _ => true
  | .linkRefDefBlock _ _ => false
def rigidDeepAll : List Block → Bool
  | [] => true
  | b :: bs => rigidDeep b && rigidDeepAll bs
end

theorem rigidDeep_of_rigid (b : Block) (h : rigid b = true) : rigidDeep b = true := by
  cases b <;> first | rfl | (simp [rigid] at h)

theorem rigidDeepAll_iff (bs : List Block) : rigidDeepAll bs = true ↔ ∀ b ∈ bs, rigidDeep b = true := by
  induction bs with
  | nil => simp [rigidDeepAll]
  | cons b bs ih => simp [rigidDeepAll, ih]

theorem renderBlock_rigid (o1 o2 : Opts) (m1 m2 : Option Int) (b : Block) (h : rigid b = true) :
    renderBlock o1 m1 b = renderBlock o2 m2 b := by
  cases b <;> first | (simp only [renderBlock]; done) | (simp [rigid] at h)

/-- the blocks through whose children `renderBlock` recurses -/
def isContainer : Block → Bool
  | .quote .. | .list .. | .listItem .. => true
  | _ => false

mutual
theorem Block.walk {P : Block → Prop} {PL : List Block → Prop} (leaf : ∀ b, isContainer b = false → P b)
    (quote : ∀ kids ln, PL kids → P (.quote kids ln)) (list : ∀ l s items ln, PL items → P (.list l s items ln))
    (item : ∀ a i p l kids ln, PL kids → P (.listItem a i p l kids ln))
    (nil : PL []) (cons : ∀ b bs, P b → PL bs → PL (b :: bs)) : ∀ b, P b
  | .quote kids ln => quote kids ln (Block.walkL leaf quote list item nil cons kids)
  | .list l s items ln => list l s items ln (Block.walkL leaf quote list item nil cons items)
  | .listItem a i p l kids ln => item a i p l kids ln (Block.walkL leaf quote list item nil cons kids)
  | .paragraph .. | .heading .. | .setextHeading .. | .blockCode .. | .codeFence .. | .table .. | .tableRow ..
  | .tableCell .. | .thematicBreak .. | .htmlBlock .. | .blankLine .. | .linkRefDefBlock .. => leaf _ rfl
theorem Block.walkL {P : Block → Prop} {PL : List Block → Prop} (leaf : ∀ b, isContainer b = false → P b)
    (quote : ∀ kids ln, PL kids → P (.quote kids ln)) (list : ∀ l s items ln, PL items → P (.list l s items ln))
    (item : ∀ a i p l kids ln, PL kids → P (.listItem a i p l kids ln))
    (nil : PL []) (cons : ∀ b bs, P b → PL bs → PL (b :: bs)) : ∀ bs, PL bs
  | [] => nil
  | b :: bs => cons b bs (Block.walk leaf quote list item nil cons b) (Block.walkL leaf quote list item nil cons bs)
end

/-- **how `renderBlock` recurses**: a property of all blocks (`P`) and of all lists of siblings (`PL`) follows from the
    leaves, the three containers and the two list cases -/
theorem Block.walk2 {P : Block → Prop} {PL : List Block → Prop} (leaf : ∀ b, isContainer b = false → P b)
    (quote : ∀ kids ln, PL kids → P (.quote kids ln)) (list : ∀ l s items ln, PL items → P (.list l s items ln))
    (item : ∀ a i p l kids ln, PL kids → P (.listItem a i p l kids ln))
    (nil : PL []) (cons : ∀ b bs, P b → PL bs → PL (b :: bs)) : (∀ b, P b) ∧ ∀ bs, PL bs :=
  ⟨Block.walk leaf quote list item nil cons, Block.walkL leaf quote list item nil cons⟩

theorem rigidDeep_leaf (b : Block) (hb : isContainer b = false) : rigidDeep b = rigid b := by
  cases b <;> first | rfl | cases hb

theorem rigidDeep_walk (o1 o2 : Opts) (hn : o1.normalizeWhitespace = o2.normalizeWhitespace) :
    (∀ b, ∀ m1 m2 : Option Int, rigidDeep b = true → renderBlock o1 m1 b = renderBlock o2 m2 b) ∧
    ∀ bs, ∀ m1 m2 : Option Int, rigidDeepAll bs = true → renderBlocks o1 m1 bs = renderBlocks o2 m2 bs := by
  refine Block.walk2 (fun b hb m1 m2 h => renderBlock_rigid o1 o2 m1 m2 b (rigidDeep_leaf b hb ▸ h)) ?_ ?_ ?_ ?_ ?_
  · intro kids _ ih m1 m2 h
    simp only [renderBlock]; rw [ih _ _ h]
  · intro _ _ items _ ih m1 m2 h
    simp only [renderBlock]; exact ih m1 m2 h
  · intro leader ind pre _ kids _ ih m1 m2 h
    simp only [renderBlock, hn]; rw [ih _ _ h]
  · intro _ _ _; simp only [renderBlocks]
  · intro b bs ihb ihs m1 m2 h
    simp only [rigidDeepAll, Bool.and_eq_true] at h
    simp only [renderBlocks]; rw [ihb m1 m2 h.1, ihs m1 m2 h.2]

theorem renderBlock_rigidDeep (o1 o2 : Opts) (hn : o1.normalizeWhitespace = o2.normalizeWhitespace) (m1 m2 : Option Int)
    (b : Block) (h : rigidDeep b = true) : renderBlock o1 m1 b = renderBlock o2 m2 b := (rigidDeep_walk o1 o2 hn).1 b m1 m2 h

/-! ## The exception, if any, never depends on the limit (ARBITRARY blocks) -/

def errOf {α} : Res α → Option Err
  | .ok _ => none
  | .err e => some e

theorem spanToLines_errOf (k : List Inline) (m : Option Int) : errOf (spanToLines k m) = errOf (renderInlines k) := by
  unfold spanToLines; cases renderInlines k <;> rfl

theorem errOf_cases {α β} {r1 : Res α} {r2 : Res β} (h : errOf r1 = errOf r2) :
    (∃ e, r1 = .err e ∧ r2 = .err e) ∨ ∃ a b, r1 = .ok a ∧ r2 = .ok b := by
  cases r1 <;> cases r2 <;> simp_all [errOf]

theorem spanToLines_errOf2 (k : List Inline) (m1 m2 : Option Int) : errOf (spanToLines k m1) = errOf (spanToLines k m2) := by
  rw [spanToLines_errOf, spanToLines_errOf]

theorem defLines_errOf (m1 m2 : Option Int) : ∀ (ds : List Inline), errOf (defLines m1 ds) = errOf (defLines m2 ds)
  | [] => rfl
  | d :: ds => by
    rcases errOf_cases (spanToLines_errOf2 [d] m1 m2) with ⟨e, h1, h2⟩ | ⟨a, b, h1, h2⟩ <;>
      rcases errOf_cases (defLines_errOf m1 m2 ds) with ⟨e', h3, h4⟩ | ⟨a', b', h3, h4⟩ <;>
        simp only [defLines, h1, h2, h3, h4, errOf]

theorem errOf_leaf (o1 o2 : Opts) (m1 m2 : Option Int) (b : Block) (hb : isContainer b = false) :
    errOf (renderBlock o1 m1 b) = errOf (renderBlock o2 m2 b) := by
  cases b with
  | quote | list | listItem => cases hb
  | paragraph k => simp only [renderBlock, spanToLines_errOf]
  | setextHeading _ _ k =>
    rcases errOf_cases (spanToLines_errOf2 k m1 m2) with ⟨e, h1, h2⟩ | ⟨a, b, h1, h2⟩ <;> simp only [renderBlock, h1, h2, errOf]
  | linkRefDefBlock defs => simp only [renderBlock]; exact defLines_errOf m1 m2 defs
  | _ => simp only [renderBlock]

theorem errOf_walk (o1 o2 : Opts) (hn : o1.normalizeWhitespace = o2.normalizeWhitespace) :
    (∀ b, ∀ m1 m2 : Option Int, errOf (renderBlock o1 m1 b) = errOf (renderBlock o2 m2 b)) ∧
    ∀ bs, ∀ m1 m2 : Option Int, errOf (renderBlocks o1 m1 bs) = errOf (renderBlocks o2 m2 bs) := by
  refine Block.walk2 (fun b hb m1 m2 => errOf_leaf o1 o2 m1 m2 b hb) ?_ ?_ ?_ ?_ ?_
  · intro kids _ ih m1 m2
    rcases errOf_cases (ih (childBudget m1 2) (childBudget m2 2)) with ⟨e, h1, h2⟩ | ⟨a, b, h1, h2⟩ <;>
      simp only [renderBlock, h1, h2, errOf]
  · intro _ _ items _ ih m1 m2
    simp only [renderBlock]; exact ih m1 m2
  · intro leader ind pre _ kids _ ih m1 m2
    rcases errOf_cases (ih (childBudget m1 (if o2.normalizeWhitespace then leader.length + 1 else pre))
        (childBudget m2 (if o2.normalizeWhitespace then leader.length + 1 else pre)))
      with ⟨e, h1, h2⟩ | ⟨a, b, h1, h2⟩ <;> simp only [renderBlock, hn, h1, h2, errOf]
  · intro _ _; simp only [renderBlocks]
  · intro b bs ihb ihs m1 m2
    rcases errOf_cases (ihb m1 m2) with ⟨e, h1, h2⟩ | ⟨a, b, h1, h2⟩ <;>
      rcases errOf_cases (ihs m1 m2) with ⟨e', h3, h4⟩ | ⟨a', b', h3, h4⟩ <;>
        simp only [renderBlocks, h1, h2, h3, h4, errOf]

theorem renderBlock_errOf (o1 o2 : Opts) (hn : o1.normalizeWhitespace = o2.normalizeWhitespace) (m1 m2 : Option Int) (b : Block) :
    errOf (renderBlock o1 m1 b) = errOf (renderBlock o2 m2 b) := (errOf_walk o1 o2 hn).1 b m1 m2

theorem renderBlocks_ok_any (o1 o2 : Opts) (hn : o1.normalizeWhitespace = o2.normalizeWhitespace) (m1 m2 : Option Int)
    (bs : List Block) {ls1 : List Str} (h1 : renderBlocks o1 m1 bs = .ok ls1) : ∃ ls2, renderBlocks o2 m2 bs = .ok ls2 := by
  have he := (errOf_walk o2 o1 hn.symm).2 bs m2 m1
  rw [h1] at he
  cases hr : renderBlocks o2 m2 bs with
  | ok ls2 => exact ⟨ls2, rfl⟩
  | err e => rw [hr] at he; cases he

/-! ## Mixed siblings: `blocks_to_lines` is the concatenation of the per-block line lists -/

/-- `yield from` over the per-block results: the first exception wins, otherwise the concatenation -/
def collect : List (Res (List Str)) → Res (List Str)
  | [] => .ok []
  | .err e :: _ => .err e
  | .ok ls :: rs =>
    match collect rs with
    | .err e => .err e
    | .ok more => .ok (ls ++ more)

theorem renderBlocks_collect (o : Opts) (m : Option Int) :
    ∀ (bs : List Block), renderBlocks o m bs = collect (bs.map (renderBlock o m))
  | [] => by simp only [renderBlocks, List.map_nil, collect]
  | b :: bs => by
    have ih := renderBlocks_collect o m bs
    simp only [renderBlocks, List.map_cons]
    cases h : renderBlock o m b
    · simp only [collect, ih]
      cases collect (bs.map (renderBlock o m)) <;> rfl
    · simp only [collect]

theorem collect_ok : ∀ (rs : List (Res (List Str))) (ls : List Str), collect rs = .ok ls →
    ∃ segs : List (List Str), rs = segs.map Res.ok ∧ ls = segs.flatten
  | [], ls, h => by
    simp only [collect, Res.ok.injEq] at h
    exact ⟨[], rfl, h.symm⟩
  | .err e :: rs, ls, h => by simp [collect] at h
  | .ok l :: rs, ls, h => by
    simp only [collect] at h
    cases hc : collect rs with
    | err e => rw [hc] at h; simp at h
    | ok more =>
      rw [hc] at h
      simp only [Res.ok.injEq] at h
      obtain ⟨segs, h1, h2⟩ := collect_ok rs more hc
      exact ⟨l :: segs, by simp [h1], by simp [← h, h2]⟩

/-- **Mixed siblings.**  For an ARBITRARY list of blocks that renders under budget `m1` (it then renders under every budget):
    both outputs are the concatenation of one segment per block (`s1`, `s2`: the block's own rendering), and the segment
    of every `rigidDeep` sibling is the same under the two budgets - whatever the non-rigid siblings around it do. -/
theorem C10_mixed (o1 o2 : Opts) (hn : o1.normalizeWhitespace = o2.normalizeWhitespace)
    (m1 m2 : Option Int) (bs : List Block) (ls1 : List Str) (h1 : renderBlocks o1 m1 bs = .ok ls1) :
    ∃ (ls2 : List Str) (s1 s2 : List (List Str)),
      renderBlocks o2 m2 bs = .ok ls2 ∧
      bs.map (renderBlock o1 m1) = s1.map Res.ok ∧ bs.map (renderBlock o2 m2) = s2.map Res.ok ∧
      ls1 = s1.flatten ∧ ls2 = s2.flatten ∧ s1.length = bs.length ∧ s2.length = bs.length ∧
      ∀ (i : Nat) (b : Block), bs[i]? = some b → rigidDeep b = true → s1[i]? = s2[i]? := by
  obtain ⟨ls2, h2⟩ := renderBlocks_ok_any o1 o2 hn m1 m2 bs h1
  have c1 := h1; have c2 := h2
  rw [renderBlocks_collect] at c1 c2
  obtain ⟨s1, hs1, hl1⟩ := collect_ok _ _ c1
  obtain ⟨s2, hs2, hl2⟩ := collect_ok _ _ c2
  refine ⟨ls2, s1, s2, h2, hs1, hs2, hl1, hl2, ?_, ?_, ?_⟩
  · have := congrArg List.length hs1; simpa using this.symm
  · have := congrArg List.length hs2; simpa using this.symm
  · intro i b hb hr
    have e1 := congrArg (·[i]?) hs1
    have e2 := congrArg (·[i]?) hs2
    simp only [List.getElem?_map, hb, Option.map_some] at e1 e2
    rw [renderBlock_rigidDeep o1 o2 hn m1 m2 b hr, e2] at e1
    cases h1 : s1[i]? <;> cases h2 : s2[i]? <;> simp_all

/-! ## Mixed trees: through block quotes and lists -/

/-- one piece: a block reached through quotes and lists only; the tag says whether it is `rigidDeep` -/
def leafPiece (o : Opts) (m : Option Int) (b : Block) : Res (List (Bool × List Str)) :=
  match renderBlock o m b with
  | .err e => .err e
  | .ok ls => .ok [(rigidDeep b, ls)]

def tagPrefix (p : Str) (ps : List (Bool × List Str)) : List (Bool × List Str) :=
  ps.map fun x => (x.1, prefixLinesAux p x.2)

mutual
/-- the output of a block, cut into pieces: quotes and lists are transparent (a quote prefixes the pieces of its children
    with "> ", a list concatenates those of its items), every other block - leaves and list items - is one piece -/
def pieces (o : Opts) (m : Option Int) : Block → Res (List (Bool × List Str))
  | .paragraph k ln => leafPiece o m (.paragraph k ln)
  | .heading l c k ln => leafPiece o m (.heading l c k ln)
  | .setextHeading l u k ln => leafPiece o m (.setextHeading l u k ln)
  | .quote kids _ =>
    match piecesL o (childBudget m 2) kids with
    | .err e => .err e
    | .ok ps => .ok (tagPrefix ['>', ' '] ps)
  | .blockCode c ln => leafPiece o m (.blockCode c ln)
  | .codeFence a b c d e ln => leafPiece o m (.codeFence a b c d e ln)
  | .list _ _ items _ => piecesL o m items
  | .listItem a b c d kids ln => leafPiece o m (.listItem a b c d kids ln)
  | .table a h r ln => leafPiece o m (.table a h r ln)
  | .tableRow a c ln => leafPiece o m (.tableRow a c ln)
  | .tableCell a k ln => leafPiece o m (.tableCell a k ln)
  | .thematicBreak l ln => leafPiece o m (.thematicBreak l ln)
  | .htmlBlock c ln => leafPiece o m (.htmlBlock c ln)
  | .blankLine ln => leafPiece o m (.blankLine ln)
  | .linkRefDefBlock ds ln => leafPiece o m (.linkRefDefBlock ds ln)
def piecesL (o : Opts) (m : Option Int) : List Block → Res (List (Bool × List Str))
  | [] => .ok []
  | b :: bs =>
    match pieces o m b with
    | .err e => .err e
    | .ok ps =>
      match piecesL o m bs with
      | .err e => .err e
      | .ok more => .ok (ps ++ more)
end

def flat (ps : List (Bool × List Str)) : List Str := (ps.map Prod.snd).flatten

/-- what is kept of a piece when the non-rigid ones are blanked out -/
def mask (x : Bool × List Str) : Option (List Str) := if x.1 then some x.2 else none

/-- `f` under `ok` (not `Document.mapRes`, which maps a function with results over a list) -/
def mapRes {α β} (f : α → β) : Res α → Res β
  | .ok a => .ok (f a)
  | .err e => .err e

theorem mapRes_cases {α β γ} {f : α → γ} {g : β → γ} {r1 : Res α} {r2 : Res β} (h : mapRes f r1 = mapRes g r2) :
    (∃ e, r1 = .err e ∧ r2 = .err e) ∨ ∃ a b, r1 = .ok a ∧ r2 = .ok b ∧ f a = g b := by
  cases r1 <;> cases r2 <;> simp_all [mapRes]

theorem prefixLinesAux_append (p : Str) : ∀ (a b : List Str),
    prefixLinesAux p (a ++ b) = prefixLinesAux p a ++ prefixLinesAux p b
  | [], b => by simp [prefixLinesAux]
  | x :: a, b => by simp [prefixLinesAux, prefixLinesAux_append p a b]

theorem flat_tagPrefix (p : Str) : ∀ (ps : List (Bool × List Str)), flat (tagPrefix p ps) = prefixLinesAux p (flat ps)
  | [] => by simp [flat, tagPrefix, prefixLinesAux]
  | x :: ps => by
    have ih := flat_tagPrefix p ps
    simp only [flat, tagPrefix, List.map_cons, List.flatten_cons] at ih ⊢
    rw [prefixLinesAux_append, ih]

theorem mask_tagPrefix (p : Str) (ps : List (Bool × List Str)) :
    (tagPrefix p ps).map mask = (ps.map mask).map (Option.map (prefixLinesAux p)) := by
  simp only [tagPrefix, List.map_map]
  apply List.map_congr_left
  intro x _
  cases hx : x.1 <;> simp [mask, hx]

theorem getElem?_mask (p : List (Bool × List Str)) (i : Nat) (ls : List Str) :
    p[i]? = some (true, ls) ↔ (p.map mask)[i]? = some (some ls) := by
  rw [List.getElem?_map]
  cases p[i]? with
  | none => simp
  | some x => obtain ⟨b, l⟩ := x; cases b <;> simp [mask]

theorem leafPiece_flat (o : Opts) (m : Option Int) (b : Block) : renderBlock o m b = mapRes flat (leafPiece o m b) := by
  unfold leafPiece
  cases renderBlock o m b <;> simp [mapRes, flat]

theorem leafPiece_mask (o1 o2 : Opts) (hn : o1.normalizeWhitespace = o2.normalizeWhitespace)
    (m1 m2 : Option Int) (b : Block) :
    mapRes (List.map mask) (leafPiece o1 m1 b) = mapRes (List.map mask) (leafPiece o2 m2 b) := by
  unfold leafPiece
  cases hr : rigidDeep b with
  | true => rw [renderBlock_rigidDeep o1 o2 hn m1 m2 b hr]
  | false =>
    rcases errOf_cases (renderBlock_errOf o1 o2 hn m1 m2 b) with ⟨e, h1, h2⟩ | ⟨a, c, h1, h2⟩ <;>
      simp [h1, h2, mapRes, mask]

theorem pieces_leaf (o : Opts) (m : Option Int) (b : Block) (hb : isContainer b = false) : pieces o m b = leafPiece o m b := by
  cases b <;> first | rfl | cases hb

theorem flat_walk (o : Opts) :
    (∀ b, ∀ m : Option Int, renderBlock o m b = mapRes flat (pieces o m b)) ∧
    ∀ bs, ∀ m : Option Int, renderBlocks o m bs = mapRes flat (piecesL o m bs) := by
  refine Block.walk2 ?_ ?_ ?_ ?_ ?_ ?_
  · intro b hb m
    rw [pieces_leaf _ _ b hb]; exact leafPiece_flat o m b
  · intro kids _ ih m
    simp only [pieces, renderBlock, ih]
    cases piecesL o (childBudget m 2) kids <;> simp [mapRes, prefixLines_none, flat_tagPrefix]
  · intro _ _ items _ ih m
    simp only [pieces, renderBlock]; exact ih m
  · intro a i p l kids ln _ m
    exact leafPiece_flat o m _
  · intro m; simp [renderBlocks, piecesL, mapRes, flat]
  · intro b bs ihb ihs m
    simp only [renderBlocks, piecesL, ihb m, ihs m]
    cases pieces o m b <;> cases piecesL o m bs <;> simp [mapRes, flat]

theorem pieces_flat (o : Opts) : ∀ (m : Option Int) (b : Block), renderBlock o m b = mapRes flat (pieces o m b) :=
  fun m b => (flat_walk o).1 b m

theorem mask_walk (o1 o2 : Opts) (hn : o1.normalizeWhitespace = o2.normalizeWhitespace) :
    (∀ b, ∀ m1 m2 : Option Int, mapRes (List.map mask) (pieces o1 m1 b) = mapRes (List.map mask) (pieces o2 m2 b)) ∧
    ∀ bs, ∀ m1 m2 : Option Int, mapRes (List.map mask) (piecesL o1 m1 bs) = mapRes (List.map mask) (piecesL o2 m2 bs) := by
  refine Block.walk2 ?_ ?_ ?_ ?_ ?_ ?_
  · intro b hb m1 m2
    rw [pieces_leaf _ _ b hb, pieces_leaf _ _ b hb]; exact leafPiece_mask o1 o2 hn m1 m2 b
  · intro kids _ ih m1 m2
    rcases mapRes_cases (ih (childBudget m1 2) (childBudget m2 2)) with ⟨e, h1, h2⟩ | ⟨a, c, h1, h2, h3⟩ <;>
      simp only [pieces, mapRes, mask_tagPrefix, *]
  · intro _ _ items _ ih m1 m2
    simp only [pieces]; exact ih m1 m2
  · intro a i p l kids ln _ m1 m2
    exact leafPiece_mask o1 o2 hn m1 m2 (.listItem a i p l kids ln)
  · intro _ _; simp only [piecesL]
  · intro b bs ihb ihs m1 m2
    rcases mapRes_cases (ihb m1 m2) with ⟨e, h1, h2⟩ | ⟨a, c, h1, h2, h3⟩ <;>
      rcases mapRes_cases (ihs m1 m2) with ⟨e', h4, h5⟩ | ⟨a', c', h4, h5, h6⟩ <;>
        simp only [piecesL, mapRes, List.map_append, *]

theorem pieces_mask (o1 o2 : Opts) (hn : o1.normalizeWhitespace = o2.normalizeWhitespace) : ∀ (m1 m2 : Option Int) (b : Block),
    mapRes (List.map mask) (pieces o1 m1 b) = mapRes (List.map mask) (pieces o2 m2 b) :=
  fun m1 m2 b => (mask_walk o1 o2 hn).1 b m1 m2

/-- **Mixed trees.**  For an ARBITRARY list of blocks and any two budgets: each output is the concatenation of its pieces
    (one per leaf / list item reached through block quotes and lists, behind the quote markers), and after blanking out the
    pieces of non-rigid blocks the two piece sequences are EQUAL - the same number of pieces in the same order, the same
    exception if any, and every piece of a `rigidDeep` block identical, quote markers included. -/
theorem C10_mixed_deep (o1 o2 : Opts) (hn : o1.normalizeWhitespace = o2.normalizeWhitespace)
    (m1 m2 : Option Int) (bs : List Block) :
    renderBlocks o1 m1 bs = mapRes flat (piecesL o1 m1 bs) ∧ renderBlocks o2 m2 bs = mapRes flat (piecesL o2 m2 bs) ∧
    mapRes (List.map mask) (piecesL o1 m1 bs) = mapRes (List.map mask) (piecesL o2 m2 bs) :=
  ⟨(flat_walk o1).2 bs m1, (flat_walk o2).2 bs m2, (mask_walk o1 o2 hn).2 bs m1 m2⟩

/-- the same, spelled out for a list of blocks that renders: position by position, a piece tagged rigid under one budget is
    the same piece under the other -/
theorem C10_mixed_deep_ok (o1 o2 : Opts) (hn : o1.normalizeWhitespace = o2.normalizeWhitespace)
    (m1 m2 : Option Int) (bs : List Block) (ls1 : List Str) (h1 : renderBlocks o1 m1 bs = .ok ls1) :
    ∃ (ls2 : List Str) (p1 p2 : List (Bool × List Str)),
      renderBlocks o2 m2 bs = .ok ls2 ∧ piecesL o1 m1 bs = .ok p1 ∧ piecesL o2 m2 bs = .ok p2 ∧
      ls1 = flat p1 ∧ ls2 = flat p2 ∧ p1.length = p2.length ∧
      ∀ (i : Nat) (ls : List Str), p1[i]? = some (true, ls) ↔ p2[i]? = some (true, ls) := by
  obtain ⟨f1, f2, hm⟩ := C10_mixed_deep o1 o2 hn m1 m2 bs
  obtain ⟨ls2, h2⟩ := renderBlocks_ok_any o1 o2 hn m1 m2 bs h1
  rw [h1] at f1; rw [h2] at f2
  cases c1 : piecesL o1 m1 bs with
  | err e => rw [c1] at f1; simp [mapRes] at f1
  | ok p1 =>
    cases c2 : piecesL o2 m2 bs with
    | err e => rw [c2] at f2; simp [mapRes] at f2
    | ok p2 =>
      rw [c1] at f1 hm; rw [c2] at f2 hm
      simp only [mapRes, Res.ok.injEq] at f1 f2 hm
      refine ⟨ls2, p1, p2, h2, rfl, rfl, f1, f2, ?_, ?_⟩
      · have := congrArg List.length hm; simpa using this
      · intro i ls
        rw [getElem?_mask, getElem?_mask, hm]

/-- **C10, "not re-broken", leaves.**  An ATX heading, an indented or fenced code block, an HTML block, a table, a thematic
    break or a blank line renders to the same lines - or raises the same exception (a table without header row / with
    malformed rows, a heading or cell holding a span token without render-map entry) - whatever `max_line_length` it is
    handed (`some L` for any integer `L`, or `None`) and whatever the option set.  Stated for `o` with the limit
    set to `L` against `o` with no limit. -/
theorem C10_rigid_leaf (o : Opts) (L : Int) (b : Block) (h : rigid b = true) :
    renderBlock { o with maxLineLength := some L } (some L) b = renderBlock { o with maxLineLength := none } none b :=
  renderBlock_rigid _ _ _ _ b h

/-- for documents: the output of `MarkdownRenderer(max_line_length=…, normalize_whitespace=…).render(doc)` for a
    document of rigid blocks (at any depth) - the string, or the exception - does not depend on `max_line_length` -/
theorem C10_not_rebroken_document (d : Doc) (h : rigidDeepAll d.kids = true) (o1 o2 : Opts)
    (hn : o1.normalizeWhitespace = o2.normalizeWhitespace) :
    renderRes o1 d = renderRes o2 d ∧ render o1 d = render o2 d := by
  have hr : renderRes o1 d = renderRes o2 d := by
    unfold renderRes; rw [(rigidDeep_walk o1 o2 hn).2 d.kids o1.maxLineLength o2.maxLineLength h]
  exact ⟨hr, by unfold render; rw [hr]⟩

/-- **C10, "not re-broken", trees of rigid blocks.**  Block quotes, lists and list items pass a smaller budget down
    (`childBudget`), their rigid content ignores it, and `prefix_lines` does not see the limit. -/
theorem C10_rigid_deep (o : Opts) (L : Int) :
    (∀ b, rigidDeep b = true →
      renderBlock { o with maxLineLength := some L } (some L) b = renderBlock { o with maxLineLength := none } none b) ∧
    (∀ bs, rigidDeepAll bs = true →
      renderBlocks { o with maxLineLength := some L } (some L) bs = renderBlocks { o with maxLineLength := none } none bs) ∧
    (∀ d : Doc, rigidDeepAll d.kids = true →
      renderRes { o with maxLineLength := some L } d = renderRes { o with maxLineLength := none } d ∧
      render { o with maxLineLength := some L } d = render { o with maxLineLength := none } d) := by
  have hb := renderBlock_rigidDeep { o with maxLineLength := some L } { o with maxLineLength := none } rfl
  have hbs := fun m1 m2 bs => (rigidDeep_walk { o with maxLineLength := some L } { o with maxLineLength := none } rfl).2 bs m1 m2
  exact ⟨fun b h => hb _ _ b h, fun bs h => hbs _ _ bs h, fun d h => C10_not_rebroken_document d h _ _ (by rfl)⟩

/-! ## Non-vacuity, exactness of the classification, comparison with the real code -/

/-- a hand-made document: ATX heading, fenced code, table, HTML block, a quote holding a fenced code block, a list whose
    item holds an indented code block and a thematic break - each with a line longer than 5 -/
def docH : Doc :=
  { kids :=
      [ .heading 1 [] [.rawText "a very long heading line that exceeds the limit".toList] 1,
        .blankLine 2,
        .codeFence [] 0 "```".toList [] "long code line here\n".toList 3,
        .table [none, none]
          [.tableRow [none, none] [.tableCell none [.rawText "a very long cell".toList] 7, .tableCell none [.rawText "b".toList] 7] 7]
          [] 7,
        .htmlBlock "<div>long html line here</div>".toList 10,
        .quote [.codeFence [] 0 "```".toList [] "quoted long code line\n".toList 12] 12,
        .list false none
          [.listItem "-".toList 0 2 false [.blockCode "indented code in an item\n".toList 15, .thematicBreak "* * * * *".toList 16] 15] 15 ],
    footnotes := [] }

/- the expected texts are written as `(… ++ …).toList`: split at `++` so that each literal is read on its own -/
attribute [local lit] String.toList_append
attribute [lit] docH

example : rigidDeepAll docH.kids = true := by decide +kernel

/-- the theorem applies: limit 5 (and -3, and 0) against no limit, both values of `normalize_whitespace` -/
example (nw : Bool) (L : Int) :
    renderRes { maxLineLength := some L, normalizeWhitespace := nw } docH
      = renderRes { maxLineLength := none, normalizeWhitespace := nw } docH :=
  -- `by rfl` runs after the two option sets have been read off the goal; a term `rfl` would identify them first
  (C10_not_rebroken_document docH (by decide +kernel) _ _ (by rfl)).1

/-- and by kernel evaluation: the rendering with L = 5 is this text, every line as long as it was -/
example : render { maxLineLength := some 5 } docH =
    ("# a very long heading line that exceeds the limit\n\n```\nlong code line here\n```\n" ++
     "| a very long cell | b   |\n| ---------------- | --- |\n<div>long html line here</div>\n" ++
     "> ```\n> quoted long code line\n> ```\n-     indented code in an item\n  * * * * *\n").toList := by
  decide_lit

/-- a heading, a fence, a table, an HTML block and a fence inside a quote, each with a line longer than the limits tried -/
def TEXT : Str :=
  ("# a very long heading line that exceeds the limit\n\n```\nlong code line here\n```\n\n" ++
   "| a very long cell | b |\n|---|---|\n\n<div>long html line here</div>\n\n> ```\n> quoted long code line\n> ```\n").toList

/-- what `MarkdownRenderer(max_line_length=L).render(Document(TEXT))` prints in the real code, for L = None and L = 5 -/
def OUT : Str :=
  ("# a very long heading line that exceeds the limit\n\n```\nlong code line here\n```\n\n" ++
   "| a very long cell | b   |\n| ---------------- | --- |\n\n<div>long html line here</div>\n\n" ++
   "> ```\n> quoted long code line\n> ```\n").toList

/-- a document of rigid blocks whose rendering under limit `L` is OUT -/
def checkDoc (L : Option Int) (d : Doc) : Bool :=
  rigidDeepAll d.kids && decide (renderRes { maxLineLength := L } d = .ok OUT)

/-- the parse of TEXT under the Markdown renderer's token lists is such a document (gas 100: any sufficient value) -/
def checkParsed (L : Option Int) : Bool :=
  match Config.markdown with
  | none => false
  | some cfg =>
    match Document.parse cfg 100 TEXT with
    | .err _ => false
    | .ok d => checkDoc L d && checkDoc none d

/- Between two terms that begin with a `match` and are not literally the same the kernel decides by evaluating both.
   So `checkParsed` is unfolded as a function (constant against `fun`), and below the literals of TEXT and OUT are
   turned into lists of characters in equations of their own before they are put under the `match`. -/
theorem checkParsed_def : checkParsed = fun L => match Config.markdown with
    | none => false
    | some cfg => match Document.parse cfg 100 TEXT with
      | .err _ => false
      | .ok d => checkDoc L d && checkDoc none d := by
  delta checkParsed
  exact rfl

/-- kernel evaluation: parse, test `rigidDeepAll`, render with L = 5 and without limit, compare both with OUT -/
theorem checkParsed_5 : checkParsed (some 5) = true := by
  have hT : TEXT = TEXT := rfl
  have hO : OUT = OUT := rfl
  conv at hT => rhs; delta TEXT
  conv at hO => rhs; delta OUT
  simp only [String.toList_append] at hT hO
  repeat rw [String.toList_ofList] at hT
  repeat rw [String.toList_ofList] at hO
  rw [checkParsed_def]
  simp only [checkDoc, hT, hO]
  decide +kernel

/-- the step behind `Config.markdown = some cfg`, for a text that is a variable: with the literal TEXT in the statement the
    kernel, re-checking the step from the outer `match` to the inner one, evaluates `Document.parse cfg 100 TEXT` as far as it
    goes without `cfg` -/
theorem check_eq (L : Option Int) (t : Str) (cfg : Document.Cfg) (d : Doc) (hd : Document.parse cfg 100 t = .ok d) :
    (match some cfg with
      | none => false
      | some cfg => match Document.parse cfg 100 t with
        | .err _ => false
        | .ok d => checkDoc L d && checkDoc none d) = (checkDoc L d && checkDoc none d) := by
  simp only [hd]

theorem checkParsed_eq (L : Option Int) (cfg : Document.Cfg) (hcfg : Config.markdown = some cfg) (d : Doc)
    (hd : Document.parse cfg 100 TEXT = .ok d) : checkParsed L = (checkDoc L d && checkDoc none d) := by
  rw [checkParsed_def, hcfg]
  exact check_eq L TEXT cfg d hd

/-- the theorem's conclusion on the parsed document: for EVERY limit the output is OUT -/
example (cfg : Document.Cfg) (hcfg : Config.markdown = some cfg) (d : Doc) (hd : Document.parse cfg 100 TEXT = .ok d)
    (L : Int) : renderRes { maxLineLength := some L } d = .ok OUT ∧ render { maxLineLength := some L } d = OUT := by
  have h := checkParsed_5
  rw [checkParsed_eq _ cfg hcfg d hd, Bool.and_eq_true] at h
  have h2 : rigidDeepAll d.kids = true ∧ renderRes { maxLineLength := none } d = .ok OUT := by
    simpa only [checkDoc, Bool.and_eq_true, decide_eq_true_eq] using h.2
  have hr := (C10_not_rebroken_document d h2.1 { maxLineLength := some L } { maxLineLength := none } rfl).1
  have : renderRes { maxLineLength := some L } d = .ok OUT := hr.trans h2.2
  exact ⟨this, by unfold render; rw [this]⟩

/-! ### The classification is exact: every other leaf kind IS re-broken -/

example : renderBlock {} (some 3) (.paragraph [.rawText "aaa bbb".toList] 1) = .ok ["aaa".toList, "bbb".toList]
    ∧ renderBlock {} none (.paragraph [.rawText "aaa bbb".toList] 1) = .ok ["aaa bbb".toList] := by decide_lit
example : renderBlock {} (some 3) (.setextHeading 1 "===".toList [.rawText "aaa bbb".toList] 1)
      = .ok ["aaa".toList, "bbb".toList, "===".toList]
    ∧ renderBlock {} none (.setextHeading 1 "===".toList [.rawText "aaa bbb".toList] 1)
      = .ok ["aaa bbb".toList, "===".toList] := by decide_lit
example : renderBlock {} (some 3) (.linkRefDefBlock [.linkRefDef "a".toList "/u".toList "t t".toList .uri (some "\"".toList)] 1)
      ≠ renderBlock {} none (.linkRefDefBlock [.linkRefDef "a".toList "/u".toList "t t".toList .uri (some "\"".toList)] 1) := by
  decide_lit
/-- `TableRow` / `TableCell` outside a table: `TypeError` with and without limit -/
example : renderBlock {} (some 3) (.tableCell none [] 1) = .err .type ∧ renderBlock {} none (.tableCell none [] 1) = .err .type := by
  decide +kernel

/-- a paragraph, a fenced code block and a quote holding a paragraph and an indented code block -/
def mixedKids : List Block :=
  [ .paragraph [.rawText "aaa bbb ccc".toList] 1,
    .codeFence [] 0 "```".toList [] "long code line here\n".toList 3,
    .quote [.paragraph [.rawText "ddd eee fff".toList] 6, .blankLine 7, .blockCode "quoted code line\n".toList 8] 6 ]

example : piecesL {} (some 5) mixedKids = .ok
    [ (false, ["aaa".toList, "bbb".toList, "ccc".toList]),
      (true, ["```".toList, "long code line here".toList, "```".toList]),
      (false, ["> ddd".toList, "> eee".toList, "> fff".toList]), (true, ["> ".toList]),
      (true, [">     quoted code line".toList]) ] := by decide_lit
example : piecesL {} none mixedKids = .ok
    [ (false, ["aaa bbb ccc".toList]),
      (true, ["```".toList, "long code line here".toList, "```".toList]),
      (false, ["> ddd eee fff".toList]), (true, ["> ".toList]),
      (true, [">     quoted code line".toList]) ] := by decide_lit
attribute [lit] mixedKids
def mixed5Lines : List Str :=
  [ "aaa".toList, "bbb".toList, "ccc".toList, "```".toList, "long code line here".toList, "```".toList,
    "> ddd".toList, "> eee".toList, "> fff".toList, "> ".toList, ">     quoted code line".toList ]
attribute [lit] mixed5Lines
theorem mixed5 : renderBlocks {} (some 5) mixedKids = .ok mixed5Lines := by decide_lit
example : ∃ (ls2 : List Str) (p1 p2 : List (Bool × List Str)),
    renderBlocks {} none mixedKids = .ok ls2 ∧ piecesL {} (some 5) mixedKids = .ok p1 ∧
    piecesL {} none mixedKids = .ok p2 ∧ mixed5Lines = flat p1 ∧ ls2 = flat p2 ∧ p1.length = p2.length ∧
    ∀ (i : Nat) (ls : List Str), p1[i]? = some (true, ls) ↔ p2[i]? = some (true, ls) :=
  C10_mixed_deep_ok {} {} rfl (some 5) none mixedKids _ mixed5

/-- Why the pieces stop at list items: a hand-made (never parsed) whitespace-only paragraph renders one line " " without
    limit and NO line with a limit (`make_words` yields nothing), so inside a list item the leader moves onto the first
    line of the code block that follows.  The code line is not re-broken, but the item's line list is not the same
    behind the leader.  Real code (the parsed tree of "- a\n\n      x\n" with the RawText content set to " " and the
    BlankLine deleted): '-  \n      x\n' without limit, '-     x\n' with max_line_length=5 - the same. -/
def listItem_shift : Block :=
  .listItem "-".toList 0 2 false [.paragraph [.rawText " ".toList] 1, .blockCode "x\n".toList 3] 1
attribute [lit] listItem_shift
example : renderBlock {} none listItem_shift = .ok ["-  ".toList, "      x".toList]
    ∧ renderBlock {} (some 5) listItem_shift = .ok ["-     x".toList] := by decide_lit

end Mistletoe.Proofs.NoRebreak
