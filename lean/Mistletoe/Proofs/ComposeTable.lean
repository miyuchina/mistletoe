/-
  C03 for the tree `ComposeT.T4`: paragraphs, ATX and setext headings, thematic breaks, block quotes, lists, fenced code
  blocks (as in `ComposeC.T3`, `Proofs/ComposeCode.lean`), TABLES and INDENTED CODE BLOCKS.  A document written out from such
  a tree parses to that tree and renders to the HTML written directly from it.  The two kinds of leaves beyond `T3` come
  through one constructor `leaf l` (`Leaf`): GFM tables and indented code blocks, at top level, inside quotes and inside
  list items (an indented code block not as the first block of an item), to any depth; the spellings covered are listed
  before the statements, at the end of the file.

  The induction over the tree names, per constructor, a lemma of `Proofs/ComposeGen.lean`, where the claims about written
  blocks are stated for lines.  What the two leaves need:
  * `Table.read` over the written lines (`tableLoop_body`, `readTable_block`), the dispatcher on the header line
    (`HeadFacts`; automatic for a line that begins with a pipe: `pipe_headFacts`; `table_step`).  A table is one of the
    blocks C05 counts as closed by a blank line (`closedE`): a closed node (`closed_table`);
  * `BlockCode.read` over indented lines with interior blank lines and its bookkeeping of trailing whitespace-only lines,
    and the round of the block loop over them (`blockCodeLoop_run`, `readBlockCode_run`, `icode_step`, in
    `Proofs/MdRoundCode.lean`, shared with C09): an indented code block is NOT closed by a blank line (an indented line
    behind it goes on the block), so it is an open node (`open_icode`: `ComposeG.Open` with `CodeStop`), and
    well-formedness asks that the next sibling not begin with four spaces (`sepOk4`);
  * `TableRow.__init__` on a written row: `strip`, the split at the pipes, the filter of empty strings, `zip_longest`
    with the alignments (`row_cells`, `go_cells`, `tableRow_row`); the delimiter row under
    `Table.delimiter_row_pattern`, `column_align_pattern.findall` and `parse_align` (`delimiterRow_line`,
    `findAligns_line`, `mapRes_cores`): proved for every row of the shape, no check left to evaluation;
  * the content of a code block: `''.join(lines).strip('\n') + '\n'` gives the joined lines back (`codeContent_eq`);
  * the HTML of a table (`tableHtml`, `flat_leaf`).

  The trees with fewer kinds of nodes, `ComposeC.T3` and `ComposeL.T2`, lie inside `T4`; their theorems are the ones of this
  file read at the inclusion (`Proofs/ComposeEmbed.lean`, `Proofs/ComposeLists2.lean`).

  Non-vacuity examples, the comparison with kernel evaluation and the findings are in `Proofs/ComposeTable2.lean`.
-/
import Mistletoe.Proofs.ComposeCode
import Mistletoe.Proofs.DocTotal
namespace Mistletoe.ComposeT
open Mistletoe Mistletoe.Py Mistletoe.Scan Mistletoe.Compose
open Mistletoe.Block
open Mistletoe.Props.C14 (defaultTypes inertLine numbered numbered_cons numbered_append numbered_length numbered_mem numbered_s)
open Mistletoe.InertInline (inertBody inertText proseLine oneLine proseInlines inertClass)
open Mistletoe.Props.C04 (indentDoc itemDocOk)
open Mistletoe.Html (natDigits)
open Mistletoe.MdRound (fenceLang closes lstripSp_cons lstripSp_len lstripSp_pad)

/-! ### `Table.read` -/

theorem tableLoop_body (post : List Line) (start : Nat) (hpost : ∀ b, post.head? = some b → b.s.contains '|' = false)
    (body pre : List Line) (buf : List Str) (fuel : Nat) (hb : ∀ x ∈ body, x.s.contains '|' = true) (hf : body.length < fuel) :
    tableLoop fuel ⟨pre ++ (body ++ post), pre.length, start⟩ buf =
      ((body.map (·.s)).reverse ++ buf, ⟨(pre ++ body) ++ post, (pre ++ body).length, start⟩) := by
  rw [tableLoop_eq, loop_run tableStep (· :: ·) post start (fun b s h => by rw [tableStep, hpost b h]; rfl) body pre buf fuel
    (fun x hx s => by rw [tableStep, hb x hx]; rfl) hf, foldl_cons_map]

theorem readTable_block (l0 l1 : Line) (body pre post : List Line) (start : Nat)
    (h1 : l1.s.contains '|' = true) (hd : delimiterRow l1.s = true)
    (hb : ∀ x ∈ body, x.s.contains '|' = true) (hpost : ∀ b, post.head? = some b → b.s.contains '|' = false) :
    readTable ⟨pre ++ l0 :: l1 :: (body ++ post), pre.length, start⟩ =
      some (l0.s :: l1.s :: body.map (·.s), start + pre.length,
        ⟨(pre ++ l0 :: l1 :: body) ++ post, (pre ++ l0 :: l1 :: body).length, start⟩) := by
  unfold readTable
  rw [peek_at]
  simp only [FW.next_at]
  have e : pre ++ [l0] ++ l1 :: (body ++ post) = (pre ++ [l0]) ++ ((l1 :: body) ++ post) := by simp
  rw [e, tableLoop_body post start hpost (l1 :: body) (pre ++ [l0]) [l0.s] _
    (by intro x hx; rcases List.mem_cons.mp hx with rfl | hx; exact h1; exact hb x hx)
    (by simp [FW.remaining]; omega)]
  simp [hd, FW.lineNumber]

/-- what the dispatcher asks of the first line of a table: no token type before `Table` starts on it, and it has a `|` -/
structure HeadFacts (s : Str) : Prop where
  html : htmlBlockStart s = .ok none
  bc : blockCodeStart s = false
  hd : heading s = none
  qt : quoteStart s = false
  cf : codeFenceStart s = none
  tb : Scan.thematicBreak s = false
  ls : listStart s = false
  bar : s.contains '|' = true

def headFactsB (s : Str) : Bool :=
  (match htmlBlockStart s with | .ok none => true | _ => false) && !blockCodeStart s && (heading s).isNone && !quoteStart s
    && (codeFenceStart s).isNone && !Scan.thematicBreak s && !listStart s && s.contains '|'

theorem headFacts_of (s : Str) (h : headFactsB s = true) : HeadFacts s := by
  simp only [headFactsB, Bool.and_eq_true, Bool.not_eq_eq_eq_not, Bool.not_true, Option.isNone_iff_eq_none] at h
  obtain ⟨⟨⟨⟨⟨⟨⟨h0, h1⟩, h2⟩, h3⟩, h4⟩, h5⟩, h6⟩, h7⟩ := h
  refine ⟨?_, h1, h2, h3, h4, h5, h6, h7⟩
  split at h0
  · assumption
  · cases h0

/-- on a line that begins with a pipe no token type before `Table` starts: for the types before `List` a pipe is like the
    first character of a list marker (`LeadChar`) -/
theorem pipe_headFacts (s : Str) : HeadFacts ('|' :: s) :=
  have htb : Scan.thematicBreak ('|' :: s) = false := thematicBreak_rep 0 '|' s (by decide) (by decide) (by decide) (by decide) (by decide)
  have h := leadN_noEarly (leadChar_of '|' (by decide)) 0 (by decide) s htb
  ⟨h.html, h.bc, h.hd, h.qt, h.cf, htb,
   listStart_rep 0 '|' s (by decide) (by decide) (listMarker_none '|' s (by decide) (by decide) (by decide) (by decide)), by simp⟩

theorem table_step (ti : Bool) (hd dl : Str) (rows : List Str) (hf : HeadFacts hd) (h1 : dl.contains '|' = true)
    (hdl : delimiterRow dl = true) (hb : ∀ x ∈ rows, x.contains '|' = true) (k : Nat) (st : St) :
    Step (dcfg ti) 8 (fun post => ∀ b, post.head? = some b → b.s.contains '|' = false) (numbered k (hd :: dl :: rows))
      (fun ln => [.table (hd :: dl :: rows) ln ln (k + 1)]) 1 st st false := by
  refine Step.one fun pre post start g acc loose hpost hg => ?_
  obtain ⟨g, rfl⟩ : ∃ g', g = g' + 1 + 7 := ⟨g - 8, by omega⟩
  have hrd := readTable_block { s := hd, origin := k + 1 } { s := dl, origin := k + 1 + 1 } (numbered (k + 1 + 1) rows) pre post start
    h1 hdl (fun x hx => hb _ (numbered_mem _ _ _ hx)) hpost
  rw [numbered_s] at hrd
  simp only [numbered_cons, List.cons_append]
  refine tokLoop_some (peek_at pre { s := hd, origin := k + 1 } _ start) ?_ acc loose
  exact (tryTypes_skip (l := { s := hd, origin := k + 1 }) [.htmlBlock, .blockCode, .heading, .quote, .codeFence, .thematicBreak, .list]
    (declines_cons hf.html (declines_cons hf.bc (declines_cons hf.hd (declines_cons hf.qt (declines_cons hf.cf
      (declines_cons hf.tb (declines_cons hf.ls declines_nil))))))) _ _).trans (tryTypes_hit_table hf.bar hrd)

open Mistletoe.MdRound (ind4 CodeStop)

/-! ### Table rows as written, and `TableRow.__init__` on them -/

open Mistletoe.Document (joinNl mkBlock mkBlocks mkItems parseAlign splitPipes unescapePipes zipLongest tableRow tableRows mapRes)
open Mistletoe.Strip (lstrip_of_head rstrip_of_last)

/-- `'|'.join(cells)` -/
def joinBar : List Str → Str
  | [] => []
  | c :: rest =>
    match rest with
    | [] => c
    | _ :: _ => c ++ '|' :: joinBar rest

/-- A table row as written: the cells as they stand between the pipes (with their padding), with or without a pipe before
    the first and behind the last cell. -/
structure Row where
  lead : Bool
  trail : Bool
  cells : List Str

def Row.body (r : Row) : Str := (if r.lead then ['|'] else []) ++ (joinBar r.cells ++ (if r.trail then ['|'] else []))
def Row.line (r : Row) : Str := r.body ++ ['\n']

/-- a cell as written: not empty (`TableRow.__init__` drops empty strings between two pipes: an empty cell is written with
    at least one space); no `|` and no backslash; without its padding it is empty or inert one-line text -/
def cellOk (c : Str) : Bool :=
  !c.isEmpty && c.all (fun x => x != '|' && x != '\\') && ((strip c).isEmpty || inertText (strip c))

/-- a row as written: at least one cell, every cell `cellOk`; the row begins and ends with a visible character (a pipe, or
    the first / last character of the first / last cell: leading whitespace would be indentation, trailing whitespace is
    not written); it has a `|` (with one cell: a leading or trailing pipe), is one complete line and has no tab -/
def rowOk (r : Row) : Bool :=
  !r.cells.isEmpty && r.cells.all cellOk
    && (match r.body.head? with | some c => !pyIsSpace c | none => false)
    && (match r.body.getLast? with | some c => !pyIsSpace c | none => false)
    && r.line.contains '|' && oneLine r.line && !r.line.contains '\t'

structure RowFacts (r : Row) : Prop where
  ne : r.cells ≠ []
  cells : ∀ c ∈ r.cells, cellOk c = true
  strip : strip r.line = r.body
  bar : r.line.contains '|' = true
  line : LineOk r.line

theorem rowFacts_of (r : Row) (h : rowOk r = true) : RowFacts r := by
  simp only [rowOk, Bool.and_eq_true, Bool.not_eq_eq_eq_not, Bool.not_true, List.isEmpty_eq_false_iff, List.all_eq_true] at h
  obtain ⟨⟨⟨⟨⟨⟨h0, h1⟩, h2⟩, h3⟩, h4⟩, h5⟩, h6⟩ := h
  refine ⟨h0, h1, ?_, h4, lineOk_of _ h5 h6⟩
  unfold Row.line
  cases hb : r.body with
  | nil => rw [hb] at h2; simp at h2
  | cons c rest =>
    rw [hb] at h2 h3
    apply Strip.strip_line c rest
    · simpa using h2
    · intro d hd
      rw [hd] at h3
      simpa using h3

theorem splitPipes_plain : ∀ (c : Str) (prev : Option Char) (cur : Str), '|' ∉ c → splitPipes c prev cur = [cur.reverse ++ c]
  | [], _, _, _ => by simp [splitPipes]
  | x :: c, prev, cur, h => by
    have hx : x ≠ '|' := by intro e; exact h (by simp [e])
    have hc : '|' ∉ c := by intro e; exact h (List.mem_cons_of_mem _ e)
    have e : (x == '|' && prev != some '\\') = false := by simp [hx]
    simp only [splitPipes, e, Bool.false_eq_true, if_false]
    rw [splitPipes_plain c (some x) (x :: cur) hc]
    simp

theorem splitPipes_cell (rest : Str) : ∀ (c : Str) (prev : Option Char) (cur : Str), '|' ∉ c → '\\' ∉ c → prev ≠ some '\\' →
    splitPipes (c ++ '|' :: rest) prev cur = (cur.reverse ++ c) :: splitPipes rest (some '|') []
  | [], prev, cur, _, _, hp => by
    simp [splitPipes, hp]
  | x :: c, prev, cur, h, hb, _ => by
    have hx : x ≠ '|' := by intro e; exact h (by simp [e])
    have hx2 : x ≠ '\\' := by intro e; exact hb (by simp [e])
    have hc : '|' ∉ c := by intro e; exact h (List.mem_cons_of_mem _ e)
    have hc2 : '\\' ∉ c := by intro e; exact hb (List.mem_cons_of_mem _ e)
    have e : (x == '|' && prev != some '\\') = false := by simp [hx]
    simp only [List.cons_append, splitPipes, e, Bool.false_eq_true, if_false]
    rw [splitPipes_cell rest c (some x) (x :: cur) hc hc2 (by simpa using hx2)]
    simp

theorem joinBar_cons2 (c c' : Str) (r : List Str) : joinBar (c :: c' :: r) = c ++ '|' :: joinBar (c' :: r) := by simp [joinBar]

theorem splitPipes_cells (trail : Bool) : ∀ (cells : List Str), cells ≠ [] → (∀ c ∈ cells, '|' ∉ c ∧ '\\' ∉ c) →
    ∀ (prev : Option Char), prev ≠ some '\\' →
    splitPipes (joinBar cells ++ (if trail then ['|'] else [])) prev [] = cells ++ (if trail then [[]] else [])
  | [], h, _, _, _ => absurd rfl h
  | [c], _, hc, prev, hp => by
    obtain ⟨h1, h2⟩ := hc c (by simp)
    cases trail with
    | false => simp [joinBar, splitPipes_plain c prev [] h1]
    | true =>
      simp only [joinBar, if_true]
      rw [show c ++ ['|'] = c ++ '|' :: [] from rfl, splitPipes_cell [] c prev [] h1 h2 hp]
      simp [splitPipes]
  | c :: c' :: r, _, hc, prev, hp => by
    obtain ⟨h1, h2⟩ := hc c (by simp)
    rw [joinBar_cons2, List.append_assoc, List.cons_append, splitPipes_cell _ c prev [] h1 h2 hp,
      splitPipes_cells trail (c' :: r) (by simp) (fun x hx => hc x (List.mem_cons_of_mem _ hx)) (some '|') (by decide)]
    simp

theorem cellOk_parts (c : Str) (h : cellOk c = true) :
    c ≠ [] ∧ '|' ∉ c ∧ '\\' ∉ c ∧ ((strip c) = [] ∨ inertText (strip c) = true) := by
  simp only [cellOk, Bool.and_eq_true, Bool.not_eq_eq_eq_not, Bool.not_true, List.isEmpty_eq_false_iff, List.all_eq_true,
    bne_iff_ne, ne_eq, Bool.or_eq_true, List.isEmpty_iff] at h
  refine ⟨h.1.1, fun hm => (h.1.2 _ hm).1 rfl, fun hm => (h.1.2 _ hm).2 rfl, h.2⟩

/-- the cells `TableRow.__init__` finds in a written row -/
theorem row_cells (r : Row) (h : RowFacts r) :
    (splitPipes (strip r.line) none []).filter (fun c => !c.isEmpty) = r.cells := by
  rw [h.strip]
  have hc : ∀ c ∈ r.cells, '|' ∉ c ∧ '\\' ∉ c := fun c hm => ⟨(cellOk_parts c (h.cells c hm)).2.1, (cellOk_parts c (h.cells c hm)).2.2.1⟩
  have hne : ∀ c ∈ r.cells, (!c.isEmpty) = true := by
    intro c hm
    have := (cellOk_parts c (h.cells c hm)).1
    simpa using this
  have hf : r.cells.filter (fun c => !c.isEmpty) = r.cells := List.filter_eq_self.mpr hne
  unfold Row.body
  cases r.lead with
  | false =>
    simp only [Bool.false_eq_true, if_false, List.nil_append]
    rw [splitPipes_cells r.trail r.cells h.ne hc none (by simp), List.filter_append, hf]
    cases r.trail <;> simp
  | true =>
    simp only [if_true, List.singleton_append, splitPipes]
    simp only [beq_self_eq_true, Bool.true_and, bne_iff_ne, ne_eq, reduceCtorEq, not_false_eq_true, if_true, List.reverse_nil]
    rw [splitPipes_cells r.trail r.cells h.ne hc (some '|') (by decide), List.filter_cons, List.filter_append, hf]
    cases r.trail <;> simp

theorem unescapePipes_id : ∀ (fuel : Nat) (prev : Option Char) (s : Str), '\\' ∉ s → unescapePipes fuel prev s = s
  | 0, _, _, _ => rfl
  | _ + 1, _, [], _ => rfl
  | fuel + 1, prev, c :: rest, h => by
    have hc : c ≠ '\\' := by intro e; exact h (by simp [e])
    have hr : '\\' ∉ rest := by intro e; exact h (List.mem_cons_of_mem _ e)
    have hk : countLeading '\\' (c :: rest) = 0 := by simp [countLeading, hc]
    simp only [unescapePipes, hk]
    simp [unescapePipes_id fuel (some c) rest hr]

def cellInl (t : Str) : List Inline := if t.isEmpty then [] else [.rawText t]

/-- the cells of a row under the column alignments (`zip_longest`): a row with fewer cells than columns is filled up with
    empty cells; the cells of a row with MORE cells than columns are all kept, the extra ones with alignment `None` -/
def cellsOf (ln : Nat) : List Str → List (Option Nat) → List Mistletoe.Block
  | [], as => as.map (fun a => .tableCell a [] ln)
  | c :: cs, [] => .tableCell none (cellInl (strip c)) ln :: cellsOf ln cs []
  | c :: cs, a :: as => .tableCell a (cellInl (strip c)) ln :: cellsOf ln cs as

theorem inl_cell (cfg : Document.Cfg) (fn : Footnotes.Table) (ht : ∀ t ∈ cfg.span, inertClass t = true) (t : Str)
    (h : t = [] ∨ inertText t = true) : Document.inl cfg fn t = .ok (cellInl t) := by
  unfold Document.inl cellInl
  cases t with
  | nil =>
    exact InertInline.tokenizeInner_no_candidates_nil cfg.span fn (InertInline.findAll_inert [] cfg.span fn ht (by decide))
  | cons c r =>
    rcases h with h | h
    · cases h
    · simpa using InertInline.tokenizeInner_inert cfg.span fn (c :: r) ht h (by simp)

theorem nobs_of (t : Str) (h : t = [] ∨ inertText t = true) : '\\' ∉ t := by
  rcases h with rfl | h
  · simp
  · simp only [inertText, inertBody, Bool.and_eq_true, List.all_eq_true] at h
    intro hm
    have := h.1.1.1.1.1.1 _ hm
    simp [InertInline.okChar] at this

theorem go_pad (cfg : Document.Cfg) (fn : Footnotes.Table) (ht : ∀ t ∈ cfg.span, inertClass t = true) (ln : Nat) :
    ∀ (as : List (Option Nat)), tableRow.go cfg fn ln (as.map (fun a => (none, a))) = .ok (as.map (fun a => .tableCell a [] ln))
  | [] => rfl
  | a :: as => by
    have e : Document.inl cfg fn [] = .ok [] := inl_cell cfg fn ht [] (Or.inl rfl)
    simp only [List.map_cons, tableRow.go, e, go_pad cfg fn ht ln as]

theorem go_cells (cfg : Document.Cfg) (fn : Footnotes.Table) (ht : ∀ t ∈ cfg.span, inertClass t = true) (ln : Nat) :
    ∀ (cells : List Str) (as : List (Option Nat)), (∀ c ∈ cells, cellOk c = true) →
      tableRow.go cfg fn ln (zipLongest cells as) = .ok (cellsOf ln cells as)
  | [], as, _ => by simp only [zipLongest, cellsOf]; exact go_pad cfg fn ht ln as
  | c :: cs, [], h => by
    have hp := (cellOk_parts c (h c (by simp))).2.2.2
    have ih := go_cells cfg fn ht ln cs [] (fun x hx => h x (List.mem_cons_of_mem _ hx))
    simp only [zipLongest, cellsOf, tableRow.go, unescapePipes_id _ _ _ (nobs_of _ hp), inl_cell cfg fn ht _ hp, ih]
  | c :: cs, a :: as, h => by
    have hp := (cellOk_parts c (h c (by simp))).2.2.2
    have ih := go_cells cfg fn ht ln cs as (fun x hx => h x (List.mem_cons_of_mem _ hx))
    simp only [zipLongest, cellsOf, tableRow.go, unescapePipes_id _ _ _ (nobs_of _ hp), inl_cell cfg fn ht _ hp, ih]

def rowBlock (al : List (Option Nat)) (ln : Nat) (r : Row) : Mistletoe.Block := .tableRow al (cellsOf ln r.cells al) ln

def rowBlocks (al : List (Option Nat)) : Nat → List Row → List Mistletoe.Block
  | _, [] => []
  | ln, r :: rest => rowBlock al ln r :: rowBlocks al (ln + 1) rest

/-- **`TableRow(line, row_align, line_number)` on a written row** -/
theorem tableRow_row (cfg : Document.Cfg) (fn : Footnotes.Table) (ht : ∀ t ∈ cfg.span, inertClass t = true)
    (al : List (Option Nat)) (hal : al ≠ []) (ln : Nat) (r : Row) (h : RowFacts r) :
    tableRow cfg fn r.line al ln = .ok (rowBlock al ln r) := by
  unfold Document.tableRow
  have e : al.isEmpty = false := by simpa using hal
  simp only [e, Bool.false_eq_true, if_false, row_cells r h, go_cells cfg fn ht ln r.cells al h.cells, rowBlock]

theorem tableRows_rows (cfg : Document.Cfg) (fn : Footnotes.Table) (ht : ∀ t ∈ cfg.span, inertClass t = true)
    (al : List (Option Nat)) (hal : al ≠ []) : ∀ (rows : List Row) (ln : Nat), (∀ r ∈ rows, RowFacts r) →
    tableRows cfg fn (rows.map Row.line) al ln = .ok (rowBlocks al ln rows)
  | [], _, _ => rfl
  | r :: rest, ln, h => by
    simp only [List.map_cons, tableRows, tableRow_row cfg fn ht al hal ln r (h r (by simp)),
      tableRows_rows cfg fn ht al hal rest (ln + 1) (fun x hx => h x (List.mem_cons_of_mem _ hx)), rowBlocks]

/-! ### The delimiter row as written -/

open Mistletoe.ComposeC (sp dedent FenceOk fenceOkB FenceFacts fenceFacts_of ulOk UlOk setextOk_of fence_lineOk setext_lineOk
  closeShape SxOk sxOk_false sxOk_after langOf fenceHtml flat_fence fenceHtml_ne)

/-- a cell of the delimiter row as written: spaces, an optional colon, one or more hyphens, an optional colon, spaces -/
structure DCell where
  padL : Nat
  cl : Bool
  dashes : Nat
  cr : Bool
  padR : Nat

def DCell.text (d : DCell) : Str :=
  sp d.padL ++ (if d.cl then [':'] else []) ++ List.replicate d.dashes '-' ++ (if d.cr then [':'] else []) ++ sp d.padR

/-- the alignment a delimiter cell gives its column, as `Table.parse_align` numbers it: `None` (left, also for `:--`),
    `0` (`:-:`, centre), `1` (`--:`, right) -/
def DCell.align (d : DCell) : Option Nat := if d.cr then (if d.cl then some 0 else some 1) else none

structure DRow where
  lead : Bool
  trail : Bool
  cells : List DCell

def DRow.line (d : DRow) : Str :=
  (if d.lead then ['|'] else []) ++ (joinBar (d.cells.map DCell.text) ++ (if d.trail then ['|'] else [])) ++ ['\n']
def DRow.aligns (d : DRow) : List (Option Nat) := d.cells.map DCell.align

/-! ### The delimiter row: the scanners on the written shape -/

/-- the visible part of a delimiter cell -/
def DCell.core (d : DCell) : Str :=
  (if d.cl then [':'] else []) ++ (List.replicate d.dashes '-' ++ (if d.cr then [':'] else []))

theorem DCell.text_eq (d : DCell) : d.text = sp d.padL ++ (d.core ++ sp d.padR) := by
  simp [DCell.text, DCell.core, List.append_assoc]

/-- not a hyphen and not a colon: the characters that may follow the visible part of a delimiter cell -/
def Brk (tail : Str) : Prop := ∀ x, tail.head? = some x → x ≠ '-' ∧ x ≠ ':'

theorem span_dash (m : Nat) (tail : Str) (h : ∀ x, tail.head? = some x → x ≠ '-') :
    span (· == '-') ('-' :: (List.replicate m '-' ++ tail)) = ('-' :: List.replicate m '-', tail) :=
  MdRound.span_replicate '-' (m + 1) tail (fun e => h _ e rfl)

/-- `:?-+:?` on a written cell: the run of hyphens ends at the closing colon or at `tail` -/
theorem alignCol_core (d : DCell) (hd : 1 ≤ d.dashes) (tail : Str) (ht : Brk tail) :
    alignCol (d.core ++ tail) = some (d.core, tail) := by
  obtain ⟨m, hm⟩ : ∃ m, d.dashes = m + 1 := ⟨d.dashes - 1, by omega⟩
  have h1 := span_dash m tail (fun x hx => (ht x hx).1)
  have h2 := span_dash m (':' :: tail) (fun x hx => by simp at hx; subst hx; decide)
  unfold DCell.core alignCol
  rw [hm, List.replicate_succ]
  -- with a closing colon `alignCol` takes it; without, what follows is no colon (`ht`)
  cases d.cl <;> cases d.cr <;> simp [h1, h2]
  all_goals
    split
    · exact absurd rfl (ht ':' rfl).2
    · rfl

theorem core_ne (d : DCell) (hd : 1 ≤ d.dashes) : ∃ c r, d.core = c :: r ∧ (c = ':' ∨ c = '-') := by
  obtain ⟨m, hm⟩ : ∃ m, d.dashes = m + 1 := ⟨d.dashes - 1, by omega⟩
  unfold DCell.core
  rw [hm, List.replicate_succ]
  cases d.cl
  · exact ⟨'-', _, rfl, Or.inr rfl⟩
  · exact ⟨':', _, rfl, Or.inl rfl⟩

/-- what follows the visible part of a cell: its right padding is written separately; then the remaining cells, each behind
    a pipe, then the optional closing pipe and the line end -/
def restLine (trail : Bool) : List DCell → Str
  | [] => (if trail then ['|'] else []) ++ ['\n']
  | c :: cs => '|' :: (sp c.padL ++ (c.core ++ (sp c.padR ++ restLine trail cs)))

theorem joinBar_rest (trail : Bool) : ∀ (c0 : DCell) (cs : List DCell),
    joinBar ((c0 :: cs).map DCell.text) ++ (if trail then ['|'] else []) ++ ['\n'] =
      sp c0.padL ++ (c0.core ++ (sp c0.padR ++ restLine trail cs))
  | c0, [] => by simp [joinBar, DCell.text_eq, restLine]
  | c0, c1 :: cs => by
    have ih := joinBar_rest trail c1 cs
    rw [List.map_cons, List.map_cons, joinBar_cons2, ← List.map_cons, List.append_assoc, List.append_assoc, List.cons_append,
      ← List.append_assoc (joinBar _), ih]
    simp [DCell.text_eq, restLine]

theorem drow_line (d : DRow) (c0 : DCell) (cs : List DCell) (h : d.cells = c0 :: cs) :
    d.line = (if d.lead then ['|'] else []) ++ (sp c0.padL ++ (c0.core ++ (sp c0.padR ++ restLine d.trail cs))) := by
  unfold DRow.line
  rw [h, List.append_assoc, List.append_assoc, ← List.append_assoc (joinBar _), joinBar_rest]

theorem ws_sp : ∀ x ∈ sp n, ws x = true := by
  intro x hx; simp only [sp, List.mem_replicate] at hx; rw [hx.2]; decide

theorem rest_brk (trail : Bool) (r : Nat) (cs : List DCell) : Brk (sp r ++ restLine trail cs) := by
  intro x hx
  cases r with
  | succ r' => simp [sp, List.replicate_succ] at hx; subst hx; decide
  | zero =>
    cases cs with
    | nil => cases trail <;> simp [sp, restLine] at hx <;> subst hx <;> decide
    | cons c cs' => simp [sp, restLine] at hx; subst hx; decide

theorem delimRest_rest (trail : Bool) : ∀ (cs : List DCell) (fuel : Nat), cs.length < fuel → (∀ c ∈ cs, 1 ≤ c.dashes) →
    ∀ (r : Nat), delimRest fuel (sp r ++ restLine trail cs) = true
  | [], fuel, hf, _, r => by
    obtain ⟨f, rfl⟩ : ∃ f, fuel = f + 1 := ⟨fuel - 1, by simp at hf; omega⟩
    cases trail with
    | false =>
      have : span ws (sp r ++ restLine false []) = (sp r ++ ['\n'], []) := by
        have := span_prefix ws (sp r ++ ['\n']) [] (by
          intro x hx; rcases List.mem_append.mp hx with hx | hx
          · exact ws_sp x hx
          · simp at hx; subst hx; decide) (by simp)
        simpa [restLine] using this
      simp [delimRest, this]
    | true =>
      have h1 : span ws (sp r ++ restLine true []) = (sp r, '|' :: ['\n']) := span_ws_rep r '|' ['\n'] (by decide)
      have h2 : span ws ['\n'] = (['\n'], []) := by decide
      have h3 : alignCol [] = none := by decide
      simp only [delimRest, h1, h2, h3]
      rfl
  | c :: cs, fuel, hf, hd, r => by
    obtain ⟨f, rfl⟩ : ∃ f, fuel = f + 1 := ⟨fuel - 1, by simp at hf; omega⟩
    have hc := hd c (by simp)
    obtain ⟨x, xs, hx, hxc⟩ := core_ne c hc
    have h1 : span ws (sp r ++ restLine trail (c :: cs)) = (sp r, restLine trail (c :: cs)) :=
      span_ws_rep r '|' _ (by decide)
    have h2 : span ws (sp c.padL ++ (c.core ++ (sp c.padR ++ restLine trail cs))) = (sp c.padL, c.core ++ (sp c.padR ++ restLine trail cs)) := by
      rw [hx]; exact span_ws_rep _ x _ (by rcases hxc with rfl | rfl <;> decide)
    have h3 := alignCol_core c hc _ (rest_brk trail c.padR cs)
    have ih := delimRest_rest trail cs f (by simp at hf; omega) (fun y hy => hd y (List.mem_cons_of_mem _ hy)) c.padR
    simp only [delimRest, h1]
    simp only [restLine, h2, h3, ih]

theorem restLine_len (trail : Bool) : ∀ (cs : List DCell), cs.length < (restLine trail cs).length
  | [] => by cases trail <;> simp [restLine]
  | c :: cs => by
    have := restLine_len trail cs
    simp only [restLine, List.length_cons, List.length_append]
    omega

/-- **`Table.delimiter_row_pattern` matches a written delimiter row** -/
theorem delimiterRow_line (d : DRow) (hne : d.cells ≠ []) (hd : ∀ c ∈ d.cells, 1 ≤ c.dashes) : delimiterRow d.line = true := by
  obtain ⟨c0, cs, hcs⟩ := List.exists_cons_of_ne_nil hne
  have hl := drow_line d c0 cs hcs
  have hc := hd c0 (by rw [hcs]; simp)
  obtain ⟨x, xs, hx, hxc⟩ := core_ne c0 hc
  have hxw : ws x = false := by rcases hxc with rfl | rfl <;> decide
  have h2 : span ws (sp c0.padL ++ (c0.core ++ (sp c0.padR ++ restLine d.trail cs))) =
      (sp c0.padL, c0.core ++ (sp c0.padR ++ restLine d.trail cs)) := by
    rw [hx]; exact span_ws_rep _ x _ hxw
  have h3 := alignCol_core c0 hc _ (rest_brk d.trail c0.padR cs)
  have ih := delimRest_rest d.trail cs (d.line.length + 1)
    (by have := restLine_len d.trail cs; rw [hl]; simp only [List.length_append]; omega)
    (fun y hy => hd y (by rw [hcs]; exact List.mem_cons_of_mem _ hy)) c0.padR
  unfold delimiterRow
  generalize d.line.length + 1 = fuel at ih
  rw [hl]
  cases d.lead with
  | true =>
    have h1 : ∀ r, span ws ('|' :: r) = ([], '|' :: r) := fun r => by simp [span, show ws '|' = false by decide]
    simp only [if_true, List.singleton_append, h1, h2, h3, ih]
  | false =>
    -- no pipe in front: what stands behind the padding begins with a colon or a hyphen, not with a pipe
    have h4 : ∀ tl, span ws (x :: tl) = ([], x :: tl) := fun tl => by simp [span, hxw]
    simp only [Bool.false_eq_true, if_false, List.nil_append, h2]
    rw [hx] at h3 ⊢
    simp only [List.cons_append] at h3 ⊢
    rcases hxc with rfl | rfl <;> simp [h4, h3, ih]

/-! `column_align_pattern.findall` and `parse_align` on the written row; `findAligns` has its equations in `Proofs/DocTotal.lean`,
  so no fuel appears -/

theorem findAligns_skip (c : Char) (h1 : c ≠ ':') (h2 : c ≠ '-') (rest : Str) : findAligns (c :: rest) = findAligns rest :=
  findAligns_none (Block.alignCol_none c rest h1 h2)

theorem findAligns_sp (rest : Str) : ∀ (n : Nat), findAligns (sp n ++ rest) = findAligns rest
  | 0 => rfl
  | n + 1 => (findAligns_skip ' ' (by decide) (by decide) _).trans (findAligns_sp rest n)

theorem findAligns_core (d : DCell) (hd : 1 ≤ d.dashes) (tail : Str) (ht : Brk tail) :
    findAligns (d.core ++ tail) = d.core :: findAligns tail := by
  have h := alignCol_core d hd tail ht
  obtain ⟨x, xs, hx, _⟩ := core_ne d hd
  rw [hx] at h ⊢
  exact findAligns_some h

theorem findAligns_rest (trail : Bool) : ∀ (cs : List DCell), (∀ c ∈ cs, 1 ≤ c.dashes) → ∀ (r : Nat),
    findAligns (sp r ++ restLine trail cs) = cs.map DCell.core
  | [], _, r => by
    rw [findAligns_sp]
    cases trail with
    | false => exact findAligns_skip '\n' (by decide) (by decide) []
    | true => exact (findAligns_skip '|' (by decide) (by decide) _).trans (findAligns_skip '\n' (by decide) (by decide) [])
  | c :: cs, hd, r => by
    rw [findAligns_sp, restLine, findAligns_skip '|' (by decide) (by decide), findAligns_sp,
      findAligns_core c (hd c (by simp)) _ (rest_brk trail c.padR cs),
      findAligns_rest trail cs (fun y hy => hd y (List.mem_cons_of_mem _ hy)) c.padR]
    rfl

theorem findAligns_line (d : DRow) (hne : d.cells ≠ []) (hd : ∀ c ∈ d.cells, 1 ≤ c.dashes) :
    findAligns d.line = d.cells.map DCell.core := by
  obtain ⟨c0, cs, hcs⟩ := List.exists_cons_of_ne_nil hne
  -- the pipe in front is skipped like any other character: with it the line is the `restLine` of all the cells
  have h := findAligns_rest d.trail (c0 :: cs) (hcs ▸ hd) 0
  rw [drow_line d c0 cs hcs, hcs]
  cases d.lead with
  | true => exact h
  | false => exact (findAligns_skip '|' (by decide) (by decide) _).symm.trans h

theorem parseAlign_core (d : DCell) (hd : 1 ≤ d.dashes) : parseAlign d.core = .ok d.align := by
  obtain ⟨m, hm⟩ : ∃ m, d.dashes = m + 1 := ⟨d.dashes - 1, by omega⟩
  have h1 : ('-' :: List.replicate m '-').getLast? = some '-' := by
    rw [← List.replicate_succ, List.getLast?_replicate]; simp
  have h2 : ∀ (x : Char) (l : Str), (x :: (l ++ [':'])).getLast? = some ':' := by
    intro x l; rw [← List.cons_append, List.getLast?_concat]
  have h3 : (':' :: '-' :: List.replicate m '-').getLast? = some '-' := by rw [List.getLast?_cons_cons, h1]
  unfold parseAlign DCell.core DCell.align
  rw [hm]
  cases d.cl <;> cases d.cr <;> simp [List.replicate_succ, h1, h2, h3]

theorem mapRes_cores : ∀ (cs : List DCell), (∀ c ∈ cs, 1 ≤ c.dashes) → mapRes parseAlign (cs.map DCell.core) = .ok (cs.map DCell.align)
  | [], _ => rfl
  | c :: cs, h => by
    simp only [List.map_cons, mapRes, parseAlign_core c (h c (by simp)), mapRes_cores cs (fun y hy => h y (List.mem_cons_of_mem _ hy))]

theorem mem_joinBar (c : Char) : ∀ (l : List Str), c ∈ joinBar l → c = '|' ∨ ∃ t ∈ l, c ∈ t
  | [], h => by simp [joinBar] at h
  | [t], h => by
    simp only [joinBar] at h
    exact Or.inr ⟨t, by simp, h⟩
  | t :: t' :: r, h => by
    rw [joinBar_cons2] at h
    rcases List.mem_append.mp h with h | h
    · exact Or.inr ⟨t, by simp, h⟩
    · rcases List.mem_cons.mp h with h | h
      · exact Or.inl h
      · rcases mem_joinBar c (t' :: r) h with h | ⟨u, hu, hc⟩
        · exact Or.inl h
        · exact Or.inr ⟨u, List.mem_cons_of_mem _ hu, hc⟩

theorem mem_text (d : DCell) (c : Char) (h : c ∈ d.text) : c = ' ' ∨ c = ':' ∨ c = '-' := by
  simp only [DCell.text, sp, List.mem_append, List.mem_replicate] at h
  rcases h with (((h | h) | h) | h) | h
  · exact Or.inl h.2
  · simp at h; exact Or.inr (Or.inl h.2)
  · exact Or.inr (Or.inr h.2)
  · simp at h; exact Or.inr (Or.inl h.2)
  · exact Or.inl h.2

theorem drow_lineOk (d : DRow) : LineOk d.line := by
  refine ⟨(if d.lead then ['|'] else []) ++ (joinBar (d.cells.map DCell.text) ++ (if d.trail then ['|'] else [])), rfl, ?_⟩
  have hc : ∀ c ∈ (if d.lead then ['|'] else []) ++ (joinBar (d.cells.map DCell.text) ++ (if d.trail then ['|'] else [])),
      c = '|' ∨ c = ' ' ∨ c = ':' ∨ c = '-' := by
    intro c hc
    rcases List.mem_append.mp hc with h | h
    · simp at h; exact Or.inl h.2
    · rcases List.mem_append.mp h with h | h
      · rcases mem_joinBar c _ h with h | ⟨t, ht, hct⟩
        · exact Or.inl h
        · obtain ⟨dc, _, rfl⟩ := List.mem_map.mp ht
          exact Or.inr (mem_text dc c hct)
      · simp at h; exact Or.inl h.2
  constructor
  · intro c h
    rcases hc c h with rfl | rfl | rfl | rfl <;> decide
  · intro h
    rcases hc _ h with h | h | h | h <;> revert h <;> decide


/-- the delimiter row as written (decidable): one or more cells, each with at least one hyphen; the row has a `|`
    (`Table.read` collects lines while they have one: with one column, a leading or a trailing pipe).  That
    `Table.delimiter_row_pattern` matches such a line and that `column_align_pattern.findall` + `parse_align` give the
    alignments of its cells is proved (`delimiterRow_line`, `findAligns_line`, `mapRes_cores`). -/
def drowOk (d : DRow) : Bool :=
  !d.cells.isEmpty && d.cells.all (fun c => decide (1 ≤ c.dashes)) && d.line.contains '|'

structure DelimFacts (d : DRow) : Prop where
  ne : d.cells ≠ []
  bar : d.line.contains '|' = true
  dash : d.line.contains '-' = true
  row : delimiterRow d.line = true
  al : mapRes parseAlign (findAligns d.line) = .ok d.aligns
  line : LineOk d.line

theorem delimFacts_of (d : DRow) (h : drowOk d = true) : DelimFacts d := by
  simp only [drowOk, Bool.and_eq_true, Bool.not_eq_eq_eq_not, Bool.not_true, List.isEmpty_eq_false_iff, List.all_eq_true,
    decide_eq_true_eq] at h
  obtain ⟨⟨h0, h1⟩, h2⟩ := h
  have hrow := delimiterRow_line d h0 h1
  refine ⟨h0, h2, List.contains_iff_mem.mpr (Block.delimiterRow_dash _ hrow), hrow, ?_, drow_lineOk d⟩
  rw [findAligns_line d h0 h1]
  exact mapRes_cores d.cells h1

/-- The two kinds of leaves beyond `T3`.
    * `table hdr del rows`: a GFM table - the header row, the delimiter row, the body rows, each as written.
    * `icode lines`: an indented code block - the lines as written. -/
inductive Leaf where
  | table (hdr : Row) (del : DRow) (rows : List Row)
  | icode (lines : List Str)

def Leaf.write : Leaf → List Str
  | .table h d rows => h.line :: d.line :: rows.map Row.line
  | .icode ls => ls

/-- a line of an indented code block as written: one complete line without a tab; whitespace only, or four spaces and more -/
def codeLineB (l : Str) : Bool := oneLine l && !l.contains '\t' && (isBlank l || startsWith [' ', ' ', ' ', ' '] l)

/-- well-formedness of a leaf (decidable).
    Table: header and body rows `rowOk`; when the header row does not begin with a pipe, no other block starts on it
    (`headFactsB`: it is not indented code, an ATX heading, a quote, a fence, a thematic break, a list item or an HTML
    block; with a leading pipe that is so: `pipe_headFacts`);
    the delimiter row `drowOk`; the header has as many cells as the delimiter row (GFM asks for that; the body rows may have
    fewer or more).
    Indented code: every line `codeLineB`; the first and the last line have a visible character. -/
def Leaf.ok : Leaf → Bool
  | .table h d rows => rowOk h && (h.lead || headFactsB h.line) && drowOk d && decide (h.cells.length = d.cells.length) && rows.all rowOk
  | .icode ls => ls.all codeLineB && (match ls.head? with | some l => !isBlank l | none => false)
      && (match ls.getLast? with | some l => !isBlank l | none => false)

def Leaf.isCode : Leaf → Bool
  | .icode _ => true
  | _ => false

def Leaf.entry (n : Nat) : Leaf → Entry
  | .table h d rows => .table (h.line :: d.line :: rows.map Row.line) n n n
  | .icode ls => .blockCode (ls.map codePiece) n n

/-- the content `BlockCode.__init__` computes: what `BlockCode.read` keeps of the lines, joined, `strip('\n')`, "\n"; for a
    written block this is the joined text itself (`codeContent_eq`) -/
def codeContent (ls : List Str) : Str := Document.stripNl (ls.map codePiece).flatten ++ ['\n']

/-- the block token expected for a leaf: a `Table` with the column alignments, the header `TableRow` (line `n`) and the
    body `TableRow`s (lines `n + 2`, …), each with its `TableCell`s; a `BlockCode` whose content is every line minus its first
    four columns (`codePiece`), joined -/
def Leaf.block (n : Nat) : Leaf → Mistletoe.Block
  | .table h d rows => .table d.aligns [rowBlock d.aligns n h] (rowBlocks d.aligns (n + 2) rows) n
  | .icode ls => .blockCode (ls.map codePiece).flatten n

structure TableFacts (h : Row) (d : DRow) (rows : List Row) : Prop where
  hdr : RowFacts h
  head : HeadFacts h.line
  del : DelimFacts d
  rows : ∀ r ∈ rows, RowFacts r

theorem tableFacts_of (h : Row) (d : DRow) (rows : List Row) (hok : (Leaf.table h d rows).ok = true) : TableFacts h d rows := by
  simp only [Leaf.ok, Bool.and_eq_true, List.all_eq_true, Bool.or_eq_true] at hok
  obtain ⟨⟨⟨⟨h0, h1⟩, h2⟩, _⟩, h4⟩ := hok
  refine ⟨rowFacts_of h h0, ?_, delimFacts_of d h2, fun r hr => rowFacts_of r (h4 r hr)⟩
  rcases h1 with h1 | h1
  · have : h.line = '|' :: (joinBar h.cells ++ (if h.trail then ['|'] else []) ++ ['\n']) := by
      simp [Row.line, Row.body, h1]
    rw [this]
    exact pipe_headFacts _
  · exact headFacts_of _ h1

structure CodeFacts (ls : List Str) : Prop where
  ne : ls ≠ []
  lines : ∀ l ∈ ls, LineOk l ∧ CodeLine l
  first : ∀ l, ls.head? = some l → isBlank l = false
  last : ∀ l, ls.getLast? = some l → isBlank l = false

theorem codeFacts_of (ls : List Str) (hok : (Leaf.icode ls).ok = true) : CodeFacts ls := by
  simp only [Leaf.ok, Bool.and_eq_true, List.all_eq_true] at hok
  obtain ⟨⟨h0, h1⟩, h2⟩ := hok
  refine ⟨?_, ?_, ?_, ?_⟩
  · intro e; subst e; simp at h1
  · intro l hl
    have := h0 l hl
    simp only [codeLineB, Bool.and_eq_true, Bool.not_eq_eq_eq_not, Bool.not_true, Bool.or_eq_true] at this
    refine ⟨lineOk_of l this.1.1 this.1.2, ?_⟩
    cases hb : isBlank l with
    | true => exact Or.inl hb
    | false =>
      rcases this.2 with h | h
      · rw [hb] at h; cases h
      · obtain ⟨t, rfl⟩ := List.isPrefixOf_iff_prefix.mp h
        exact Or.inr ⟨hb, t, rfl⟩
  · intro l hl; rw [hl] at h1; simpa using h1
  · intro l hl; rw [hl] at h2; simpa using h2

/-- **the content of a written indented code block** is every line minus its first four columns, joined: `strip('\n')`
    removes nothing but the final "\n", which `BlockCode.__init__` puts back -/
theorem codeContent_eq (ls : List Str) (hok : (Leaf.icode ls).ok = true) : codeContent ls = (ls.map codePiece).flatten := by
  have hf := codeFacts_of ls hok
  -- a line of the block with a visible character has its text behind the four spaces
  have hv : ∀ l ∈ ls, isBlank l = false → NlEnd (codePiece l) ∧ codePiece l ≠ ['\n'] := by
    intro l hl hnb
    have hlo := (hf.lines l hl).1
    rcases (hf.lines l hl).2 with h | ⟨_, t, rfl⟩
    · rw [h] at hnb; cases hnb
    · rw [codePiece_nonblank hnb]
      exact (MdRound.codeText_ind4 t hnb (lineOk_oneLine hlo)).textLine
  refine MdRound.stripNl_flatten _ (by simpa using hf.ne) (fun t ht => ?_) (fun t ht => ?_)
  · rw [List.head?_map] at ht
    obtain ⟨l, hl, rfl⟩ := Option.map_eq_some_iff.mp ht
    exact hv l (List.mem_of_mem_head? hl) (hf.first l hl)
  · rw [List.getLast?_map] at ht
    obtain ⟨l, hl, rfl⟩ := Option.map_eq_some_iff.mp ht
    exact hv l (List.mem_of_mem_getLast? hl) (hf.last l hl)

theorem leaf_lineOk : ∀ (l : Leaf), l.ok = true → (∀ s ∈ l.write, LineOk s) ∧ l.write ≠ []
  | .table h d rows, hok => by
    have hf := tableFacts_of h d rows hok
    refine ⟨?_, by simp [Leaf.write]⟩
    intro s hs
    simp only [Leaf.write, List.mem_cons, List.mem_map] at hs
    rcases hs with rfl | rfl | ⟨r, hr, rfl⟩
    · exact hf.hdr.line
    · exact hf.del.line
    · exact (hf.rows r hr).line
  | .icode ls, hok => by
    have hf := codeFacts_of ls hok
    exact ⟨fun s hs => (hf.lines s hs).1, hf.ne⟩

theorem leaf_entry_shift (j n : Nat) : ∀ (l : Leaf), shiftEntry j (l.entry n) = l.entry (n + j)
  | .table .. => rfl
  | .icode _ => rfl

/-! ### The token constructors and the HTML of the two leaves -/

open Mistletoe.Html Mistletoe.Escape
open Mistletoe.Pipeline (flat_append)

theorem mkBlock_leaf (cfg : Document.Cfg) (fn : Footnotes.Table) (ht : ∀ t ∈ cfg.span, inertClass t = true) :
    ∀ (l : Leaf), l.ok = true → ∀ (n : Nat), mkBlock cfg fn (l.entry n) = .ok (some (l.block n))
  | .table h d rows, hok, n => by
    have hf := tableFacts_of h d rows hok
    have hal : d.aligns ≠ [] := by simpa [DRow.aligns] using hf.del.ne
    simp only [Leaf.entry, Leaf.block, mkBlock, hf.del.dash, if_true, hf.del.al, tableRow_row cfg fn ht _ hal n h hf.hdr,
      tableRows_rows cfg fn ht _ hal rows (n + 2) hf.rows]
  | .icode ls, hok, n => by
    have e := codeContent_eq ls hok
    unfold codeContent at e
    simp only [Leaf.entry, Leaf.block, mkBlock, e]

/-- `<th align="…">text</th>` + newline (`<td` in the body); the text with `&`, `<`, `>` (and the quotes, as the options
    say) escaped -/
def cellHtml (q : Quotes) (th : Bool) (a : Option Nat) (t : Str) : Str :=
  (if th then ['<', 't', 'h'] else ['<', 't', 'd']) ++ [' ', 'a', 'l', 'i', 'g', 'n', '=', '"'] ++ alignName a ++ ['"', '>']
    ++ escapeHtmlText q.dq q.sq t ++ (if th then ['<', '/', 't', 'h', '>', '\n'] else ['<', '/', 't', 'd', '>', '\n'])

def padHtml (q : Quotes) (th : Bool) : List (Option Nat) → Str
  | [] => []
  | a :: as => cellHtml q th a [] ++ padHtml q th as

/-- the cells of a row under the column alignments, as `cellsOf` -/
def cellsHtml (q : Quotes) (th : Bool) : List Str → List (Option Nat) → Str
  | [], as => padHtml q th as
  | c :: cs, [] => cellHtml q th none (strip c) ++ cellsHtml q th cs []
  | c :: cs, a :: as => cellHtml q th a (strip c) ++ cellsHtml q th cs as

def rowHtml (q : Quotes) (th : Bool) (al : List (Option Nat)) (r : Row) : Str :=
  ['<', 't', 'r', '>', '\n'] ++ cellsHtml q th r.cells al ++ ['<', '/', 't', 'r', '>', '\n']

def rowsHtml (q : Quotes) (al : List (Option Nat)) : List Row → Str
  | [] => []
  | r :: rest => rowHtml q false al r ++ rowsHtml q al rest

def tOpen : Str := ['<', 't', 'a', 'b', 'l', 'e', '>', '\n']
def thOpen : Str := ['<', 't', 'h', 'e', 'a', 'd', '>', '\n']
def thClose : Str := ['<', '/', 't', 'h', 'e', 'a', 'd', '>', '\n']
def tbOpen : Str := ['<', 't', 'b', 'o', 'd', 'y', '>', '\n']
def tbClose : Str := ['<', '/', 't', 'b', 'o', 'd', 'y', '>', '\n']
def tClose : Str := ['<', '/', 't', 'a', 'b', 'l', 'e', '>']

/-- `<table>`, `<thead>` with the header row, `<tbody>` with the body rows (present also when there is no body row),
    `</table>`, each tag on a line of its own -/
def tableHtml (q : Quotes) (h : Row) (d : DRow) (rows : List Row) : Str :=
  tOpen ++ (thOpen ++ rowHtml q true d.aligns h ++ thClose) ++ tbOpen ++ rowsHtml q d.aligns rows ++ tbClose ++ tClose

def Leaf.html (q : Quotes) : Leaf → Str
  | .table h d rows => tableHtml q h d rows
  | .icode ls => fenceHtml q [] (ls.map codePiece).flatten

theorem flat_cell (q : Quotes) (th : Bool) (a : Option Nat) (t : Str) (ln : Nat) :
    flat (renderCell q th (.tableCell a (cellInl t) ln)) = cellHtml q th a t := by
  have e1 : "th".toList = ['t', 'h'] := by decide
  have e2 : "td".toList = ['t', 'd'] := by decide
  have e3 : "align".toList = ['a', 'l', 'i', 'g', 'n'] := by decide
  have hin : flat (renderInlines q (cellInl t)) = escapeHtmlText q.dq q.sq t := by
    cases t with
    | nil => simp [cellInl, renderInlines, flat, escapeHtmlText, mapChars_nil]
    | cons c r => simp [cellInl, renderInlines, renderInline, flat, flatEv]
  simp only [renderCell, flat_append, hin, cellHtml, e1, e2, e3]
  cases th <;> simp [flat, flatEv, flatAttrs, nl]

theorem flat_pad (q : Quotes) (th : Bool) (ln : Nat) : ∀ (as : List (Option Nat)),
    flat (renderCells q th (as.map (fun a => .tableCell a [] ln))) = padHtml q th as
  | [] => rfl
  | a :: as => by
    have := flat_cell q th a [] ln
    simp only [cellInl, List.isEmpty_nil, if_true] at this
    simp only [List.map_cons, renderCells, flat_append, this, flat_pad q th ln as, padHtml]

theorem flat_cells (q : Quotes) (th : Bool) (ln : Nat) : ∀ (cells : List Str) (as : List (Option Nat)),
    flat (renderCells q th (cellsOf ln cells as)) = cellsHtml q th cells as
  | [], as => by simp only [cellsOf, cellsHtml]; exact flat_pad q th ln as
  | c :: cs, [] => by simp only [cellsOf, cellsHtml, renderCells, flat_append, flat_cell, flat_cells q th ln cs []]
  | c :: cs, a :: as => by simp only [cellsOf, cellsHtml, renderCells, flat_append, flat_cell, flat_cells q th ln cs as]

theorem flat_row (q : Quotes) (s : Bool) (th : Bool) (al : List (Option Nat)) (ln : Nat) (r : Row) :
    flat (renderRow q s th (rowBlock al ln r)) = rowHtml q th al r := by
  have e1 : "tr".toList = ['t', 'r'] := by decide
  simp only [rowBlock, renderRow, flat_append, flat_cells, rowHtml, e1]
  simp [flat, flatEv, flatAttrs, nl]

theorem flat_row_block (q : Quotes) (s : Bool) (al : List (Option Nat)) (ln : Nat) (r : Row) :
    flat (renderBlock q s (rowBlock al ln r)) = rowHtml q false al r := by
  rw [← flat_row q s false al ln r, rowBlock, renderBlock, renderRow]

theorem flat_rows (q : Quotes) (s : Bool) (al : List (Option Nat)) : ∀ (rows : List Row) (ln : Nat),
    flat (renderCat q s (rowBlocks al ln rows)) = rowsHtml q al rows
  | [], _ => rfl
  | r :: rest, ln => by
    simp only [rowBlocks, renderCat, flat_append, flat_row_block, flat_rows q s al rest (ln + 1), rowsHtml]

theorem flat_leaf (q : Quotes) (s : Bool) (n : Nat) : ∀ (l : Leaf), flat (renderBlock q s (l.block n)) = l.html q
  | .table h d rows => by
    have e1 : flat [Ev.otag "table".toList [], nl] = tOpen := by decide
    have e2 : flat [Ev.otag "thead".toList [], nl] = thOpen := by decide
    have e3 : flat [Ev.ctag "thead".toList, nl] = thClose := by decide
    have e4 : flat [Ev.otag "tbody".toList [], nl] = tbOpen := by decide
    have e5 : flat [Ev.ctag "tbody".toList, nl] = tbClose := by decide
    have e6 : flat [Ev.ctag "table".toList] = tClose := by decide
    simp only [Leaf.block, Leaf.html, tableHtml, renderBlock, flat_append, flat_row, flat_rows, e1, e2, e3, e4, e5, e6]
  | .icode ls => by
    simp only [Leaf.block, Leaf.html, renderBlock]
    exact flat_fence q [] _

theorem leaf_html_ne (q : Quotes) : ∀ (l : Leaf), l.html q ≠ []
  | .table h d rows => by
    simp [Leaf.html, tableHtml, tOpen]
  | .icode ls => by simp only [Leaf.html]; exact fenceHtml_ne _ _ _

/-! ### The fragment with tables and indented code blocks -/

open Mistletoe.ComposeL (leaderOf markerOk leaderOk_of_marker sepS stopLineB StopLine stopLine_of PostOk
  item_lines_last item_lines_next leader_chars spaces_chars
  indentDoc_lineOk itemDocOk_ne dcfg_noBlank dcfg_len tokLoop_list_step readList_item_cons)
open Mistletoe.ComposeL (listHtml flat_list flat_li_open flat_li_close flat_li_empty flat_if_nl
  flat_listItem_nil flat_listItem_cons listHtml_ne)
open Mistletoe.InertInline (flat_prose)

/-- A tree of block constructs: everything `ComposeC.T3` has (paragraph, ATX heading, thematic break, block quote, bullet /
    ordered list, fenced code block, setext heading; children of quotes and list items are trees of this type again) and
    `leaf l`: a table or an indented code block (`Leaf`). -/
inductive T4 where
  | para (lines : List Str)
  | heading (level : Nat) (text : Str) (line : Str)
  | hr (line : Str)
  | quote (bare : Bool) (kids : List T4)
  | list (ordered : Bool) (start : Nat) (marker : Char) (pad : Nat) (loose : Bool) (items : List (List T4))
  | fence (ind : Nat) (delim info : Str) (body : List Str) (close : Str)
  | setext (level : Nat) (lines : List Str) (ul : Str)
  | leaf (l : Leaf)

mutual
def write4 : T4 → List Str
  | .para ls => ls
  | .heading _ _ line => [line]
  | .hr line => [line]
  | .quote bare kids => (writes4 kids).map (if bare then qbare else qsp)
  | .list o n mk pad loose items => writeItems4 o mk pad loose n items
  | .fence ind d info body close => (sp ind ++ d ++ info ++ ['\n']) :: (body ++ [close])
  | .setext _ ls ul => ls ++ [ul]
  | .leaf l => l.write
/-- siblings, separated by exactly one "\n" line -/
def writes4 : List T4 → List Str
  | [] => []
  | t :: rest =>
    match rest with
    | [] => write4 t
    | _ :: _ => write4 t ++ ['\n'] :: writes4 rest
/-- as `ComposeL.writeItems` -/
def writeItems4 (o : Bool) (mk : Char) (pad : Nat) (loose : Bool) (n : Nat) : List (List T4) → List Str
  | [] => []
  | it :: rest =>
    match rest with
    | [] => indentDoc (leaderOf o n mk) pad (writes4 it)
    | _ :: _ => indentDoc (leaderOf o n mk) pad (writes4 it) ++ (sepS loose ++ writeItems4 o mk pad loose (n + 1) rest)
end

mutual
/-- a setext heading occurs in the node, at any depth -/
def hasSx : T4 → Bool
  | .setext .. => true
  | .quote _ kids => hasSxs kids
  | .list _ _ _ _ _ items => hasSxItems items
  | _ => false
def hasSxs : List T4 → Bool
  | [] => false
  | t :: rest => hasSx t || hasSxs rest
def hasSxItems : List (List T4) → Bool
  | [] => false
  | it :: rest => hasSxs it || hasSxItems rest
end

def isList4 : T4 → Bool
  | .list .. => true
  | _ => false

def isCode4 : T4 → Bool
  | .leaf l => l.isCode
  | _ => false

/-- what is asked of two consecutive siblings: behind a list no list, and a first line that is a `stopLineB`; behind an
    indented code block a first line that is not indented code again (it would go on the block) -/
def sepOk4 (t t' : T4) : Bool :=
  (!isList4 t || (!isList4 t' && stopLineB ((write4 t').headD [])))
    && (!isCode4 t || (!isBlank ((write4 t').headD []) && !blockCodeStart ((write4 t').headD [])))

open Mistletoe.Document (joinNl) in
mutual
/-- well-formedness (decidable).  Paragraph, heading, thematic break, quote: as `Compose.T.ok`.  List: as
    `ComposeL.T2.ok`.  Quote (in addition no setext heading inside), fenced code block, setext heading: as
    `ComposeC.T3.ok`.  Table, indented code block: `Leaf.ok`.
    Siblings (`T4.oks`): as `ComposeL.T2.oks`, and the block that follows an indented code block does not begin with
    four spaces (`sepOk4`). -/
def T4.ok : T4 → Bool
  | .para ls => !ls.isEmpty && ls.all (fun l => inertLine l && proseLine l && oneLine l && !l.contains '\t')
      && inertBody (joinNl (ls.map strip))
  | .heading lv t line => !t.isEmpty && inertText t && headLine lv t line && oneLine line && !line.contains '\t'
  | .hr line => hrLine line && oneLine line && !line.contains '\t'
  | .quote bare kids => !kids.isEmpty && T4.oks kids && (!bare || (writes4 kids).all (fun s => s.head? != some ' '))
      && !hasSxs kids
  | .list o n mk pad loose items =>
    decide (1 ≤ pad) && decide (pad ≤ 4) && !items.isEmpty && T4.okItems o mk pad n items
      && (if loose then decide (2 ≤ items.length) || items.any (fun it => decide (1 < it.length))
          else items.all (fun it => it.length == 1))
  | .fence ind d info body close => fenceOkB ind d info body close
  | .setext lv ls ul => (Compose.T.para ls).ok && ulOk lv ul
  | .leaf l => l.ok
def T4.oks : List T4 → Bool
  | [] => true
  | t :: rest => t.ok && T4.oks rest && (match rest with | [] => true | t' :: _ => sepOk4 t t')
def T4.okItems (o : Bool) (mk : Char) (pad : Nat) (n : Nat) : List (List T4) → Bool
  | [] => true
  | it :: rest => !it.isEmpty && T4.oks it && markerOk o n mk && itemDocOk (writes4 it)
      && !Scan.thematicBreak (leaderOf o n mk ++ List.replicate pad ' ' ++ (writes4 it).headD [])
      && T4.okItems o mk pad (n + 1) rest
end

mutual
def entry4 (n : Nat) : T4 → Entry
  | .para ls => .paragraph ls n n
  | .heading lv t line => .heading lv t (closingOf line) n n
  | .hr line => .thematicBreak line n n
  | .quote _ kids => .quote (entries4 n kids) (decide (1 < kids.length)) n n
  | .list o s mk pad loose items => .list (items4 o mk pad loose s n items) n n
  | .fence ind d info body _ => .codeFence (body.map (dedent ind)) ind d info (fenceLang info) n n
  | .setext _ ls ul => .setext (ls ++ [ul]) n n
  | .leaf l => l.entry n
def entries4 (n : Nat) : List T4 → List Entry
  | [] => []
  | t :: rest => entry4 n t :: entries4 (n + (write4 t).length + 1) rest
/-- the fields: as `ComposeL.items2` -/
def items4 (o : Bool) (mk : Char) (pad : Nat) (loose : Bool) (s : Nat) (n : Nat) : List (List T4) → List Item
  | [] => []
  | it :: rest =>
    .mk (entries4 n it) ((loose && !rest.isEmpty) || decide (1 < it.length)) 0 ((leaderOf o s mk).length + pad) (leaderOf o s mk) n n
      :: items4 o mk pad loose (s + 1) (n + (writes4 it).length + (sepS loose).length) rest
end

mutual
/-- a quote occurs among the blocks (at any depth of list nesting): `Quote.read` switches `Paragraph.parse_setext` back on -/
def touch4 : T4 → Bool
  | .quote _ _ => true
  | .list _ _ _ _ _ items => touchItems4 items
  | _ => false
def touches4 : List T4 → Bool
  | [] => false
  | t :: rest => touch4 t || touches4 rest
def touchItems4 : List (List T4) → Bool
  | [] => false
  | it :: rest => touches4 it || touchItems4 rest
end

mutual
/-- 14 per sibling, 1 per item; a closed leaf 14 as in `Compose.need` (setext heading included), a quote `+ 6`; an open node
    `gn + 12` (list: `gn` = what `List.read` needs; fence, indented code: `gn = 0`); `.leaf` is one constructor for a table
    (closed, `closed_of_step` asks 8 + 3 = 11) and indented code (open), so it takes the 12 of the latter.  See *The gas* in the
    head of Proofs/ComposeGen.lean -/
def need4 : T4 → Nat
  | .para _ => 14
  | .heading _ _ _ => 14
  | .hr _ => 14
  | .quote _ kids => needs4 kids + 6
  | .list _ _ _ _ _ items => needItems4 items + 12
  | .fence .. => 12
  | .setext .. => 14
  | .leaf _ => 12
def needs4 : List T4 → Nat
  | [] => 0
  | t :: rest => need4 t + needs4 rest + 14
def needItems4 : List (List T4) → Nat
  | [] => 0
  | it :: rest => needs4 it + needItems4 rest + 1
end
/-! ### What well-formedness gives -/

theorem oks4_cons (t : T4) (rest : List T4) (h : T4.oks (t :: rest) = true) :
    t.ok = true ∧ T4.oks rest = true ∧ ∀ t' r, rest = t' :: r → sepOk4 t t' = true := by
  simp only [T4.oks, Bool.and_eq_true] at h
  refine ⟨h.1.1, h.1.2, ?_⟩
  rintro t' r rfl
  exact h.2

theorem okItems_cons (o : Bool) (mk : Char) (pad n : Nat) (it : List T4) (rest : List (List T4))
    (h : T4.okItems o mk pad n (it :: rest) = true) :
    it ≠ [] ∧ T4.oks it = true ∧ leaderOk o (leaderOf o n mk) = true ∧ itemDocOk (writes4 it) = true ∧
    Scan.thematicBreak (leaderOf o n mk ++ List.replicate pad ' ' ++ (writes4 it).headD []) = false ∧
    T4.okItems o mk pad (n + 1) rest = true := by
  simp only [T4.okItems, Bool.and_eq_true, Bool.not_eq_eq_eq_not, Bool.not_true, List.isEmpty_eq_false_iff] at h
  obtain ⟨⟨⟨⟨⟨a, b⟩, c⟩, d⟩, e⟩, f⟩ := h
  exact ⟨a, b, leaderOk_of_marker o n mk c, d, e, f⟩

structure ListOk (o : Bool) (n : Nat) (mk : Char) (pad : Nat) (loose : Bool) (items : List (List T4)) : Prop where
  p1 : 1 ≤ pad
  p4 : pad ≤ 4
  ne : items ≠ []
  its : T4.okItems o mk pad n items = true
  looseC : (if loose then decide (2 ≤ items.length) || items.any (fun it => decide (1 < it.length))
          else items.all (fun it => it.length == 1)) = true

theorem listOk_of (o : Bool) (n : Nat) (mk : Char) (pad : Nat) (loose : Bool) (items : List (List T4))
    (h : (T4.list o n mk pad loose items).ok = true) : ListOk o n mk pad loose items := by
  simp only [T4.ok, Bool.and_eq_true, decide_eq_true_eq, Bool.not_eq_eq_eq_not, Bool.not_true, List.isEmpty_eq_false_iff] at h
  obtain ⟨⟨⟨⟨a, b⟩, c⟩, d⟩, e⟩ := h
  exact ⟨a, b, c, d, e⟩
theorem quoteOk4_of (bare : Bool) (kids : List T4) (h : (T4.quote bare kids).ok = true) :
    kids ≠ [] ∧ T4.oks kids = true ∧ (bare = true → ∀ s ∈ writes4 kids, s.head? ≠ some ' ') ∧ hasSxs kids = false := by
  simp only [T4.ok, Bool.and_eq_true, Bool.not_eq_eq_eq_not, Bool.not_true, List.isEmpty_eq_false_iff,
    Bool.or_eq_true, List.all_eq_true, bne_iff_ne, ne_eq] at h
  refine ⟨h.1.1.1, h.1.1.2, ?_, h.2⟩
  intro hb
  rcases h.1.2 with h2 | h2
  · rw [hb] at h2; cases h2
  · exact h2

theorem writeItems4_single (o : Bool) (mk : Char) (pad : Nat) (loose : Bool) (n : Nat) (it : List T4) :
    writeItems4 o mk pad loose n [it] = indentDoc (leaderOf o n mk) pad (writes4 it) := by simp [writeItems4]

theorem writeItems4_cons2 (o : Bool) (mk : Char) (pad : Nat) (loose : Bool) (n : Nat) (it it' : List T4) (r : List (List T4)) :
    writeItems4 o mk pad loose n (it :: it' :: r) =
      indentDoc (leaderOf o n mk) pad (writes4 it) ++ (sepS loose ++ writeItems4 o mk pad loose (n + 1) (it' :: r)) := by
  simp [writeItems4]

theorem writeItems4_head (o : Bool) (mk : Char) (pad : Nat) (loose : Bool) (n : Nat) (it : List T4) (rest : List (List T4))
    (h : writes4 it ≠ []) :
    ∃ tl, writeItems4 o mk pad loose n (it :: rest) =
      (leaderOf o n mk ++ List.replicate pad ' ' ++ (writes4 it).headD []) :: tl := by
  obtain ⟨c0, cs, hw⟩ := List.exists_cons_of_ne_nil h
  cases rest with
  | nil => rw [writeItems4_single, hw]; exact ⟨_, rfl⟩
  | cons a b => rw [writeItems4_cons2, hw]; exact ⟨_, rfl⟩

theorem writes4_cons2 (t t' : T4) (r : List T4) : writes4 (t :: t' :: r) = write4 t ++ ['\n'] :: writes4 (t' :: r) := by
  simp [writes4]

theorem writes4_single (t : T4) : writes4 [t] = write4 t := by simp [writes4]

mutual
theorem write4_lineOk : ∀ (t : T4), t.ok = true → (∀ s ∈ write4 t, LineOk s) ∧ write4 t ≠ []
  | .para ls, h => write_lineOk (.para ls) h
  | .heading lv t line, h => write_lineOk (.heading lv t line) h
  | .hr line, h => write_lineOk (.hr line) h
  | .quote bare kids, h => by
    obtain ⟨hne, hk, _⟩ := quoteOk4_of bare kids h
    have ih := writes4_lineOk kids hk
    exact ⟨lineOk_quoted bare _ ih.1, by simpa [write4] using ih.2 hne⟩
  | .list o n mk pad loose items, h => by
    have hl := listOk_of o n mk pad loose items h
    refine ⟨writeItems4_lineOk o mk pad loose n items hl.its, ?_⟩
    simp only [write4]
    cases items with
    | nil => exact absurd rfl hl.ne
    | cons it rest =>
      obtain ⟨tl, e⟩ := writeItems4_head o mk pad loose n it rest (itemDocOk_ne _ (okItems_cons o mk pad n it rest hl.its).2.2.2.1)
      rw [e]; exact List.cons_ne_nil _ _
  | .fence ind d info body close, h => ⟨fence_lineOk (fenceFacts_of ind d info body close h), by simp [write4]⟩
  | .setext lv ls ul, h => ⟨setext_lineOk (setextOk_of lv ls ul h).1 (setextOk_of lv ls ul h).2, by simp [write4]⟩
  | .leaf l, h => leaf_lineOk l h
theorem writes4_lineOk : ∀ (ts : List T4), T4.oks ts = true → (∀ s ∈ writes4 ts, LineOk s) ∧ (ts ≠ [] → writes4 ts ≠ [])
  | [], _ => by simp [writes4]
  | t :: rest, h => by
    obtain ⟨h1, h2, _⟩ := oks4_cons t rest h
    have iht := write4_lineOk t h1
    have ihr := writes4_lineOk rest h2
    cases rest with
    | nil => simpa [writes4] using iht
    | cons t' r =>
      rw [writes4_cons2]
      exact ⟨lineOk_sep _ _ iht.1 ihr.1, fun _ => by simp⟩
theorem writeItems4_lineOk (o : Bool) (mk : Char) (pad : Nat) (loose : Bool) : ∀ (n : Nat) (items : List (List T4)),
    T4.okItems o mk pad n items = true → ∀ s ∈ writeItems4 o mk pad loose n items, LineOk s
  | _, [], _ => by simp [writeItems4]
  | n, it :: rest, h => by
    obtain ⟨_, hit, hlead, _, _, hrest⟩ := okItems_cons o mk pad n it rest h
    have h1 := indentDoc_lineOk o _ hlead pad _ (writes4_lineOk it hit).1
    have h2 := writeItems4_lineOk o mk pad loose (n + 1) rest hrest
    cases rest with
    | nil => rw [writeItems4_single]; exact h1
    | cons it' r =>
      rw [writeItems4_cons2]
      intro s hs
      rcases List.mem_append.mp hs with hs | hs
      · exact h1 s hs
      · rcases List.mem_append.mp hs with hs | hs
        · exact Mistletoe.ComposeL.lineOk_sepS loose s hs
        · exact h2 s hs
end


/-! ### Tables and indented code, as blocks of lines -/

open Mistletoe.ComposeG (Closed Open Sibs Items Node sibs_single sibs_cons closed_quote closed_para closed_heading closed_hr
  node_list)
open Mistletoe.ComposeC (closed_setext open_fence)

theorem closed_table {ti sx : Bool} (hd : Row) (dl : DRow) (rows : List Row) (hf : TableFacts hd dl rows) :
    Closed ti (hd.line :: dl.line :: rows.map Row.line) (fun m => .table (hd.line :: dl.line :: rows.map Row.line) m m m)
      12 false sx :=
  -- 8: `table_step` takes the dispatcher past the seven types before `Table` and calls it
  ComposeG.closed_of_step (n := 8) (e := fun ln og => .table (hd.line :: dl.line :: rows.map Row.line) ln ln og)
    (fun k st _ => table_step ti _ _ _ hf.head hf.del.bar hf.del.row
      (fun x hx => by obtain ⟨r, hr, rfl⟩ := List.mem_map.mp hx; exact (hf.rows r hr).bar) k st)
    (fun _ h => nomatch h) (by decide)

theorem open_icode {ti sx : Bool} (ls : List Str) (hf : CodeFacts ls) :
    Open ti ls (fun m => .blockCode (ls.map codePiece) m m) 0 false sx CodeStop := by
  obtain ⟨l0, tl, rfl⟩ := List.exists_cons_of_ne_nil hf.ne
  exact ComposeG.open_of_step (gn := 0) fun k st => (icode_step (dcfg ti) l0 tl rfl (fun l hl => (hf.lines l hl).2) (hf.first l0 rfl)
    hf.last k st).mono (show 1 + 1 ≤ 7 by decide) (fun _ h => h)

/-- an indented code block among its siblings: the block behind it must not begin with a line that goes on the code -/
theorem node_icode {ti sx : Bool} (ls : List Str) (hf : CodeFacts ls) :
    Node ti ls (fun m => .blockCode (ls.map codePiece) m m) 12 false sx (fun s => isBlank s = false ∧ blockCodeStart s = false) :=
  .opn 0 CodeStop rfl (open_icode ls hf) (Or.inl rfl) (fun nlL h => Or.inr ⟨nlL, [], rfl, h, by simp⟩)
    (fun nlL l rest h hq => Or.inr ⟨nlL, l :: rest, rfl, h, by
      intro x hx; simp only [List.head?_cons, Option.some.injEq] at hx; subst hx; exact hq⟩)

/-! ### The claims -/

/-- siblings in a buffer of their own, with or without a final "\n" line (the buffer of an item that is not the last
    one of a loose list ends in one) -/
def NodesClaim (ti : Bool) (ts : List T4) : Prop :=
  Sibs ti (writes4 ts) (fun m => entries4 m ts) (decide (1 < ts.length)) (needs4 ts) (touches4 ts) (hasSxs ts)

def firstLine4 (items : List (List T4)) : Str :=
  match items with
  | it :: _ => (writes4 it).headD []
  | [] => []

/-- `ComposeG.LdNm` at `firstLine4 items` -/
def LdNm (o : Bool) (mk : Char) (pad n : Nat) (items : List (List T4)) (ld : Option Str) (nm : Option (Nat × Nat × Str × Str)) : Prop :=
  (ld = none ∧ nm = none) ∨
  (∃ n0, ld = some (leaderOf o n0 mk) ∧ leaderOk o (leaderOf o n0 mk) = true ∧
    nm = some (0, (leaderOf o n mk).length + pad, leaderOf o n mk, firstLine4 items))

def ItemsClaim (ti : Bool) (o : Bool) (mk : Char) (pad : Nat) (loose : Bool) (n : Nat) (items : List (List T4)) : Prop :=
  ∀ (pre post : List Line) (start k : Nat) (st : St) (gas : Nat) (acc : List Item) ld nm,
    start + pre.length = k + 1 → needItems4 items ≤ gas → PostOk post → LdNm o mk pad n items ld nm →
    SxOk (hasSxItems items) st →
    readList (dcfg ti) gas ⟨pre ++ numbered k (writeItems4 o mk pad loose n items) ++ post, pre.length, start⟩ st ld nm acc =
      .ok (acc.reverse ++ items4 o mk pad loose n (k + 1) items,
           ⟨pre ++ numbered k (writeItems4 o mk pad loose n items) ++ post,
            pre.length + (writeItems4 o mk pad loose n items).length, start⟩,
           after st (touchItems4 items))

theorem itemsClaim_iff (ti : Bool) (o : Bool) (mk : Char) (pad : Nat) (loose : Bool) (n : Nat) (items : List (List T4)) :
    ItemsClaim ti o mk pad loose n items ↔
      Items ti o mk pad n (writeItems4 o mk pad loose n items) (firstLine4 items) (fun j => items4 o mk pad loose n j items)
        (needItems4 items) (touchItems4 items) (hasSxItems items) := Iff.rfl

mutual
theorem entry4_shift (j : Nat) : ∀ (n : Nat) (t : T4), shiftEntry j (entry4 n t) = entry4 (n + j) t
  | n, .para ls => by simp [entry4, shiftEntry]
  | n, .heading lv t line => by simp [entry4, shiftEntry]
  | n, .hr line => by simp [entry4, shiftEntry]
  | n, .quote _ kids => by simp [entry4, shiftEntry, entries4_shift j n kids]
  | n, .list o s mk pad loose items => by simp [entry4, shiftEntry, items4_shift j o mk pad loose s n items]
  | n, .fence ind d info body close => by simp [entry4, shiftEntry]
  | n, .setext lv ls ul => by simp [entry4, shiftEntry]
  | n, .leaf l => by simp [entry4, leaf_entry_shift]
theorem entries4_shift (j : Nat) : ∀ (n : Nat) (ts : List T4), shiftEntries j (entries4 n ts) = entries4 (n + j) ts
  | n, [] => by simp [entries4, shiftEntries]
  | n, t :: rest => by
    simp only [entries4, shiftEntries, entry4_shift j n t, entries4_shift j _ rest]
    congr 2; omega
theorem items4_shift (j : Nat) (o : Bool) (mk : Char) (pad : Nat) (loose : Bool) : ∀ (s n : Nat) (items : List (List T4)),
    shiftItems j (items4 o mk pad loose s n items) = items4 o mk pad loose s (n + j) items
  | s, n, [] => by simp [items4, shiftItems]
  | s, n, it :: rest => by
    simp only [items4, shiftItems, shiftItem, entries4_shift j n it, items4_shift j o mk pad loose _ _ rest]
    congr 2; omega
end

theorem entries4_length (n : Nat) : ∀ (ts : List T4), (entries4 n ts).length = ts.length := by
  intro ts
  induction ts generalizing n with
  | nil => rfl
  | cons t rest ih => simp [entries4, ih]

theorem writes4_head (t : T4) (r : List T4) (ht : write4 t ≠ []) : (writes4 (t :: r)).head? = (write4 t).head? := by
  obtain ⟨a, b, hab⟩ := List.exists_cons_of_ne_nil ht
  cases r with
  | nil => rw [writes4_single]
  | cons x y => rw [writes4_cons2, hab]; rfl

/-! ### The induction over the tree: each constructor names its lemma of `ComposeGen` -/

theorem nodes_step (ti : Bool) (t : T4) (rest : List T4) (hok : T4.oks (t :: rest) = true)
    (hN : Node ti (write4 t) (fun m => entry4 m t) (need4 t) (touch4 t) (hasSx t) (fun s => (isList4 t = true → StopLine s) ∧ (isCode4 t = true → isBlank s = false ∧ blockCodeStart s = false)))
    (hR : rest ≠ [] → NodesClaim ti rest) : NodesClaim ti (t :: rest) := by
  obtain ⟨h1, h2, hsep⟩ := oks4_cons t rest hok
  have hW := (write4_lineOk t h1).1
  cases rest with
  | nil => simpa [NodesClaim, writes4_single, entries4, needs4, touches4, hasSxs] using sibs_single hN hW
  | cons t' r =>
    have hw' := writes4_lineOk (t' :: r) h2
    have hw1 := write4_lineOk t' (oks4_cons t' r h2).1
    have hQ : ∀ s0 ss, writes4 (t' :: r) = s0 :: ss →
        (isList4 t = true → StopLine s0) ∧ (isCode4 t = true → isBlank s0 = false ∧ blockCodeStart s0 = false) := by
      intro s0 ss hs0
      have hhd : (write4 t').headD [] = s0 := by
        have := writes4_head t' r hw1.2
        rw [hs0] at this
        rw [List.headD_eq_head?_getD, ← this]; rfl
      have hsep' := hsep t' r rfl
      simp only [sepOk4, Bool.and_eq_true, Bool.or_eq_true, Bool.not_eq_eq_eq_not, Bool.not_true, hhd] at hsep'
      refine ⟨fun hl => ?_, fun hc => ?_⟩
      · rcases hsep'.1 with h | h
        · rw [hl] at h; cases h
        · exact stopLine_of s0 h.2 (hw'.1 s0 (by rw [hs0]; simp))
      · rcases hsep'.2 with h | h
        · rw [hc] at h; cases h
        · exact h
    simpa [NodesClaim, writes4_cons2, entries4, needs4, touches4, hasSxs] using
      sibs_cons hN hW (hR (by simp)) hw'.1 (hw'.2 (by simp)) hQ (fun j m => entries4_shift j m _)

theorem items_step (ti : Bool) (o : Bool) (mk : Char) (pad : Nat) (loose : Bool) (n : Nat) (it : List T4) (rest : List (List T4))
    (h1 : 1 ≤ pad) (h4 : pad ≤ 4) (hok : T4.okItems o mk pad n (it :: rest) = true) (hN : NodesClaim ti it)
    (hR : rest ≠ [] → ItemsClaim ti o mk pad loose (n + 1) rest) : ItemsClaim ti o mk pad loose n (it :: rest) := by
  obtain ⟨_, _, hlead, hdoc, _, hok'⟩ := okItems_cons o mk pad n it rest hok
  have hlo : ∀ j, decide ((entries4 j it).length > 1) = decide (1 < it.length) := fun j => by rw [entries4_length]
  rw [itemsClaim_iff]
  cases rest with
  | nil =>
    simpa [writeItems4_single, firstLine4, items4, needItems4, touchItems4, hasSxItems] using
      ComposeG.items_last h1 h4 hlead hdoc hN hlo
  | cons it' r =>
    obtain ⟨_, _, hlead', hdoc', htb', _⟩ := okItems_cons o mk pad (n + 1) it' r hok'
    simpa [writeItems4_cons2, firstLine4, items4, needItems4, touchItems4, hasSxItems, Bool.or_comm] using
      ComposeG.items_cons loose h1 h4 hlead hlead' hdoc hdoc' htb'
        (writeItems4_head o mk pad loose (n + 1) it' r (itemDocOk_ne _ hdoc')) hN ((itemsClaim_iff ..).mp (hR (by simp)))

mutual
theorem node_kind (ti : Bool) : ∀ (t : T4), t.ok = true →
    Node ti (write4 t) (fun m => entry4 m t) (need4 t) (touch4 t) (hasSx t) (fun s => (isList4 t = true → StopLine s) ∧ (isCode4 t = true → isBlank s = false ∧ blockCodeStart s = false))
  | .para ls, h => .closed (closed_para ls (paraOk_of ls h)) (fun _ => rfl)
  | .heading lv t line, h => .closed (closed_heading lv t line (headOk_of lv t line h).head) (fun _ => rfl)
  | .hr line, h => .closed (closed_hr line (hrOk_of line h).1) (fun _ => rfl)
  | .setext lv ls ul, h => .closed (closed_setext lv ls ul (setextOk_of lv ls ul h).1 (setextOk_of lv ls ul h).2) (fun _ => rfl)
  | .quote bare kids, h =>
    have hq := quoteOk4_of bare kids h
    have hw := writes4_lineOk kids hq.2.1
    have hk : Sibs ti (writes4 kids) (fun m => entries4 m kids) (decide (1 < kids.length)) (needs4 kids) (touches4 kids) (hasSxs kids) :=
      nodes_claim ti kids hq.2.1 hq.1
    .closed (closed_quote bare (hq.2.2.2 ▸ hk) (hw.2 hq.1) hw.1 hq.2.2.1) (fun _ => rfl)
  | .list o n mk pad loose items, h => by
    have hl := listOk_of o n mk pad loose items h
    have hI := items_claim ti o mk pad loose hl.p1 hl.p4 n items hl.its hl.ne
    cases items with
    | nil => exact absurd rfl hl.ne
    | cons it rest =>
      obtain ⟨_, _, hlead, hdoc, htb, _⟩ := okItems_cons o mk pad n it rest hl.its
      obtain ⟨tl, htl⟩ := writeItems4_head o mk pad loose n it rest (itemDocOk_ne _ hdoc)
      exact (node_list hl.p1 hlead _ tl htb htl ((itemsClaim_iff ..).mp hI)).mono (fun _ hs => hs.1 rfl)
  | .fence ind d info body close, h =>
    .opn 0 (fun _ => True) rfl (open_fence ind d info body close (fenceFacts_of ind d info body close h)) trivial
      (fun _ _ => trivial) (fun _ _ _ _ _ => trivial)
  | .leaf (.table hd dl rows), h => .closed (closed_table hd dl rows (tableFacts_of hd dl rows h)) (fun _ => rfl)
  | .leaf (.icode ls), h => (node_icode ls (codeFacts_of ls h)).mono (fun _ hs => hs.2 rfl)
theorem nodes_claim (ti : Bool) : ∀ (ts : List T4), T4.oks ts = true → ts ≠ [] → NodesClaim ti ts
  | [], _, hne => absurd rfl hne
  | t :: rest, h, _ =>
    nodes_step ti t rest h (node_kind ti t (oks4_cons _ _ h).1) (fun hne => nodes_claim ti rest (oks4_cons _ _ h).2.1 hne)
theorem items_claim (ti : Bool) (o : Bool) (mk : Char) (pad : Nat) (loose : Bool) (h1 : 1 ≤ pad) (h4 : pad ≤ 4) :
    ∀ (n : Nat) (items : List (List T4)), T4.okItems o mk pad n items = true → items ≠ [] → ItemsClaim ti o mk pad loose n items
  | _, [], _, hne => absurd rfl hne
  | n, it :: rest, h, _ =>
    items_step ti o mk pad loose n it rest h1 h4 h
      (nodes_claim ti it (okItems_cons o mk pad n it rest h).2.1 (okItems_cons o mk pad n it rest h).1)
      (fun hne => items_claim ti o mk pad loose h1 h4 (n + 1) rest (okItems_cons o mk pad n it rest h).2.2.2.2.2 hne)
end



/-! ### The block token constructors on the expected entries -/

open Mistletoe.Document (joinNl mkBlock mkBlocks mkItems)
open Mistletoe.Html Mistletoe.Escape
open Mistletoe.InertInline (flat_prose)
open Mistletoe.Pipeline (flat_append)
open Mistletoe.ComposeL (listHtml flat_list flat_li_open flat_li_close flat_li_empty flat_if_nl
  flat_listItem_nil flat_listItem_cons listHtml_ne)

mutual
def block4 (n : Nat) : T4 → Mistletoe.Block
  | .para ls => .paragraph (proseInlines (ls.map strip)) n
  | .heading lv t line => .heading lv (closingOf line) [.rawText t] n
  | .hr line => .thematicBreak (Document.stripNl line) n
  | .quote _ kids => .quote (blocks4 n kids) n
  | .list o s mk pad loose items => .list loose (if o then some s else none) (itemBlocks4 o mk pad loose s n items) n
  | .fence ind d info body _ => .codeFence (langOf info) ind d info (body.map (dedent ind)).flatten n
  | .setext lv ls ul => .setextHeading lv (rstrip ul) (proseInlines (ls.map strip)) n
  | .leaf l => l.block n
def blocks4 (n : Nat) : List T4 → List Mistletoe.Block
  | [] => []
  | t :: rest => block4 n t :: blocks4 (n + (write4 t).length + 1) rest
def itemBlocks4 (o : Bool) (mk : Char) (pad : Nat) (loose : Bool) (s : Nat) (n : Nat) : List (List T4) → List Mistletoe.Block
  | [] => []
  | it :: rest =>
    .listItem (leaderOf o s mk) 0 ((leaderOf o s mk).length + pad) ((loose && !rest.isEmpty) || decide (1 < it.length)) (blocks4 n it) n
      :: itemBlocks4 o mk pad loose (s + 1) (n + (writes4 it).length + (sepS loose).length) rest
end

theorem any_itemBlocks4 (o : Bool) (mk : Char) (pad : Nat) (loose : Bool) : ∀ (s n : Nat) (items : List (List T4)),
    (itemBlocks4 o mk pad loose s n items).any Document.itemLooseB = ComposeL.looseOf loose items
  | _, _, [] => rfl
  | s, n, it :: rest => by
    simp only [itemBlocks4, List.any_cons, Document.itemLooseB, ComposeL.looseOf, any_itemBlocks4 o mk pad loose _ _ rest]

mutual
theorem mkBlock_entry4 (cfg : Document.Cfg) (fn : Footnotes.Table) (ht : ∀ t ∈ cfg.span, inertClass t = true)
    (hc : cfg.span.count .lineBreak = 1) : ∀ (t : T4), t.ok = true → ∀ (n : Nat),
    mkBlock cfg fn (entry4 n t) = .ok (some (block4 n t))
  | .para ls, h, n => mkBlock_entryOf cfg fn ht hc (.para ls) h n
  | .heading lv t line, h, n => mkBlock_entryOf cfg fn ht hc (.heading lv t line) h n
  | .hr line, h, n => mkBlock_entryOf cfg fn ht hc (.hr line) h n
  | .quote bare kids, h, n => by
    obtain ⟨_, hk, _⟩ := quoteOk4_of bare kids h
    simp only [entry4, block4, mkBlock, mkBlocks_entries4 cfg fn ht hc kids hk n]
  | .list o s mk pad loose items, h, n => by
    have hl := listOk_of o s mk pad loose items h
    have hits := mkItems_items4 cfg fn ht hc o mk pad loose s n items hl.its
    cases items with
    | nil => exact absurd rfl hl.ne
    | cons it rest =>
      simp only [entry4, block4, items4] at hits ⊢
      rw [Document.mkBlock_list_of cfg fn _ _ _ _ _ _ _ _ _ n n hits, any_itemBlocks4, ComposeL.looseOf_eq loose _ hl.looseC,
        ComposeL.start_of_leader o s mk (okItems_cons o mk pad s it rest hl.its).2.2.1]
  | .fence ind d info body close, h, n => by
    simp only [entry4, block4, mkBlock, langOf]
  | .setext lv ls ul, h, n =>
    MdRound.mkBlock_setext_prose cfg fn ht hc lv ls ul n n (setextOk_of lv ls ul h).1.prosePara (setextOk_of lv ls ul h).2.level
  | .leaf l, h, n => by
    simp only [entry4, block4]
    exact mkBlock_leaf cfg fn ht l h n
theorem mkBlocks_entries4 (cfg : Document.Cfg) (fn : Footnotes.Table) (ht : ∀ t ∈ cfg.span, inertClass t = true)
    (hc : cfg.span.count .lineBreak = 1) : ∀ (ts : List T4), T4.oks ts = true → ∀ (n : Nat),
    mkBlocks cfg fn (entries4 n ts) = .ok (blocks4 n ts)
  | [], _, _ => by simp [entries4, blocks4, mkBlocks]
  | t :: rest, h, n => by
    obtain ⟨h1, h2, _⟩ := oks4_cons t rest h
    simp only [entries4, blocks4, mkBlocks, mkBlock_entry4 cfg fn ht hc t h1 n,
      mkBlocks_entries4 cfg fn ht hc rest h2 _]
theorem mkItems_items4 (cfg : Document.Cfg) (fn : Footnotes.Table) (ht : ∀ t ∈ cfg.span, inertClass t = true)
    (hc : cfg.span.count .lineBreak = 1) (o : Bool) (mk : Char) (pad : Nat) (loose : Bool) : ∀ (s n : Nat) (items : List (List T4)),
    T4.okItems o mk pad s items = true →
    mkItems cfg fn (items4 o mk pad loose s n items) = .ok (itemBlocks4 o mk pad loose s n items)
  | _, _, [], _ => by simp [items4, itemBlocks4, mkItems]
  | s, n, it :: rest, h => by
    obtain ⟨_, hit, _, _, _, hrest⟩ := okItems_cons o mk pad s it rest h
    simp only [items4, itemBlocks4, mkItems, mkBlocks_entries4 cfg fn ht hc it hit n,
      mkItems_items4 cfg fn ht hc o mk pad loose _ _ rest hrest]
end

/-! ### HTML written directly from the tree -/

def isPara4 : T4 → Bool
  | .para _ => true
  | _ => false

def itemHtml4 (s : Bool) (it : List T4) (inner : Str) : Str :=
  match it with
  | [] => "<li></li>".toList
  | first :: _ =>
    "<li>".toList ++ (if s && isPara4 first then [] else ['\n']) ++ inner
      ++ (if s && (it.getLast?.map isPara4).getD false then [] else ['\n']) ++ "</li>".toList

mutual
/-- `s`: directly inside an item of a tight list -/
def html4 (q : Quotes) (s : Bool) : T4 → Str
  | .para ls => if s then escapeHtmlText q.dq q.sq (joinNl (ls.map strip)) else paraHtml q ls
  | .heading lv t _ => headHtml q lv t
  | .hr _ => hrHtml
  | .quote _ kids => quoteHtml (htmlAfter4 q kids)
  | .list o st _ _ loose items => listHtml o st (htmlItems4 q (!loose) items)
  | .fence ind _ info body _ => fenceHtml q (langOf info) (body.map (dedent ind)).flatten
  | .setext lv ls _ => headHtml q lv (joinNl (ls.map strip))
  | .leaf l => l.html q
/-- nodes, each followed by a newline (document, quote) -/
def htmlAfter4 (q : Quotes) : List T4 → Str
  | [] => []
  | t :: rest => html4 q false t ++ '\n' :: htmlAfter4 q rest
/-- nodes separated by newlines (list item) -/
def htmlSep4 (q : Quotes) (s : Bool) : List T4 → Str
  | [] => []
  | t :: rest =>
    match rest with
    | [] => html4 q s t
    | _ :: _ => html4 q s t ++ '\n' :: htmlSep4 q s rest
def htmlItems4 (q : Quotes) (s : Bool) : List (List T4) → Str
  | [] => []
  | it :: rest =>
    match rest with
    | [] => itemHtml4 s it (htmlSep4 q s it)
    | _ :: _ => itemHtml4 s it (htmlSep4 q s it) ++ '\n' :: htmlItems4 q s rest
end

def htmlOf4 (o : Opts) (ts : List T4) : Str := htmlAfter4 o.q ts

theorem isParagraph_block4 (n : Nat) : ∀ (t : T4), isParagraph (block4 n t) = isPara4 t
  | .para _ => rfl
  | .heading _ _ _ => rfl
  | .hr _ => rfl
  | .quote _ _ => rfl
  | .list .. => rfl
  | .fence .. => rfl
  | .setext .. => rfl
  | .leaf (.table ..) => rfl
  | .leaf (.icode _) => rfl

theorem blocks4_getLast : ∀ (ts : List T4) (n : Nat),
    ((blocks4 n ts).getLast?.map isParagraph).getD false = (ts.getLast?.map isPara4).getD false
  | [], _ => rfl
  | [t], n => by simp [blocks4, isParagraph_block4]
  | t :: t' :: r, n => by
    have ih := blocks4_getLast (t' :: r) (n + (write4 t).length + 1)
    simp only [blocks4, List.getLast?_cons_cons] at ih ⊢
    exact ih

theorem itemHtml4_nil (s : Bool) (inner : Str) : itemHtml4 s [] inner = "<li></li>".toList := rfl
theorem itemHtml4_cons (s : Bool) (first : T4) (rest : List T4) (inner : Str) : itemHtml4 s (first :: rest) inner =
    "<li>".toList ++ (if s && isPara4 first then [] else ['\n']) ++ inner
      ++ (if s && ((first :: rest).getLast?.map isPara4).getD false then [] else ['\n']) ++ "</li>".toList := rfl

theorem flat_item4 (q : Quotes) (s : Bool) (it : List T4) (n : Nat) (ld : Str) (ind pre : Nat) (lo : Bool)
    (h : flat (renderSep q s (blocks4 n it)) = htmlSep4 q s it) :
    flat (renderBlock q s (.listItem ld ind pre lo (blocks4 n it) n)) = itemHtml4 s it (htmlSep4 q s it) := by
  cases it with
  | nil =>
    simp only [blocks4]
    rw [itemHtml4_nil]
    exact flat_listItem_nil q s n ld ind pre lo
  | cons first rest =>
    have hlast := blocks4_getLast (first :: rest) n
    simp only [blocks4] at h hlast
    simp only [blocks4]
    rw [itemHtml4_cons, flat_listItem_cons, h, hlast, isParagraph_block4]

theorem htmlItems4_cons2 (q : Quotes) (s : Bool) (it it' : List T4) (r : List (List T4)) :
    htmlItems4 q s (it :: it' :: r) = itemHtml4 s it (htmlSep4 q s it) ++ '\n' :: htmlItems4 q s (it' :: r) := by
  simp [htmlItems4]

mutual
theorem flat_block4 (q : Quotes) : ∀ (t : T4) (s : Bool) (n : Nat), flat (renderBlock q s (block4 n t)) = html4 q s t
  | .para ls, s, n => flat_render_para q s (ls.map strip) n
  | .heading lv t line, s, n => flat_render_heading q s lv _ t n
  | .hr line, s, n => flat_render_hr q s _ n
  | .quote _ kids, s, n => by simp only [block4, html4, flat_render_quote, flat_after4 q kids n]
  | .list o st mk pad loose items, s, n => by
    simp only [block4, html4]
    rw [flat_list, flat_items4 q o mk pad loose (!loose) items st n]
  | .fence ind d info body close, s, n => by
    simp only [block4, html4, renderBlock]
    exact flat_fence q _ _
  | .setext lv ls ul, s, n => ComposeC.flat_setextHeading q s lv ul _ n
  | .leaf l, s, n => by
    simp only [block4, html4]
    exact flat_leaf q s n l
theorem flat_after4 (q : Quotes) : ∀ (ts : List T4) (n : Nat),
    flat (renderAfterEach q false (blocks4 n ts)) = htmlAfter4 q ts
  | [], _ => rfl
  | t :: rest, n => by
    simp only [blocks4, htmlAfter4, Pipeline.flat_afterEach_cons, flat_block4 q t false n, flat_after4 q rest _]
theorem flat_sep4 (q : Quotes) (s : Bool) : ∀ (ts : List T4) (n : Nat),
    flat (renderSep q s (blocks4 n ts)) = htmlSep4 q s ts
  | [], _ => rfl
  | [t], n => by simp only [blocks4, Pipeline.flat_sep_single, htmlSep4, flat_block4 q t s n]
  | t :: t' :: r, n => by
    have ih := flat_sep4 q s (t' :: r) (n + (write4 t).length + 1)
    simp only [blocks4, htmlSep4] at ih ⊢
    simp only [Pipeline.flat_sep_cons2, flat_block4 q t s n, ih]
theorem flat_items4 (q : Quotes) (o : Bool) (mk : Char) (pad : Nat) (loose : Bool) (s : Bool) : ∀ (items : List (List T4)) (st n : Nat),
    flat (renderSep q s (itemBlocks4 o mk pad loose st n items)) = htmlItems4 q s items
  | [], _, _ => rfl
  | [it], st, n => by
    simp only [itemBlocks4, Pipeline.flat_sep_single, htmlItems4]
    exact flat_item4 q s it n _ _ _ _ (flat_sep4 q s it n)
  | it :: it' :: r, st, n => by
    have ih := flat_items4 q o mk pad loose s (it' :: r) (st + 1) (n + (writes4 it).length + (sepS loose).length)
    rw [htmlItems4_cons2, ← ih]
    simp only [itemBlocks4, Pipeline.flat_sep_cons2]
    rw [flat_item4 q s it n _ _ _ _ (flat_sep4 q s it n)]
end
theorem html4_ne (q : Quotes) : ∀ (t : T4), html4 q false t ≠ []
  | .para _ => by simp [html4, paraHtml]
  | .heading _ _ _ => by simp [html4, headHtml]
  | .hr _ => by simp [html4, hrHtml]
  | .quote _ _ => by simp only [html4]; exact quoteHtml_ne _
  | .list .. => by simp only [html4]; exact listHtml_ne _ _ _
  | .fence .. => by simp only [html4]; exact fenceHtml_ne _ _ _
  | .setext .. => by simp [html4, headHtml]
  | .leaf l => by simp only [html4]; exact leaf_html_ne q l

/-! ### C03 with tables and indented code blocks: the statements

  INSIDE the fragment (tree type `T4`, well-formedness `T4.oks`, decidable): everything `Proofs/ComposeCode.lean` covers
  (paragraphs of inert lines, ATX and setext headings, thematic breaks, block quotes, bullet and ordered lists nested to any
  depth, fenced code blocks) and, AT TOP LEVEL, INSIDE QUOTES AND INSIDE LIST ITEMS (as the first or a later block of an
  item; an indented code block only as a later block), to any depth:

  * TABLES (`Leaf.table hdr del rows`).  Header row, delimiter row, any number of body rows (none included).  A row
    (`Row`) is written with or without a pipe before the first cell and with or without a pipe behind the last cell,
    independently for every row; the cells stand between the pipes as written, with any padding of spaces; a cell is not
    the empty string (an empty cell is written with one space or more); without its padding it is empty or inert one-line
    text (the C14 inline fragment) without `|` and without a backslash.  The row begins and ends with a visible character
    and has a `|`.  The delimiter row (`DRow`): per column any number of spaces, an optional colon, one or more hyphens, an
    optional colon, spaces - `---`, `:--` (both left), `:-:` (centre), `--:` (right) -, with or without the outer pipes.
    The header has as many cells as the delimiter row.  A body row may have FEWER cells than there are columns - the
    tree then has empty cells with the columns' alignments in their places - or MORE: the tree then keeps ALL its cells,
    the extra ones with alignment `None` (`cellsOf`, after `zip_longest`; GFM says "the excess is ignored": recorded
    finding, see `Proofs/ComposeTable2.lean`).
  * INDENTED CODE BLOCKS (`Leaf.icode lines`): lines that begin with four spaces and more and have a visible character,
    and between them any lines of whitespace only (interior blank lines: "\n", or spaces and "\n"); no tabs.  The first
    and the last line have a visible character.  The content is every line minus its first four columns (a line of
    whitespace shorter than five characters gives "\n"), joined (`codeContent_eq`).  The next sibling does not begin with
    four spaces (it would go on the block: `sepOk4`).

  Every block is followed by a "\n" line and the next sibling, or by the end of its container, as in the smaller fragments
  (so an indented code block never follows a paragraph directly: it would be a lazy continuation line).

  OUTSIDE (in addition to what `Proofs/ComposeCode.lean` lists): rows indented by one to three spaces; cells with
  backslashes (escaped pipes `\|`), code spans, emphasis, links; a table directly behind a paragraph without a blank line
  (`Table.interrupt_paragraph`); a header row that is also the first line of another block (`- a | b`: `headFactsB`);
  inside a list item: interior lines of a code block that consist of spaces only (`itemDocOk`), a code block as the first
  block of an item; tabs. -/

/-- **The block phase parses a written tree back (tables and indented code blocks included).**  For every well-formed
    forest `ts`, either `tableInterrupt`, every gas ≥ `needs4 ts`: one entry per top-level node - for a table a `Table`
    entry with the lines of the table and the number of its first line, for an indented code block a `BlockCode` entry with
    the lines minus their first four columns, for the other nodes as in `C03_code_block_phase_partial` - every entry
    reporting the line the writer put it on; no link definition is found. -/
theorem C03_table_block_phase_partial (ti : Bool) (ts : List T4) (h : T4.oks ts = true) (hne : ts ≠ []) (gas : Nat)
    (hg : needs4 ts ≤ gas) :
    blockPhase { types := Props.C14.defaultTypes, tableInterrupt := ti } gas (writes4 ts) =
      .ok ({ entries := entries4 1 ts, loose := decide (1 < ts.length) }, {}) := by
  have := nodes_claim ti ts h hne false 0 {} gas hg (fun _ => rfl)
  simp only [sepS, Bool.false_eq_true, if_false, List.append_nil, Nat.zero_add, Bool.or_false] at this
  refine Eq.trans this ?_
  simp [after]

/-- the same at an arbitrary place: lines numbered from `k + 1`, with or without a final "\n" line, in any state in which
    `Paragraph.parse_setext` is on if the forest has a setext heading -/
theorem C03_table_tokenize_partial (ti : Bool) (ts : List T4) (h : T4.oks ts = true) (hne : ts ≠ []) (tail : Bool) (k : Nat) (st : St)
    (gas : Nat) (hg : needs4 ts ≤ gas) (hs : hasSxs ts = true → st.setext = true) :
    tokenizeBlock { types := Props.C14.defaultTypes, tableInterrupt := ti } gas (numbered k (writes4 ts ++ sepS tail)) (k + 1) st =
      .ok ({ entries := entries4 (k + 1) ts, loose := decide (1 < ts.length) || tail },
           { setext := st.setext || touches4 ts, defs := st.defs }) :=
  nodes_claim ti ts h hne tail k st gas hg hs

/-- **`Document(lines)` is the tree.**  The document's children are the expected block tokens (`blocks4`): as in
    `C03_code_document_partial`, and for a table whose first line is line `n` a `Table` token (line `n`) with
    `column_align` = the alignments of the delimiter cells (`None`, `0`, `1`), `header` = a `TableRow` (line `n`) and
    `children` = one `TableRow` per body row (lines `n + 2`, `n + 3`, …), every `TableRow` with `row_align` = the column
    alignments and one `TableCell` per cell (`cellsOf`: padded with empty cells to the number of columns; cells beyond the
    columns kept, with alignment `None`), every `TableCell` with its alignment, the line of its row and as inline
    children one `RawText` with the cell's text without its padding (none for an empty cell); for an indented code block a
    `BlockCode` token with the content; no footnotes. -/
theorem C03_table_document_partial (cfg : Document.Cfg) (ti : Bool)
    (hb : cfg.block = { types := Props.C14.defaultTypes, tableInterrupt := ti })
    (ht : ∀ t ∈ cfg.span, inertClass t = true) (hc : cfg.span.count .lineBreak = 1)
    (ts : List T4) (h : T4.oks ts = true) (hne : ts ≠ []) (gas : Nat) (hg : needs4 ts ≤ gas) :
    Document.parseLines cfg gas (writes4 ts) = .ok { kids := blocks4 1 ts, footnotes := [] } ∧
    Document.parse cfg gas (writes4 ts).flatten = .ok { kids := blocks4 1 ts, footnotes := [] } := by
  have hl : Document.parseLines cfg gas (writes4 ts) = .ok { kids := blocks4 1 ts, footnotes := [] } :=
    Pipeline.parseLines_of_phase (hb ▸ C03_table_block_phase_partial ti ts h hne gas hg) (mkBlocks_entries4 cfg _ ht hc ts h 1)
  refine ⟨hl, ?_⟩
  rw [InertInline.parse_lines cfg _ (writes4 ts) (fun l hl => lineOk_oneLine ((writes4_lineOk ts h).1 l hl))]
  exact hl

/-- **The HTML of the expected document is the HTML written directly from the tree**, for every quote option. -/
theorem C03_table_render_partial (o : Opts) (ts : List T4) (hne : ts ≠ []) (fn : List (Str × Str × Str)) :
    render o { kids := blocks4 1 ts, footnotes := fn } = htmlOf4 o ts := by
  cases ts with
  | nil => exact absurd rfl hne
  | cons t rest =>
    rw [htmlOf4, ← flat_after4 o.q (t :: rest) 1, blocks4]
    exact render_kids o _ _ fn (by rw [flat_block4]; exact html4_ne o.q t)

/-- **End to end.**  `HtmlRenderer(**opts).render(Document(text))`, with the token lists the HTML renderer installs in the
    working tree, on the text written out from a well-formed forest, returns the HTML written directly from the forest
    (`htmlOf4`): a table is `<table>`, `<thead>` with one `<tr>` of `<th align="…">` cells, `<tbody>` (also when there is
    no body row) with one `<tr>` of `<td align="…">` cells per body row, `</table>`, every tag on a line of its own,
    `align` = `left` / `center` / `right`, the cell text escaped (`tableHtml`); an indented code block is `<pre><code>`, the
    escaped content, `</code></pre>`; everything else as in `C03_code_html_partial`. -/
theorem C03_table_html_partial (o : Opts) (ts : List T4) (h : T4.oks ts = true) (hne : ts ≠ []) (gas : Nat) (hg : needs4 ts ≤ gas) :
    Config.renderHtml o gas (writes4 ts).flatten = some (htmlOf4 o ts) := by
  rw [renderHtml_of_parse o _ _ _ (fun cfg hb ht hc => (C03_table_document_partial cfg _ hb ht hc ts h hne gas hg).2),
    C03_table_render_partial o ts hne]

end Mistletoe.ComposeT
