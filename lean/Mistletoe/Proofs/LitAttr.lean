import Lean.Meta.Tactic.Simp.RegisterCommand
/-- Definitions to unfold before string literals are replaced by their characters (`decide_lit`): wrappers such as
`L s := s.toList` and sample texts that hold a literal. -/
register_simp_attr lit
