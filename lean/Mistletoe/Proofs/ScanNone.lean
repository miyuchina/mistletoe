/-
  Scanners of Model/InlineScan.lean that find nothing: the rule for `findIter` (a matcher that answers `none` at every
  suffix of the text finds nothing), `Math.pattern` on a text without `$`, and the code-span search on a text without backquote.
-/
import Mistletoe.Model.InlineScan
namespace Mistletoe.InlineScan
open Mistletoe Mistletoe.Py Mistletoe.Scan

theorem findIterAux_nil (m : Option Char → Str → Option (Nat × Nat × Nat)) (Q : Str → Prop)
    (hstep : ∀ c rest, Q (c :: rest) → Q rest)
    (hm : ∀ prev c rest, Q (c :: rest) → m prev (c :: rest) = none) :
    ∀ (fuel pos : Nat) (prev : Option Char) (s : Str), Q s → findIterAux m fuel pos prev s = []
  | 0, _, _, _, _ => by simp [findIterAux]
  | _ + 1, _, _, [], _ => by simp [findIterAux]
  | fuel + 1, pos, prev, c :: rest, h => by
    simp only [findIterAux, hm prev c rest h]
    exact findIterAux_nil m Q hstep hm fuel (pos + 1) (some c) rest (hstep c rest h)

theorem findIter_nil (m : Option Char → Str → Option (Nat × Nat × Nat)) (Q : Str → Prop)
    (hstep : ∀ c rest, Q (c :: rest) → Q rest)
    (hm : ∀ prev c rest, Q (c :: rest) → m prev (c :: rest) = none) (s : Str) (h : Q s) : findIter m s = [] :=
  findIterAux_nil m Q hstep hm _ _ _ s h

theorem findIter_nil_notin (m : Option Char → Str → Option (Nat × Nat × Nat)) (ch : Char)
    (hm : ∀ prev r, ch ∉ r → m prev r = none) (s : Str) (h : ch ∉ s) : findIter m s = [] :=
  findIter_nil m (ch ∉ ·) (fun _ _ hq hmem => hq (List.mem_cons_of_mem _ hmem)) (fun p c r hq => hm p (c :: r) hq) s h

theorem countLeading_eq_zero (ch : Char) : ∀ (s : Str), ch ∉ s → countLeading ch s = 0
  | [], _ => rfl
  | c :: rest, h => by
    have : c ≠ ch := fun e => h (by simp [e])
    simp [countLeading, this]

theorem mathAt_none (p : Option Char) (r : Str) (h : '$' ∉ r) : mathAt p r = none := by
  unfold mathAt
  simp [countLeading_eq_zero '$' r h]

theorem codeAt_eq_none (prev : Option Char) (r : Str) (h : '`' ∉ r) : codeAt prev r = none := by
  unfold codeAt
  have : countLeading '`' (r.drop (leadingBackslashes r)) = 0 :=
    countLeading_eq_zero _ _ (fun hm => h (List.mem_of_mem_drop hm))
  simp [this]

theorem codeSearchAux_eq_none : ∀ (fuel pos : Nat) (prev : Option Char) (s : Str), '`' ∉ s →
    codeSearchAux fuel pos prev s = none
  | 0, _, _, _, _ => by simp [codeSearchAux]
  | _ + 1, _, _, [], _ => by simp [codeSearchAux]
  | fuel + 1, pos, prev, c :: rest, h => by
    simp only [codeSearchAux, codeAt_eq_none prev (c :: rest) h]
    exact codeSearchAux_eq_none fuel (pos + 1) (some c) rest (fun hm => h (List.mem_cons_of_mem _ hm))

theorem codeSearch_eq_none (s : Str) (pos : Nat) (h : '`' ∉ s) : codeSearch s pos = none :=
  codeSearchAux_eq_none _ _ _ _ (fun hm => h (List.mem_of_mem_drop hm))

end Mistletoe.InlineScan
