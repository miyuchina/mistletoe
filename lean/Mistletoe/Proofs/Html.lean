/-
  C08 (and C18/C19): the event list the HTML renderer writes is balanced and every event admissible (`WF`), by
  combinators that follow the shapes the renderer writes (`WF.wrap`, `WF.wrapNl`; `block_wf`, `doc_wf`); what the
  escapers write is safe, character by character (`MapChars.mapChars_all`); the raw leaves of the output are exactly
  the contents of the HTML tokens, in order (`raws_doc`).
-/
import Mistletoe.Model.Pred
import Mistletoe.Proofs.MapChars
namespace Mistletoe.Html
open Mistletoe Mistletoe.Escape Mistletoe.Pred

/-! ### Balanced -/

theorem Balanced.append {a b : List Ev} (ha : Balanced a) (hb : Balanced b) : Balanced (a ++ b) := by
  induction ha with
  | nil => simpa using hb
  | vtag t as _ ih => exact Balanced.vtag t as ih
  | text s _ ih => exact Balanced.text s ih
  | raw s _ ih => exact Balanced.raw s ih
  | @wrap t as inner rest hi _ _ ih2 =>
    have : Ev.otag t as :: (inner ++ Ev.ctag t :: rest) ++ b = Ev.otag t as :: (inner ++ Ev.ctag t :: (rest ++ b)) := by
      simp
    rw [this]
    exact Balanced.wrap t as hi ih2

theorem Balanced.nl : Balanced [nl] := Balanced.text _ Balanced.nil

/-! ### Character-level safety of the escapers -/

theorem decDigit_mem (n : Nat) : decDigit n ∈ decDigits := by
  unfold decDigit
  apply getD_mem_of_lt
  have : decDigits.length = 10 := by decide +kernel
  omega

theorem safeAttr_nil : safeAttr [] = true := rfl

theorem safeAttr_append {a b : Str} (ha : safeAttr a = true) (hb : safeAttr b = true) : safeAttr (a ++ b) = true := by
  rw [safeAttr, List.all_append, Bool.and_eq_true]
  exact ⟨ha, hb⟩

theorem safeAttr_pctByte (b : Nat) : safeAttr (pctByte b) = true := by
  have h : ∀ c ∈ hexDigits, safeAttrChar c = true := by decide +kernel
  have h1 := h _ (hexDigit_mem (b / 16))
  have h2 := h _ (hexDigit_mem (b % 16))
  simp only [pctByte, safeAttr, List.all_cons, List.all_nil, h1, h2]
  decide

theorem safeAttr_pctUtf8 (c : Char) : safeAttr (pctUtf8 c) = true :=
  flatMap_all (P := (safeAttr · = true)) safeAttr_nil safeAttr_append _ _ (fun b _ => safeAttr_pctByte b)

theorem safeAttr_htmlEscapeUrl (s : Str) : safeAttr (htmlEscapeUrl s) = true :=
  mapChars_all (P := (safeAttr · = true)) safeAttr_nil safeAttr_append (by decide +kernel)
    (List.all_eq_true.mp (by decide +kernel)) (fun c _ => safeAttr_pctUtf8 c) s

theorem safeAttrChar_of_ge (c : Char) (h : ¬ c.toNat < 128) : safeAttrChar c = true := by
  unfold safeAttrChar
  have h1 : c ≠ '"' := by intro e; subst e; exact h (by decide)
  have h2 : c ≠ '<' := by intro e; subst e; exact h (by decide)
  have h3 : c ≠ '>' := by intro e; subst e; exact h (by decide)
  simp [h1, h2, h3]

/-- `html.escape` output (quote=True) never contains `"`, `<` or `>`. -/
theorem safeAttr_htmlEscape (s : Str) : safeAttr (htmlEscape s) = true :=
  mapChars_all (P := (safeAttr · = true)) safeAttr_nil safeAttr_append (by decide +kernel)
    (List.all_eq_true.mp (by decide +kernel))
    (fun c h => by simp [ident, safeAttr, safeAttrChar_of_ge c h]) s

theorem natDigitsAux_mem : ∀ (fuel n : Nat) (acc : Str), ∀ c ∈ natDigitsAux fuel n acc, c ∈ decDigits ∨ c ∈ acc := by
  have cons : ∀ (n : Nat) (acc : Str), ∀ c ∈ decDigit n :: acc, c ∈ decDigits ∨ c ∈ acc := by
    intro n acc c hc
    rcases List.mem_cons.mp hc with rfl | hc
    · exact .inl (decDigit_mem n)
    · exact .inr hc
  intro fuel
  induction fuel with
  | zero => exact cons
  | succ f ih =>
    intro n acc c hc
    simp only [natDigitsAux] at hc
    split at hc
    · exact cons n acc c hc
    · exact (ih _ _ c hc).elim .inl (cons n acc c)

theorem natDigits_mem (n : Nat) : ∀ c ∈ natDigits n, c ∈ decDigits :=
  fun c hc => (natDigitsAux_mem n n [] c hc).resolve_right List.not_mem_nil

theorem safeAttr_natDigits (n : Nat) : safeAttr (natDigits n) = true :=
  List.all_eq_true.mpr fun c hc => (by decide +kernel : ∀ c ∈ decDigits, safeAttrChar c = true) c (natDigits_mem n c hc)

mutual
theorem safeAttr_toPlain : ∀ (i : Inline), safeAttr (toPlain i) = true
  | .rawText c => safeAttr_htmlEscape c
  | .strong _ k => safeAttr_toPlains k
  | .emphasis _ k => safeAttr_toPlains k
  | .inlineCode _ _ c => safeAttr_htmlEscape c
  | .strikethrough k => safeAttr_toPlains k
  | .image _ _ _ _ _ k => safeAttr_toPlains k
  | .link _ _ _ _ _ k => safeAttr_toPlains k
  | .autoLink t _ => safeAttr_htmlEscape t
  | .escapeSequence c => safeAttr_htmlEscape c
  | .lineBreak c _ => safeAttr_htmlEscape c
  | .htmlSpan c => safeAttr_htmlEscape c
  | .math c => safeAttr_htmlEscape c
  | .githubWiki _ k => safeAttr_toPlains k
  | .xwikiMacroStart c => safeAttr_htmlEscape c
  | .xwikiMacroEnd c => safeAttr_htmlEscape c
  | .linkRefDef .. => safeAttr_nil
theorem safeAttr_toPlains : ∀ (is : List Inline), safeAttr (toPlains is) = true
  | [] => rfl
  | i :: is => safeAttr_append (safeAttr_toPlain i) (safeAttr_toPlains is)
end

/-! ### Text safety -/

theorem safeText_append {a b : Str} (ha : safeText a = true) (hb : safeText b = true) :
    safeText (a ++ b) = true := by
  induction a with
  | nil => simpa using hb
  | cons c rest ih =>
    simp only [List.cons_append, safeText] at ha ⊢
    split
    · rename_i hc
      simp only [hc, if_true, Bool.and_eq_true, List.any_eq_true] at ha
      simp only [Bool.and_eq_true, List.any_eq_true]
      obtain ⟨⟨t, ht, hp⟩, hr⟩ := ha
      exact ⟨⟨t, ht, List.isPrefixOf_iff_prefix.2 ((List.isPrefixOf_iff_prefix.1 hp).trans (List.prefix_append _ b))⟩, ih hr⟩
    · rename_i hc
      simp only [hc, if_false, Bool.and_eq_true] at ha
      simp only [Bool.and_eq_true]
      exact ⟨ha.1, ih ha.2⟩

theorem safeText_escChar (dq sq : Bool) (c : Char) : safeText (escChar dq sq c) = true := by
  unfold escChar
  by_cases h1 : c = '&'
  · rw [if_pos h1]; decide +kernel
  by_cases h2 : c = '<'
  · rw [if_neg h1, if_pos h2]; decide +kernel
  by_cases h3 : c = '>'
  · rw [if_neg h1, if_neg h2, if_pos h3]; decide +kernel
  by_cases h4 : c = '"' ∧ dq = true
  · rw [if_neg h1, if_neg h2, if_neg h3, if_pos h4]; decide +kernel
  by_cases h5 : c = '\'' ∧ sq = true
  · rw [if_neg h1, if_neg h2, if_neg h3, if_neg h4, if_pos h5]; decide +kernel
  · rw [if_neg h1, if_neg h2, if_neg h3, if_neg h4, if_neg h5]
    simp [safeText, h1, h2, h3]

theorem safeText_escapeHtmlText (dq sq : Bool) (s : Str) : safeText (escapeHtmlText dq sq s) = true := by
  rw [escapeHtmlText_eq]
  exact flatMap_all (P := (safeText · = true)) rfl safeText_append _ _ fun c _ => safeText_escChar dq sq c


/-! ### Well-formed event lists: combinators -/

def allOk (evs : List Ev) : Bool := evs.all evOk

/-- Balanced and every event admissible. -/
def WF (evs : List Ev) : Prop := Balanced evs ∧ allOk evs = true

theorem WF.nil : WF [] := ⟨Balanced.nil, rfl⟩

theorem WF.append {a b : List Ev} (ha : WF a) (hb : WF b) : WF (a ++ b) :=
  ⟨Balanced.append ha.1 hb.1, by simp [allOk, List.all_append]; exact ⟨by simpa [allOk] using ha.2, by simpa [allOk] using hb.2⟩⟩

theorem WF.text (s : Str) (h : safeText s = true) : WF [Ev.text s] :=
  ⟨Balanced.text s Balanced.nil, by simp [allOk, evOk, h]⟩

theorem WF.nl : WF [nl] := WF.text _ (by decide)

theorem WF.raw (s : Str) : WF [Ev.raw s] := ⟨Balanced.raw s Balanced.nil, by simp [allOk, evOk]⟩

theorem WF.vtag (t : Str) (as : List (Str × Str)) (ht : htmlVocabulary.contains t = true)
    (ha : attrsOk as = true) : WF [Ev.vtag t as] :=
  ⟨Balanced.vtag t as Balanced.nil, by simp only [allOk, List.all_cons, List.all_nil, evOk, ht, ha]; rfl⟩

theorem WF.wrap (t : Str) (as : List (Str × Str)) {inner : List Ev} (ht : htmlVocabulary.contains t = true)
    (ha : attrsOk as = true) (hi : WF inner) : WF ([Ev.otag t as] ++ inner ++ [Ev.ctag t]) := by
  refine ⟨by simpa using Balanced.wrap t as hi.1 Balanced.nil, ?_⟩
  have := hi.2
  simp only [allOk, List.all_append, List.all_cons, List.all_nil, evOk, ht, ha, Bool.and_true, Bool.true_and] at this ⊢
  exact this

/-- an element followed by a newline, in the association the renderer writes it -/
theorem WF.wrapNl (t : Str) (as : List (Str × Str)) {inner : List Ev} (ht : htmlVocabulary.contains t = true)
    (ha : attrsOk as = true) (hi : WF inner) : WF ([Ev.otag t as] ++ inner ++ [Ev.ctag t, Html.nl]) := by
  have := WF.append (WF.wrap t as ht ha hi) WF.nl
  rwa [List.append_assoc] at this

theorem attrsOk_nil : attrsOk [] = true := rfl
theorem attrsOk_cons (k v : Str) (rest : List (Str × Str)) (hk : htmlAttrNames.contains k = true)
    (hv : safeAttr v = true) (hr : attrsOk rest = true) : attrsOk ((k, v) :: rest) = true := by
  simp only [attrsOk, List.all_cons, hk, hv, Bool.and_true, Bool.true_and]
  exact hr
theorem attrsOk_append (a b : List (Str × Str)) (ha : attrsOk a = true) (hb : attrsOk b = true) :
    attrsOk (a ++ b) = true := by
  simp only [attrsOk, List.all_append, Bool.and_eq_true]
  exact ⟨ha, hb⟩

theorem attrsOk_title (t : Str) : attrsOk (titleAttr t) = true := by
  unfold titleAttr
  split
  · rfl
  · exact attrsOk_cons _ _ _ (by decide +kernel) (safeAttr_htmlEscape t) rfl

theorem safeText_tail (c : Char) (rest : Str) (h : safeText (c :: rest) = true) : safeText rest = true := by
  simp only [safeText] at h
  split at h <;> simp only [Bool.and_eq_true] at h <;> exact h.2

theorem safeText_dropWhile (p : Char → Bool) (s : Str) (h : safeText s = true) :
    safeText (s.dropWhile p) = true := by
  induction s with
  | nil => rfl
  | cons c rest ih =>
    simp only [List.dropWhile_cons]
    split
    · exact ih (safeText_tail c rest h)
    · exact h

theorem isPrefixOf_rstripDollar (t rest : Str) (ht : t ≠ []) (hd : ∀ c ∈ t, c ≠ '$')
    (h : t.isPrefixOf rest = true) : t.isPrefixOf (rstripDollar rest) = true := by
  induction t generalizing rest with
  | nil => exact absurd rfl ht
  | cons x xs ih =>
    cases rest with
    | nil => simp at h
    | cons y ys =>
      simp only [List.isPrefixOf_cons_cons, Bool.and_eq_true, beq_iff_eq] at h
      obtain ⟨hxy, hp⟩ := h
      subst hxy
      have hx : x ≠ '$' := hd x (List.mem_cons_self ..)
      simp only [rstripDollar]
      cases xs with
      | nil =>
        split <;> simp [hx]
      | cons z zs =>
        have := ih ys (by simp) (fun c hc => hd c (List.mem_cons_of_mem _ hc)) hp
        split
        · rename_i heq; rw [heq] at this; simp at this
        · simp only [List.isPrefixOf_cons_cons, Bool.and_eq_true, beq_self_eq_true, true_and]
          exact this

theorem safeText_rstripDollar (s : Str) (h : safeText s = true) : safeText (rstripDollar s) = true := by
  induction s with
  | nil => rfl
  | cons c rest ih =>
    have hr := ih (safeText_tail c rest h)
    simp only [rstripDollar]
    by_cases hc : c = '&'
    · subst hc
      simp only [safeText, if_true, Bool.and_eq_true, List.any_eq_true] at h
      obtain ⟨⟨t, ht, hp⟩, _⟩ := h
      have hall : ∀ t ∈ entityTails, t ≠ [] ∧ ∀ c ∈ t, c ≠ '$' := by decide
      have hne : t ≠ [] := (hall t ht).1
      have hnd : ∀ c ∈ t, c ≠ '$' := (hall t ht).2
      have hp' := isPrefixOf_rstripDollar t rest hne hnd hp
      split
      · rename_i heq
        rw [heq] at hp'
        cases t with
        | nil => exact absurd rfl hne
        | cons _ _ => simp at hp'
      · simp only [safeText, if_true, Bool.and_eq_true, List.any_eq_true]
        exact ⟨⟨t, ht, hp'⟩, hr⟩
    · have hc' : safeText [c] = true := by
        simp only [safeText, hc, if_false] at h ⊢
        simp only [Bool.and_eq_true] at h
        simp [h.1.1, h.1.2]
      split
      · split
        · rfl
        · exact hc'
      · rename_i r _
        have : safeText (c :: rstripDollar rest) = true := by
          simp only [safeText, hc, if_false, Bool.and_eq_true] at h ⊢
          exact ⟨h.1, hr⟩
        exact this

theorem safeText_stripDollar (s : Str) (h : safeText s = true) : safeText (stripDollar s) = true :=
  safeText_rstripDollar _ (safeText_dropWhile _ s h)

/-! ### Every rendering function yields a well-formed event list -/

/-- the tag vocabulary as character lists: a membership test against it decodes no string literal but the tag's own -/
def tagChars : List Str :=
  [['p'], ['h', '1'], ['h', '2'], ['h', '3'], ['h', '4'], ['h', '5'], ['h', '6'],
   ['b', 'l', 'o', 'c', 'k', 'q', 'u', 'o', 't', 'e'], ['p', 'r', 'e'], ['c', 'o', 'd', 'e'], ['u', 'l'], ['o', 'l'],
   ['l', 'i'], ['t', 'a', 'b', 'l', 'e'], ['t', 'h', 'e', 'a', 'd'], ['t', 'b', 'o', 'd', 'y'], ['t', 'r'], ['t', 'h'],
   ['t', 'd'], ['h', 'r'], ['b', 'r'], ['e', 'm'], ['s', 't', 'r', 'o', 'n', 'g'], ['d', 'e', 'l'], ['a'],
   ['i', 'm', 'g']]

theorem htmlVocabulary_eq : htmlVocabulary = tagChars := by decide +kernel

theorem vocab_mem (t : String) (h : tagChars.contains t.toList = true := by decide +kernel) :
    htmlVocabulary.contains t.toList = true := htmlVocabulary_eq ▸ h

mutual
theorem inline_wf (o : Quotes) : ∀ (i : Inline), WF (renderInline o i)
  | .rawText c => WF.text _ (safeText_escapeHtmlText ..)
  | .strong _ k => WF.wrap _ _ (vocab_mem "strong") rfl (inlines_wf o k)
  | .emphasis _ k => WF.wrap _ _ (vocab_mem "em") rfl (inlines_wf o k)
  | .inlineCode _ _ c =>
    WF.wrap "code".toList [] (vocab_mem "code") rfl (WF.text _ (safeText_escapeHtmlText o.dq o.sq c))
  | .strikethrough k => WF.wrap _ _ (vocab_mem "del") rfl (inlines_wf o k)
  | .image src title _ _ _ k => by
    simp only [renderInline]
    refine WF.vtag _ _ (vocab_mem "img") ?_
    exact attrsOk_append _ _
      (attrsOk_cons _ _ _ (by decide +kernel) (safeAttr_htmlEscapeUrl src)
        (attrsOk_cons _ _ _ (by decide +kernel) (safeAttr_toPlains k) rfl))
      (attrsOk_title title)
  | .link target title _ _ _ k => by
    simp only [renderInline]
    refine WF.wrap _ _ (vocab_mem "a") ?_ (inlines_wf o k)
    exact attrsOk_append _ _ (attrsOk_cons _ _ _ (by decide +kernel) (safeAttr_htmlEscapeUrl target) rfl)
      (attrsOk_title title)
  | .autoLink target mailto =>
    WF.wrap "a".toList [("href".toList, (if mailto then "mailto:".toList else []) ++ htmlEscapeUrl target)] (vocab_mem "a")
      (attrsOk_cons _ _ _ (by decide +kernel) (safeAttr_append (by cases mailto <;> decide +kernel) (safeAttr_htmlEscapeUrl target)) rfl)
      (WF.text _ (safeText_escapeHtmlText o.dq o.sq target))
  | .escapeSequence c => WF.text _ (safeText_escapeHtmlText ..)
  | .lineBreak _ soft => by
    simp only [renderInline]
    split
    · exact WF.nl
    · exact WF.append (WF.vtag _ _ (vocab_mem "br") rfl) WF.nl
  | .htmlSpan c => WF.raw c
  | .math c => by
    simp only [renderInline]
    split
    · exact WF.text _ (safeText_escapeHtmlText ..)
    · refine WF.text _ ?_
      exact safeText_append (safeText_append (by decide +kernel) (safeText_stripDollar _ (safeText_escapeHtmlText ..))) (by decide +kernel)
  | .githubWiki target k => by
    simp only [renderInline]
    exact WF.wrap _ _ (vocab_mem "a") (attrsOk_cons _ _ _ (by decide +kernel) (safeAttr_htmlEscapeUrl target) rfl) (inlines_wf o k)
  | .xwikiMacroStart _ => WF.nil
  | .xwikiMacroEnd _ => WF.nil
  | .linkRefDef .. => WF.nil
theorem inlines_wf (o : Quotes) : ∀ (is : List Inline), WF (renderInlines o is)
  | [] => WF.nil
  | i :: is => WF.append (inline_wf o i) (inlines_wf o is)
end

theorem heading_tag (l : Nat) (h1 : 1 ≤ l) (h6 : l ≤ 6) :
    htmlVocabulary.contains ('h' :: natDigits l) = true := by
  rw [htmlVocabulary_eq]
  have : l = 1 ∨ l = 2 ∨ l = 3 ∨ l = 4 ∨ l = 5 ∨ l = 6 := by omega
  rcases this with rfl | rfl | rfl | rfl | rfl | rfl <;> decide

theorem alignName_safe (a : Option Nat) : safeAttr (alignName a) = true := by
  unfold alignName
  split <;> decide

theorem langAttr_ok (lang : Str) :
    attrsOk (if lang.isEmpty then [] else [("class".toList, "language-".toList ++ htmlEscape lang)]) = true := by
  split
  · rfl
  · exact attrsOk_cons _ _ _ (by decide +kernel) (safeAttr_append (by decide +kernel) (safeAttr_htmlEscape lang)) rfl

theorem cell_wf (o : Quotes) (h : Bool) (c : Block) : WF (renderCell o h c) := by
  cases c <;> simp only [renderCell] <;> try exact WF.nil
  rename_i a k _
  have ht : htmlVocabulary.contains (if h = true then "th".toList else "td".toList) = true := by
    cases h
    · exact vocab_mem "td"
    · exact vocab_mem "th"
  exact WF.wrapNl _ [("align".toList, alignName a)] ht
    (attrsOk_cons _ _ _ (by decide +kernel) (alignName_safe a) rfl) (inlines_wf o k)

theorem cells_wf (o : Quotes) (h : Bool) : ∀ (cs : List Block), WF (renderCells o h cs)
  | [] => WF.nil
  | c :: cs => by
    simp only [renderCells]
    exact WF.append (cell_wf o h c) (cells_wf o h cs)

theorem row_wf (o : Quotes) (s h : Bool) (r : Block) : WF (renderRow o s h r) := by
  cases r <;> simp only [renderRow] <;> try exact WF.nil
  rename_i a cells _
  exact WF.wrapNl "tr".toList [] (vocab_mem "tr") rfl (WF.append WF.nl (cells_wf o h cells))

theorem li_wf (lead inner trail : List Ev) (hl : WF lead) (ht : WF trail) (hi : WF inner) :
    WF ([Ev.otag "li".toList []] ++ lead ++ inner ++ trail ++ [Ev.ctag "li".toList]) := by
  have := WF.wrap "li".toList [] (vocab_mem "li") rfl (WF.append (WF.append hl hi) ht)
  simpa only [List.append_assoc] using this

theorem table_wf (head body : List Ev) (hh : WF head) (hb : WF body) :
    WF ([Ev.otag "table".toList [], nl] ++ head ++ [Ev.otag "tbody".toList [], nl] ++ body
      ++ [Ev.ctag "tbody".toList, nl] ++ [Ev.ctag "table".toList]) := by
  have hbody := WF.wrapNl "tbody".toList [] (vocab_mem "tbody") rfl (WF.append WF.nl hb)
  have := WF.wrap "table".toList [] (vocab_mem "table") rfl (WF.append (WF.append WF.nl hh) hbody)
  simpa only [List.append_assoc, List.cons_append, List.nil_append] using this

mutual
theorem block_wf (o : Quotes) : ∀ (s : Bool) (b : Block), levelsOk b = true → WF (renderBlock o s b)
  | s, .paragraph k _, _ => by
    simp only [renderBlock]
    split
    · exact inlines_wf o k
    · exact WF.wrap _ _ (vocab_mem "p") rfl (inlines_wf o k)
  | s, .heading l _ k _, h => by
    simp only [levelsOk, Bool.and_eq_true, decide_eq_true_eq] at h
    exact WF.wrap _ _ (heading_tag l h.1 h.2) rfl (inlines_wf o k)
  | s, .setextHeading l _ k _, h => by
    simp only [levelsOk, Bool.and_eq_true, decide_eq_true_eq] at h
    exact WF.wrap _ _ (heading_tag l h.1 h.2) rfl (inlines_wf o k)
  | s, .quote kids _, h => by
    simp only [levelsOk] at h
    exact WF.wrap "blockquote".toList [] (vocab_mem "blockquote") rfl (WF.append WF.nl (afterEach_wf o false kids h))
  | s, .blockCode c _, _ =>
    WF.wrap "pre".toList [] (vocab_mem "pre") rfl
      (WF.wrap "code".toList [] (vocab_mem "code") rfl (WF.text _ (safeText_escapeHtmlText o.dq o.sq c)))
  | s, .codeFence lang _ _ _ c _, _ =>
    WF.wrap "pre".toList [] (vocab_mem "pre") rfl
      (WF.wrap "code".toList _ (vocab_mem "code") (langAttr_ok lang) (WF.text _ (safeText_escapeHtmlText o.dq o.sq c)))
  | s, .list loose start items _, h => by
    simp only [levelsOk] at h
    simp only [renderBlock]
    have hin := WF.append (WF.append WF.nl (sep_wf o (!loose) items h)) WF.nl
    cases start with
    | none =>
      have := WF.wrap "ul".toList [] (vocab_mem "ul") rfl hin
      simpa only [List.append_assoc, List.cons_append, List.nil_append] using this
    | some n =>
      have ha : attrsOk (if n != 1 then [("start".toList, natDigits n)] else []) = true := by
        split
        · exact attrsOk_cons _ _ _ (by decide +kernel) (safeAttr_natDigits n) rfl
        · rfl
      have := WF.wrap "ol".toList _ (vocab_mem "ol") ha hin
      simpa only [List.append_assoc, List.cons_append, List.nil_append] using this
  | s, .listItem _ _ _ _ kids _, h => by
    simp only [levelsOk] at h
    simp only [renderBlock]
    cases kids with
    | nil => exact WF.wrap "li".toList [] (vocab_mem "li") rfl WF.nil
    | cons first rest =>
      simp only
      have hl : ∀ (b : Bool), WF (if b = true then [] else [nl]) := by
        intro b; cases b
        · exact WF.nl
        · exact WF.nil
      exact li_wf _ _ _ (hl _) (hl _) (sep_wf o s (first :: rest) h)
  | s, .table _ header rows _, h => by
    simp only [levelsOk, Bool.and_eq_true] at h
    simp only [renderBlock]
    refine table_wf _ _ ?_ (cat_wf o s rows h.2)
    cases header with
    | nil => exact WF.nil
    | cons hr _ => exact WF.wrapNl "thead".toList [] (vocab_mem "thead") rfl (WF.append WF.nl (row_wf o s true hr))
  | s, .tableRow _ cells _, _ => WF.wrapNl "tr".toList [] (vocab_mem "tr") rfl (WF.append WF.nl (cells_wf o false cells))
  | s, .tableCell a k _, _ =>
    WF.wrapNl "td".toList [("align".toList, alignName a)] (vocab_mem "td")
      (attrsOk_cons _ _ _ (by decide +kernel) (alignName_safe a) rfl) (inlines_wf o k)
  | s, .thematicBreak _ _, _ => WF.vtag _ _ (vocab_mem "hr") rfl
  | s, .htmlBlock c _, _ => WF.raw c
  | s, .blankLine _, _ => WF.nil
  | s, .linkRefDefBlock _ _, _ => WF.nil
theorem sep_wf (o : Quotes) : ∀ (s : Bool) (bs : List Block), levelsOks bs = true → WF (renderSep o s bs)
  | _, [], _ => WF.nil
  | s, [b], h => by
    simp only [levelsOks, Bool.and_true] at h
    simpa [renderSep] using block_wf o s b h
  | s, b :: b' :: rest, h => by
    simp only [levelsOks, Bool.and_eq_true] at h
    simp only [renderSep]
    exact WF.append (WF.append (block_wf o s b h.1) WF.nl)
      (sep_wf o s (b' :: rest) (by simp only [levelsOks, Bool.and_eq_true]; exact h.2))
theorem afterEach_wf (o : Quotes) : ∀ (s : Bool) (bs : List Block), levelsOks bs = true → WF (renderAfterEach o s bs)
  | _, [], _ => WF.nil
  | s, b :: rest, h => by
    simp only [levelsOks, Bool.and_eq_true] at h
    simp only [renderAfterEach]
    exact WF.append (WF.append (block_wf o s b h.1) WF.nl) (afterEach_wf o s rest h.2)
theorem cat_wf (o : Quotes) : ∀ (s : Bool) (bs : List Block), levelsOks bs = true → WF (renderCat o s bs)
  | _, [], _ => WF.nil
  | s, b :: rest, h => by
    simp only [levelsOks, Bool.and_eq_true] at h
    simp only [renderCat]
    exact WF.append (block_wf o s b h.1) (cat_wf o s rest h.2)
end

theorem doc_wf (o : Quotes) (d : Doc) (h : levelsOks d.kids = true) : WF (renderDoc o d) := by
  unfold renderDoc
  split
  · exact WF.nil
  · dsimp only
    split
    · exact WF.nil
    · exact WF.append (sep_wf o false _ h) WF.nl


/-! ### The raw leaves of the output are exactly the HTML tokens' contents, in order -/

def rawOf : Ev → Option Str
  | .raw s => some s
  | _ => none

def rawsOf (evs : List Ev) : List Str := evs.filterMap rawOf

@[simp] theorem rawsOf_append (a b : List Ev) : rawsOf (a ++ b) = rawsOf a ++ rawsOf b := by
  simp [rawsOf, List.filterMap_append]
@[simp] theorem rawsOf_nil : rawsOf [] = [] := rfl
@[simp] theorem rawsOf_cons_otag (t as rest) : rawsOf (Ev.otag t as :: rest) = rawsOf rest := rfl
@[simp] theorem rawsOf_cons_ctag (t rest) : rawsOf (Ev.ctag t :: rest) = rawsOf rest := rfl
@[simp] theorem rawsOf_cons_vtag (t as rest) : rawsOf (Ev.vtag t as :: rest) = rawsOf rest := rfl
@[simp] theorem rawsOf_cons_text (s rest) : rawsOf (Ev.text s :: rest) = rawsOf rest := rfl
@[simp] theorem rawsOf_cons_raw (s rest) : rawsOf (Ev.raw s :: rest) = s :: rawsOf rest := rfl
@[simp] theorem rawsOf_cons_nl (rest) : rawsOf (nl :: rest) = rawsOf rest := rfl

mutual
/-- Contents of the HtmlSpan tokens that reach the output, in rendering order. -/
def htmlSpans : Inline → List Str
  | .htmlSpan c => [c]
  | .strong _ k => htmlSpansL k
  | .emphasis _ k => htmlSpansL k
  | .strikethrough k => htmlSpansL k
  | .link _ _ _ _ _ k => htmlSpansL k
  | .githubWiki _ k => htmlSpansL k
  | _ => []
def htmlSpansL : List Inline → List Str
  | [] => []
  | i :: is => htmlSpans i ++ htmlSpansL is
end

mutual
theorem raws_inline (o : Quotes) : ∀ (i : Inline), rawsOf (renderInline o i) = htmlSpans i
  | .rawText _ => rfl
  | .strong _ k => by simp [renderInline, htmlSpans, raws_inlines o k]
  | .emphasis _ k => by simp [renderInline, htmlSpans, raws_inlines o k]
  | .inlineCode .. => rfl
  | .strikethrough k => by simp [renderInline, htmlSpans, raws_inlines o k]
  | .image .. => rfl
  | .link _ _ _ _ _ k => by simp [renderInline, htmlSpans, raws_inlines o k]
  | .autoLink .. => rfl
  | .escapeSequence _ => rfl
  | .lineBreak _ soft => by cases soft <;> rfl
  | .htmlSpan _ => rfl
  | .math c => by simp only [renderInline]; split <;> rfl
  | .githubWiki _ k => by simp [renderInline, htmlSpans, raws_inlines o k]
  | .xwikiMacroStart _ => rfl
  | .xwikiMacroEnd _ => rfl
  | .linkRefDef .. => rfl
theorem raws_inlines (o : Quotes) : ∀ (is : List Inline), rawsOf (renderInlines o is) = htmlSpansL is
  | [] => rfl
  | i :: is => by simp [renderInlines, htmlSpansL, raws_inline o i, raws_inlines o is]
end

def cellHtml : Block → List Str
  | .tableCell _ k _ => htmlSpansL k
  | _ => []
def cellsHtml : List Block → List Str
  | [] => []
  | c :: cs => cellHtml c ++ cellsHtml cs
def rowHtml : Block → List Str
  | .tableRow _ cells _ => cellsHtml cells
  | _ => []

mutual
/-- Contents of the HtmlBlock / HtmlSpan tokens that reach the output, in rendering order. -/
def htmlOf : Block → List Str
  | .htmlBlock c _ => [c]
  | .paragraph k _ => htmlSpansL k
  | .heading _ _ k _ => htmlSpansL k
  | .setextHeading _ _ k _ => htmlSpansL k
  | .quote kids _ => htmlOfL kids
  | .list _ _ items _ => htmlOfL items
  | .listItem _ _ _ _ kids _ => htmlOfL kids
  | .table _ header rows _ => (match header with | [] => [] | h :: _ => rowHtml h) ++ htmlOfL rows
  | .tableRow _ cells _ => cellsHtml cells
  | .tableCell _ k _ => htmlSpansL k
  | _ => []
def htmlOfL : List Block → List Str
  | [] => []
  | b :: bs => htmlOf b ++ htmlOfL bs
end

theorem raws_cell (o : Quotes) (h : Bool) (c : Block) : rawsOf (renderCell o h c) = cellHtml c := by
  cases c <;> simp [renderCell, cellHtml, raws_inlines]

theorem raws_cells (o : Quotes) (h : Bool) : ∀ cs, rawsOf (renderCells o h cs) = cellsHtml cs
  | [] => rfl
  | c :: cs => by simp [renderCells, cellsHtml, raws_cell, raws_cells o h cs]

theorem raws_row (o : Quotes) (s h : Bool) (r : Block) : rawsOf (renderRow o s h r) = rowHtml r := by
  cases r <;> simp [renderRow, rowHtml, raws_cells]

theorem rawsOf_ite_nl (p : Prop) [Decidable p] : rawsOf (if p then [] else [nl]) = [] := by
  split <;> rfl

mutual
theorem raws_block (o : Quotes) : ∀ (s : Bool) (b : Block), rawsOf (renderBlock o s b) = htmlOf b
  | s, .paragraph k _ => by simp only [renderBlock]; split <;> simp [htmlOf, raws_inlines]
  | s, .heading _ _ k _ => by simp [renderBlock, htmlOf, raws_inlines]
  | s, .setextHeading _ _ k _ => by simp [renderBlock, htmlOf, raws_inlines]
  | s, .quote kids _ => by simp [renderBlock, htmlOf, raws_afterEach o false kids]
  | s, .blockCode .. => rfl
  | s, .codeFence .. => rfl
  | s, .list loose start items _ => by
    -- tag and attributes are a `match` on `start`, which `rawsOf` never looks at: no case split
    simp only [renderBlock, htmlOf, raws_sep o (!loose) items, rawsOf_append, rawsOf_cons_otag, rawsOf_cons_ctag,
      rawsOf_cons_nl, rawsOf_nil, List.nil_append, List.append_nil]
  | s, .listItem _ _ _ _ kids _ => by
    simp only [renderBlock]
    cases kids with
    | nil => rfl
    | cons first rest =>
      simp [htmlOf, raws_sep o s (first :: rest), rawsOf_ite_nl]
  | s, .table _ header rows _ => by
    simp only [renderBlock, htmlOf]
    cases header with
    | nil => simp [raws_cat o s rows]
    | cons hr _ => simp [raws_cat o s rows, raws_row]
  | s, .tableRow _ cells _ => by simp [renderBlock, htmlOf, raws_cells]
  | s, .tableCell _ k _ => by simp [renderBlock, htmlOf, raws_inlines]
  | s, .thematicBreak .. => rfl
  | s, .htmlBlock .. => rfl
  | s, .blankLine _ => rfl
  | s, .linkRefDefBlock .. => rfl
theorem raws_sep (o : Quotes) : ∀ (s : Bool) (bs : List Block), rawsOf (renderSep o s bs) = htmlOfL bs
  | _, [] => rfl
  | s, [b] => by simp [renderSep, htmlOfL, raws_block o s b]
  | s, b :: b' :: rest => by
    simp only [renderSep, htmlOfL, rawsOf_append, raws_block o s b, raws_sep o s (b' :: rest), rawsOf_cons_nl, rawsOf_nil,
      List.append_nil]
theorem raws_afterEach (o : Quotes) : ∀ (s : Bool) (bs : List Block), rawsOf (renderAfterEach o s bs) = htmlOfL bs
  | _, [] => rfl
  | s, b :: rest => by simp [renderAfterEach, htmlOfL, raws_block o s b, raws_afterEach o s rest]
theorem raws_cat (o : Quotes) : ∀ (s : Bool) (bs : List Block), rawsOf (renderCat o s bs) = htmlOfL bs
  | _, [] => rfl
  | s, b :: rest => by simp [renderCat, htmlOfL, raws_block o s b, raws_cat o s rest]
end

theorem raws_doc (o : Quotes) (d : Doc) :
    rawsOf (renderDoc o d) = if (renderDoc o d).isEmpty then [] else htmlOfL d.kids := by
  unfold renderDoc
  split
  · rfl
  · dsimp only
    split
    · rfl
    · rename_i hne
      have : (renderSep o false d.kids ++ [nl]).isEmpty = false := by
        cases renderSep o false d.kids <;> rfl
      simp [this, raws_sep]

end Mistletoe.Html
