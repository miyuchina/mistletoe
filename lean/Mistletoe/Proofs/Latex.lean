/-
  C17: what LatexRenderer writes, read as a list of events, is balanced and every event is admissible (`WF`).
  The two escapers are per-character tables: a decidable test of the table entries (`textEntryOk`, `urlEntryOk`),
  evaluated once, and `MapChars.mapChars_all` give `SafeText` / `UrlSafe` of every escaped string.
-/
import Mistletoe.Model.PredLatex
import Mistletoe.Proofs.MapChars
namespace Mistletoe.Latex
open Mistletoe Mistletoe.Escape Mistletoe.PredLatex

theorem SafeText.append {a b : Str} (ha : SafeText a) (hb : SafeText b) : SafeText (a ++ b) := by
  induction ha with
  | nil => simpa using hb
  | char c h _ ih => exact SafeText.char c h ih
  | tok t h _ ih => rw [List.append_assoc]; exact SafeText.tok t h ih

theorem UrlSafe.append {a b : Str} (ha : UrlSafe a) (hb : UrlSafe b) : UrlSafe (a ++ b) := by
  induction ha with
  | nil => simpa using hb
  | char c h _ ih => exact UrlSafe.char c h ih
  | tok t h _ ih => rw [List.append_assoc]; exact UrlSafe.tok t h ih

/-- Decidable sufficient condition for one table entry (the test that most entries pass comes first). -/
def textEntryOk (e : Str) : Bool := e.all (fun c => !special c) || escTokens.contains e

theorem safeText_of_all (e : Str) (h : e.all (fun c => !special c) = true) : SafeText e := by
  induction e with
  | nil => exact SafeText.nil
  | cons c cs ih =>
    simp only [List.all_cons, Bool.and_eq_true, Bool.not_eq_true'] at h
    exact SafeText.char c h.1 (ih h.2)

theorem safeText_of_entryOk (e : Str) (h : textEntryOk e = true) : SafeText e := by
  unfold textEntryOk at h
  rcases Bool.or_eq_true_iff.mp h with h | h
  · exact safeText_of_all e h
  · have : e ∈ escTokens := by simpa using h
    have := SafeText.tok e this SafeText.nil
    simpa using this

/-- sequences of `\%XX` (percent-encoded bytes, LaTeX-escaped) -/
def urlEntryOk (e : Str) : Bool :=
  e.all (fun c => !urlSpecial c) || urlTokens.contains e
  || (e.take 2 == ['\\', '%'] && (e.drop 2).all (fun c => !urlSpecial c))

theorem urlSafe_of_all (e : Str) (h : e.all (fun c => !urlSpecial c) = true) : UrlSafe e := by
  induction e with
  | nil => exact UrlSafe.nil
  | cons c cs ih =>
    simp only [List.all_cons, Bool.and_eq_true, Bool.not_eq_true'] at h
    exact UrlSafe.char c h.1 (ih h.2)

theorem urlSafe_of_entryOk (e : Str) (h : urlEntryOk e = true) : UrlSafe e := by
  unfold urlEntryOk at h
  rcases Bool.or_eq_true_iff.mp h with h | h
  · rcases Bool.or_eq_true_iff.mp h with h | h
    · exact urlSafe_of_all e h
    · have : e ∈ urlTokens := by simpa using h
      have := UrlSafe.tok e this UrlSafe.nil
      simpa using this
  · simp only [Bool.and_eq_true, beq_iff_eq] at h
    have : e = ['\\', '%'] ++ e.drop 2 := by
      conv => lhs; rw [← List.take_append_drop 2 e]
      rw [h.1]
    rw [this]
    exact UrlSafe.tok _ (by decide) (urlSafe_of_all _ h.2)

theorem special_of_ge (c : Char) (h : ¬ c.toNat < 128) : special c = false := by
  unfold special
  have hne : ∀ k : Char, k.toNat < 128 → (c == k) = false := by
    intro k hk
    apply beq_false_of_ne
    intro e; subst e; exact h hk
  simp [hne '$' (by decide), hne '#' (by decide), hne '{' (by decide), hne '}' (by decide), hne '&' (by decide),
    hne '_' (by decide), hne '%' (by decide), hne '^' (by decide), hne '\\' (by decide)]

/-- **`render_raw_text` escapes every special character**, for every string. -/
theorem safeText_latexRawText (s : Str) : SafeText (latexRawText s) :=
  have hall : Gen.Chains.latexRawText.all textEntryOk = true := by decide +kernel
  mapChars_all SafeText.nil SafeText.append (by decide +kernel)
    (fun e he => safeText_of_entryOk e (List.all_eq_true.mp hall e he))
    (fun c h => SafeText.char c (special_of_ge c h) SafeText.nil) s

def hexOk : Bool := hexDigits.all (fun c => !urlSpecial c)

theorem urlSafe_pct (b : Nat) : UrlSafe ('\\' :: pctByte b) := by
  have h : ∀ c ∈ hexDigits, urlSpecial c = false := by decide +kernel
  have : '\\' :: pctByte b = ['\\', '%'] ++ [hexDigit (b / 16), hexDigit (b % 16)] := rfl
  rw [this]
  exact UrlSafe.tok _ (by decide)
    (UrlSafe.char _ (h _ (hexDigit_mem _)) (UrlSafe.char _ (h _ (hexDigit_mem _)) UrlSafe.nil))

theorem urlSafe_latexPctUtf8 (c : Char) : UrlSafe (latexPctUtf8 c) :=
  flatMap_all UrlSafe.nil UrlSafe.append _ _ fun b _ => urlSafe_pct b

/-- **`escape_url` never lets a brace, a backslash or a raw `%`/`#` into a URL argument.** -/
theorem urlSafe_latexEscapeUrl (s : Str) : UrlSafe (latexEscapeUrl s) :=
  have hall : Gen.Chains.latexEscapeUrl.all urlEntryOk = true := by decide +kernel
  mapChars_all UrlSafe.nil UrlSafe.append (by decide +kernel)
    (fun e he => urlSafe_of_entryOk e (List.all_eq_true.mp hall e he))
    (fun c _ => urlSafe_latexPctUtf8 c) s

def WF (evs : List Ev) : Prop := Balanced evs ∧ ∀ e ∈ evs, EvOk e

theorem Balanced.append {a b : List Ev} (ha : Balanced a) (hb : Balanced b) : Balanced (a ++ b) := by
  induction ha with
  | nil => simpa using hb
  | lit s _ ih => exact Balanced.lit s ih
  | text s _ ih => exact Balanced.text s ih
  | url s _ ih => exact Balanced.url s ih
  | verb d s _ ih => exact Balanced.verb d s ih
  | listing s _ ih => exact Balanced.listing s ih
  | math s _ ih => exact Balanced.math s ih
  | @group pre inner rest hi _ _ ih2 =>
    have : Ev.op pre :: (inner ++ Ev.cl :: rest) ++ b = Ev.op pre :: (inner ++ Ev.cl :: (rest ++ b)) := by simp
    rw [this]; exact Balanced.group pre hi ih2
  | @env e inner rest hi _ _ ih2 =>
    have : Ev.bgn e :: (inner ++ Ev.nd e :: rest) ++ b = Ev.bgn e :: (inner ++ Ev.nd e :: (rest ++ b)) := by simp
    rw [this]; exact Balanced.env e hi ih2

theorem WF.nil : WF [] := ⟨Balanced.nil, by simp⟩

theorem WF.append {a b : List Ev} (ha : WF a) (hb : WF b) : WF (a ++ b) :=
  ⟨Balanced.append ha.1 hb.1, by
    intro e he
    rcases List.mem_append.mp he with h | h
    · exact ha.2 e h
    · exact hb.2 e h⟩

/-- `literals`, `commands` and `environments` are images of lists of strings under `toList`; membership of a
    string's `toList` is settled on the strings (`simp` compares literals), without spelling any of them out -/
theorem WF.lit (s : String) (h : s.toList ∈ literals := by exact List.mem_map_of_mem (by simp)) : WF [L s] :=
  ⟨Balanced.lit _ Balanced.nil, by simp [L, EvOk, h]⟩

theorem WF.text (s : Str) (h : SafeText s) : WF [Ev.text s] :=
  ⟨Balanced.text _ Balanced.nil, by simp [EvOk, h]⟩

theorem WF.url (s : Str) (h : UrlSafe s) : WF [Ev.url s] :=
  ⟨Balanced.url _ Balanced.nil, by simp [EvOk, h]⟩

theorem WF.group (cmd : String) {inner : List Ev} (hi : WF inner)
    (hc : cmd.toList ∈ commands := by exact List.mem_map_of_mem (by simp)) : WF (group cmd inner) := by
  unfold Latex.group
  refine ⟨?_, ?_⟩
  · have := Balanced.group cmd.toList hi.1 Balanced.nil
    simpa using this
  · intro e he
    simp only [List.mem_append, List.mem_singleton] at he
    rcases he with (rfl | he) | rfl
    · exact hc
    · exact hi.2 e he
    · trivial

theorem WF.env (e : String) {inner : List Ev} (hi : WF inner)
    (he : e.toList ∈ environments := by exact List.mem_map_of_mem (by simp)) :
    WF ([Ev.bgn e.toList] ++ inner ++ [Ev.nd e.toList]) := by
  refine ⟨?_, ?_⟩
  · have := Balanced.env e.toList hi.1 Balanced.nil
    simpa using this
  · intro x hx
    simp only [List.mem_append, List.mem_singleton] at hx
    rcases hx with (rfl | hx) | rfl
    · exact he
    · exact hi.2 x hx
    · exact he

theorem verbDelim_spec (c : Str) (d : Char) (h : verbDelim c = some d) :
    d ∈ Gen.Chains.verbDelimiters ∧ d ∉ c := by
  unfold verbDelim at h
  have h1 := List.mem_of_find?_eq_some h
  have h2 := List.find?_some h
  refine ⟨h1, ?_⟩
  simpa using h2

theorem nl_wf : WF [L "\n"] := WF.lit "\n"

mutual
theorem inline_wf : ∀ (i : Inline), WF (renderInline i)
  | .rawText c => WF.text _ (safeText_latexRawText c)
  | .strong _ k => WF.group "\\textbf" (inlines_wf k)
  | .emphasis _ k => WF.group "\\textit" (inlines_wf k)
  | .inlineCode _ _ c => by
    simp only [renderInline]
    split
    · rename_i d hd
      exact ⟨Balanced.verb _ _ Balanced.nil, by
        intro e he; simp only [List.mem_singleton] at he; subst he; exact verbDelim_spec c d hd⟩
    · exact WF.nil
  | .strikethrough k => WF.group "\\sout" (inlines_wf k)
  | .image src _ _ _ _ _ => by
    simp only [renderInline]
    exact WF.append (WF.append nl_wf (WF.group "\\includegraphics" (WF.url _ (urlSafe_latexEscapeUrl src)))) nl_wf
  | .link target _ _ _ _ k => by
    simp only [renderInline]
    have h1 := WF.group "\\href" (WF.url _ (urlSafe_latexEscapeUrl target))
    have h2 := WF.group "" (inlines_wf k)
    have := WF.append h1 h2
    simpa [Latex.group] using this
  | .autoLink target _ => WF.group "\\url" (WF.url _ (urlSafe_latexEscapeUrl target))
  | .escapeSequence c => WF.text _ (safeText_latexRawText c)
  | .lineBreak _ soft => by
    simp only [renderInline]
    split
    · exact nl_wf
    · exact WF.lit "\\newline\n"
  | .math c => ⟨Balanced.math _ Balanced.nil, by simp [renderInline, EvOk]⟩
  | .htmlSpan _ => WF.nil
  | .githubWiki _ _ => WF.nil
  | .xwikiMacroStart _ => WF.nil
  | .xwikiMacroEnd _ => WF.nil
  | .linkRefDef .. => WF.nil
theorem inlines_wf : ∀ (is : List Inline), WF (renderInlines is)
  | [] => WF.nil
  | i :: is => WF.append (inline_wf i) (inlines_wf is)
end

theorem sectionCmd_ok (l : Nat) : (sectionCmd l).toList ∈ commands := by
  unfold sectionCmd
  split
  · exact List.mem_map_of_mem (by simp)
  · split <;> exact List.mem_map_of_mem (by simp)

theorem alignLetter_lit (a : Option Nat) : WF [L (alignLetter a)] := by
  unfold alignLetter
  split
  · exact WF.lit "l"
  · exact WF.lit "c"
  · exact WF.lit "r"

theorem sepLits_wf : ∀ (cols : List (Option Nat)), WF (sepLits (cols.map alignLetter))
  | [] => WF.nil
  | [a] => alignLetter_lit a
  | a :: b :: rest => by
    have := WF.append (WF.append (alignLetter_lit a) (WF.lit " ")) (sepLits_wf (b :: rest))
    simpa [sepLits] using this

theorem alignSpec_wf (cols : List (Option Nat)) : WF (alignSpec cols) := by
  unfold alignSpec
  split
  · exact WF.nil
  · exact WF.group "" (sepLits_wf cols)

theorem codeBlock_wf (lang content : Str) : WF (codeBlock lang content) := by
  have hl : WF [Ev.listing content] := ⟨Balanced.listing _ Balanced.nil, by simp [EvOk]⟩
  have inner := WF.append (WF.append (WF.append (WF.lit "[language=") (WF.text _ (safeText_latexRawText lang))) (WF.lit "]\n")) hl
  have := WF.append (WF.append nl_wf (WF.env "lstlisting" inner)) nl_wf
  simpa [codeBlock] using this

theorem sepCells_wf : ∀ (cs : List (List Ev)), (∀ c ∈ cs, WF c) → WF (sepCells cs)
  | [], _ => WF.nil
  | [c], h => by simpa [sepCells] using h c (List.mem_cons_self ..)
  | c :: d :: rest, h => by
    simp only [sepCells]
    exact WF.append (WF.append (h c (List.mem_cons_self ..)) (WF.lit " & "))
      (sepCells_wf (d :: rest) (fun x hx => h x (List.mem_cons_of_mem _ hx)))

theorem tabular_wf (spec head body : List Ev) (hs : WF spec) (hh : WF head) (hb : WF body) :
    WF ([Ev.bgn "tabular".toList] ++ spec ++ [L "\n"] ++ head ++ body ++ [Ev.nd "tabular".toList, L "\n"]) := by
  have := WF.append (WF.env "tabular" (WF.append (WF.append (WF.append hs nl_wf) hh) hb)) nl_wf
  simpa using this

/-- `render_table_row` applied directly to the header writes what the render map would write for a TableRow, and
    nothing for any other token -/
theorem renderRow_eq (r : Block) : renderRow r = renderBlock r ∨ renderRow r = [] := by
  cases r <;> first | exact .inr rfl | exact .inl rfl

theorem row_wf_of_block {r : Block} (h : WF (renderBlock r)) : WF (renderRow r) := by
  rcases renderRow_eq r with e | e <;> rw [e]
  · exact h
  · exact WF.nil

mutual
theorem block_wf : ∀ (b : Block), WF (renderBlock b)
  | .paragraph k _ => by
    simp only [renderBlock]; exact WF.append (WF.append nl_wf (inlines_wf k)) nl_wf
  | .heading l _ k _ => by
    simp only [renderBlock]
    exact WF.append (WF.append nl_wf (WF.group _ (inlines_wf k) (sectionCmd_ok l))) nl_wf
  | .setextHeading l _ k _ => by
    simp only [renderBlock]
    exact WF.append (WF.append nl_wf (WF.group _ (inlines_wf k) (sectionCmd_ok l))) nl_wf
  | .quote kids _ => by
    have := WF.append (WF.env "displayquote" (WF.append nl_wf (blocks_wf kids))) nl_wf
    simpa [renderBlock] using this
  | .blockCode c _ => codeBlock_wf [] c
  | .codeFence lang _ _ _ c _ => codeBlock_wf lang c
  | .list _ start items _ => by
    simp only [renderBlock]
    cases start with
    | none =>
      have := WF.append (WF.env "itemize" (WF.append nl_wf (blocks_wf items))) nl_wf
      simpa using this
    | some n =>
      have := WF.append (WF.env "enumerate" (WF.append nl_wf (blocks_wf items))) nl_wf
      simpa using this
  | .listItem _ _ _ _ kids _ => by
    simp only [renderBlock]; exact WF.append (WF.append (WF.lit "\\item ") (blocks_wf kids)) nl_wf
  | .table cols header rows _ => by
    simp only [renderBlock]
    exact tabular_wf _ _ _ (alignSpec_wf cols) (header_wf header) (blocks_wf rows)
  | .tableRow _ cells _ => by
    simp only [renderBlock]
    exact WF.append (sepCells_wf _ (cellsL_wf cells)) (WF.lit " \\\\\n")
  | .tableCell _ k _ => by simp only [renderBlock]; exact inlines_wf k
  | .thematicBreak _ _ => WF.lit "\n\\hrulefill\n"
  | .htmlBlock _ _ => WF.nil
  | .blankLine _ => WF.nil
  | .linkRefDefBlock _ _ => WF.nil
theorem header_wf : ∀ (hs : List Block), WF (renderHeader hs)
  | [] => WF.nil
  | h :: _ => by
    simp only [renderHeader]; exact WF.append (row_wf_of_block (block_wf h)) (WF.lit "\\hline\n")
theorem cellsL_wf : ∀ (cs : List Block), ∀ c ∈ renderCellsL cs, WF c
  | [], c, h => by simp [renderCellsL] at h
  | b :: bs, c, h => by
    simp only [renderCellsL, List.mem_cons] at h
    rcases h with rfl | h
    · exact block_wf b
    · exact cellsL_wf bs c h
theorem blocks_wf : ∀ (bs : List Block), WF (renderBlocks bs)
  | [] => WF.nil
  | b :: bs => WF.append (block_wf b) (blocks_wf bs)
end

theorem row_wf : ∀ (r : Block), WF (renderRow r) := fun r => row_wf_of_block (block_wf r)

theorem pkg_lit (p : Pkg) : WF [L p.line] := by
  cases p <;> exact WF.lit _ (List.mem_map_of_mem (by simp [Pkg.line]))

theorem pkgs_wf : ∀ (ps : List Pkg), WF (ps.map (fun p => L p.line))
  | [] => WF.nil
  | p :: ps => by
    have := WF.append (pkg_lit p) (pkgs_wf ps)
    simpa using this

theorem doc_wf (d : Doc) : WF (renderDoc d) := by
  unfold renderDoc
  have h1 := WF.append (WF.group "\\documentclass" (WF.lit "article")) nl_wf
  have h2 := WF.append (WF.env "document" (WF.append nl_wf (blocks_wf d.kids))) nl_wf
  have := WF.append (WF.append h1 (pkgs_wf (dedup (pkgsBlocks d.kids) []))) h2
  simpa using this

end Mistletoe.Latex
