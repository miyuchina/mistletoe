/-
  Lemmas for C09 (Markdown round trip), prose fragment: what `MarkdownRenderer.render` (model:
  `Model/Markdown.lean`) gives on the tree the parser builds for paragraphs of inert prose lines
  separated by single empty lines, and that tree itself (`Document.mkBlocks` on the parse buffer the
  C14 block theorems compute).  Second part: `k` markers "> " before every line of such a document
  (`qStrs`) — the parse is `k` nested `Quote`s around the parse of the unmarked lines (C04, iterated:
  `tokenize_qLinesL`, for any lines whose parse does not depend on the parser state), the renderer puts
  the markers back (`renderBlocks_qBlocks`).  Last part: what every fragment of C09 (and of C10) concludes from its facts
  about the three phases (`parseLines_quoted`, `exact_of_phases`, `quoted_exact_of_phases`, `exact_markdown`,
  `roundtrip_of_exact`).  `Proofs/MdRoundBlocks.lean` adds ATX
  headings and thematic breaks to the blocks.
  The C03 trees (`Proofs/Compose*.lean`) rest on this file too: the constructors on a prose paragraph, an inert heading text
  and a prose setext heading (`ProsePara`, `mkBlock_prose`, `mkBlock_heading_inert`, `mkBlock_setext_prose`).
-/
import Mistletoe.Model.Markdown
import Mistletoe.Proofs.InertInline
import Mistletoe.Props.C14
import Mistletoe.Props.C04
namespace Mistletoe.MdRound
open Mistletoe Mistletoe.Py Mistletoe.Wrap Mistletoe.Markdown Mistletoe.InertInline Mistletoe.Document

/-- the fragments `make_fragments` yields for `proseInlines ts`: each line as a word-wrappable fragment,
    with the fragment "\n" of a soft `LineBreak` between consecutive lines -/
def proseFrags : List Str → List Fragment
  | [] => []
  | t :: rest =>
    match rest with
    | [] => [fragW t]
    | _ :: _ => fragW t :: { text := ['\n'], wordwrap := true, hardLineBreak := false } :: proseFrags rest

theorem proseFrags_cons2 (t t' : Str) (rest : List Str) :
    proseFrags (t :: t' :: rest) =
      fragW t :: { text := ['\n'], wordwrap := true, hardLineBreak := false } :: proseFrags (t' :: rest) := by
  simp [proseFrags]

theorem renderInlines_prose : ∀ (ts : List Str), renderInlines (proseInlines ts) = .ok (proseFrags ts)
  | [] => by simp [proseInlines, proseFrags, renderInlines]
  | [t] => by simp [proseInlines, proseFrags, renderInlines, renderInline]
  | t :: t' :: rest => by
    have ih := renderInlines_prose (t' :: rest)
    rw [proseInlines_cons2, proseFrags_cons2]
    simp only [renderInlines, renderInline, ih]
    simp

theorem contains_nl_false (t : Str) (h : '\n' ∉ t) : t.contains '\n' = false := by
  simpa using h

/-- the plain mode of `fragments_to_lines`; `cur` is the pending line -/
theorem plainAux_prose : ∀ (rest : List Str) (t cur : Str),
    (∀ x ∈ t :: rest, x ≠ [] ∧ '\n' ∉ x) →
    plainAux (proseFrags (t :: rest)) cur = (cur ++ t) :: rest
  | [], t, cur, h => by
    have ht := h t (by simp)
    have hne : (cur ++ t).isEmpty = false := by
      cases t with
      | nil => exact absurd rfl ht.1
      | cons c r => cases cur <;> rfl
    simp [proseFrags, plainAux, fragW, ht.2, hne]
  | t' :: rest, t, cur, h => by
    have ht := h t (by simp)
    have ih := plainAux_prose rest t' [] (fun x hx => h x (List.mem_cons_of_mem _ hx))
    rw [proseFrags_cons2]
    have e : splitNl ['\n'] = [[], []] := by decide
    simp only [plainAux, fragW, contains_nl_false t ht.2, Bool.false_eq_true, if_false]
    have c : (['\n'] : Str).contains '\n' = true := by decide
    simp only [c, if_true, e]
    simp [ih]

theorem spanToLines_prose (ts : List Str) (h : ∀ x ∈ ts, x ≠ [] ∧ '\n' ∉ x) :
    spanToLines (proseInlines ts) none = .ok ts := by
  unfold spanToLines
  rw [renderInlines_prose]
  cases ts with
  | nil => simp [proseFrags, fragmentsToLines, plainAux]
  | cons t rest =>
    simp only [fragmentsToLines]
    rw [plainAux_prose rest t [] h]
    simp

/-- the children of `Document` for paragraphs `p, q₁, q₂, …` (lists of source lines) separated by single
    empty lines, under the Markdown renderer's token lists, where `BlankLine` is a token type -/
def proseBlocks : Nat → List Str → List (List Str) → List Mistletoe.Block
  | n, p, [] => [.paragraph (proseInlines (p.map strip)) n]
  | n, p, q :: rest =>
    .paragraph (proseInlines (p.map strip)) n :: .blankLine (n + p.length) :: proseBlocks (n + p.length + 1) q rest

/-- the same under ANY token list with `Paragraph`: the `BlankLine` tokens only when `BlankLine` is a token type (`bl`) -/
def proseBlocksB (bl : Bool) : Nat → List Str → List (List Str) → List Mistletoe.Block
  | n, p, [] => [.paragraph (proseInlines (p.map strip)) n]
  | n, p, q :: rest =>
    .paragraph (proseInlines (p.map strip)) n ::
      ((if bl then [.blankLine (n + p.length)] else []) ++ proseBlocksB bl (n + p.length + 1) q rest)

theorem proseBlocksB_true : ∀ (rest : List (List Str)) (p : List Str) (n : Nat),
    proseBlocksB true n p rest = proseBlocks n p rest
  | [], _, _ => rfl
  | q :: rest, p, n => by
    simp only [proseBlocksB, proseBlocks, if_true, List.cons_append, List.nil_append,
      proseBlocksB_true rest q (n + p.length + 1)]

def proseOut : List Str → List (List Str) → List Str
  | p, [] => p.map strip
  | p, q :: rest => p.map strip ++ [] :: proseOut q rest

def ProsePara (q : List Str) : Prop :=
  q ≠ [] ∧ (∀ l ∈ q, proseLine l = true) ∧ inertBody (joinNl (q.map strip)) = true

theorem strip_lines_ok (q : List Str) (h : ∀ l ∈ q, proseLine l = true) :
    ∀ x ∈ q.map strip, x ≠ [] ∧ '\n' ∉ x := by
  intro x hx
  obtain ⟨l, hl, rfl⟩ := List.mem_map.mp hx
  have f := proseLine_facts l (h l hl)
  exact ⟨f.ne, f.nl⟩

theorem renderBlocks_prose (o : Opts) : ∀ (rest : List (List Str)) (p : List Str) (n : Nat),
    (∀ l ∈ p, proseLine l = true) → (∀ q ∈ rest, ∀ l ∈ q, proseLine l = true) →
    renderBlocks o none (proseBlocks n p rest) = .ok (proseOut p rest)
  | [], p, n, hp, _ => by
    simp only [proseBlocks, proseOut, renderBlocks, renderBlock, spanToLines_prose _ (strip_lines_ok p hp)]
    simp
  | q :: rest, p, n, hp, hr => by
    have ih := renderBlocks_prose o rest q (n + p.length + 1) (hr q (by simp)) (fun x hx => hr x (List.mem_cons_of_mem _ hx))
    simp only [proseBlocks, proseOut, renderBlocks, renderBlock, spanToLines_prose _ (strip_lines_ok p hp), ih]
    simp

theorem mkBlock_prose (cfg : Document.Cfg) (fn : Footnotes.Table) (ls : List Str) (ln o : Nat)
    (ht : ∀ t ∈ cfg.span, inertClass t = true) (hc : cfg.span.count .lineBreak = 1) (h : ProsePara ls) :
    mkBlock cfg fn (.paragraph ls ln o) = .ok (some (.paragraph (proseInlines (ls.map strip)) ln)) :=
  (inertBody_silent fn _ h.2.2).mkBlock cfg ls ln o ht hc h.1 h.2.1

theorem mkBlock_heading_inert (cfg : Document.Cfg) (fn : Footnotes.Table) (ht : ∀ t ∈ cfg.span, inertClass t = true)
    (lv : Nat) (t cl : Str) (ln og : Nat) (hi : inertText t = true) (hne : t ≠ []) :
    mkBlock cfg fn (.heading lv t cl ln og) = .ok (some (.heading lv cl [.rawText t] ln)) := by
  have hin : Document.inl cfg fn t = .ok [.rawText t] := tokenizeInner_inert cfg.span fn t ht hi hne
  simp only [mkBlock, hin]

/-- `hlv`: the level `SetextHeading.__init__` reads off the last character of the underline -/
theorem mkBlock_setext_prose (cfg : Document.Cfg) (fn : Footnotes.Table) (ht : ∀ t ∈ cfg.span, inertClass t = true)
    (hc : cfg.span.count .lineBreak = 1) (lv : Nat) (ls : List Str) (ul : Str) (ln og : Nat) (hp : ProsePara ls)
    (hlv : (if (rstrip ul).getLast? == some '=' then 1 else 2) = lv) :
    mkBlock cfg fn (.setext (ls ++ [ul]) ln og) = .ok (some (.setextHeading lv (rstrip ul) (proseInlines (ls.map strip)) ln)) := by
  simp only [mkBlock, List.getLast?_concat, List.dropLast_concat, inl_prose cfg fn ls ht hc hp.1 hp.2.1 hp.2.2, hlv]

theorem mkBlocks_cons (cfg : Document.Cfg) (fn : Footnotes.Table) (e : Block.Entry) (es : List Block.Entry) (b : Mistletoe.Block)
    (bs : List Mistletoe.Block) (h1 : mkBlock cfg fn e = .ok (some b)) (h2 : mkBlocks cfg fn es = .ok bs) :
    mkBlocks cfg fn (e :: es) = .ok (b :: bs) := by
  simp only [mkBlocks, h1, h2]

theorem mkBlocks_paraEntriesB (cfg : Document.Cfg) (fn : Footnotes.Table)
    (ht : ∀ t ∈ cfg.span, inertClass t = true) (hc : cfg.span.count .lineBreak = 1) (bl : Bool) :
    ∀ (rest : List (List Str)) (p : List Str) (n : Nat), ProsePara p → (∀ q ∈ rest, ProsePara q) →
    mkBlocks cfg fn (Mistletoe.Props.C14.paraEntries bl n p rest) = .ok (proseBlocksB bl n p rest)
  | [], p, n, hp, _ => mkBlocks_cons cfg fn _ _ _ _ (mkBlock_prose cfg fn p n n ht hc hp) rfl
  | q :: rest, p, n, hp, hr => by
    have ih := mkBlocks_paraEntriesB cfg fn ht hc bl rest q (n + p.length + 1) (hr q (by simp))
      (fun x hx => hr x (List.mem_cons_of_mem _ hx))
    refine mkBlocks_cons cfg fn _ _ _ _ (mkBlock_prose cfg fn p n n ht hc hp) ?_
    cases bl
    · exact ih
    · exact mkBlocks_cons cfg fn _ _ _ _ rfl ih

theorem mkBlocks_paraEntries (cfg : Document.Cfg) (fn : Footnotes.Table)
    (ht : ∀ t ∈ cfg.span, inertClass t = true) (hc : cfg.span.count .lineBreak = 1)
    (rest : List (List Str)) (p : List Str) (n : Nat) (hp : ProsePara p) (hr : ∀ q ∈ rest, ProsePara q) :
    mkBlocks cfg fn (Mistletoe.Props.C14.paraEntries true n p rest) = .ok (proseBlocks n p rest) := by
  rw [← proseBlocksB_true]
  exact mkBlocks_paraEntriesB cfg fn ht hc true rest p n hp hr

theorem joinLines_eq : ∀ (ls : List Str), joinLines ls = (ls.map (· ++ ['\n'])).flatten
  | [] => rfl
  | l :: ls => by simp [joinLines, joinLines_eq ls]

theorem joinLines_append (a b : List Str) : joinLines (a ++ b) = joinLines a ++ joinLines b := by
  simp [joinLines_eq]

/-- the renderer's normal form of a line: no whitespace at either end of the text -/
theorem normal_line (l : Str) (h : proseLine l = true) (hn : lstrip l = l) : strip l ++ ['\n'] = l := by
  have := (proseLine_facts l h).eq
  rw [hn] at this
  exact this.symm

theorem strip_nl_lines (p : List Str) (hp : ∀ l ∈ p, proseLine l = true ∧ lstrip l = l) :
    (p.map strip).map (· ++ ['\n']) = p := by
  rw [List.map_map]
  conv => rhs; rw [← List.map_id p]
  exact List.map_congr_left (fun l hl => normal_line l (hp l hl).1 (hp l hl).2)

theorem proseOut_lines : ∀ (rest : List (List Str)) (p : List Str),
    (∀ l ∈ p, proseLine l = true ∧ lstrip l = l) → (∀ q ∈ rest, ∀ l ∈ q, proseLine l = true ∧ lstrip l = l) →
    (proseOut p rest).map (· ++ ['\n']) = Mistletoe.Props.C14.joinBlank p rest
  | [], p, hp, _ => by
    simp only [proseOut, Mistletoe.Props.C14.joinBlank, strip_nl_lines p hp]
  | q :: rest, p, hp, hr => by
    have ih := proseOut_lines rest q (hr q (by simp)) (fun x hx => hr x (List.mem_cons_of_mem _ hx))
    simp only [proseOut, Mistletoe.Props.C14.joinBlank, List.map_append, List.map_cons, ih, strip_nl_lines p hp,
      List.nil_append]

theorem joinBlank_all (P : Str → Prop) (hnl : P ['\n']) : ∀ (rest : List (List Str)) (p : List Str),
    (∀ l ∈ p, P l) → (∀ q ∈ rest, ∀ l ∈ q, P l) → ∀ l ∈ Mistletoe.Props.C14.joinBlank p rest, P l
  | [], p, hp, _ => by simpa [Mistletoe.Props.C14.joinBlank] using hp
  | q :: rest, p, hp, hr => by
    have ih := joinBlank_all P hnl rest q (hr q (by simp)) (fun x hx => hr x (List.mem_cons_of_mem _ hx))
    intro l hl
    simp only [Mistletoe.Props.C14.joinBlank, List.mem_append, List.mem_cons] at hl
    rcases hl with hl | rfl | hl
    · exact hp l hl
    · exact hnl
    · exact ih l hl

theorem joinBlank_ne (p : List Str) (rest : List (List Str)) (h : p ≠ []) : Mistletoe.Props.C14.joinBlank p rest ≠ [] := by
  cases rest <;> simp [Mistletoe.Props.C14.joinBlank, h]

/-! ### block quotes around a prose document

  The renderer writes a block quote by putting "> " before every line of its content, the empty lines
  included ("> " is not blanked by `prefix_lines`: it is not all whitespace).  The parser (C04) turns
  lines that all carry the marker "> " into one `Quote` around the parse of the unmarked lines. -/

open Mistletoe.Block (Line Entry Buf St tokenizeBlock quoteSp)
open Mistletoe.Props.C14 (numbered numbered_cons paraEntries)

def qStrs : Nat → List Str → List Str
  | 0, ss => ss
  | k + 1, ss => (qStrs k ss).map (fun s => '>' :: ' ' :: s)

def qLines : Nat → List Line → List Line
  | 0, L => L
  | k + 1, L => (qLines k L).map quoteSp

def qLine : Nat → Line → Line
  | 0, l => l
  | k + 1, l => quoteSp (qLine k l)

theorem qLines_cons : ∀ (k : Nat) (l : Line) (ls : List Line), qLines k (l :: ls) = qLine k l :: qLines k ls
  | 0, _, _ => rfl
  | k + 1, l, ls => by simp only [qLines, qLine, qLines_cons k l ls, List.map_cons]

theorem qLine_origin : ∀ (k : Nat) (l : Line), (qLine k l).origin = l.origin
  | 0, _ => rfl
  | k + 1, l => by simp only [qLine, quoteSp, qLine_origin k l]

theorem qLines_notab : ∀ (k : Nat) (L : List Line), (∀ l ∈ L, '\t' ∉ l.s) → ∀ l ∈ qLines k L, '\t' ∉ l.s
  | 0, _, h => h
  | k + 1, L, h => by
    intro l hl
    simp only [qLines, List.mem_map] at hl
    obtain ⟨x, hx, rfl⟩ := hl
    have := qLines_notab k L h x hx
    simp only [quoteSp, List.mem_cons, not_or]
    exact ⟨by decide, by decide, this⟩

theorem numbered_qStrs : ∀ (k n : Nat) (ss : List Str), numbered n (qStrs k ss) = qLines k (numbered n ss)
  | 0, _, _ => rfl
  | k + 1, n, ss => by
    simp only [qStrs, qLines, Mistletoe.Props.C04.numbered_map_sp, numbered_qStrs k n ss]

/-- looseness of the buffer at depth `k` counted from the inside: the innermost one is the document's, every
    buffer holding just a `Quote` is not loose -/
def qLoose (lo : Bool) : Nat → Bool
  | 0 => lo
  | _ + 1 => false

def qEntriesL (start o : Nat) (E : List Entry) (lo : Bool) : Nat → List Entry
  | 0 => E
  | k + 1 => [.quote (qEntriesL start o E lo k) (qLoose lo k) start o]

/-- **`k` markers "> " before every line give `k` nested quotes around the parse** (from C04), for lines
    whose parse does not depend on the state (`h0`; prose documents: C14).  The inner buffer may be loose (under the
    HTML renderer's token lists `BlankLine` is not a token type, and a document of several paragraphs is a loose buffer). -/
theorem tokenize_qLinesL (cfg : Block.Cfg) (pre post : List Block.BTok) (hty : cfg.types = pre ++ .quote :: post)
    (hnq : .quote ∉ pre) (hnp : .paragraph ∉ pre) (l0 : Line) (ls : List Line) (hnt : ∀ l ∈ l0 :: ls, '\t' ∉ l.s)
    (start : Nat) (E : List Entry) (lo : Bool) (G : Nat)
    (h0 : ∀ st, tokenizeBlock cfg G (l0 :: ls) start st = .ok ({ entries := E, loose := lo }, st)) :
    ∀ (k : Nat) (st : St), ∃ st', tokenizeBlock cfg (G + k * (pre.length + 3)) (qLines k (l0 :: ls)) start st =
        .ok ({ entries := qEntriesL start l0.origin E lo k, loose := qLoose lo k }, st') ∧ st'.defs = st.defs
  | 0, st => ⟨st, by simpa [qLines, qEntriesL, qLoose] using h0 st, rfl⟩
  | k + 1, st => by
    obtain ⟨st1, h1, hd⟩ := tokenize_qLinesL cfg pre post hty hnq hnp l0 ls hnt start E lo G h0 k { st with setext := false }
    rw [qLines_cons] at h1
    have hk := qLines_notab k (l0 :: ls) hnt
    rw [qLines_cons] at hk
    have := Mistletoe.Props.C04.C04_quote_wraps cfg pre post hty hnq hnp (qLine k l0) (qLines k ls) hk start st st1 _ _ h1
    refine ⟨{ st1 with setext := true }, ?_, hd⟩
    have e : G + (k + 1) * (pre.length + 3) = G + k * (pre.length + 3) + (pre.length + 3) := by rw [Nat.succ_mul]; omega
    simp only [qLines, qEntriesL]
    rw [e, qLines_cons, this, qLine_origin]
    rfl

def qBlocks (ln : Nat) (B : List Mistletoe.Block) : Nat → List Mistletoe.Block
  | 0 => B
  | k + 1 => [.quote (qBlocks ln B k) ln]

theorem mkBlocks_qEntriesL (cfg : Document.Cfg) (fn : Footnotes.Table) (start o : Nat) (E : List Entry) (lo : Bool)
    (B : List Mistletoe.Block) (h : mkBlocks cfg fn E = .ok B) :
    ∀ k, mkBlocks cfg fn (qEntriesL start o E lo k) = .ok (qBlocks start B k)
  | 0 => h
  | k + 1 => by
    simp only [qEntriesL, qBlocks, mkBlocks, mkBlock, mkBlocks_qEntriesL cfg fn start o E lo B h k]

/-- `prefix_lines(lines, p)` when no prefixed line is all whitespace (such lines are written empty) -/
theorem prefixLines_vis (p : Str) (ls : List Str) (h : ∀ l ∈ ls, p ++ l = [] ∨ (p ++ l).all pyIsSpace = false) :
    prefixLines ls p none = ls.map (p ++ ·) := by
  rw [prefixLines_none]
  induction ls with
  | nil => rfl
  | cons l ls ih =>
    have : (!(p ++ l).isEmpty && (p ++ l).all pyIsSpace) = false := by
      rcases h l (by simp) with e | e
      · rw [e]; rfl
      · rw [e]; simp
    simp only [prefixLinesAux, this, Bool.false_eq_true, if_false, List.map_cons,
      ih (fun x hx => h x (List.mem_cons_of_mem _ hx))]

theorem prefixLines_quote : ∀ (ls : List Str), prefixLines ls ['>', ' '] none = ls.map (fun s => '>' :: ' ' :: s) :=
  fun ls => prefixLines_vis ['>', ' '] ls (fun _ _ => Or.inr (by simp [show pyIsSpace '>' = false by decide]))

theorem renderBlocks_qBlocks (o : Opts) (ln : Nat) (B : List Mistletoe.Block) (out : List Str)
    (h : renderBlocks o none B = .ok out) : ∀ k, renderBlocks o none (qBlocks ln B k) = .ok (qStrs k out)
  | 0 => h
  | k + 1 => by
    have ih := renderBlocks_qBlocks o ln B out h k
    have cb : childBudget none 2 = none := rfl
    simp only [qBlocks, qStrs, renderBlocks, renderBlock, cb, ih, prefixLines_quote, List.append_nil]

theorem qStrs_nl : ∀ (k : Nat) (out : List Str), (qStrs k out).map (· ++ ['\n']) = qStrs k (out.map (· ++ ['\n']))
  | 0, _ => rfl
  | k + 1, out => by
    simp only [qStrs, List.map_map, ← qStrs_nl k out]
    rfl

theorem qStrs_ne : ∀ (k : Nat) (ss : List Str), ss ≠ [] → qStrs k ss ≠ []
  | 0, _, h => h
  | k + 1, ss, h => by simpa [qStrs] using qStrs_ne k ss h

theorem oneLine_split (l : Str) (h : oneLine l = true) : ∃ u, l = u ++ ['\n'] ∧ ∀ c ∈ u, isLineSep c = false := by
  simp only [oneLine, Bool.and_eq_true, beq_iff_eq, List.all_eq_true, Bool.not_eq_eq_eq_not, Bool.not_true] at h
  obtain ⟨u, hu⟩ := List.getLast?_eq_some_iff.mp h.1
  refine ⟨u, hu, fun c hc => h.2 c ?_⟩
  rw [hu, List.dropLast_concat]
  exact hc

theorem nosep_nonl (u : Str) (h : ∀ c ∈ u, isLineSep c = false) : '\n' ∉ u := by
  intro hm
  have := h _ hm
  revert this; decide

theorem qStrs_oneLine : ∀ (k : Nat) (ss : List Str), (∀ l ∈ ss, oneLine l = true) → ∀ l ∈ qStrs k ss, oneLine l = true
  | 0, _, h => h
  | k + 1, ss, h => by
    intro l hl
    simp only [qStrs, List.mem_map] at hl
    obtain ⟨x, hx, rfl⟩ := hl
    obtain ⟨u, rfl, hu⟩ := oneLine_split x (qStrs_oneLine k ss h x hx)
    refine oneLine_text ('>' :: ' ' :: u) (fun c hc => ?_)
    rcases List.mem_cons.mp hc with rfl | hc
    · decide
    rcases List.mem_cons.mp hc with rfl | hc
    · decide
    exact hu c hc

/-! ### from the three phases to the round trip

  Every fragment of C09 is proved along the same chain: the block phase gives entries, the token constructors turn
  them into blocks `B`, the renderer writes lines `out` for `B`, and `out` with "\n" behind every line is the source.
  What follows from these facts does not depend on the fragment. -/

/-- the token lists `MarkdownRenderer` installs in the working tree -/
theorem markdown_cfg (cfg : Document.Cfg) (hcfg : Config.markdown = some cfg) :
    cfg.block.types = Mistletoe.Props.C14.markdownTypes ∧ (∀ t ∈ cfg.span, inertClass t = true) ∧
      cfg.span.count .lineBreak = 1 := by
  obtain ⟨_, ht, hc⟩ := Mistletoe.Props.C14.C14_config_covered cfg (Or.inr (Or.inl hcfg))
  have hty := Mistletoe.Props.C14.C14_config_current.2
  rw [hcfg] at hty
  exact ⟨by simpa using hty, ht, hc⟩

theorem render_of_lines (B : List Mistletoe.Block) (fn : Footnotes.Table) (o : Opts) (ho : o.maxLineLength = none)
    (out : List Str) (hout : renderBlocks o none B = .ok out) (ss : List Str) (hlines : out.map (· ++ ['\n']) = ss) :
    renderRes o { kids := B, footnotes := fn } = .ok ss.flatten ∧ render o { kids := B, footnotes := fn } = ss.flatten := by
  have hres : renderRes o { kids := B, footnotes := fn } = .ok ss.flatten := by
    simp only [renderRes, ho, hout, joinLines_eq, hlines]
  exact ⟨hres, by simp only [render, hres]⟩

theorem parseLines_of_phase (cfg : Document.Cfg) (G : Nat) (ss : List Str) (buf : Buf) (st : St) (hdefs : st.defs = [])
    (hphase : Block.blockPhase cfg.block G ss = .ok (buf, st))
    (B : List Mistletoe.Block) (hmk : mkBlocks cfg (footnotesOf []) buf.entries = .ok B) :
    parseLines cfg G ss = .ok { kids := B, footnotes := footnotesOf [] } := by
  rw [← hdefs] at hmk
  exact (Pipeline.parseLines_of_phase hphase hmk).trans (by rw [hdefs])

theorem exact_of_phases (cfg : Document.Cfg) (G : Nat) (ss : List Str) (buf : Buf) (st : St) (hdefs : st.defs = [])
    (hphase : Block.blockPhase cfg.block G ss = .ok (buf, st))
    (B : List Mistletoe.Block) (hmk : mkBlocks cfg (footnotesOf []) buf.entries = .ok B)
    (o : Opts) (ho : o.maxLineLength = none) (out : List Str) (hout : renderBlocks o none B = .ok out)
    (hlines : out.map (· ++ ['\n']) = ss) :
    ∃ d, parseLines cfg G ss = .ok d ∧ d.kids = B ∧ renderRes o d = .ok ss.flatten ∧ render o d = ss.flatten :=
  ⟨_, parseLines_of_phase cfg G ss buf st hdefs hphase B hmk, rfl, render_of_lines B _ o ho out hout ss hlines⟩

/-- **`Document(lines)` for the lines `ss` behind `k` markers "> "**: the block phase on the unmarked lines must not
    depend on the parser state (inside a quote the setext rule is switched off), and the lines must be free of tabs
    (`Quote.convert_leading_tabs`) -/
theorem parseLines_quoted (cfg : Document.Cfg) (pre post : List Block.BTok) (hty : cfg.block.types = pre ++ .quote :: post)
    (hnq : .quote ∉ pre) (hnp : .paragraph ∉ pre)
    (G : Nat) (ss : List Str) (hne : ss ≠ []) (hnt : ∀ l ∈ ss, '\t' ∉ l) (E : List Entry) (lo : Bool)
    (hphase : ∀ st, tokenizeBlock cfg.block G (numbered 0 ss) 1 st = .ok ({ entries := E, loose := lo }, st))
    (B : List Mistletoe.Block) (hmk : mkBlocks cfg (footnotesOf []) E = .ok B) (k : Nat) :
    parseLines cfg (G + k * (pre.length + 3)) (qStrs k ss) = .ok { kids := qBlocks 1 B k, footnotes := footnotesOf [] } := by
  obtain ⟨s, ss', rfl⟩ := List.exists_cons_of_ne_nil hne
  have hnum : numbered 0 (s :: ss') = { s := s, origin := 1 } :: numbered 1 ss' := numbered_cons _ _ _
  rw [hnum] at hphase
  obtain ⟨st', hq, hd⟩ := tokenize_qLinesL cfg.block pre post hty hnq hnp _ _
    (fun l hl => hnt _ (Mistletoe.Props.C14.numbered_mem _ _ _ (hnum ▸ hl))) 1 E lo G hphase k {}
  have hq' : Block.blockPhase cfg.block (G + k * (pre.length + 3)) (qStrs k (s :: ss')) =
      .ok ({ entries := qEntriesL 1 1 E lo k, loose := qLoose lo k }, st') := by
    show tokenizeBlock cfg.block _ (numbered 0 (qStrs k (s :: ss'))) 1 {} = _
    rw [numbered_qStrs, hnum]
    exact hq
  exact parseLines_of_phase cfg _ _ _ st' hd hq' _ (mkBlocks_qEntriesL cfg _ 1 1 E lo B hmk k)

theorem quoted_exact_of_phases (cfg : Document.Cfg) (pre post : List Block.BTok) (hty : cfg.block.types = pre ++ .quote :: post)
    (hnq : .quote ∉ pre) (hnp : .paragraph ∉ pre)
    (G : Nat) (ss : List Str) (hne : ss ≠ []) (hnt : ∀ l ∈ ss, '\t' ∉ l) (E : List Entry)
    (hphase : ∀ st, tokenizeBlock cfg.block G (numbered 0 ss) 1 st = .ok ({ entries := E, loose := false }, st))
    (B : List Mistletoe.Block) (hmk : mkBlocks cfg (footnotesOf []) E = .ok B)
    (o : Opts) (ho : o.maxLineLength = none) (out : List Str) (hout : renderBlocks o none B = .ok out)
    (hlines : out.map (· ++ ['\n']) = ss) (k : Nat) :
    ∃ d, parseLines cfg (G + k * (pre.length + 3)) (qStrs k ss) = .ok d ∧ d.kids = qBlocks 1 B k ∧
      renderRes o d = .ok (qStrs k ss).flatten ∧ render o d = (qStrs k ss).flatten :=
  ⟨_, parseLines_quoted cfg pre post hty hnq hnp G ss hne hnt E false hphase B hmk k, rfl,
    render_of_lines _ _ o ho _ (renderBlocks_qBlocks o 1 B out hout k) _ (by rw [qStrs_nl, hlines])⟩

/-- under the Markdown renderer's token list, which has five types before `Quote`, for `k ≥ 0` markers: at the top level
    (`k = 0`) the block phase is needed in the initial state only, and tabs are allowed -/
theorem exact_markdown (cfg : Document.Cfg) (hty : cfg.block.types = Mistletoe.Props.C14.markdownTypes)
    (G : Nat) (ss : List Str) (hne : ss ≠ []) (k : Nat) (hnt : k = 0 ∨ ∀ l ∈ ss, '\t' ∉ l) (E : List Entry)
    (hphase : ∀ st, (k = 0 → st = {}) →
      tokenizeBlock cfg.block G (numbered 0 ss) 1 st = .ok ({ entries := E, loose := false }, st))
    (B : List Mistletoe.Block) (hmk : mkBlocks cfg (footnotesOf []) E = .ok B)
    (o : Opts) (ho : o.maxLineLength = none) (out : List Str) (hout : renderBlocks o none B = .ok out)
    (hlines : out.map (· ++ ['\n']) = ss) :
    ∃ d, parseLines cfg (G + k * 8) (qStrs k ss) = .ok d ∧ d.kids = qBlocks 1 B k ∧
      renderRes o d = .ok (qStrs k ss).flatten ∧ render o d = (qStrs k ss).flatten := by
  rcases Nat.eq_zero_or_pos k with rfl | hk
  · exact exact_of_phases cfg G ss _ {} rfl (hphase {} (fun _ => rfl)) B hmk o ho out hout hlines
  · exact quoted_exact_of_phases cfg [.linkRefDefBlock, .blankLine, .htmlBlock, .blockCode, .heading]
      [.codeFence, .thematicBreak, .list, .table, .paragraph] (by rw [hty]; rfl) (by decide) (by decide)
      G ss hne (hnt.resolve_left (by omega)) E (fun st => hphase st (fun h => by omega)) B hmk o ho out hout hlines k

theorem roundtrip_of_exact (cfg : Document.Cfg) (G : Nat) (ss : List Str) (h1 : ∀ l ∈ ss, oneLine l = true) (o : Opts)
    (d : Doc) (h : parseLines cfg G ss = .ok d) (h3 : render o d = ss.flatten) :
    parse cfg G ss.flatten = .ok d ∧ render o d = ss.flatten ∧
      (∃ d', parse cfg G (render o d) = .ok d' ∧ render o d' = render o d) ∧
      (∀ (cfg' : Document.Cfg) (g : Nat), parse cfg' g (render o d) = parse cfg' g ss.flatten) ∧
      (∀ (hopts : Html.Opts) (g : Nat), Config.renderHtml hopts g (render o d) = Config.renderHtml hopts g ss.flatten) := by
  rw [← parse_lines cfg _ _ h1] at h
  refine ⟨h, h3, ⟨d, ?_, rfl⟩, fun _ _ => by rw [h3], fun _ _ => by rw [h3]⟩
  rw [h3]; exact h

end Mistletoe.MdRound
