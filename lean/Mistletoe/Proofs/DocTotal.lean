/-
  C01, block token constructors: every parse buffer `tokenize_block` returns is well-formed in the
  sense the constructors of block_token.py rely on (a list has an item, a table buffer has its
  delimiter row, a setext buffer has its underline, …), hence the constructors return (`mkBlocks_ok`, given that
  the inline phase returns) and `Document.parseLines` returns with `gasBound` gas (`parseLines_total`; that it raises
  nothing and that more gas changes nothing is read off these in Props/C01.lean).  The file also holds the users of
  `fuel_irrelevant` (Proofs/Block.lean): the fuels of `Paragraph.read`, `Quote.read`, `ListItem.read`, of `Footnote.read`'s
  `match_reference` loop and of the fuelled scanners (`alignCols`, `delimRest`, `attrs`, `unescapePipes`) never
  truncate (the section "The inner fuels never truncate"; C01's fuel theorems are read off there).
-/
import Mistletoe.Proofs.BlockTotal
import Mistletoe.Proofs.BlockFrom
import Mistletoe.Proofs.ScanSuffix
import Mistletoe.Model.Document
import Mistletoe.Proofs.Pipeline
namespace Mistletoe.Block
open Mistletoe Mistletoe.Py Mistletoe.Scan

/-! ## Facts about the scanners -/

/-- Heading.pattern: `#{1,6}` -/
theorem heading_level (line : Str) (m : HeadingMatch) (h : Scan.heading line = some m) : 1 ≤ m.level ∧ m.level ≤ 6 := by
  unfold Scan.heading at h
  split at h
  · cases h
  · simp only at h
    split at h
    · cases h
    · rename_i hlen
      simp only [Bool.or_eq_true, decide_eq_true_eq, not_or, Nat.not_lt] at hlen
      split at h
      · cases h; exact ⟨by simp only; omega, by simp only; omega⟩
      · split at h
        · split at h
          · cases h; exact ⟨by simp only; omega, by simp only; omega⟩
          · cases h
        · cases h
      · cases h

theorem readHeading_level (fw : FW) (line : Str) (lvl : Nat) (c cl : Str) (fw' : FW)
    (h : readHeading fw line = some (lvl, c, cl, fw')) : 1 ≤ lvl ∧ lvl ≤ 6 := by
  obtain ⟨m, hm, rfl, _⟩ := readHeading_ok h
  exact heading_level line m hm

/-- `:?-+:?` at the start of `s` -/
theorem alignCol_inv {s m r : Str} (h : alignCol s = some (m, r)) : s = m ++ r ∧ '-' ∈ m := by
  unfold alignCol at h
  split at h
  rename_i c1 r0 heq
  have hs : s = c1 ++ r0 := by split at heq <;> cases heq <;> rfl
  have happ := span_append (· == '-') r0
  have hall := span_all (· == '-') r0
  generalize span (· == '-') r0 = p at h happ hall
  obtain ⟨d, r1⟩ := p
  simp only at h happ hall
  subst hs happ
  cases d with
  | nil => cases h
  | cons x xs =>
    have hx : x = '-' := by simpa using hall x (List.mem_cons_self ..)
    subst hx
    simp only [List.isEmpty_cons, Bool.false_eq_true, if_false] at h
    split at h <;> cases h <;> simp

theorem alignCol_spec (s m r : Str) (h : alignCol s = some (m, r)) : m ≠ [] ∧ '-' ∈ s := by
  obtain ⟨rfl, hm⟩ := alignCol_inv h
  exact ⟨List.ne_nil_of_mem hm, List.mem_append_left _ hm⟩

theorem alignCols_ne : ∀ (fuel : Nat) (s : Str), ∀ c ∈ alignCols fuel s, c ≠ []
  | 0, _ => by simp [alignCols]
  | _ + 1, [] => by simp [alignCols]
  | fuel + 1, x :: rest => by
    simp only [alignCols]
    split
    · rename_i m r hm
      intro c hc
      rcases List.mem_cons.mp hc with rfl | hc
      · exact (alignCol_spec _ _ _ hm).1
      · exact alignCols_ne fuel r c hc
    · exact alignCols_ne fuel rest

theorem findAligns_ne (row : Str) : ∀ c ∈ findAligns row, c ≠ [] := alignCols_ne _ _

theorem delimiterRow_dash (line : Str) (h : delimiterRow line = true) : '-' ∈ line := by
  unfold delimiterRow at h
  simp only at h
  split at h
  · rename_i m r3 hm
    have h1 := (alignCol_spec _ _ _ hm).2
    have s1 := span_suffix ws (match (span ws line).2 with | '|' :: x => x | _ => (span ws line).2)
    have s2 : (match (span ws line).2 with | '|' :: x => x | _ => (span ws line).2) <:+ (span ws line).2 := by
      split
      · rename_i x hx; rw [hx]; exact List.suffix_cons _ _
      · exact List.suffix_refl _
    have s3 := span_suffix ws line
    exact ((s1.trans s2).trans s3).subset h1
  · cases h

theorem readTable_shape (fw : FW) (b : List Str) (sl : Nat) (fw' : FW) (h : readTable fw = some (b, sl, fw')) :
    ∃ l0 l1 rest, b = l0 :: l1 :: rest ∧ delimiterRow l1 = true :=
  let ⟨_, _, _, _, _, hs⟩ := readTable_ok h
  hs

theorem paragraphLoop_len (cfg : Cfg) (so : Bool) : ∀ (fuel : Nat) (fw : FW) (buf : List Str) (r),
    paragraphLoop cfg so fuel fw buf = .ok r → buf.length ≤ r.1.length ∧ (r.2.1 = true → buf.length + 1 ≤ r.1.length)
  | 0, _, _, _, h => by simp [paragraphLoop] at h
  | fuel + 1, fw, buf, r, h => by
    rcases paragraphLoop_ok h with rfl | ⟨l, _, _, rfl | h'⟩
    · exact ⟨Nat.le_refl _, fun hh => by cases hh⟩
    · exact ⟨Nat.le_succ _, fun _ => Nat.le_refl _⟩
    · have := paragraphLoop_len cfg so fuel _ _ r h'
      simp only [List.length_cons] at this
      exact ⟨by omega, fun hh => by have := this.2 hh; omega⟩

/-- Paragraph.read: a setext buffer holds the content line(s) and the underline -/
theorem readParagraph_setext_len (cfg : Cfg) (so : Bool) (fw : FW) (l0 : Str) (b : List Str) (fw' : FW)
    (h : readParagraph cfg so fw l0 = .ok (b, true, fw')) : 2 ≤ b.length := by
  obtain ⟨buf, heq, hb⟩ := readParagraph_ok h
  have := (paragraphLoop_len cfg so _ _ _ _ heq).2 rfl
  rw [show b = buf.reverse from hb]
  simp only [List.length_cons, List.length_nil, List.length_reverse] at this ⊢
  omega

end Mistletoe.Block

namespace Mistletoe
open Mistletoe.Py

/-- a list marker as `ListItem.pattern` (`\d{1,9}[.)]|[+\-*]`) matches it: one of `-`, `+`, `*`, or 1–9 decimal
    digits (`\d`: Unicode decimal digits, `isDigit`) followed by `.` or `)` -/
def isMarker (ld : Str) : Bool :=
  if ld.length == 1 then ld == ['+'] || ld == ['-'] || ld == ['*']
  else !ld.dropLast.isEmpty && ld.dropLast.all isDigit && decide (ld.dropLast.length ≤ 9) &&
    (ld.getLast? == some '.' || ld.getLast? == some ')')

end Mistletoe

namespace Mistletoe.Block
open Mistletoe Mistletoe.Py Mistletoe.Scan

theorem listMarker_isMarker (r m r1 : Str) (h : listMarker r = some (m, r1)) : isMarker m = true := by
  unfold listMarker at h
  split at h
  · cases h
  · rename_i c rst
    split at h
    · rename_i hc
      cases h
      simp only [Bool.or_eq_true, beq_iff_eq] at hc
      rcases hc with (rfl | rfl) | rfl <;> rfl
    · simp only at h
      split at h
      · cases h
      · rename_i hlen
        simp only [Bool.or_eq_true, decide_eq_true_eq, not_or, Nat.not_lt] at hlen
        split at h
        · split at h
          · rename_i he
            cases h
            have hall : ((span isDigit (c :: rst)).1).all isDigit = true := by
              rw [List.all_eq_true]; exact span_all isDigit (c :: rst)
            have hne : ((span isDigit (c :: rst)).1).isEmpty = false := by
              cases hd : (span isDigit (c :: rst)).1 with
              | nil => rw [hd] at hlen; simp at hlen
              | cons _ _ => rfl
            have hl1 : ((span isDigit (c :: rst)).1).length ≠ 0 := by omega
            simp only [Bool.or_eq_true, beq_iff_eq] at he
            unfold isMarker
            simp only [List.length_append, List.length_cons, List.length_nil, List.dropLast_concat, hall, hne,
              List.getLast?_concat, beq_iff_eq]
            simp [hl1, hlen.2, he]
          · cases h
        · cases h

/-- what `List.__init__` needs of a leader: one character, or 1–9 digits and a delimiter
    (so `int(leader[:-1])` is defined) -/
def LeaderOk (ld : Str) : Prop :=
  ld.length = 1 ∨ (ld.dropLast ≠ [] ∧ ld.dropLast.all isDigit = true ∧ ld.dropLast.length ≤ 9)

theorem leaderOk_of_isMarker (ld : Str) (h : isMarker ld = true) : LeaderOk ld := by
  unfold isMarker at h
  by_cases h1 : ld.length = 1
  · exact .inl h1
  · simp only [beq_iff_eq, h1, if_false, Bool.and_eq_true, decide_eq_true_eq, Bool.not_eq_true', List.isEmpty_eq_false_iff] at h
    exact .inr ⟨h.1.1.1, h.1.1.2, h.1.2⟩

theorem listMarker_leader (r m r1 : Str) (h : listMarker r = some (m, r1)) : LeaderOk m :=
  leaderOk_of_isMarker m (listMarker_isMarker r m r1 h)

/-! ## Every parse buffer is well-formed -/

mutual
/-- what the block token constructors rely on, at every nesting depth -/
def EntryWF : Entry → Prop
  | .blockCode _ _ _ => True
  | .heading lvl _ _ _ _ => 1 ≤ lvl ∧ lvl ≤ 6
  | .quote inner _ _ _ => EntriesWF inner
  | .codeFence _ _ _ _ _ _ _ => True
  | .thematicBreak _ _ _ => True
  | .list items _ _ => items ≠ [] ∧ ItemsWF items
  | .table lines _ _ _ => ∃ l0 l1 rest, lines = l0 :: l1 :: rest ∧ delimiterRow l1 = true ∧ l1.contains '-' = true
  | .footnote ms _ _ => ms ≠ []
  | .linkRefDefs ms _ _ => ms ≠ []
  | .paragraph lines _ _ => lines ≠ []
  | .setext lines _ _ => 2 ≤ lines.length
  | .htmlBlock _ _ _ => True
  | .blankLine _ _ => True
def EntriesWF : List Entry → Prop
  | [] => True
  | e :: es => EntryWF e ∧ EntriesWF es
def ItemWF : Item → Prop
  | .mk inner _ _ _ leader _ _ => LeaderOk leader ∧ EntriesWF inner
def ItemsWF : List Item → Prop
  | [] => True
  | i :: is => ItemWF i ∧ ItemsWF is
end

theorem contains_of_mem (s : Str) (c : Char) (h : c ∈ s) : s.contains c = true := by
  simpa using h

theorem readParagraph_ne (cfg : Cfg) (so : Bool) (fw : FW) (l0 : Str) (b : List Str) (fw' : FW)
    (h : readParagraph cfg so fw l0 = .ok (b, false, fw')) : b ≠ [] := by
  obtain ⟨buf, heq, hb⟩ := readParagraph_ok h
  have := (paragraphLoop_len cfg _ _ _ _ _ heq).1
  intro e0
  rw [show b = buf.reverse from hb, List.reverse_eq_nil_iff] at e0
  rw [e0] at this; simp at this

/- Every entry is what the reader of its class returned (`EntryFrom`), and what each reader returns is what the
   constructors rely on: no hypothesis on the lines is needed. -/
mutual
theorem entryWF_of_from {ts : List BTok} : ∀ (e : Entry), EntryFrom ts e → EntryWF e
  | .blockCode _ _ _, _ => trivial
  | .heading lvl c cl _ _, ⟨fw, line, fw', h⟩ => readHeading_level fw line lvl c cl fw' h
  | .quote inner _ _ _, h => entriesWF_of_from inner h
  | .codeFence _ _ _ _ _ _ _, _ => trivial
  | .thematicBreak _ _ _, _ => trivial
  | .list items _ _, h => ⟨h.1, itemsWF_of_from items h.2⟩
  | .table b sl _ _, ⟨fw, fw', h⟩ => by
    obtain ⟨l0, l1, rest, hb, hd⟩ := readTable_shape fw b sl fw' h
    exact ⟨l0, l1, rest, hb, hd, contains_of_mem _ _ (delimiterRow_dash l1 hd)⟩
  | .footnote _ _ _, h => h
  | .linkRefDefs _ _ _, h => h.2.1
  | .paragraph b _ _, ⟨cfg, so, fw, line, fw', h⟩ => readParagraph_ne cfg so fw line b fw' h
  | .setext b _ _, ⟨cfg, so, fw, line, fw', h⟩ => readParagraph_setext_len cfg so fw line b fw' h
  | .htmlBlock _ _ _, _ => trivial
  | .blankLine _ _, _ => trivial
theorem entriesWF_of_from {ts : List BTok} : ∀ (es : List Entry), EntriesFrom ts es → EntriesWF es
  | [], _ => trivial
  | e :: es, h => ⟨entryWF_of_from e h.1, entriesWF_of_from es h.2⟩
theorem itemsWF_of_from {ts : List BTok} : ∀ (is : List Item), ItemsFrom ts is → ItemsWF is
  | [], _ => trivial
  | .mk inner _ _ _ _ _ _ :: is, ⟨⟨⟨r, r1, hm⟩, hi⟩, his⟩ =>
    ⟨⟨listMarker_leader r _ r1 hm, entriesWF_of_from inner hi⟩, itemsWF_of_from is his⟩
end

/-- **every parse buffer `tokenize_block` returns is well-formed**, at every nesting depth, whatever the lines -/
theorem tokenizeBlock_wf (cfg : Cfg) (gas : Nat) (lines : List Line) (start : Nat) (st : St) (b : Buf) (st' : St)
    (h : tokenizeBlock cfg gas lines start st = .ok (b, st')) : EntriesWF b.entries :=
  entriesWF_of_from _ ((all_from cfg gas).1 lines start st b st' h)

/-- (the hypothesis on the lines is not needed; the callers have it) -/
theorem blockPhase_wf (cfg : Cfg) (gas : Nat) (lines : List Str) (b : Buf) (st : St)
    (_hl : ∀ s ∈ lines, NlEnd s) (h : blockPhase cfg gas lines = .ok (b, st)) : EntriesWF b.entries :=
  tokenizeBlock_wf cfg gas _ 1 {} b st h

/-! ### The range facts, for every entry at any depth (for C12) -/

mutual
/-- the entry and every entry nested in it -/
def subEntries : Entry → List Entry
  | .blockCode a b c => [.blockCode a b c]
  | .heading a b c d e => [.heading a b c d e]
  | .quote inner a b c => .quote inner a b c :: subEntriesL inner
  | .codeFence a b c d e f g => [.codeFence a b c d e f g]
  | .thematicBreak a b c => [.thematicBreak a b c]
  | .list items a b => .list items a b :: subEntriesI items
  | .table a b c d => [.table a b c d]
  | .footnote a b c => [.footnote a b c]
  | .linkRefDefs a b c => [.linkRefDefs a b c]
  | .paragraph a b c => [.paragraph a b c]
  | .setext a b c => [.setext a b c]
  | .htmlBlock a b c => [.htmlBlock a b c]
  | .blankLine a b => [.blankLine a b]
def subEntriesL : List Entry → List Entry
  | [] => []
  | e :: es => subEntries e ++ subEntriesL es
def subEntriesI : List Item → List Entry
  | [] => []
  | .mk inner _ _ _ _ _ _ :: is => subEntriesL inner ++ subEntriesI is
end

mutual
theorem subEntries_wf : ∀ (e : Entry), EntryWF e → ∀ x ∈ subEntries e, EntryWF x
  | .blockCode a b c, h, x, hx => by simp only [subEntries, List.mem_singleton] at hx; subst hx; exact h
  | .heading a b c d e, h, x, hx => by simp only [subEntries, List.mem_singleton] at hx; subst hx; exact h
  | .quote inner a b c, h, x, hx => by
    simp only [subEntries, List.mem_cons] at hx
    rcases hx with rfl | hx
    · exact h
    · exact subEntriesL_wf inner (by simpa [EntryWF] using h) x hx
  | .codeFence a b c d e f g, h, x, hx => by simp only [subEntries, List.mem_singleton] at hx; subst hx; exact h
  | .thematicBreak a b c, h, x, hx => by simp only [subEntries, List.mem_singleton] at hx; subst hx; exact h
  | .list items a b, h, x, hx => by
    simp only [subEntries, List.mem_cons] at hx
    rcases hx with rfl | hx
    · exact h
    · exact subEntriesI_wf items (by simp only [EntryWF] at h; exact h.2) x hx
  | .table a b c d, h, x, hx => by simp only [subEntries, List.mem_singleton] at hx; subst hx; exact h
  | .footnote a b c, h, x, hx => by simp only [subEntries, List.mem_singleton] at hx; subst hx; exact h
  | .linkRefDefs a b c, h, x, hx => by simp only [subEntries, List.mem_singleton] at hx; subst hx; exact h
  | .paragraph a b c, h, x, hx => by simp only [subEntries, List.mem_singleton] at hx; subst hx; exact h
  | .setext a b c, h, x, hx => by simp only [subEntries, List.mem_singleton] at hx; subst hx; exact h
  | .htmlBlock a b c, h, x, hx => by simp only [subEntries, List.mem_singleton] at hx; subst hx; exact h
  | .blankLine a b, h, x, hx => by simp only [subEntries, List.mem_singleton] at hx; subst hx; exact h
theorem subEntriesL_wf : ∀ (es : List Entry), EntriesWF es → ∀ x ∈ subEntriesL es, EntryWF x
  | [], _, x, hx => by simp [subEntriesL] at hx
  | e :: es, h, x, hx => by
    simp only [subEntriesL, List.mem_append] at hx
    simp only [EntriesWF] at h
    rcases hx with hx | hx
    · exact subEntries_wf e h.1 x hx
    · exact subEntriesL_wf es h.2 x hx
theorem subEntriesI_wf : ∀ (is : List Item), ItemsWF is → ∀ x ∈ subEntriesI is, EntryWF x
  | [], _, x, hx => by simp [subEntriesI] at hx
  | .mk inner a b c d e f :: is, h, x, hx => by
    simp only [subEntriesI, List.mem_append] at hx
    simp only [ItemsWF, ItemWF] at h
    rcases hx with hx | hx
    · exact subEntriesL_wf inner h.1.2 x hx
    · exact subEntriesI_wf is h.2 x hx
end

/-- **every heading the block phase produces, at any depth, has a level in 1..6** -/
theorem blockPhase_heading_level (cfg : Cfg) (gas : Nat) (lines : List Str) (b : Buf) (st : St)
    (hl : ∀ s ∈ lines, NlEnd s) (h : blockPhase cfg gas lines = .ok (b, st))
    (lvl : Nat) (c cl : Str) (ln og : Nat) (hm : Entry.heading lvl c cl ln og ∈ subEntriesL b.entries) : 1 ≤ lvl ∧ lvl ≤ 6 := by
  have := subEntriesL_wf _ (blockPhase_wf cfg gas lines b st hl h) _ hm
  simpa [EntryWF] using this

/-- **every list the block phase produces, at any depth, has at least one item**, and the leader of
    every item is a bullet or 1–9 digits followed by a delimiter -/
theorem blockPhase_list_nonempty (cfg : Cfg) (gas : Nat) (lines : List Str) (b : Buf) (st : St)
    (hl : ∀ s ∈ lines, NlEnd s) (h : blockPhase cfg gas lines = .ok (b, st))
    (items : List Item) (ln og : Nat) (hm : Entry.list items ln og ∈ subEntriesL b.entries) : 1 ≤ items.length ∧ ItemsWF items := by
  have := subEntriesL_wf _ (blockPhase_wf cfg gas lines b st hl h) _ hm
  simp only [EntryWF] at this
  refine ⟨?_, this.2⟩
  cases items with
  | nil => exact absurd rfl this.1
  | cons x xs => simp

end Mistletoe.Block

namespace Mistletoe.Document
open Mistletoe Mistletoe.Py Mistletoe.Scan Mistletoe.Block Mistletoe.Inline

/-! ## The block token constructors never raise on a well-formed buffer -/

/-- the hypothesis on the inline phase: `tokenize_inner` returns (discharged by `tokenizeInner_ok`, `Proofs/CoreTotal.lean`) -/
def InlineTotal (cfg : Cfg) : Prop := ∀ (fn : Footnotes.Table) (s : Str), ∃ ks, tokenizeInner cfg.span fn s = .ok ks

theorem inl_noerr (cfg : Cfg) (fn : Footnotes.Table) (hinl : InlineTotal cfg) (s : Str) (e : Err) :
    tokenizeInner cfg.span fn s ≠ .err e := by
  obtain ⟨ks, hks⟩ := hinl fn s
  rw [hks]; intro h; cases h

theorem tableRow_go_ok (cfg : Cfg) (fn : Footnotes.Table) (hinl : InlineTotal cfg) (ln : Nat) :
    ∀ (zs : List (Option Str × Option Nat)), ∃ cs, tableRow.go cfg fn ln zs = .ok cs
  | [] => ⟨[], rfl⟩
  | (c, a) :: rest => by
    simp only [tableRow.go, inl]
    obtain ⟨more, hmore⟩ := tableRow_go_ok cfg fn hinl ln rest
    split
    · rename_i e heq; exact absurd heq (inl_noerr cfg fn hinl _ e)
    · rw [hmore]; exact ⟨_, rfl⟩

theorem tableRow_ok (cfg : Cfg) (fn : Footnotes.Table) (hinl : InlineTotal cfg) (line : Str) (al : List (Option Nat)) (ln : Nat) :
    ∃ r, tableRow cfg fn line al ln = .ok r := by
  unfold tableRow
  simp only
  obtain ⟨cs, hcs⟩ := tableRow_go_ok cfg fn hinl ln
    (zipLongest ((splitPipes (strip line) none []).filter (fun c => !c.isEmpty)) (if al.isEmpty then [none] else al))
  rw [hcs]
  exact ⟨_, rfl⟩

theorem tableRows_ok (cfg : Cfg) (fn : Footnotes.Table) (hinl : InlineTotal cfg) :
    ∀ (ls : List Str) (al : List (Option Nat)) (ln : Nat), ∃ rs, tableRows cfg fn ls al ln = .ok rs
  | [], _, _ => ⟨[], rfl⟩
  | l :: rest, al, ln => by
    simp only [tableRows]
    obtain ⟨r, hr⟩ := tableRow_ok cfg fn hinl l al ln
    obtain ⟨more, hmore⟩ := tableRows_ok cfg fn hinl rest al (ln + 1)
    rw [hr, hmore]
    exact ⟨_, rfl⟩

theorem parseAlign_ok (col : Str) (h : col ≠ []) : ∃ a, parseAlign col = .ok a := by
  unfold parseAlign
  cases col with
  | nil => exact absurd rfl h
  | cons c r =>
    have : (c :: r).getLast? = some ((c :: r).getLast (by simp)) := List.getLast?_eq_some_getLast (by simp)
    rw [this]
    exact ⟨_, rfl⟩

theorem mapRes_parseAlign_ok : ∀ (cols : List Str), (∀ c ∈ cols, c ≠ []) → ∃ al, mapRes parseAlign cols = .ok al
  | [], _ => ⟨[], rfl⟩
  | c :: cs, h => by
    simp only [mapRes]
    obtain ⟨a, ha⟩ := parseAlign_ok c (h c (by simp))
    obtain ⟨as, has⟩ := mapRes_parseAlign_ok cs (fun x hx => h x (List.mem_cons_of_mem _ hx))
    rw [ha, has]
    exact ⟨_, rfl⟩

theorem mkBlocks_cons_ok {cfg : Cfg} {fn : Footnotes.Table} {e : Entry} {es : List Entry} {bs : List Mistletoe.Block}
    (h : mkBlocks cfg fn (e :: es) = .ok bs) :
    ∃ b more, mkBlock cfg fn e = .ok b ∧ mkBlocks cfg fn es = .ok more ∧
      bs = (match b with | some x => x :: more | none => more) := by
  simp only [mkBlocks] at h
  split at h
  · cases h
  · rename_i b hb
    split at h
    · cases h
    · rename_i more hm
      cases h
      exact ⟨b, more, hb, hm, rfl⟩

theorem mkItems_cons_ok {cfg : Cfg} {fn : Footnotes.Table} {inner : List Entry} {lo : Bool} {ind pre : Nat} {ld : Str}
    {ln og : Nat} {rest : List Item} {bs : List Mistletoe.Block}
    (h : mkItems cfg fn (.mk inner lo ind pre ld ln og :: rest) = .ok bs) :
    ∃ kids more, mkBlocks cfg fn inner = .ok kids ∧ mkItems cfg fn rest = .ok more ∧
      bs = .listItem ld ind pre lo kids ln :: more := by
  simp only [mkItems] at h
  split at h
  · cases h
  · rename_i kids hk
    split at h
    · cases h
    · rename_i more hm
      cases h
      exact ⟨kids, more, hk, hm, rfl⟩

/-! What a block token constructor that returned was given and what it built (always a token): one statement for each
    class whose constructor runs the inline phase or other constructors. -/

section
variable {cfg : Cfg} {fn : Footnotes.Table} {ob : Option Mistletoe.Block} {ln og : Nat}

theorem mkBlock_heading_ok {lvl : Nat} {content closing : Str}
    (h : mkBlock cfg fn (.heading lvl content closing ln og) = .ok ob) :
    ∃ kids, inl cfg fn content = .ok kids ∧ ob = some (.heading lvl closing kids ln) := by
  simp only [mkBlock] at h
  split at h
  · cases h
  · rename_i kids hk
    cases h
    exact ⟨kids, hk, rfl⟩

theorem mkBlock_quote_ok {inner : List Entry} {lo : Bool}
    (h : mkBlock cfg fn (.quote inner lo ln og) = .ok ob) :
    ∃ kids, mkBlocks cfg fn inner = .ok kids ∧ ob = some (.quote kids ln) := by
  simp only [mkBlock] at h
  split at h
  · cases h
  · rename_i kids hk
    cases h
    exact ⟨kids, hk, rfl⟩

/-- `List.__init__`: the items, `loose` from the items, `start` from the first item's leader -/
theorem mkBlock_list_ok {items : List Item}
    (h : mkBlock cfg fn (.list items ln og) = .ok ob) :
    ∃ inner lo ind pre leader iln iog rest its, items = .mk inner lo ind pre leader iln iog :: rest ∧
      mkItems cfg fn items = .ok its ∧
      ob = some (.list (its.any (fun b => match b with | .listItem _ _ _ l _ _ => l | _ => false))
            (if leader.length != 1 then some (parseNat leader.dropLast) else none) its ln) := by
  simp only [mkBlock] at h
  split at h
  · cases h
  · rename_i its hits
    split at h
    · cases h
    · cases h
      exact ⟨_, _, _, _, _, _, _, _, its, rfl, hits, rfl⟩

/-- `Table.__init__`: with a delimiter row the first line is the header; without a `-` in the second line every
    line is a row -/
theorem mkBlock_table_ok {lines : List Str} {sl : Nat}
    (h : mkBlock cfg fn (.table lines sl ln og) = .ok ob) :
    ∃ l0 l1 rest, lines = l0 :: l1 :: rest ∧
      ((l1.contains '-' = true ∧ ∃ align header rows, mapRes parseAlign (findAligns l1) = .ok align ∧
          tableRow cfg fn l0 align sl = .ok header ∧ tableRows cfg fn rest align (sl + 2) = .ok rows ∧
          ob = some (.table align [header] rows ln)) ∨
       (l1.contains '-' = false ∧ ∃ rows, tableRows cfg fn lines [] sl = .ok rows ∧ ob = some (.table [none] [] rows ln))) := by
  simp only [mkBlock] at h
  split at h
  · rename_i l0 l1 rest
    refine ⟨l0, l1, rest, rfl, ?_⟩
    split at h
    · rename_i hdash
      split at h
      · cases h
      · rename_i align hal
        split at h
        · cases h
        · rename_i header hh
          split at h
          · cases h
          · rename_i rows hr
            cases h
            exact .inl ⟨hdash, align, header, rows, hal, hh, hr, rfl⟩
    · rename_i hdash
      split at h
      · cases h
      · rename_i rows hr
        cases h
        exact .inr ⟨by simpa using hdash, rows, hr, rfl⟩
  · cases h

theorem mkBlock_paragraph_ok {lines : List Str}
    (h : mkBlock cfg fn (.paragraph lines ln og) = .ok ob) :
    ∃ kids, inl cfg fn (strip (lines.map lstrip).flatten) = .ok kids ∧ ob = some (.paragraph kids ln) := by
  simp only [mkBlock] at h
  split at h
  · cases h
  · rename_i kids hk
    cases h
    exact ⟨kids, hk, rfl⟩

theorem mkBlock_setext_ok {lines : List Str}
    (h : mkBlock cfg fn (.setext lines ln og) = .ok ob) :
    ∃ last kids, lines.getLast? = some last ∧ inl cfg fn (joinNl (lines.dropLast.map strip)) = .ok kids ∧
      ob = some (.setextHeading (if (rstrip last).getLast? == some '=' then 1 else 2) (rstrip last) kids ln) := by
  simp only [mkBlock] at h
  split at h
  · cases h
  · rename_i last hlast
    split at h
    · cases h
    · rename_i kids hk
      cases h
      exact ⟨last, kids, hlast, hk, rfl⟩

end

mutual
theorem mkBlock_ok (cfg : Cfg) (fn : Footnotes.Table) (hinl : InlineTotal cfg) :
    ∀ (e : Entry), EntryWF e → ∃ b, mkBlock cfg fn e = .ok b
  | .blockCode ls ln og, _ => by simp only [mkBlock]; exact ⟨_, rfl⟩
  | .heading lvl content closing ln og, _ => by
    obtain ⟨ks, hks⟩ := hinl fn content
    simp only [mkBlock, inl, hks]; exact ⟨_, rfl⟩
  | .quote inner lo ln og, h => by
    obtain ⟨ks, hks⟩ := mkBlocks_ok cfg fn hinl inner (by simpa [EntryWF] using h)
    simp only [mkBlock, hks]; exact ⟨_, rfl⟩
  | .codeFence ls p ld info lang ln og, _ => by simp only [mkBlock]; exact ⟨_, rfl⟩
  | .thematicBreak line ln og, _ => by simp only [mkBlock]; exact ⟨_, rfl⟩
  | .list items ln og, h => by
    simp only [EntryWF] at h
    obtain ⟨its, hits⟩ := mkItems_ok cfg fn hinl items h.2
    simp only [mkBlock, hits]
    cases items with
    | nil => exact absurd rfl h.1
    | cons x xs => cases x; exact ⟨_, rfl⟩
  | .table lines sl ln og, h => by
    simp only [EntryWF] at h
    obtain ⟨l0, l1, rest, hlines, _, hdash⟩ := h
    subst hlines
    simp only [mkBlock, hdash, if_true]
    obtain ⟨al, hal⟩ := mapRes_parseAlign_ok (findAligns l1) (findAligns_ne l1)
    obtain ⟨hd, hhd⟩ := tableRow_ok cfg fn hinl l0 al sl
    obtain ⟨rs, hrs⟩ := tableRows_ok cfg fn hinl rest al (sl + 2)
    rw [hal]; simp only; rw [hhd]; simp only; rw [hrs]
    exact ⟨_, rfl⟩
  | .footnote ms ln og, _ => by simp only [mkBlock]; exact ⟨_, rfl⟩
  | .linkRefDefs ms ln og, _ => by simp only [mkBlock]; exact ⟨_, rfl⟩
  | .paragraph lines ln og, _ => by
    obtain ⟨ks, hks⟩ := hinl fn (strip (lines.map lstrip).flatten)
    simp only [mkBlock, inl, hks]; exact ⟨_, rfl⟩
  | .setext lines ln og, h => by
    simp only [EntryWF] at h
    have hne : lines ≠ [] := by intro e; rw [e] at h; simp at h
    obtain ⟨ks, hks⟩ := hinl fn (joinNl (lines.dropLast.map strip))
    simp only [mkBlock, List.getLast?_eq_some_getLast hne, inl, hks]; exact ⟨_, rfl⟩
  | .htmlBlock lines ln og, _ => by simp only [mkBlock]; exact ⟨_, rfl⟩
  | .blankLine ln og, _ => by simp only [mkBlock]; exact ⟨_, rfl⟩
theorem mkBlocks_ok (cfg : Cfg) (fn : Footnotes.Table) (hinl : InlineTotal cfg) :
    ∀ (es : List Entry), EntriesWF es → ∃ bs, mkBlocks cfg fn es = .ok bs
  | [], _ => by simp only [mkBlocks]; exact ⟨_, rfl⟩
  | e :: es, h => by
    simp only [EntriesWF] at h
    obtain ⟨b, hb⟩ := mkBlock_ok cfg fn hinl e h.1
    obtain ⟨bs, hbs⟩ := mkBlocks_ok cfg fn hinl es h.2
    simp only [mkBlocks, hb, hbs]; exact ⟨_, rfl⟩
theorem mkItems_ok (cfg : Cfg) (fn : Footnotes.Table) (hinl : InlineTotal cfg) :
    ∀ (is : List Item), ItemsWF is → ∃ bs, mkItems cfg fn is = .ok bs
  | [], _ => by simp only [mkItems]; exact ⟨_, rfl⟩
  | .mk inner lo ind pre ld ln og :: rest, h => by
    simp only [ItemsWF, ItemWF] at h
    obtain ⟨ks, hks⟩ := mkBlocks_ok cfg fn hinl inner h.1.2
    obtain ⟨more, hmore⟩ := mkItems_ok cfg fn hinl rest h.2
    simp only [mkItems, hks, hmore]; exact ⟨_, rfl⟩
end

/-- **`Document(lines)` terminates and returns** with `gasBound` gas -/
theorem parseLines_total (cfg : Cfg) (gas : Nat) (lines : List Str) (hl : ∀ s ∈ lines, NlEnd s)
    (hinl : ∀ fn s, ∃ ks, tokenizeInner cfg.span fn s = .ok ks)
    (hg : gasBound cfg.block (docBuf lines) ≤ gas) : ∃ d, parseLines cfg gas lines = .ok d := by
  obtain ⟨⟨buf, st⟩, hb⟩ := blockPhase_total cfg.block gas lines hl hg
  obtain ⟨bs, hbs⟩ := mkBlocks_ok cfg (footnotesOf st.defs) hinl buf.entries (blockPhase_wf cfg.block gas lines buf st hl hb)
  exact ⟨_, Pipeline.parseLines_of_phase hb hbs⟩

end Mistletoe.Document

namespace Mistletoe.Block
open Mistletoe Mistletoe.Py Mistletoe.Scan

/-! ## The inner fuels never truncate

  With more fuel than lines remain the fuel-0 branch is never the one that ends a reader's loop: the result does not
  depend on the fuel.  Every caller passes `fw.remaining + 1` (or more) for a cursor at or after `fw`.  For the six
  loops that return what they have at fuel 0 this is `loop_fuel` (Proofs/Block.lean); the loops that report `.err .fuel`
  follow here, each one round of its loop under `fuel_irrelevant_fw` (`fuel_irrelevant` with the length of the text
  for the scanners). -/

theorem paragraphLoop_fuel (cfg : Cfg) (so : Bool) : ∀ (fuel fuel' : Nat) (fw : FW), fw.remaining < fuel → fw.remaining < fuel' →
    ∀ buf, paragraphLoop cfg so fuel fw buf = paragraphLoop cfg so fuel' fw buf :=
  fuel_irrelevant_fw fun f f' fw ih buf => by
    cases hp : fw.peek with
    | none => simp only [paragraphLoop, hp]
    | some l => simp only [paragraphLoop, hp, ih l hp]

theorem quoteLoop_fuel (cfg : Cfg) : ∀ (fuel fuel' : Nat) (fw : FW), fw.remaining < fuel → fw.remaining < fuel' →
    ∀ buf fl, quoteLoop cfg fuel fw buf fl = quoteLoop cfg fuel' fw buf fl :=
  fuel_irrelevant_fw fun f f' fw ih buf fl => by
    cases hp : fw.peek with
    | none => simp only [quoteLoop, hp]
    | some l => simp only [quoteLoop, hp, ih l hp]

theorem itemLoop_fuel (cfg : Cfg) (pre : Nat) : ∀ (fuel fuel' : Nat) (fw : FW), fw.remaining < fuel → fw.remaining < fuel' →
    ∀ buf nl, itemLoop cfg pre fuel fw buf nl = itemLoop cfg pre fuel' fw buf nl :=
  fuel_irrelevant_fw fun f f' fw ih buf nl => by
    cases hp : fw.peek with
    | none => simp only [itemLoop, hp]
    | some l => simp only [itemLoop, hp, ih l hp]

/-- `footnoteRefs` counts `s.length - off` down -/
theorem footnoteRefs_fuel (s : Str) : ∀ (fuel fuel' off : Nat), s.length - off < fuel → s.length - off < fuel' →
    ∀ acc, footnoteRefs s fuel off acc = footnoteRefs s fuel' off acc :=
  fuel_irrelevant (s.length - ·) fun f f' off ih acc => by
    simp only [footnoteRefs]
    split
    · rename_i hlt
      split
      · rfl
      · rfl
      · rename_i next m hm
        have := (matchReference_spec s off next m hm).1
        exact ih next (by omega) _
    · rfl

/-! ### the fuelled scanners: `column_align_pattern.findall`, the tail of
    `Table.delimiter_row_pattern`, the attribute loop of `HtmlBlock.custom_tag` -/

theorem alignCol_lt (s m r : Str) (h : alignCol s = some (m, r)) : r.length < s.length := by
  obtain ⟨rfl, hm⟩ := alignCol_inv h
  have := List.length_pos_of_mem hm
  simp only [List.length_append]; omega

theorem alignCols_fuel : ∀ (fuel fuel' : Nat) (s : Str), s.length < fuel → s.length < fuel' →
    alignCols fuel s = alignCols fuel' s :=
  fuel_irrelevant List.length fun f f' s ih => by
    cases s with
    | nil => simp only [alignCols]
    | cons c rest =>
      simp only [alignCols]
      split
      · rename_i m r hm
        rw [ih r (alignCol_lt _ _ _ hm)]
      · exact ih rest (Nat.lt_succ_self _)

theorem delimRest_fuel : ∀ (fuel fuel' : Nat) (s : Str), s.length < fuel → s.length < fuel' →
    delimRest fuel s = delimRest fuel' s :=
  fuel_irrelevant List.length fun f f' s ih => by
    simp only [delimRest]
    have h1 := span_snd_len ws s
    split
    · rfl
    · rename_i r1 heq
      rw [heq] at h1
      simp only [List.length_cons] at h1
      have h2 := span_snd_len ws r1
      split
      · rename_i m r3 hm
        have := alignCol_lt _ _ _ hm
        exact ih r3 (by omega)
      · rfl
    · rfl

def dropPipe (r : Str) : Str := match r with | '|' :: x => x | _ => r

theorem dropPipe_len (r : Str) : (dropPipe r).length ≤ r.length := by
  unfold dropPipe; split <;> simp

/-- `delimiterRow` with the fuel of its tail loop as a parameter -/
def delimiterRowWith (fuel : Nat) (line : Str) : Bool :=
  let (_, r) := span ws line
  let r1 := dropPipe r
  let (_, r2) := span ws r1
  match alignCol r2 with
  | some (_, r3) => delimRest fuel r3
  | none => false

theorem delimiterRow_eq_with (line : Str) : delimiterRow line = delimiterRowWith (line.length + 1) line := rfl

theorem delimiterRowWith_fuel (line : Str) (fuel fuel' : Nat) (h : line.length < fuel) (h' : line.length < fuel') :
    delimiterRowWith fuel line = delimiterRowWith fuel' line := by
  unfold delimiterRowWith
  simp only
  split
  · rename_i m r3 hm
    have h3 := alignCol_lt _ _ _ hm
    have s1 := span_snd_len ws (dropPipe (span ws line).2)
    have s2 := dropPipe_len (span ws line).2
    have s3 := span_snd_len ws line
    exact delimRest_fuel _ _ r3 (by omega) (by omega)
  · rfl

theorem findAligns_fuel (row : Str) (fuel : Nat) (h : row.length < fuel) : findAligns row = alignCols fuel row :=
  alignCols_fuel _ _ row (by omega) h

/-! `findAligns` is the scanner at a fuel that suffices: its equations, in which no fuel appears -/

theorem findAligns_nil : findAligns [] = [] := rfl

theorem findAligns_none {c : Char} {rest : Str} (h : alignCol (c :: rest) = none) :
    findAligns (c :: rest) = findAligns rest := by
  simp only [findAligns, List.length_cons, alignCols, h]

theorem findAligns_some {c : Char} {rest m r : Str} (h : alignCol (c :: rest) = some (m, r)) :
    findAligns (c :: rest) = m :: findAligns r := by
  have hl := alignCol_lt _ _ _ h
  simp only [List.length_cons] at hl
  simp only [findAligns, List.length_cons, alignCols, h]
  rw [alignCols_fuel (rest.length + 1) (r.length + 1) r (by omega) (by omega)]

theorem attrValue_len (s : Str) : (attrValue s).length ≤ s.length := (attrValue_suffix s).length_le

/-- the attribute loop of `_open_tag`: `openTag` passes `s.length + 1` for a suffix of `s` -/
theorem attrs_fuel : ∀ (fuel fuel' : Nat) (s : Str), s.length < fuel → s.length < fuel' → attrs fuel s = attrs fuel' s :=
  fuel_irrelevant List.length fun f f' s ih => by
    simp only [attrs]
    split
    · rfl
    · rename_i hw
      have hlt := span_snd_lt ws s (by intro e; apply hw; simp [e])
      split
      · rename_i c tl heq
        split
        · have h1 := span_snd_len nameChar (span ws s).2
          have h2 := attrValue_len (span nameChar (span ws s).2).2
          exact ih _ (by omega)
        · rfl
      · rfl

end Mistletoe.Block

namespace Mistletoe.Document
open Mistletoe Mistletoe.Py

/-- `escaped_pipe_pattern.sub`: `tableRow` passes `len(cell) + 1` -/
theorem unescapePipes_fuel : ∀ (fuel fuel' : Nat) (s : Str), s.length < fuel → s.length < fuel' →
    ∀ prev, unescapePipes fuel prev s = unescapePipes fuel' prev s :=
  Block.fuel_irrelevant List.length fun f f' s ih prev => by
    cases s with
    | nil => simp only [unescapePipes]
    | cons c rest =>
      simp only [unescapePipes]
      split
      · rw [ih _ (by simp only [List.drop_succ_cons, List.length_drop, List.length_cons]; omega)]
      · rw [ih rest (Nat.lt_succ_self _)]

end Mistletoe.Document
