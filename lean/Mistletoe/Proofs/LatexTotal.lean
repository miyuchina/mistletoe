/-
  C01 for the LaTeX renderer (`mistletoe/latex_renderer.py`, model `Model/Latex.lean`): on every
  document the parser produces under the LaTeX renderer's own token lists, the renderer returns a
  string — unless the document contains an inline code span in which every character of
  `verb_delimiters` occurs (the documented refusal, `RuntimeError('Unable to find delimiter for verb
  macro')`).  No other raise site of latex_renderer.py / `BaseRenderer.render` is reachable.

  `Latex.render` is total; the raise sites of the Python are put on top of it as `Latex.renderRes : Doc → Res Str`,
  built from `refusesBlocks` / `supportedBlocks` of Model/Latex.lean, with the exact domain on which it is `.ok`
  (`renderRes_isOk`); the refusal is exactly "some rendered inline code contains every delimiter"
  (`refusesBlocks_iff`).  A tree in the parser's range (`Range.BlocksIn`, Proofs/Range.lean) without HtmlBlock /
  BlankLine / LinkReferenceDefinitionBlock and with span classes of `clsLx` only (no HtmlSpan, GithubWiki, XWiki
  macro token; Math IS in the LaTeX list) is supported, its tables have `column_align` entries in {None, 0, 1} and a
  header that is absent or one TableRow (`blocksLx_of_in`).  `EntryLx` also describes the buffers of
  Proofs/HtmlFamilyTotal.lean.

  Raise sites of latex_renderer.py, read line by line against the model:
    * `render_inline_code`: RuntimeError when no delimiter is free      -> `refuses*`   (`.refusal 0`)
    * `BaseRenderer.render`: KeyError for a class without render_map entry (HtmlBlock, HtmlSpan,
      BlankLine, LinkReferenceDefinition(Block), GithubWiki, XWiki macros) -> `supported*` (`.key`)
    * `render_table.get_align`: an entry outside {None, 0, 1}.  The statement is
      `raise RuntimeError('Unrecognized align option: ' + col)`; with an `int` entry (the only kind
      `Table.parse_align` could ever give) evaluating `str + int` raises TypeError before the
      RuntimeError is built (run on the real code: `TypeError: can only concatenate str (not "int")
      to str`)                                                           -> `supported*` (`.type`)
    * NOT covered by `refuses*` / `supported*`: `render_table` calls `render_table_row(token.header)`
      DIRECTLY (not through the render map), and `Latex.renderRow` writes nothing for a header that is
      not a TableRow, where the Python would read `.children` of whatever token is there
      (AttributeError for a ThematicBreak, a string for a Paragraph).  `headersOkBlocks` below is the
      predicate for it (header absent, or exactly one TableRow — the model's `header : List Block`
      also has lists of two or more, which no Python object corresponds to); `renderRes` reports
      `.type` there, conservatively.
    * `token.children[0]` in `render_inline_code` / `render_block_code`: the AST of the model stores the
      content string itself (InlineCode, BlockCode, CodeFence always have exactly one RawText child).
    * `escape_url` -> `urllib.parse.quote`: raises UnicodeEncodeError on a lone surrogate.  Lean's
      `Char` has no surrogates (DESIGN.md: inputs come from UTF-8 text), so this is outside the model;
      `mistletoe.markdown('<http://a.b/\ud800>', LaTeXRenderer)` does raise on the real code.
-/
import Mistletoe.Proofs.ContribTotal
import Mistletoe.Model.Latex
import Mistletoe.Proofs.Lit

namespace Mistletoe.Config
open Mistletoe

/-- token lists while a `LaTeXRenderer` is active (regenerated from /repo): the default lists plus Math;
    no HtmlBlock, no HtmlSpan -/
def latex : Option Document.Cfg := cfgOf Gen.RenderMaps.latexBlockTokens Gen.RenderMaps.latexSpanTokens

end Mistletoe.Config

namespace Mistletoe.Latex
open Mistletoe Mistletoe.Block Mistletoe.Inline Mistletoe.Range

/-- `token.header`: absent, or one TableRow -/
def headerShape : List Mistletoe.Block → Bool
  | [] => true
  | [.tableRow ..] => true
  | _ => false

mutual
def headersOkBlock : Mistletoe.Block → Bool
  | .quote kids _ => headersOkBlocks kids
  | .list _ _ items _ => headersOkBlocks items
  | .listItem _ _ _ _ kids _ => headersOkBlocks kids
  | .table _ header rows _ => headerShape header && headersOkBlocks header && headersOkBlocks rows
  | .tableRow _ cells _ => headersOkBlocks cells
  | _ => true
def headersOkBlocks : List Mistletoe.Block → Bool
  | [] => true
  | b :: bs => headersOkBlock b && headersOkBlocks bs
end

mutual
def alignsOkBlock : Mistletoe.Block → Bool
  | .quote kids _ => alignsOkBlocks kids
  | .list _ _ items _ => alignsOkBlocks items
  | .listItem _ _ _ _ kids _ => alignsOkBlocks kids
  | .table cols header rows _ => cols.all alignOk && alignsOkBlocks header && alignsOkBlocks rows
  | .tableRow _ cells _ => alignsOkBlocks cells
  | _ => true
def alignsOkBlocks : List Mistletoe.Block → Bool
  | [] => true
  | b :: bs => alignsOkBlock b && alignsOkBlocks bs
end

mutual
/-- every token reached by the renderer has a `render_map` entry (`supportedBlock` without the
    `column_align` clause) -/
def classOkBlock : Mistletoe.Block → Bool
  | .paragraph k _ => supportedInlines k
  | .heading _ _ k _ => supportedInlines k
  | .setextHeading _ _ k _ => supportedInlines k
  | .quote kids _ => classOkBlocks kids
  | .list _ _ items _ => classOkBlocks items
  | .listItem _ _ _ _ kids _ => classOkBlocks kids
  | .table _ header rows _ => classOkBlocks header && classOkBlocks rows
  | .tableRow _ cells _ => classOkBlocks cells
  | .tableCell _ k _ => supportedInlines k
  | .htmlBlock .. => false
  | .blankLine _ => false
  | .linkRefDefBlock .. => false
  | _ => true
def classOkBlocks : List Mistletoe.Block → Bool
  | [] => true
  | b :: bs => classOkBlock b && classOkBlocks bs
end

mutual
/-- `supportedBlock` of Model/Latex.lean is: every class has a render-map entry, and every
    `column_align` entry is one `get_align` knows -/
theorem supportedBlock_split : ∀ (b : Mistletoe.Block), supportedBlock b = (classOkBlock b && alignsOkBlock b)
  | .paragraph .. => by simp [supportedBlock, classOkBlock, alignsOkBlock]
  | .heading .. => by simp [supportedBlock, classOkBlock, alignsOkBlock]
  | .setextHeading .. => by simp [supportedBlock, classOkBlock, alignsOkBlock]
  | .quote kids _ => by simp only [supportedBlock, classOkBlock, alignsOkBlock]; exact supportedBlocks_split kids
  | .blockCode .. => rfl
  | .codeFence .. => rfl
  | .list _ _ items _ => by simp only [supportedBlock, classOkBlock, alignsOkBlock]; exact supportedBlocks_split items
  | .listItem _ _ _ _ kids _ => by
    simp only [supportedBlock, classOkBlock, alignsOkBlock]; exact supportedBlocks_split kids
  | .table cols header rows _ => by
    simp only [supportedBlock, classOkBlock, alignsOkBlock]
    rw [supportedBlocks_split header, supportedBlocks_split rows]
    cases List.all cols alignOk <;> cases classOkBlocks header <;> cases alignsOkBlocks header <;>
      cases classOkBlocks rows <;> cases alignsOkBlocks rows <;> rfl
  | .tableRow _ cells _ => by
    simp only [supportedBlock, classOkBlock, alignsOkBlock]; exact supportedBlocks_split cells
  | .tableCell .. => by simp [supportedBlock, classOkBlock, alignsOkBlock]
  | .thematicBreak .. => rfl
  | .htmlBlock .. => rfl
  | .blankLine _ => rfl
  | .linkRefDefBlock .. => rfl
theorem supportedBlocks_split : ∀ (bs : List Mistletoe.Block), supportedBlocks bs = (classOkBlocks bs && alignsOkBlocks bs)
  | [] => rfl
  | b :: bs => by
    simp only [supportedBlocks, classOkBlocks, alignsOkBlocks]
    rw [supportedBlock_split b, supportedBlocks_split bs]
    exact Bool.and_and_and_comm _ _ _ _
end

/-- **`LaTeXRenderer().render(doc)` with its raise sites.**
    `.err (.refusal 0)`: some rendered inline code has no free `\verb` delimiter (RuntimeError, the
    documented refusal).  `.err .key`: some rendered token's class has no `render_map` entry (KeyError).
    `.err .type`: a `column_align` entry outside {None, 0, 1} (TypeError, see the file header), or a table
    header that is not one TableRow (outside what `Latex.render` describes).  Otherwise the string
    `Latex.render d`.

    When a tree has raise sites of several kinds the Python raises the one it meets first in rendering
    order; this view reports by kind (refusal, then class, then the rest).  On parsed documents only the
    refusal exists (`C01_latex_total_or_refusal`), so the order is immaterial there. -/
def renderRes (d : Doc) : Res Str :=
  if refusesBlocks d.kids then .err (.refusal 0)
  else if supportedBlocks d.kids && headersOkBlocks d.kids then .ok (render d)
  else if classOkBlocks d.kids then .err .type
  else .err .key

theorem renderRes_isOk (d : Doc) :
    (renderRes d).isOk = (!refusesBlocks d.kids && supportedBlocks d.kids && headersOkBlocks d.kids) := by
  unfold renderRes
  cases refusesBlocks d.kids <;> cases supportedBlocks d.kids <;> cases headersOkBlocks d.kids <;>
    cases classOkBlocks d.kids <;> rfl

theorem renderRes_ok (d : Doc) (h : renderRes d = .ok out) : out = render d := by
  unfold renderRes at h
  split at h
  · cases h
  · split at h
    · cases h; rfl
    · split at h <;> cases h

theorem renderRes_err (d : Doc) (e : Err) (h : renderRes d = .err e) :
    (e = .refusal 0 ∧ refusesBlocks d.kids = true) ∨
    (e = .key ∧ classOkBlocks d.kids = false) ∨
    (e = .type ∧ classOkBlocks d.kids = true ∧ (alignsOkBlocks d.kids = false ∨ headersOkBlocks d.kids = false)) := by
  unfold renderRes at h
  split at h
  · rename_i hr; cases h; exact .inl ⟨rfl, hr⟩
  · split at h
    · cases h
    · rename_i hs
      split at h
      · rename_i hc
        cases h
        refine .inr (.inr ⟨rfl, hc, ?_⟩)
        rw [supportedBlocks_split, hc] at hs
        cases ha : alignsOkBlocks d.kids
        · exact .inl rfl
        · cases hh : headersOkBlocks d.kids
          · exact .inr rfl
          · rw [ha, hh] at hs; exact absurd rfl hs
      · rename_i hc
        cases h
        exact .inr (.inl ⟨rfl, by simpa using hc⟩)

/-! ### the refusal, exactly: a rendered inline code in which every delimiter occurs -/

mutual
/-- the contents of the inline code spans `render_inline_code` is called on (the children of an image
    are not rendered) -/
def codesInline : Inline → List Str
  | .inlineCode _ _ c => [c]
  | .strong _ k => codesInlines k
  | .emphasis _ k => codesInlines k
  | .strikethrough k => codesInlines k
  | .link _ _ _ _ _ k => codesInlines k
  | _ => []
def codesInlines : List Inline → List Str
  | [] => []
  | i :: is => codesInline i ++ codesInlines is
end

mutual
def codesBlock : Mistletoe.Block → List Str
  | .paragraph k _ => codesInlines k
  | .heading _ _ k _ => codesInlines k
  | .setextHeading _ _ k _ => codesInlines k
  | .quote kids _ => codesBlocks kids
  | .list _ _ items _ => codesBlocks items
  | .listItem _ _ _ _ kids _ => codesBlocks kids
  | .table _ header rows _ => codesBlocks header ++ codesBlocks rows
  | .tableRow _ cells _ => codesBlocks cells
  | .tableCell _ k _ => codesInlines k
  | _ => []
def codesBlocks : List Mistletoe.Block → List Str
  | [] => []
  | b :: bs => codesBlock b ++ codesBlocks bs
end

def codes (d : Doc) : List Str := codesBlocks d.kids

def UsesAllDelims (c : Str) : Prop := ∀ x ∈ Gen.Chains.verbDelimiters, x ∈ c

theorem verbDelim_isNone (c : Str) : (verbDelim c).isNone = true ↔ UsesAllDelims c := by
  unfold verbDelim UsesAllDelims
  rw [Option.isNone_iff_eq_none, List.find?_eq_none]
  constructor
  · intro h x hx; simpa using h x hx
  · intro h x hx; simpa using h x hx

def noDelim (c : Str) : Bool := (verbDelim c).isNone

mutual
theorem refusesInline_any : ∀ (i : Inline), refusesInline i = (codesInline i).any noDelim
  | .inlineCode _ _ c => by simp [refusesInline, codesInline, noDelim]
  | .strong _ k => by simp only [refusesInline, codesInline]; exact refusesInlines_any k
  | .emphasis _ k => by simp only [refusesInline, codesInline]; exact refusesInlines_any k
  | .strikethrough k => by simp only [refusesInline, codesInline]; exact refusesInlines_any k
  | .link _ _ _ _ _ k => by simp only [refusesInline, codesInline]; exact refusesInlines_any k
  | .rawText _ => rfl
  | .image .. => rfl
  | .autoLink .. => rfl
  | .escapeSequence _ => rfl
  | .lineBreak .. => rfl
  | .math _ => rfl
  | .htmlSpan _ => rfl
  | .githubWiki .. => rfl
  | .xwikiMacroStart _ => rfl
  | .xwikiMacroEnd _ => rfl
  | .linkRefDef .. => rfl
theorem refusesInlines_any : ∀ (k : List Inline), refusesInlines k = (codesInlines k).any noDelim
  | [] => rfl
  | i :: is => by
    simp only [refusesInlines, codesInlines, List.any_append]
    rw [refusesInline_any i, refusesInlines_any is]
end

mutual
theorem refusesBlock_any : ∀ (b : Mistletoe.Block), refusesBlock b = (codesBlock b).any noDelim
  | .paragraph k _ => by simp only [refusesBlock, codesBlock]; exact refusesInlines_any k
  | .heading _ _ k _ => by simp only [refusesBlock, codesBlock]; exact refusesInlines_any k
  | .setextHeading _ _ k _ => by simp only [refusesBlock, codesBlock]; exact refusesInlines_any k
  | .quote kids _ => by simp only [refusesBlock, codesBlock]; exact refusesBlocks_any kids
  | .list _ _ items _ => by simp only [refusesBlock, codesBlock]; exact refusesBlocks_any items
  | .listItem _ _ _ _ kids _ => by simp only [refusesBlock, codesBlock]; exact refusesBlocks_any kids
  | .table _ header rows _ => by
    simp only [refusesBlock, codesBlock, List.any_append]
    rw [refusesBlocks_any header, refusesBlocks_any rows]
  | .tableRow _ cells _ => by simp only [refusesBlock, codesBlock]; exact refusesBlocks_any cells
  | .tableCell _ k _ => by simp only [refusesBlock, codesBlock]; exact refusesInlines_any k
  | .blockCode .. => rfl
  | .codeFence .. => rfl
  | .thematicBreak .. => rfl
  | .htmlBlock .. => rfl
  | .blankLine _ => rfl
  | .linkRefDefBlock .. => rfl
theorem refusesBlocks_any : ∀ (bs : List Mistletoe.Block), refusesBlocks bs = (codesBlocks bs).any noDelim
  | [] => rfl
  | b :: bs => by
    simp only [refusesBlocks, codesBlocks, List.any_append]
    rw [refusesBlock_any b, refusesBlocks_any bs]
end

theorem refusesBlocks_iff (bs : List Mistletoe.Block) :
    refusesBlocks bs = true ↔ ∃ c ∈ codesBlocks bs, UsesAllDelims c := by
  rw [refusesBlocks_any, List.any_eq_true]
  constructor
  · rintro ⟨c, hc, h⟩; exact ⟨c, hc, (verbDelim_isNone c).mp h⟩
  · rintro ⟨c, hc, h⟩; exact ⟨c, hc, (verbDelim_isNone c).mpr h⟩

theorem renderRes_ok_or_refusal (d : Doc) (hs : supportedBlocks d.kids = true) (hh : headersOkBlocks d.kids = true) :
    (∃ out, renderRes d = .ok out) ∨
    (renderRes d = .err (.refusal 0) ∧ ∃ c ∈ codes d, UsesAllDelims c) := by
  unfold renderRes
  cases hr : refusesBlocks d.kids
  · left; exact ⟨render d, by simp [hs, hh]⟩
  · right; exact ⟨by simp, (refusesBlocks_iff d.kids).mp hr⟩

/-! ### A tree in the parser's range, under token lists of classes with a render function, is supported -/

/-- the span-token classes whose tokens the LaTeX renderer can render (Math yes; HtmlSpan no) -/
def clsLx : STok → Bool
  | .htmlSpan => false
  | .githubWiki => false
  | .xwikiMacroStart => false
  | .xwikiMacroEnd => false
  | _ => true

section
variable {C : STok → Prop}

mutual
theorem supportedInline_of_in (hC : ∀ t, C t → clsLx t = true) :
    ∀ (i : Inline), InlineIn C i → supportedInline i = true
  | .rawText _, _ => rfl
  | .strong _ k, h => supportedInlines_of_in hC k h.2
  | .emphasis _ k, h => supportedInlines_of_in hC k h.2
  | .inlineCode .., _ => rfl
  | .strikethrough k, h => supportedInlines_of_in hC k h.2
  | .image .., _ => rfl
  | .link _ _ _ _ _ k, h => supportedInlines_of_in hC k h.2
  | .autoLink .., _ => rfl
  | .escapeSequence _, _ => rfl
  | .lineBreak .., _ => rfl
  | .htmlSpan _, h => hC _ h
  | .math _, _ => rfl
  | .githubWiki .., h => hC _ h.1
  | .xwikiMacroStart _, h => hC _ h
  | .xwikiMacroEnd _, h => hC _ h
  | .linkRefDef .., h => h.elim
theorem supportedInlines_of_in (hC : ∀ t, C t → clsLx t = true) :
    ∀ (k : List Inline), InlinesIn C k → supportedInlines k = true
  | [], _ => rfl
  | i :: is, h => by
    simp only [supportedInlines, Bool.and_eq_true]
    exact ⟨supportedInline_of_in hC i h.1, supportedInlines_of_in hC is h.2⟩
end
end

/-- what the renderer needs of a block: every class has a render function, `column_align` entries are
    known, headers are TableRows -/
def BlockLx (b : Mistletoe.Block) : Prop := supportedBlock b = true ∧ headersOkBlock b = true
def BlocksLx (bs : List Mistletoe.Block) : Prop := supportedBlocks bs = true ∧ headersOkBlocks bs = true

theorem blocksLx_cons {b : Mistletoe.Block} {bs : List Mistletoe.Block} (hb : BlockLx b) (hbs : BlocksLx bs) : BlocksLx (b :: bs) := by
  refine ⟨?_, ?_⟩
  · simp only [supportedBlocks, Bool.and_eq_true]; exact ⟨hb.1, hbs.1⟩
  · simp only [headersOkBlocks, Bool.and_eq_true]; exact ⟨hb.2, hbs.2⟩

theorem alignOk_of_in {a : Option Nat} (h : AlignIn a) : alignOk a = true := by
  rcases h with rfl | rfl | rfl <;> rfl

theorem headerShape_of_in {I : List Inline → Prop} {header : List Mistletoe.Block} (hlen : header.length ≤ 1)
    (hh : RowsIn I header) : headerShape header = true := by
  match header, hlen, hh with
  | [], _, _ => rfl
  | [r], _, hh =>
    obtain ⟨⟨_, _, _, rfl, _⟩, _⟩ := rowsIn_cons hh
    rfl

section
variable {K : BTok → Prop} {I : List Inline → Prop}

mutual
theorem blockLx_of_in (hhb : ¬ K .htmlBlock) (hbl : ¬ K .blankLine) (hlr : ¬ K .linkRefDefBlock)
    (hI : ∀ k, I k → supportedInlines k = true) :
    ∀ (b : Mistletoe.Block), BlockIn K I b → BlockLx b
  | .paragraph k _, h => ⟨hI k h, rfl⟩
  | .heading _ _ k _, h => ⟨hI k h, rfl⟩
  | .setextHeading _ _ k _, h => ⟨hI k h, rfl⟩
  | .quote kids _, h => blocksLx_of_in hhb hbl hlr hI kids h
  | .blockCode .., _ => ⟨rfl, rfl⟩
  | .codeFence .., _ => ⟨rfl, rfl⟩
  | .list _ _ items _, h => blocksLx_of_in hhb hbl hlr hI items h
  | .listItem _ _ _ _ kids _, h => blocksLx_of_in hhb hbl hlr hI kids h
  | .table al header rows _, ⟨hal, hlen, hh, hr⟩ => by
    have hH := blocksLx_of_in hhb hbl hlr hI header (rowsIn_blocksIn hh)
    have hR := blocksLx_of_in hhb hbl hlr hI rows (rowsIn_blocksIn hr)
    refine ⟨?_, ?_⟩
    · simp only [supportedBlock, Bool.and_eq_true, List.all_eq_true]
      exact ⟨⟨fun a ha => alignOk_of_in (hal a ha), hH.1⟩, hR.1⟩
    · simp only [headersOkBlock, Bool.and_eq_true]
      exact ⟨⟨headerShape_of_in hlen hh, hH.2⟩, hR.2⟩
  | .tableRow _ cells _, h => blocksLx_of_in hhb hbl hlr hI cells (cellsIn_blocksIn h)
  | .tableCell _ k _, h => ⟨hI k h.2, rfl⟩
  | .thematicBreak .., _ => ⟨rfl, rfl⟩
  | .htmlBlock .., h => (hhb h).elim
  | .blankLine _, h => (hbl h).elim
  | .linkRefDefBlock .., h => (hlr h).elim
theorem blocksLx_of_in (hhb : ¬ K .htmlBlock) (hbl : ¬ K .blankLine) (hlr : ¬ K .linkRefDefBlock)
    (hI : ∀ k, I k → supportedInlines k = true) :
    ∀ (bs : List Mistletoe.Block), BlocksIn K I bs → BlocksLx bs
  | [], _ => ⟨rfl, rfl⟩
  | b :: bs, h => blocksLx_cons (blockLx_of_in hhb hbl hlr hI b h.1) (blocksLx_of_in hhb hbl hlr hI bs h.2)
end
end

/-- **every document `Document(lines)` returns under token lists without HtmlBlock, BlankLine,
    LinkReferenceDefinitionBlock, HtmlSpan, GithubWiki and the XWiki macro tokens is a tree the LaTeX
    renderer has a render function for at every node, with known `column_align` entries and TableRow
    headers** — for every list of lines and every gas -/
theorem parseLines_lx (cfg : Document.Cfg)
    (hhb : .htmlBlock ∉ cfg.block.types) (hbl : .blankLine ∉ cfg.block.types) (hlr : .linkRefDefBlock ∉ cfg.block.types)
    (hsp : ∀ t ∈ cfg.span, clsLx t = true)
    (gas : Nat) (lines : List Str) (d : Doc) (h : Document.parseLines cfg gas lines = .ok d) : BlocksLx d.kids :=
  blocksLx_of_in hhb hbl hlr (fun _ => supportedInlines_of_in hsp _) _ (parseLines_in cfg gas lines d h)

theorem parse_lx (cfg : Document.Cfg)
    (hhb : .htmlBlock ∉ cfg.block.types) (hbl : .blankLine ∉ cfg.block.types) (hlr : .linkRefDefBlock ∉ cfg.block.types)
    (hsp : ∀ t ∈ cfg.span, clsLx t = true)
    (gas : Nat) (t : Str) (d : Doc) (h : Document.parse cfg gas t = .ok d) : BlocksLx d.kids :=
  parseLines_lx cfg hhb hbl hlr hsp gas _ d h

/-! ### The same stage by stage; nothing below uses `build_lx`, `mkBlock_lx`, `mkItems_lx` -/

theorem build_lx (s : Str) (found : List Found) (hf : ∀ f ∈ found, clsLx f.cls = true) :
    ∀ (o : Span.Out), supportedInline (build s found o) = true :=
  fun o => supportedInline_of_in (C := fun t => clsLx t = true) (fun _ h => h) _ (build_in s found hf o)

mutual
/-- no HtmlBlock, BlankLine or LinkReferenceDefinitionBlock entry, at any nesting depth -/
def EntryLx : Entry → Prop
  | .blockCode _ _ _ => True
  | .heading _ _ _ _ _ => True
  | .quote inner _ _ _ => EntriesLx inner
  | .codeFence _ _ _ _ _ _ _ => True
  | .thematicBreak _ _ _ => True
  | .list items _ _ => ItemsLx items
  | .table _ _ _ _ => True
  | .footnote _ _ _ => True
  | .linkRefDefs _ _ _ => False
  | .paragraph _ _ _ => True
  | .setext _ _ _ => True
  | .htmlBlock _ _ _ => False
  | .blankLine _ _ => False
def EntriesLx : List Entry → Prop
  | [] => True
  | e :: es => EntryLx e ∧ EntriesLx es
def ItemLx : Item → Prop
  | .mk inner _ _ _ _ _ _ => EntriesLx inner
def ItemsLx : List Item → Prop
  | [] => True
  | i :: is => ItemLx i ∧ ItemsLx is
end

mutual
theorem entryLx_in : ∀ (e : Entry), EntryLx e → EntryIn (fun _ => False) e
  | .blockCode _ _ _, _ => trivial
  | .heading _ _ _ _ _, _ => trivial
  | .quote inner _ _ _, h => entriesLx_in inner h
  | .codeFence _ _ _ _ _ _ _, _ => trivial
  | .thematicBreak _ _ _, _ => trivial
  | .list items _ _, h => itemsLx_in items h
  | .table _ _ _ _, _ => trivial
  | .footnote _ _ _, _ => trivial
  | .linkRefDefs _ _ _, h => h
  | .paragraph _ _ _, _ => trivial
  | .setext _ _ _, _ => trivial
  | .htmlBlock _ _ _, h => h
  | .blankLine _ _, h => h
theorem entriesLx_in : ∀ (es : List Entry), EntriesLx es → EntriesIn (fun _ => False) es
  | [], _ => trivial
  | e :: es, h => ⟨entryLx_in e h.1, entriesLx_in es h.2⟩
theorem itemsLx_in : ∀ (is : List Item), ItemsLx is → ItemsIn (fun _ => False) is
  | [], _ => trivial
  | .mk inner _ _ _ _ _ _ :: is, h => ⟨entriesLx_in inner h.1, itemsLx_in is h.2⟩
end

def InlLx (cfg : Document.Cfg) (fn : Footnotes.Table) : Prop :=
  ∀ (s : Str) (ks : List Inline), Document.inl cfg fn s = .ok ks → supportedInlines ks = true

theorem mkBlock_lx (cfg : Document.Cfg) (fn : Footnotes.Table) (hinl : InlLx cfg fn) :
    ∀ (e : Entry), EntryLx e → ∀ (b : Mistletoe.Block), Document.mkBlock cfg fn e = .ok (some b) → BlockLx b :=
  fun e he b h => blockLx_of_in id id id (fun _ h => h) b (mkBlock_in hinl e (entryLx_in e he) b h)

theorem mkItems_lx (cfg : Document.Cfg) (fn : Footnotes.Table) (hinl : InlLx cfg fn) :
    ∀ (is : List Item), ItemsLx is → ∀ (bs : List Mistletoe.Block), Document.mkItems cfg fn is = .ok bs → BlocksLx bs :=
  fun is hi bs h => blocksLx_of_in id id id (fun _ h => h) bs (mkItems_in hinl is (itemsLx_in is hi) bs h)

/-! ### The regenerated LaTeX configuration: parse-and-render returns a string or refuses -/

/-- the regenerated LaTeX lists, as the model reads them -/
theorem latex_eq : Config.latex = some
    { block := { types := [.blockCode, .heading, .quote, .codeFence, .thematicBreak, .list, .table, .footnote, .paragraph] },
      span := [.escapeSequence, .math, .strikethrough, .autoLink, .coreTokens, .inlineCode, .lineBreak] } :=
  Config.eq_of_lists _ _ _ _ (by decide +kernel)

theorem latex_parse_lx (cfg : Document.Cfg) (hc : Config.latex = some cfg) (gas : Nat) (t : Str) (d : Doc)
    (h : Document.parse cfg gas t = .ok d) : supportedBlocks d.kids = true ∧ headersOkBlocks d.kids = true := by
  cases Option.some.inj (hc.symm.trans latex_eq)
  exact parse_lx _ (by decide) (by decide) (by decide) (by decide) gas t d h

end Mistletoe.Latex

namespace Mistletoe.Config
open Mistletoe

/-- `LaTeXRenderer().render(Document(text))`: `none` if the configuration is unknown to the model, else the
    result of the parse model followed by `Latex.renderRes` -/
def renderLatex (gas : Nat) (text : Str) : Option (Res Str) :=
  match latex with
  | none => none
  | some cfg => some ((Document.parse cfg gas text).bind Latex.renderRes)

/-- parse-and-render under a known configuration: the test vectors evaluate parse and render, not the configuration -/
theorem renderLatex_of {cfg : Document.Cfg} (hc : latex = some cfg) (gas : Nat) (text : Str) :
    renderLatex gas text = some ((Document.parse cfg gas text).bind Latex.renderRes) := by
  rw [renderLatex, hc]

end Mistletoe.Config

namespace Mistletoe.Props.C01
open Mistletoe Mistletoe.Block Mistletoe.Lines Mistletoe.Latex

/-- **On a parsed document the LaTeX renderer returns a string, or raises the documented refusal — and
    then some inline code of the document contains every character of `verb_delimiters`.**  No KeyError
    (every class the parser can produce under the LaTeX token lists has a `render_map` entry: no HtmlBlock,
    HtmlSpan, BlankLine, LinkReferenceDefinitionBlock; Math is rendered), no failure of `get_align`
    (`Table.parse_align` gives None, 0 or 1), `token.header` is a TableRow whenever present. -/
theorem C01_latex_total_or_refusal (cfg : Document.Cfg) (hc : Config.latex = some cfg) (gas : Nat) (t : Str) (d : Doc)
    (h : Document.parse cfg gas t = .ok d) :
    (∃ out, Latex.renderRes d = .ok out) ∨
    (Latex.renderRes d = .err (.refusal 0) ∧ ∃ c ∈ Latex.codes d, Latex.UsesAllDelims c) := by
  obtain ⟨hs, hh⟩ := latex_parse_lx cfg hc gas t d h
  exact renderRes_ok_or_refusal d hs hh

/-- **Parse-and-render with the LaTeX renderer, for every text**: with the token lists the LaTeX renderer
    installs (regenerated from /repo) and enough gas, `Document(text)` returns a document, and rendering it
    returns a string (`Latex.render d`) or raises the documented refusal. -/
theorem C01_latex_total (cfg : Document.Cfg) (hc : Config.latex = some cfg) (gas : Nat) (t : Str)
    (hg : gasBound cfg.block (docBuf (normalize (.str t))) ≤ gas) :
    ∃ d, Document.parse cfg gas t = .ok d ∧
      (Latex.renderRes d = .ok (Latex.render d) ∨
       (Latex.renderRes d = .err (.refusal 0) ∧ ∃ c ∈ Latex.codes d, Latex.UsesAllDelims c)) := by
  obtain ⟨d, hd⟩ := C01_parse_terminates cfg gas t hg
  refine ⟨d, hd, ?_⟩
  rcases C01_latex_total_or_refusal cfg hc gas t d hd with ⟨out, ho⟩ | hr
  · left; rw [ho, renderRes_ok d ho]
  · right; exact hr

/-- how rare the refusal is: on ANY tree it needs an inline code that contains (among the 42 delimiters) a
    backtick, a '|' and every digit — so the code span must be delimited by two or more backticks -/
theorem C01_latex_refusal_needs_backtick (d : Doc) (h : Latex.renderRes d = .err (.refusal 0)) :
    ∃ c ∈ Latex.codes d, '`' ∈ c ∧ '|' ∈ c ∧ ∀ x ∈ "0123456789".toList, x ∈ c := by
  rcases renderRes_err d _ h with hr | hr | hr
  · obtain ⟨c, hc, hall⟩ := (refusesBlocks_iff d.kids).mp hr.2
    exact ⟨c, hc, hall _ (by decide +kernel), hall _ (by decide +kernel), fun x hx => hall x (by revert x; decide +kernel)⟩
  · cases hr.1
  · cases hr.1

/-- the only error values parse-and-render can return at all: `.fuel` (too little gas given to the model)
    and the documented refusal -/
theorem C01_latex_no_raise (cfg : Document.Cfg) (hc : Config.latex = some cfg) (gas : Nat) (t : Str) (e : Err)
    (h : (Document.parse cfg gas t).bind Latex.renderRes = .err e) : e = .fuel ∨ e = .refusal 0 := by
  cases hd : Document.parse cfg gas t with
  | err e' =>
    rw [hd] at h
    cases h
    exact .inl (C01_parse_no_raise cfg gas t _ hd)
  | ok d =>
    rw [hd] at h
    simp only [Res.bind] at h
    rcases C01_latex_total_or_refusal cfg hc gas t d hd with ⟨out, ho⟩ | hr
    · rw [ho] at h; cases h
    · rw [hr.1] at h; cases h; exact .inr rfl

/-- the configuration exists: the regenerated lists are known to the model -/
example : Config.latex.isSome = true := by rw [latex_eq]; rfl

/-! ### The documented refusal is reachable: a witness -/

/-- an inline code (double-backtick delimited, so that it may contain a backtick) holding all 42 characters
    of `verb_delimiters`.  On the real code:
    `mistletoe.markdown('`` |!"\'=+#$%&()*,-./:;<>?@[\\]^_`{}~0123456789 ``', LaTeXRenderer)` raises
    `RuntimeError: Unable to find delimiter for verb macro`. -/
def refusalText : Str := "`` |!\"'=+#$%&()*,-./:;<>?@[\\]^_`{}~0123456789 ``".toList

example : Config.renderLatex 50 refusalText = some (.err (.refusal 0)) := by
  rw [Config.renderLatex_of latex_eq]; unfold refusalText; decide_lit

/-- the witness really is built from the regenerated table -/
example : refusalText = "`` ".toList ++ Gen.Chains.verbDelimiters ++ " ``".toList := by unfold refusalText; decide_lit

/-- one delimiter fewer ('9' missing) and the renderer picks it -/
example : Config.renderLatex 50 "`` |!\"'=+#$%&()*,-./:;<>?@[\\]^_`{}~012345678 ``".toList =
    some (.ok ("\\documentclass{article}\n\\begin{document}\n\n\\verb9|!\"'=+#$%&()*,-./:;<>?@[\\]^_`{}~0123456789\n\\end{document}\n".toList)) := by
  rw [Config.renderLatex_of latex_eq]; decide_lit

/-! ### Non-vacuity of the `.ok` side -/

/-- a table (centred and right-aligned columns, a math span and an inline code in cells), a nested list
    (ordered inside bullet) and a code fence.  The expected string is the output of the real code:
    `mistletoe.markdown("| a | $x$ |\n|:-:|--:|\n| 1 | `c` |\n\n- x\n  1. y\n\n```py\nz\n```\n", LaTeXRenderer)` -/
def sample : Str := "| a | $x$ |\n|:-:|--:|\n| 1 | `c` |\n\n- x\n  1. y\n\n```py\nz\n```\n".toList

example : Config.renderLatex 60 sample = some (.ok
    "\\documentclass{article}\n\\usepackage{amsmath}\n\\usepackage{amsfonts}\n\\usepackage{amssymb}\n\\usepackage{listings}\n\\begin{document}\n\\begin{tabular}{c r}\na & $x$ \\\\\n\\hline\n1 & \\verb|c| \\\\\n\\end{tabular}\n\\begin{itemize}\n\\item \nx\n\\begin{enumerate}\n\\item \ny\n\n\\end{enumerate}\n\n\\end{itemize}\n\n\\begin{lstlisting}[language=py]\nz\n\\end{lstlisting}\n\\end{document}\n".toList) := by
  rw [Config.renderLatex_of latex_eq]; unfold sample; decide_lit

/-- under the LaTeX lists raw HTML is not a token: it stays text (the real code gives the same string) -/
example : Config.renderLatex 50 "<div>\nhi\n</div>\n\na <b>x</b>\n".toList =
    some (.ok "\\documentclass{article}\n\\begin{document}\n\n<div>\nhi\n</div>\n\na <b>x</b>\n\\end{document}\n".toList) := by
  rw [Config.renderLatex_of latex_eq]; decide_lit

/-- the theorems applied: the hypotheses (configuration known, gas bound) are satisfiable -/
example : ∃ d, Document.parse (Config.latex.get (by decide +kernel)) 2000 "> - `a`\n>\n> $b$".toList = .ok d ∧
    (Latex.renderRes d = .ok (Latex.render d) ∨
     (Latex.renderRes d = .err (.refusal 0) ∧ ∃ c ∈ Latex.codes d, Latex.UsesAllDelims c)) :=
  C01_latex_total (Config.latex.get (by decide +kernel)) (Option.some_get _).symm 2000 _ (by decide +kernel)

/-- `renderRes` is exact: what the theorem excludes does make the view raise (trees no parse produces) -/
example : Latex.renderRes ⟨[.htmlBlock "<p>".toList 1], []⟩ = .err .key ∧
    Latex.renderRes ⟨[.paragraph [.htmlSpan "<b>".toList] 1], []⟩ = .err .key ∧
    Latex.renderRes ⟨[.blankLine 1], []⟩ = .err .key ∧
    Latex.renderRes ⟨[.table [some 2] [] [] 1], []⟩ = .err .type ∧
    Latex.renderRes ⟨[.table [none] [.thematicBreak [] 1] [] 1], []⟩ = .err .type ∧
    (Latex.renderRes ⟨[.table [none] [] [] 1, .quote [] 2, .list false none [] 3,
        .paragraph [.image [] [] .uri none none [.htmlSpan "<b>".toList]] 4], []⟩).isOk = true := by
  decide +kernel

end Mistletoe.Props.C01
