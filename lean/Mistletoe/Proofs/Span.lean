/-
  C16 (span tokenizer): the lemmas; the property theorems are in Props/C16.lean.  `resolve` keeps the forest ordered,
  disjoint and nested inside parse groups (`KidsOK`, through `insert_ok`); on such a forest `make_tokens` tiles its
  interval (`TilesL`), and a tiling flattens back to the source text.  Also used outside C16: `resolve_ok`,
  `resolveSorted_reverse` and the sorting lemmas (EmphHtml's `resolve_nodes`); the `slice_*` lemmas of the last section are
  general facts about `Py.slice`.
-/
import Mistletoe.Model.Span
namespace Mistletoe.Span

/-- A match whose parse group lies inside the match. -/
def CandWF (c : Cand) : Prop := c.start ≤ c.pstart ∧ c.pstart ≤ c.pend ∧ c.pend ≤ c.stop

instance (c : Cand) : Decidable (CandWF c) := by unfold CandWF; exact inferInstance

mutual
/-- Well-formed `ParseToken`: its children (reversed) are well-formed, lie in its parse group,
    and each ends before the next starts. -/
def PTok.WF : PTok → Prop
  | .mk c kids => CandWF c ∧ KidsOK kids c.pstart c.pend
/-- `KidsOK kidsRev lo hi`: the (reversed) list is ordered, pairwise disjoint, inside `[lo, hi]`. -/
def KidsOK : List PTok → Nat → Nat → Prop
  | [], _, _ => True
  | t :: earlier, lo, hi => t.WF ∧ lo ≤ t.c.start ∧ t.c.stop ≤ hi ∧ KidsOK earlier lo t.c.start
end

mutual
/-- Every token on the right spine of `p` starts at or before `n` (candidates arrive sorted). -/
def SpineLE : PTok → Nat → Prop
  | .mk c kids, n => c.start ≤ n ∧ SpineLEs kids n
def SpineLEs : List PTok → Nat → Prop
  | [], _ => True
  | t :: _, n => SpineLE t n
end

theorem KidsOK_mono_hi : ∀ (kids : List PTok) (lo hi hi' : Nat), hi ≤ hi' → KidsOK kids lo hi → KidsOK kids lo hi'
  | [], _, _, _, _, _ => by simp [KidsOK]
  | t :: e, lo, hi, hi', h, hk => by
    simp only [KidsOK] at hk ⊢
    exact ⟨hk.1, hk.2.1, Nat.le_trans hk.2.2.1 h, hk.2.2.2⟩

mutual
theorem SpineLE_mono : ∀ (p : PTok) (n m : Nat), n ≤ m → SpineLE p n → SpineLE p m
  | .mk c kids, n, m, h, hp => by
    simp only [SpineLE] at hp ⊢
    exact ⟨Nat.le_trans hp.1 h, SpineLEs_mono kids n m h hp.2⟩
theorem SpineLEs_mono : ∀ (ks : List PTok) (n m : Nat), n ≤ m → SpineLEs ks n → SpineLEs ks m
  | [], _, _, _, _ => by simp [SpineLEs]
  | t :: _, n, m, h, hp => by
    simp only [SpineLEs] at hp ⊢
    exact SpineLE_mono t n m h hp
end

theorem appendChild_c (p child : PTok) : (appendChild p child).c = p.c := by
  cases p with
  | mk c kids => simp only [appendChild]; split <;> rfl

theorem relation_two {x y : Cand} (h : relation x y = 2) :
    x.pstart ≤ y.start ∧ y.stop ≤ x.pend := by
  unfold relation at h
  split at h
  · omega
  · split at h
    · split at h
      · rename_i h2; exact ⟨h2.1, h2.2⟩
      · split at h <;> omega
    · omega

theorem relation_zero {x y : Cand} (h : relation x y = 0) : x.stop ≤ y.start := by
  unfold relation at h
  split at h
  · assumption
  · split at h
    · split at h
      · omega
      · split at h <;> omega
    · omega

/-- Main structural lemma: inserting a well-formed, sorted-after candidate keeps the invariant. -/
theorem insert_ok :
    (∀ (p child : PTok), p.WF → child.WF → SpineLE p child.c.start →
        p.c.pstart ≤ child.c.start → child.c.stop ≤ p.c.pend →
        (appendChild p child).WF ∧
        (∀ m, child.c.start ≤ m → SpineLE child m → SpineLE (appendChild p child) m)) ∧
    (∀ (kids : List PTok) (child : PTok), ∀ lo hi, KidsOK kids lo hi → child.WF →
        SpineLEs kids child.c.start → lo ≤ child.c.start → child.c.stop ≤ hi →
        KidsOK (evalNewChild kids child) lo hi ∧
        (∀ m, child.c.start ≤ m → SpineLE child m → SpineLEs (evalNewChild kids child) m)) := by
  apply appendChild.mutual_induct
  · -- inner
    intro c kids child hin ih hp hc hs h1 h2
    simp only [PTok.WF, PTok.c, SpineLE] at hp hs h1 h2
    have := ih c.pstart c.pend hp.2 hc hs.2 h1 h2
    simp only [appendChild, hin, if_true, PTok.WF, SpineLE]
    refine ⟨⟨hp.1, this.1⟩, ?_⟩
    intro m hm hcm
    exact ⟨Nat.le_trans hs.1 hm, this.2 m hm hcm⟩
  · -- not inner
    intro c kids child hin hp hc hs _ _
    simp only [appendChild, hin]
    refine ⟨hp, ?_⟩
    intro m hm _
    exact SpineLE_mono _ _ _ hm hs
  · -- []
    intro child lo hi _ hc _ h1 h2
    simp only [evalNewChild, KidsOK, SpineLEs]
    exact ⟨⟨hc, h1, h2, trivial⟩, fun m _ h => h⟩
  · -- r = 0
    intro last rest child hr lo hi hk hc hs h1 h2
    simp only [evalNewChild, hr, KidsOK, SpineLEs] at hk ⊢
    refine ⟨⟨hc, h1, h2, hk.1, hk.2.1, relation_zero hr, hk.2.2.2⟩, fun m _ h => h⟩
  · -- r = 1, replaced
    intro last rest child hr hlt lo hi hk hc hs h1 h2
    simp only [evalNewChild, hr, hlt, if_true, KidsOK, SpineLEs] at hk hs ⊢
    have hls : last.c.start ≤ child.c.start := by
      cases last with | mk lc lk => simp only [SpineLE, PTok.c] at hs ⊢; exact hs.1
    exact ⟨⟨hc, h1, h2, KidsOK_mono_hi _ _ _ _ hls hk.2.2.2⟩, fun m _ h => h⟩
  · -- r = 1, kept
    intro last rest child hr hlt lo hi hk hc hs h1 h2
    simp only [evalNewChild, hr, hlt, if_false]
    exact ⟨hk, fun m hm _ => SpineLEs_mono _ _ _ hm hs⟩
  · -- r = 2
    intro last rest child hr ih lo hi hk hc hs h1 h2
    simp only [evalNewChild, hr, KidsOK, SpineLEs] at hk hs ⊢
    have h12 := relation_two hr
    have := ih hk.1 hc hs h12.1 h12.2
    rw [appendChild_c]
    exact ⟨⟨this.1, hk.2.1, hk.2.2.1, hk.2.2.2⟩, this.2⟩
  · -- r = 3
    intro last rest child h0 h1' h2' lo hi hk hc hs h1 h2
    have : evalNewChild (last :: rest) child = last :: rest := by
      simp only [evalNewChild]
    rw [this]
    exact ⟨hk, fun m hm _ => SpineLEs_mono _ _ _ hm hs⟩


/-! ### The top-level loop is the child-insertion loop of a virtual root -/

def Acc.toList (a : Acc) : List PTok := a.prev :: a.bufRev

theorem evalTokens_toList (a : Acc) (y : PTok) :
    (evalTokens a y).toList = evalNewChild a.toList y := by
  unfold evalTokens Acc.toList
  simp only [evalNewChild]
  generalize relation a.prev.c y.c = r
  match r with
  | 0 => rfl
  | 1 =>
    simp only [ge_iff_le]
    by_cases h : a.prev.c.prec < y.c.prec
    · have : ¬ y.c.prec ≤ a.prev.c.prec := by omega
      simp [h, this]
    · have : y.c.prec ≤ a.prev.c.prec := by omega
      simp [h, this]
  | 2 => rfl
  | n + 3 => rfl

/-- The forest handed to `make_tokens`, reversed, is the fold of `evalNewChild` from `[]`. -/
theorem resolveSorted_reverse (cs : List Cand) :
    (resolveSorted cs).reverse = (cs.map (fun c => PTok.mk c [])).foldl evalNewChild [] := by
  cases cs with
  | nil => rfl
  | cons c cs =>
    simp only [resolveSorted, List.reverse_reverse, List.map_cons, List.foldl_cons, evalNewChild]
    exact (List.foldl_hom Acc.toList fun a y => (evalTokens_toList a y).symm).symm

/-! ### Sorting -/

def SortedByStart (cs : List Cand) : Prop := cs.Pairwise (fun a b => a.start ≤ b.start)

theorem perm_insertByStart (x : Cand) : ∀ (ys : List Cand), (insertByStart x ys).Perm (x :: ys)
  | [] => .refl _
  | y :: ys => by
    simp only [insertByStart]
    split
    · exact .refl _
    · exact ((perm_insertByStart x ys).cons y).trans (List.Perm.swap x y ys)

theorem perm_sortByStart : ∀ (cs : List Cand), (sortByStart cs).Perm cs
  | [] => .refl _
  | c :: cs => (perm_insertByStart c _).trans ((perm_sortByStart cs).cons c)

theorem mem_insertByStart (x y : Cand) (cs : List Cand) :
    y ∈ insertByStart x cs ↔ y = x ∨ y ∈ cs :=
  (perm_insertByStart x cs).mem_iff.trans List.mem_cons

theorem sorted_insertByStart (x : Cand) (cs : List Cand) (h : SortedByStart cs) :
    SortedByStart (insertByStart x cs) := by
  induction cs with
  | nil => simp [insertByStart, SortedByStart]
  | cons z zs ih =>
    simp only [insertByStart]
    unfold SortedByStart at h ih ⊢
    rw [List.pairwise_cons] at h
    split
    · rename_i hlt
      rw [List.pairwise_cons]
      refine ⟨?_, List.pairwise_cons.mpr h⟩
      intro a ha
      rcases List.mem_cons.mp ha with rfl | ha
      · omega
      · have := h.1 a ha; omega
    · rename_i hge
      rw [List.pairwise_cons]
      refine ⟨?_, ih h.2⟩
      intro a ha
      rcases (mem_insertByStart x a zs).mp ha with rfl | ha
      · omega
      · exact h.1 a ha

theorem sorted_sortByStart (cs : List Cand) : SortedByStart (sortByStart cs) := by
  induction cs with
  | nil => simp [sortByStart, SortedByStart]
  | cons c cs ih => exact sorted_insertByStart c _ ih

theorem mem_sortByStart (y : Cand) (cs : List Cand) : y ∈ sortByStart cs ↔ y ∈ cs :=
  (perm_sortByStart cs).mem_iff

theorem filter_insertByStart (k : Nat) (x : Cand) (cs : List Cand) :
    (insertByStart x cs).filter (fun c => c.start = k) =
      (if x.start = k then [x] else []) ++ cs.filter (fun c => c.start = k) := by
  induction cs with
  | nil => by_cases hx : x.start = k <;> simp [insertByStart, List.filter, hx]
  | cons z zs ih =>
    simp only [insertByStart]
    split
    · by_cases hx : x.start = k <;> simp [List.filter_cons, hx]
    · rename_i hge
      rw [List.filter_cons, ih, List.filter_cons]
      by_cases hz : z.start = k
      · have hx : ¬ x.start = k := by omega
        simp [hz, hx]
      · simp [hz]

/-- Stability: candidates with the same `start` keep their input order. -/
theorem filter_sortByStart (k : Nat) (cs : List Cand) :
    (sortByStart cs).filter (fun c => c.start = k) = cs.filter (fun c => c.start = k) := by
  induction cs with
  | nil => rfl
  | cons c cs ih =>
    show (insertByStart c (sortByStart cs)).filter _ = _
    rw [filter_insertByStart, ih, List.filter_cons]
    by_cases hc : c.start = k <;> simp [hc]

/-! ### Invariant of the whole loop -/

theorem fold_ok (n : Nat) (cs : List Cand) (hs : SortedByStart cs)
    (hwf : ∀ c ∈ cs, CandWF c ∧ c.stop ≤ n) (kids : List PTok)
    (hk : KidsOK kids 0 n) (hsp : ∀ c ∈ cs, SpineLEs kids c.start) :
    KidsOK ((cs.map (fun c => PTok.mk c [])).foldl evalNewChild kids) 0 n := by
  induction cs generalizing kids with
  | nil => exact hk
  | cons c cs ih =>
    simp only [List.map_cons, List.foldl_cons]
    unfold SortedByStart at hs
    rw [List.pairwise_cons] at hs
    have hc := hwf c (List.mem_cons_self ..)
    have hchild : (PTok.mk c []).WF := by simp [PTok.WF, KidsOK, hc.1]
    have := insert_ok.2 kids (PTok.mk c []) 0 n hk hchild (hsp c (List.mem_cons_self ..))
      (Nat.zero_le _) hc.2
    apply ih hs.2 (fun c' h' => hwf c' (List.mem_cons_of_mem _ h')) _ this.1
    intro c' h'
    apply this.2
    · exact hs.1 c' h'
    · simp only [SpineLE, SpineLEs]; exact ⟨hs.1 c' h', trivial⟩

theorem resolve_ok (n : Nat) (cs : List Cand) (hwf : ∀ c ∈ cs, CandWF c ∧ c.stop ≤ n) :
    KidsOK (resolve cs).reverse 0 n := by
  unfold resolve
  rw [resolveSorted_reverse]
  apply fold_ok n _ (sorted_sortByStart cs)
  · intro c hc; exact hwf c ((mem_sortByStart c cs).mp hc)
  · simp [KidsOK]
  · intro c _; simp [SpineLEs]


/-! ### Output tokens tile their interval -/

mutual
/-- Well-formed output token: a non-empty gap, or a token whose children tile its parse group. -/
def OutOK : Out → Prop
  | .raw a b => a < b
  | .tok c kids => CandWF c ∧ ((c.inner = true → TilesL kids c.pstart c.pend) ∧ (c.inner = false → kids = []))
/-- `TilesL os a b`: the tokens `os`, in order, cover `[a, b)` exactly: the first starts at `a`,
    each starts where the previous one stopped, the last stops at `b`. -/
def TilesL : List Out → Nat → Nat → Prop
  | [], a, b => a = b
  | o :: os, a, b => o.lo = a ∧ OutOK o ∧ TilesL os o.hi b
end

theorem TilesL_append : ∀ (xs ys : List Out) (a b c : Nat),
    TilesL xs a b → TilesL ys b c → TilesL (xs ++ ys) a c
  | [], ys, a, b, c, h1, h2 => by simp only [TilesL] at h1; subst h1; simpa using h2
  | x :: xs, ys, a, b, c, h1, h2 => by
    simp only [TilesL, List.cons_append] at h1 ⊢
    exact ⟨h1.1, h1.2.1, TilesL_append xs ys _ b c h1.2.2 h2⟩

theorem OutOK_le : ∀ (o : Out), OutOK o → o.lo ≤ o.hi
  | .raw a b, h => by simp only [OutOK] at h; simp only [Out.lo, Out.hi]; omega
  | .tok c k, h => by
    simp only [OutOK, CandWF] at h; simp only [Out.lo, Out.hi]; omega

theorem TilesL_le : ∀ (os : List Out) (a b : Nat), TilesL os a b → a ≤ b
  | [], a, b, h => by simp only [TilesL] at h; omega
  | o :: os, a, b, h => by
    simp only [TilesL] at h
    have := OutOK_le o h.2.1
    have := TilesL_le os _ _ h.2.2
    omega

theorem make_lo (t : PTok) : (make t).lo = t.c.start := by
  cases t with | mk c k => simp only [make]; split <;> rfl
theorem make_hi (t : PTok) : (make t).hi = t.c.stop := by
  cases t with | mk c k => simp only [make]; split <;> rfl

/-- On an ordered forest inside `[a, e]` the two tests `make_tokens` has for a gap agree (`>` inside the loop, `≠` for
    the last one), so the part of the loop before a token is the whole loop on the shorter range. -/
theorem makeBefore_eq (ts : List PTok) (a e : Nat) (hk : KidsOK ts a e) (hae : a ≤ e) :
    makeBefore ts a e = makeTokensRev ts a e := by
  have gap : ∀ a, a ≤ e → (if e > a then [Out.raw a e] else []) = if a ≠ e then [Out.raw a e] else [] := by
    intro a h
    by_cases h' : a = e
    · rw [if_neg (by omega), if_neg (by omega)]
    · rw [if_pos (by omega), if_pos h']
  cases ts with
  | nil => exact gap a hae
  | cons t earlier =>
    simp only [KidsOK] at hk
    simp only [makeBefore, makeTokensRev, gap t.c.stop hk.2.2.1]

/-- `ParseToken.make` for a token that parses its inner text: the children are the loop of `make_tokens` on its parse
    group -/
theorem make_inner {c : Cand} {kids : List PTok} (hin : c.inner = true) (hk : KidsOK kids c.pstart c.pend)
    (h : c.pstart ≤ c.pend) : make (.mk c kids) = .tok c (makeBefore kids c.pstart c.pend) := by
  rw [make, if_pos hin, makeBefore_eq kids _ _ hk h]

theorem make_leaf {c : Cand} (kids : List PTok) (hin : c.inner = false) : make (.mk c kids) = .tok c [] := by
  rw [make, if_neg (by simp [hin])]

theorem TilesL_gap (a b : Nat) (h : a ≤ b) : TilesL (if b > a then [Out.raw a b] else []) a b := by
  by_cases hh : b > a
  · rw [if_pos hh]; exact ⟨rfl, hh, rfl⟩
  · rw [if_neg hh]; exact Nat.le_antisymm h (Nat.le_of_not_gt hh)

mutual
theorem make_ok : ∀ (t : PTok), t.WF → OutOK (make t)
  | .mk c kids, h => by
    simp only [PTok.WF] at h
    cases hin : c.inner with
    | true =>
      rw [make_inner hin h.2 h.1.2.1]
      exact ⟨h.1, fun _ => makeBefore_tiles kids _ _ h.2 h.1.2.1, fun hf => by simp [hin] at hf⟩
    | false =>
      rw [make_leaf kids hin]
      exact ⟨h.1, fun ht => by simp [hin] at ht, fun _ => rfl⟩
theorem makeBefore_tiles : ∀ (kids : List PTok) (s upto : Nat), KidsOK kids s upto → s ≤ upto →
    TilesL (makeBefore kids s upto) s upto
  | [], s, e, _, hle => TilesL_gap s e hle
  | t :: earlier, s, e, hk, hle => by
    simp only [KidsOK] at hk
    simp only [makeBefore]
    have h1 := makeBefore_tiles earlier s t.c.start hk.2.2.2 hk.2.1
    have h2 : TilesL [make t] t.c.start t.c.stop := by
      simp only [TilesL, make_lo, make_hi]; exact ⟨trivial, make_ok t hk.1, trivial⟩
    exact TilesL_append _ _ _ _ _ (TilesL_append _ _ _ _ _ h1 h2) (TilesL_gap t.c.stop e hk.2.2.1)
end

theorem makeTokensRev_tiles (kids : List PTok) (s e : Nat) (hk : KidsOK kids s e) (hle : s ≤ e) :
    TilesL (makeTokensRev kids s e) s e :=
  makeBefore_eq kids s e hk hle ▸ makeBefore_tiles kids s e hk hle

/-! ### Tiling recovers the source text -/

theorem slice_append {α} (s : List α) (a b c : Nat) (h1 : a ≤ b) (h2 : b ≤ c) :
    slice s a b ++ slice s b c = slice s a c := by
  unfold slice
  have e1 : c - a = (b - a) + (c - b) := by omega
  have e2 : List.drop b s = List.drop (b - a) (List.drop a s) := by
    rw [List.drop_drop]; congr 1; omega
  rw [e1, List.take_add, e2]

theorem slice_step {α} (s : List α) (a b : Nat) (c : α) (hab : a < b) (hc : s[a]? = some c) :
    slice s a b = c :: slice s (a + 1) b := by
  unfold slice
  have hlt : a < s.length := by
    rcases Nat.lt_or_ge a s.length with h | h
    · exact h
    · rw [List.getElem?_eq_none h] at hc; cases hc
  have hg : s[a] = c := by
    rw [List.getElem?_eq_getElem hlt] at hc
    exact Option.some.inj hc
  rw [List.drop_eq_getElem_cons hlt, hg]
  have e : b - a = (b - (a + 1)) + 1 := by omega
  rw [e, List.take_succ_cons]

theorem slice_mid {α} (a m b : List α) : slice (a ++ m ++ b) a.length (a.length + m.length) = m := by
  simp [slice]

theorem slice_self {α} (s : List α) (a : Nat) : slice s a a = [] := by
  unfold slice; simp

theorem slice_full {α} (s : List α) : slice s 0 s.length = s := by
  unfold slice; simp

mutual
theorem flattenOut_eq (s : Str) : ∀ (o : Out), OutOK o → flattenOut s o = slice s o.lo o.hi
  | .raw a b, _ => by simp only [flattenOut, Out.lo, Out.hi]
  | .tok c kids, h => by
    simp only [OutOK, CandWF] at h
    simp only [flattenOut, Out.lo, Out.hi]
    split
    · rename_i hin
      rw [flattenOuts_eq s kids _ _ (h.2.1 hin)]
      rw [slice_append s _ _ _ h.1.1 h.1.2.1, slice_append s _ _ _ (by omega) h.1.2.2]
    · rfl
theorem flattenOuts_eq (s : Str) : ∀ (os : List Out) (a b : Nat), TilesL os a b →
    flattenOuts s os = slice s a b
  | [], a, b, h => by
    simp only [TilesL] at h; subst h; simp only [flattenOuts, slice_self]
  | o :: os, a, b, h => by
    simp only [TilesL] at h
    simp only [flattenOuts]
    rw [flattenOut_eq s o h.2.1, flattenOuts_eq s os _ _ h.2.2, h.1]
    exact slice_append s _ _ _ (h.1 ▸ OutOK_le o h.2.1) (TilesL_le _ _ _ h.2.2)
end

end Mistletoe.Span
