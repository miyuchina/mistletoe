/-
  C04, list half ("the same text with a list marker of width W before its first line and W spaces before
  every other non-blank line parses to exactly one single-item list whose item content is B; the set of link
  definitions found is unchanged"), with the hypotheses of `Props/C04.lean` (`C04_item_wraps_eq`,
  `C04_item_wraps_partial`, `C04_item_phase_partial`) weakened as far as the model allows:

  * the marker may stand at indentation 0-3 (there: 0) — `leadN_*`, `parseMarker_first_at`, `tryTypes_noEarly` in
    Proofs/Wrap.lean;
  * blank lines may be any lines of spaces (there: exactly "\n"), left alone or indented — `parseContinuation_spaces`,
    `IndentedAsSp`, `itemLoop_run` in Proofs/Wrap.lean: every line of the indented text is taken by `parse_continuation`,
    the lazy-continuation branch of `ListItem.read` is never entered; the collected buffer is the original lines with
    the spaces-only lines read as "\n" (`normLine`);
  * at the dispatcher and in the container readers a line of at most three spaces is not told from "\n"
    (`declines_spaces`, `tokLoop_spaces_step` in Proofs/Inert.lean, `parseContinuation_spaces`); `BlockCode`, `CodeFence`, `HtmlBlock` do
    tell them apart, so the parse of the normalised text is in general NOT the parse of the text (a spaces-only line
    inside a code block keeps its spaces).
-/
import Mistletoe.Props.C04
namespace Mistletoe.Block
open Mistletoe Mistletoe.Py Mistletoe.Scan

/-! ### Documents as they are indented -/

/-- the line consists of spaces and its final newline ("\n" included) -/
def spLine (s : Str) : Bool := s.drop (countLeading ' ' s) == ['\n']

theorem spLine_spec (s : Str) (h : spLine s = true) : ∃ k, s = List.replicate k ' ' ++ ['\n'] := by
  refine ⟨countLeading ' ' s, ?_⟩
  have := (countLeading_spec ' ' s).symm
  simp only [spLine, beq_iff_eq] at h
  rw [h] at this
  exact this

/-- what `ListItem.read` makes of a spaces-only line -/
def normStr (s : Str) : Str := if spLine s then ['\n'] else s
def normLine (l : Line) : Line := { s := normStr l.s, origin := l.origin }

/-- a line of the content as it appears in the document: `W` spaces before it — before the spaces-only
    lines too if `blanksToo`, else these stay as they are -/
def indentStr2 (blanksToo : Bool) (W : Nat) (s : Str) : Str :=
  if spLine s && !blanksToo then s else List.replicate W ' ' ++ s
def indentLine2 (blanksToo : Bool) (W : Nat) (l : Line) : Line := { s := indentStr2 blanksToo W l.s, origin := l.origin }

/-- the first line behind `i` spaces, the marker and `pad` spaces -/
def markLineAt (i : Nat) (m : Str) (pad : Nat) (l : Line) : Line :=
  { s := List.replicate i ' ' ++ (m ++ List.replicate pad ' ' ++ l.s), origin := l.origin }

theorem contLine_not_sp (s : Str) (h : ContLine s) : spLine s = false := by
  obtain ⟨n, c, body, rfl, hc, _⟩ := h
  have hsp : c ≠ ' ' := by intro e; subst e; exact absurd hc (by decide)
  have hnl : c ≠ '\n' := by intro e; subst e; exact absurd hc (by decide)
  have e : List.replicate n ' ' ++ c :: body ++ ['\n'] = List.replicate n ' ' ++ c :: (body ++ ['\n']) := by simp
  simp only [spLine, e, countLeading_rep n c _ hsp]
  simp [hnl]

theorem indentedAllSp_map (bt : Bool) (W : Nat) : ∀ (ls : List Line), (∀ l ∈ ls, spLine l.s = true ∨ ContLine l.s) →
    IndentedAllSp W (ls.map (indentLine2 bt W)) (ls.map normLine)
  | [], _ => trivial
  | l :: ls, h => by
    refine ⟨?_, indentedAllSp_map bt W ls (fun x hx => h x (List.mem_cons_of_mem _ hx))⟩
    refine ⟨rfl, ?_⟩
    simp only [indentLine2, normLine, indentStr2, normStr]
    by_cases hl : spLine l.s = true
    · obtain ⟨k, hk⟩ := spLine_spec _ hl
      left
      simp only [hl, if_true, Bool.true_and, true_and]
      cases bt with
      | false => exact ⟨k, by simpa using hk⟩
      | true =>
        refine ⟨W + k, ?_⟩
        simp only [Bool.not_true, Bool.false_eq_true, if_false]
        rw [hk, ← List.append_assoc, List.replicate_append_replicate]
    · right
      rcases h l (by simp) with h' | h'
      · exact absurd h' hl
      · simp [hl, h']

theorem firstAsAt_mark (i : Nat) (m : Str) (pad : Nat) (l : Line) (c0 : Char) (r0 : Str) (hs : l.s = c0 :: r0)
    (hc0 : pyIsSpace c0 = false) : FirstAsAt i m pad (markLineAt i m pad l) l := ⟨rfl, c0, r0, hs, hc0, rfl⟩

/-- the content does not end with a spaces-only line: nothing is dropped from the item's buffer -/
theorem trailNl_norm_zero (ls : List Line) (hlast : ∀ l, ls.getLast? = some l → spLine l.s = false) :
    trailNl 0 (ls.map normLine) = 0 := by
  refine trailNl_zero _ 0 ?_ (fun _ => rfl)
  intro l hl
  rw [List.getLast?_map] at hl
  cases h : ls.getLast? with
  | none => rw [h] at hl; cases hl
  | some x =>
    rw [h] at hl
    simp only [Option.map_some, Option.some.injEq] at hl
    subst hl
    have hx := hlast x h
    simp only [normLine, normStr, hx, Bool.false_eq_true, if_false]
    intro e
    rw [e] at hx
    exact absurd hx (by decide)

theorem normStr_id (s : Str) (h : spLine s = true → s = ['\n']) : normStr s = s := by
  unfold normStr
  by_cases hs : spLine s = true
  · simp [hs, (h hs).symm]
  · simp [hs]

end Mistletoe.Block

namespace Mistletoe.Props.C04
open Mistletoe Mistletoe.Py Mistletoe.Scan Mistletoe.Block
open Mistletoe.Props.C14 (defaultTypes markdownTypes numbered numbered_cons numbered_map_fn numbered_getLast blockPhase_numbered)

/-! ### C04, list half, general form

  Relative to `C04_item_wraps_eq` / `C04_item_wraps_partial` / `C04_item_phase_partial`:

  * the marker may stand at indentation `i` = 0 … 3; the other lines are indented by
    `i + |m| + pad`; the item reports indentation `i` and content offset `i + |m| + pad`.
  * a blank line may be any line of spaces ("\n", "  \n", "        \n", …), left as it is or indented
    like the others (`blanksToo`).  `ListItem.parse_continuation` hands every such line to the nested tokenizer as
    "\n", so the item's content is the parse of the text *with its spaces-only lines replaced by "\n"* (`normStr`) —
    not of the text itself: the two parses can differ, for a spaces-only line inside an indented code block (its
    spaces beyond the fourth), a fence or an HTML block is copied as it is (on `T2` and `spaces4` at the end of the
    file they agree).  When every blank line of the text is "\n" the two texts are the same text
    (`C04_item_phase_general_h2_partial`); for a given text the equality of the two parses can be checked by
    evaluation (`C04_item_phase_general_same_partial`, hypothesis `hsame`).
  * the condition on the other lines is as weak as the model allows: `ContLine` lets a line begin with
    any number of spaces of its own (indented code, nested items, lazy lines …); what it asks is that the first
    character after them be no whitespace character.  In a tab-free line that ends with its only newline this excludes
    exactly a line whose first non-space character is one of the other `str.isspace` characters (U+000B, U+000C,
    U+001C-1F, U+0085, U+00A0, U+1680, U+2000-200A, U+2028/9, U+202F, U+205F, U+3000, '\r'): `continuation_pattern`
    (`[ \t]*` then `\S`) does not match such a line, indented or not, the lazy-continuation branch takes it with its
    indentation or ends the item — recorded finding "unicode-whitespace-edge", example `edge` in Props/C04.

  Remaining hypotheses, each needed (examples at the end of the file):
  * `i ≤ 3` — at indentation 4 the marker line is indented code;
  * `1 ≤ pad ≤ 4` — with five spaces `parse_marker` counts one of them and leaves four to the content;
  * the first character of the text is no `str.isspace` character (`hc0`) — `ListItem.pattern` takes every whitespace
    character after the marker (`\s+`) as padding, U+2003 included, so the content offset grows beyond `|m| + pad`;
  * marker + first line is not a thematic break (`htb`; automatic unless the marker is '-' or '*':
    `C04_htb_of_marker`) — `ThematicBreak` is consulted before `List`;
  * every other line is a spaces-only line or a `ContLine` (`hcont`), the last line is not spaces-only (`hlast`, the
    property's "does not end in a blank line": `ListItem.read` drops trailing blank lines from the item and steps back);
  * `List` is consulted before `Paragraph` and `Table` (`hnp`, `hnt`; true of every shipped configuration). -/

theorem C04_item_wraps_general_eq (cfg : Cfg) (pre post : List BTok) (hty : cfg.types = pre ++ .list :: post)
    (hnl : .list ∉ pre) (hnp : .paragraph ∉ pre) (hnt : .table ∉ pre)
    (m : Str) (hm : ListLeader m) (i : Nat) (hi : i ≤ 3) (pad : Nat) (h1 : 1 ≤ pad) (h4 : pad ≤ 4)
    (l0' l0 : Line) (rest' rest : List Line) (hf : FirstAsAt i m pad l0' l0) (htb : Scan.thematicBreak l0'.s = false)
    (hrest : IndentedAllSp (i + m.length + pad) rest' rest) (hlast : trailNl 0 rest = 0) (start : Nat) (st : St) (g : Nat) :
    tokenizeBlock cfg (g + (pre.length + 4)) (l0' :: rest') start st =
      wrapItemAt i (i + m.length + pad) m start l0.origin (tokenizeBlock cfg g (l0 :: rest) start st) :=
  tokenizeBlock_indented cfg pre post hty hnl hnp hnt m hm i (by omega) pad h1 h4 l0' l0 rest' rest hf htb hrest hlast start st g

/-- **A buffer indented as one list item parses to one single-item list whose content is the parse of the
    buffer (spaces-only lines read as "\n").**  `cfg.types = pre ++ List :: post` with none of `List`, `Paragraph`,
    `Table` in `pre`; the other hypotheses as listed in the section comment.  If `tokenize_block` on `l0 :: ls.map normLine` returns
    `(b, st')`, then on the buffer with `i` spaces, `m` and `pad` spaces before the first line and `i + |m| + pad`
    spaces before every other line (`blanksToo = false`: except the spaces-only lines), with `pre.length + 4` more
    gas, it returns exactly one `List` of one `ListItem` with content `b.entries`, loose iff `b` is loose and has more
    than one entry, indentation `i`, content offset `i + |m| + pad`, leader `m` — and the same state `st'`, hence the
    same link definitions. -/
theorem C04_item_wraps_general_partial (cfg : Cfg) (pre post : List BTok) (hty : cfg.types = pre ++ .list :: post)
    (hnl : .list ∉ pre) (hnp : .paragraph ∉ pre) (hnt : .table ∉ pre)
    (m : Str) (hm : ListLeader m) (i : Nat) (hi : i ≤ 3) (pad : Nat) (h1 : 1 ≤ pad) (h4 : pad ≤ 4)
    (l0 : Line) (ls : List Line) (c0 : Char) (r0 : Str) (hs : l0.s = c0 :: r0) (hc0 : pyIsSpace c0 = false)
    (hcont : ∀ l ∈ ls, spLine l.s = true ∨ ContLine l.s)
    (hlast : ∀ l, ls.getLast? = some l → spLine l.s = false)
    (htb : Scan.thematicBreak (List.replicate i ' ' ++ (m ++ List.replicate pad ' ' ++ l0.s)) = false)
    (blanksToo : Bool) (start : Nat) (st st' : St) (gas : Nat) (b : Buf)
    (hb : tokenizeBlock cfg gas (l0 :: ls.map normLine) start st = .ok (b, st')) :
    tokenizeBlock cfg (gas + (pre.length + 4))
        (markLineAt i m pad l0 :: ls.map (indentLine2 blanksToo (i + m.length + pad))) start st =
      .ok ({ entries := [.list [.mk b.entries (decide (b.entries.length > 1) && b.loose) i (i + m.length + pad) m start l0.origin]
                           start l0.origin], loose := false }, st') := by
  rw [C04_item_wraps_general_eq cfg pre post hty hnl hnp hnt m hm i hi pad h1 h4 (markLineAt i m pad l0) l0 _ (ls.map normLine)
    (firstAsAt_mark i m pad l0 c0 r0 hs hc0) htb (indentedAllSp_map blanksToo _ ls hcont) (trailNl_norm_zero ls hlast) start st gas, hb]
  rfl

/-- the thematic-break hypothesis holds by itself unless the marker is the bullet '-' or '*' -/
theorem C04_htb_of_marker (m : Str) (hm : ListLeader m) (i : Nat) (hi : i ≤ 3) (rest : Str)
    (h : ∀ c m', m = c :: m' → c ≠ '-' ∧ c ≠ '*') :
    Scan.thematicBreak (List.replicate i ' ' ++ (m ++ rest)) = false := by
  obtain ⟨c, m', rfl, hc⟩ := hm.lead
  have hcc := h c m' rfl
  have hus : c ≠ '_' := by
    intro e; subst e
    have := hm.marker []
    have hd : isDigit '_' = false := by decide
    simp [listMarker, span, hd] at this
  exact thematicBreak_rep i _ _ (by omega) hc.n_sp hcc.1 hus hcc.2

/-- the document text indented as one list item whose marker stands at indentation `i` -/
def indentDocAt (i : Nat) (m : Str) (pad : Nat) (blanksToo : Bool) : List Str → List Str
  | [] => []
  | s0 :: ss => (List.replicate i ' ' ++ (m ++ List.replicate pad ' ' ++ s0)) :: ss.map (indentStr2 blanksToo (i + m.length + pad))

/-- the text as the nested tokenizer gets it: spaces-only lines replaced by "\n" -/
def normDoc : List Str → List Str
  | [] => []
  | s0 :: ss => s0 :: ss.map normStr

/-- checkable form of the hypotheses on the document -/
def itemDocOk2 : List Str → Bool
  | [] => false
  | s0 :: ss => (match s0 with | c :: _ => !pyIsSpace c | [] => false)
      && ss.all (fun s => spLine s || contLineB s) && (match ss.getLast? with | some s => !spLine s | none => true)

/-- **Block phase: the document indented as one list item parses to one single-item list whose content is the
    parse B of the document with its spaces-only lines read as "\n", with B's link definitions.** -/
theorem C04_item_phase_general_partial (cfg : Cfg) (pre post : List BTok) (hty : cfg.types = pre ++ .list :: post)
    (hnl : .list ∉ pre) (hnp : .paragraph ∉ pre) (hnt : .table ∉ pre)
    (m : Str) (hm : ListLeader m) (i : Nat) (hi : i ≤ 3) (pad : Nat) (h1 : 1 ≤ pad) (h4 : pad ≤ 4)
    (s0 : Str) (ss : List Str) (hok : itemDocOk2 (s0 :: ss) = true)
    (htb : Scan.thematicBreak (List.replicate i ' ' ++ (m ++ List.replicate pad ' ' ++ s0)) = false)
    (blanksToo : Bool) (gas : Nat) (B : Buf) (st' : St) (hB : blockPhase cfg gas (normDoc (s0 :: ss)) = .ok (B, st')) :
    blockPhase cfg (gas + (pre.length + 4)) (indentDocAt i m pad blanksToo (s0 :: ss)) =
      .ok ({ entries := [.list [.mk B.entries (decide (B.entries.length > 1) && B.loose) i (i + m.length + pad) m 1 1] 1 1],
             loose := false }, st') := by
  simp only [itemDocOk2, Bool.and_eq_true, List.all_eq_true, Bool.or_eq_true] at hok
  obtain ⟨⟨h0, hall⟩, hlast⟩ := hok
  cases s0 with
  | nil => simp at h0
  | cons c0 r0 =>
    simp only [Bool.not_eq_eq_eq_not, Bool.not_true] at h0
    simp only [normDoc] at hB
    rw [blockPhase_numbered, numbered_cons, numbered_map_fn] at hB
    rw [blockPhase_numbered]
    simp only [indentDocAt]
    rw [numbered_cons, numbered_map_fn]
    refine C04_item_wraps_general_partial cfg pre post hty hnl hnp hnt m hm i hi pad h1 h4 { s := c0 :: r0, origin := 0 + 1 }
      (numbered (0 + 1) ss) c0 r0 rfl h0 ?_ ?_ htb blanksToo 1 {} st' gas B hB
    · intro l hl
      rcases hall _ (C14.numbered_mem _ _ _ hl) with h | h
      · exact Or.inl h
      · exact Or.inr (contLine_of _ h)
    · intro l hl
      rw [numbered_getLast _ ss l hl] at hlast
      simpa using hlast

/-- the content is the document's own parse B whenever reading the spaces-only lines as "\n" does not change the
    parse (`hsame`: for a given document, by evaluation) -/
theorem C04_item_phase_general_same_partial (cfg : Cfg) (pre post : List BTok) (hty : cfg.types = pre ++ .list :: post)
    (hnl : .list ∉ pre) (hnp : .paragraph ∉ pre) (hnt : .table ∉ pre)
    (m : Str) (hm : ListLeader m) (i : Nat) (hi : i ≤ 3) (pad : Nat) (h1 : 1 ≤ pad) (h4 : pad ≤ 4)
    (s0 : Str) (ss : List Str) (hok : itemDocOk2 (s0 :: ss) = true)
    (htb : Scan.thematicBreak (List.replicate i ' ' ++ (m ++ List.replicate pad ' ' ++ s0)) = false)
    (blanksToo : Bool) (gas : Nat) (hsame : blockPhase cfg gas (normDoc (s0 :: ss)) = blockPhase cfg gas (s0 :: ss))
    (B : Buf) (st' : St) (hB : blockPhase cfg gas (s0 :: ss) = .ok (B, st')) :
    blockPhase cfg (gas + (pre.length + 4)) (indentDocAt i m pad blanksToo (s0 :: ss)) =
      .ok ({ entries := [.list [.mk B.entries (decide (B.entries.length > 1) && B.loose) i (i + m.length + pad) m 1 1] 1 1],
             loose := false }, st') :=
  C04_item_phase_general_partial cfg pre post hty hnl hnp hnt m hm i hi pad h1 h4 s0 ss hok htb blanksToo gas B st' (hsame ▸ hB)

/-- when every blank line of the text is "\n" the content is the document's own parse B -/
theorem C04_item_phase_general_h2_partial (cfg : Cfg) (pre post : List BTok) (hty : cfg.types = pre ++ .list :: post)
    (hnl : .list ∉ pre) (hnp : .paragraph ∉ pre) (hnt : .table ∉ pre)
    (m : Str) (hm : ListLeader m) (i : Nat) (hi : i ≤ 3) (pad : Nat) (h1 : 1 ≤ pad) (h4 : pad ≤ 4)
    (s0 : Str) (ss : List Str) (hok : itemDocOk2 (s0 :: ss) = true) (hH2 : ∀ s ∈ ss, spLine s = true → s = ['\n'])
    (htb : Scan.thematicBreak (List.replicate i ' ' ++ (m ++ List.replicate pad ' ' ++ s0)) = false)
    (blanksToo : Bool) (gas : Nat) (B : Buf) (st' : St) (hB : blockPhase cfg gas (s0 :: ss) = .ok (B, st')) :
    blockPhase cfg (gas + (pre.length + 4)) (indentDocAt i m pad blanksToo (s0 :: ss)) =
      .ok ({ entries := [.list [.mk B.entries (decide (B.entries.length > 1) && B.loose) i (i + m.length + pad) m 1 1] 1 1],
             loose := false }, st') := by
  refine C04_item_phase_general_same_partial cfg pre post hty hnl hnp hnt m hm i hi pad h1 h4 s0 ss hok htb blanksToo gas ?_ B st' hB
  have : ss.map normStr = ss := by
    conv => rhs; rw [← List.map_id ss]
    exact List.map_congr_left (fun s hs => normStr_id s (hH2 s hs))
  simp only [normDoc, this]

theorem C04_item_phase_general_default_partial (ti : Bool) (m : Str) (hm : ListLeader m) (i : Nat) (hi : i ≤ 3)
    (pad : Nat) (h1 : 1 ≤ pad) (h4 : pad ≤ 4)
    (s0 : Str) (ss : List Str) (hok : itemDocOk2 (s0 :: ss) = true)
    (htb : Scan.thematicBreak (List.replicate i ' ' ++ (m ++ List.replicate pad ' ' ++ s0)) = false)
    (blanksToo : Bool) (gas : Nat) (B : Buf) (st' : St)
    (hB : blockPhase { types := defaultTypes, tableInterrupt := ti } gas (normDoc (s0 :: ss)) = .ok (B, st')) :
    blockPhase { types := defaultTypes, tableInterrupt := ti } (gas + 10) (indentDocAt i m pad blanksToo (s0 :: ss)) =
      .ok ({ entries := [.list [.mk B.entries (decide (B.entries.length > 1) && B.loose) i (i + m.length + pad) m 1 1] 1 1],
             loose := false }, st') :=
  C04_item_phase_general_partial { types := defaultTypes, tableInterrupt := ti }
    [.htmlBlock, .blockCode, .heading, .quote, .codeFence, .thematicBreak] [.table, .footnote, .paragraph] rfl
    (by decide) (by decide) (by decide) m hm i hi pad h1 h4 s0 ss hok htb blanksToo gas B st' hB

theorem C04_item_phase_general_markdown_partial (ti : Bool) (m : Str) (hm : ListLeader m) (i : Nat) (hi : i ≤ 3)
    (pad : Nat) (h1 : 1 ≤ pad) (h4 : pad ≤ 4)
    (s0 : Str) (ss : List Str) (hok : itemDocOk2 (s0 :: ss) = true)
    (htb : Scan.thematicBreak (List.replicate i ' ' ++ (m ++ List.replicate pad ' ' ++ s0)) = false)
    (blanksToo : Bool) (gas : Nat) (B : Buf) (st' : St)
    (hB : blockPhase { types := markdownTypes, tableInterrupt := ti } gas (normDoc (s0 :: ss)) = .ok (B, st')) :
    blockPhase { types := markdownTypes, tableInterrupt := ti } (gas + 12) (indentDocAt i m pad blanksToo (s0 :: ss)) =
      .ok ({ entries := [.list [.mk B.entries (decide (B.entries.length > 1) && B.loose) i (i + m.length + pad) m 1 1] 1 1],
             loose := false }, st') :=
  C04_item_phase_general_partial { types := markdownTypes, tableInterrupt := ti }
    [.linkRefDefBlock, .blankLine, .htmlBlock, .blockCode, .heading, .quote, .codeFence, .thematicBreak]
    [.table, .paragraph] rfl (by decide) (by decide) (by decide) m hm i hi pad h1 h4 s0 ss hok htb blanksToo gas B st' hB

/-! ### Non-vacuity -/

/-- a paragraph, indented code, a nested list with a lazy-looking second line: lines 3 and 6 begin with spaces -/
def T : List Str := [L "para\n", L "\n", L "    indented code\n", L "\n", L "- nested\n", L "  more\n"]
attribute [lit] T

example : outlineOf (blockPhase dflt 30 T) =
    ([(0, "p", 1, 1), (0, "code", 3, 3), (0, "list", 5, 5), (1, "item", 5, 5), (2, "p", 5, 5)], 0) := by decide_lit
example : textsOf (blockPhase dflt 30 T) = [[L "para\n"], [L "indented code\n"], [L "nested\n", L "more\n"]] := by decide_lit

example : indentDocAt 0 (L "1.") 2 false T =
    [L "1.  para\n", L "\n", L "        indented code\n", L "\n", L "    - nested\n", L "      more\n"] := by decide_lit

example : indentDocAt 2 (L "-") 1 false T =
    [L "  - para\n", L "\n", L "        indented code\n", L "\n", L "    - nested\n", L "      more\n"] := by decide_lit

/-- kernel evaluation of the two indented texts: one list, one (loose) item, the entries of `T` one level down on the same lines -/
example : outlineOf (blockPhase dflt 40 (indentDocAt 0 (L "1.") 2 false T)) =
    ([(0, "list", 1, 1), (1, "item(loose)", 1, 1), (2, "p", 1, 1), (2, "code", 3, 3), (2, "list", 5, 5), (3, "item", 5, 5),
      (4, "p", 5, 5)], 0) := by decide_lit
example : outlineOf (blockPhase dflt 40 (indentDocAt 2 (L "-") 1 false T)) =
    ([(0, "list", 1, 1), (1, "item(loose)", 1, 1), (2, "p", 1, 1), (2, "code", 3, 3), (2, "list", 5, 5), (3, "item", 5, 5),
      (4, "p", 5, 5)], 0) := by decide_lit
example : textsOf (blockPhase dflt 40 (indentDocAt 2 (L "-") 1 false T)) =
    [[L "para\n"], [L "indented code\n"], [L "nested\n", L "more\n"]] := by decide_lit

theorem T_ok : (blockPhase dflt 30 T).isOk = true := by decide_lit

/-- `C04_item_phase_general_h2_partial` applies to `T` (every blank line is "\n", so the content is `T`'s own parse):
    marker "1." + 2 spaces at indentation 0 … -/
example : ∃ B st', blockPhase dflt 30 T = .ok (B, st') ∧
    blockPhase dflt 40 (indentDocAt 0 (L "1.") 2 false T) =
      .ok ({ entries := [.list [.mk B.entries (decide (B.entries.length > 1) && B.loose) 0 4 (L "1.") 1 1] 1 1], loose := false }, st') := by
  obtain ⟨⟨B, st'⟩, h⟩ := Res.exists_of_isOk T_ok
  exact ⟨B, st', h, C04_item_phase_general_h2_partial dflt [.htmlBlock, .blockCode, .heading, .quote, .codeFence, .thematicBreak]
    [.table, .footnote, .paragraph] rfl (by decide) (by decide) (by decide)
    (L "1.") (listLeader_ordered (L "1") '.' (by decide) (by decide) (by decide) (Or.inl rfl))
    0 (by omega) 2 (by omega) (by omega) _ _ (by decide_lit) (by decide_lit) (by decide_lit) false 30 B st' h⟩

/-- … and marker "-" + 1 space at indentation 2 (indentation 2 and content offset 4 reported) -/
example : ∃ B st', blockPhase dflt 30 T = .ok (B, st') ∧
    blockPhase dflt 40 (indentDocAt 2 (L "-") 1 false T) =
      .ok ({ entries := [.list [.mk B.entries (decide (B.entries.length > 1) && B.loose) 2 4 (L "-") 1 1] 1 1], loose := false }, st') := by
  obtain ⟨⟨B, st'⟩, h⟩ := Res.exists_of_isOk T_ok
  exact ⟨B, st', h, C04_item_phase_general_h2_partial dflt [.htmlBlock, .blockCode, .heading, .quote, .codeFence, .thematicBreak]
    [.table, .footnote, .paragraph] rfl (by decide) (by decide) (by decide)
    (L "-") (listLeader_bullet '-' (Or.inl rfl))
    2 (by omega) 1 (by omega) (by omega) _ _ (by decide_lit) (by decide_lit) (by decide_lit) false 30 B st' h⟩

/-- the same text with spaces on its blank lines (two after the paragraph, six after the indented code) -/
def T2 : List Str := [L "para\n", L "  \n", L "    indented code\n", L "      \n", L "- nested\n", L "  more\n"]
attribute [lit] T2

example : normDoc T2 = T := by decide_lit

/-- `C04_item_phase_general_default_partial` applies to `T2`, the blank lines left as they are or indented too,
    under the Markdown renderer's types as well: the content is the parse of `normDoc T2` = `T` -/
example (bt : Bool) : ∃ B st', blockPhase dflt 30 (normDoc T2) = .ok (B, st') ∧
    blockPhase dflt 40 (indentDocAt 2 (L "-") 1 bt T2) =
      .ok ({ entries := [.list [.mk B.entries (decide (B.entries.length > 1) && B.loose) 2 4 (L "-") 1 1] 1 1], loose := false }, st') := by
  obtain ⟨⟨B, st'⟩, h⟩ := Res.exists_of_isOk (r := blockPhase dflt 30 (normDoc T2)) (by decide_lit)
  exact ⟨B, st', h, C04_item_phase_general_default_partial true (L "-") (listLeader_bullet '-' (Or.inl rfl))
    2 (by omega) 1 (by omega) (by omega) _ _ (by decide_lit) (by decide_lit) bt 30 B st' h⟩

example : ∃ B st', blockPhase mdown 30 (normDoc T2) = .ok (B, st') ∧
    blockPhase mdown 42 (indentDocAt 3 (L "7)") 4 true T2) =
      .ok ({ entries := [.list [.mk B.entries (decide (B.entries.length > 1) && B.loose) 3 9 (L "7)") 1 1] 1 1], loose := false }, st') := by
  obtain ⟨⟨B, st'⟩, h⟩ := Res.exists_of_isOk (r := blockPhase mdown 30 (normDoc T2)) (by decide_lit)
  exact ⟨B, st', h, C04_item_phase_general_markdown_partial true (L "7)")
    (listLeader_ordered (L "7") ')' (by decide) (by decide) (by decide) (Or.inr rfl))
    3 (by omega) 4 (by omega) (by omega) _ _ (by decide_lit) (by decide_lit) true 30 B st' h⟩

example : indentDocAt 2 (L "-") 1 true T2 =
    [L "  - para\n", L "      \n", L "        indented code\n", L "          \n", L "    - nested\n", L "      more\n"] := by decide_lit
example : textsOf (blockPhase dflt 40 (indentDocAt 2 (L "-") 1 true T2)) =
    [[L "para\n"], [L "indented code\n"], [L "nested\n", L "more\n"]] := by decide_lit

/-! ### Why the content is the parse of `normDoc`, and why each remaining hypothesis (model = implementation on all of them) -/

/-- `T2` itself parses like `normDoc T2` = `T` (same texts, same outline): `BlockCode.read` hands back EVERY whitespace-only
    trailing line, so the indented code block does not keep the spaces-only line that follows it.  (The code as first checked out
    counted only "\n" lines as trailing blanks: `hsame` failed for `T2`, the implementation gave BlockCode 'indented code\n  \n' at
    top level and 'indented code\n' inside the item.  Repaired in /repo by 2952153: `Document(T2)` and `Document(T)` have the same
    AST, BlockCode 'indented code\n' in both.)  `normDoc` is still what the theorem needs in general: a whitespace-only line
    INSIDE an indented code block keeps its spaces beyond the fourth. -/
example : textsOf (blockPhase dflt 30 T2) = [[L "para\n"], [L "indented code\n"], [L "nested\n", L "more\n"]] := by decide_lit
example : outlineOf (blockPhase dflt 30 T2) = outlineOf (blockPhase dflt 30 T) := by decide_lit

/-- outside any code block a line of four spaces is a blank line, at top level and inside the item alike (`BlockCode.start`
    as first checked out did not look at the rest of the line and started an indented code block on it at top level, so the
    two parses differed: repaired in /repo by 0b09465) -/
def spaces4 : List Str := [L "a\n", L "    \n", L "b\n"]
attribute [lit] spaces4
example : outlineOf (blockPhase dflt 30 spaces4) = ([(0, "p", 1, 1), (0, "p", 3, 3)], 0) := by decide_lit
example : outlineOf (blockPhase dflt 30 (normDoc spaces4)) = ([(0, "p", 1, 1), (0, "p", 3, 3)], 0) := by decide_lit
example : outlineOf (blockPhase dflt 40 (indentDocAt 0 (L "-") 1 false spaces4)) =
    ([(0, "list", 1, 1), (1, "item(loose)", 1, 1), (2, "p", 1, 1), (2, "p", 3, 3)], 0) := by decide_lit
example : itemDocOk2 spaces4 = true := by decide_lit

/-- `i ≤ 3`: at indentation 4 the marker line is indented code -/
example : outlineOf (blockPhase dflt 40 (indentDocAt 4 (L "-") 1 false [L "a\n", L "b\n"])) = ([(0, "code", 1, 1)], 0) := by decide_lit

/-- `pad ≤ 4`: five spaces after the marker leave four of them to the content (content offset 2), and the second line,
    indented by 6, keeps four spaces as well: `a / b` becomes a code block -/
example : outlineOf (blockPhase dflt 30 [L "a\n", L "b\n"]) = ([(0, "p", 1, 1)], 0) := by decide_lit
example : outlineOf (blockPhase dflt 40 (indentDocAt 0 (L "-") 5 false [L "a\n", L "b\n"])) =
    ([(0, "list", 1, 1), (1, "item", 1, 1), (2, "code", 1, 1)], 0) := by decide_lit

/-- `hc0`: the text begins with U+2003 (not a space, but `str.isspace`): `ListItem.pattern` takes it as padding, the content
    offset becomes 3, and `bar` behind two spaces is no longer part of the item -/
def emsp : List Str := [L "\u2003foo\n", L "\n", L "bar\n"]
attribute [lit] emsp
example : outlineOf (blockPhase dflt 30 emsp) = ([(0, "p", 1, 1), (0, "p", 3, 3)], 0) := by decide_lit
example : outlineOf (blockPhase dflt 40 (indentDocAt 0 (L "-") 1 false emsp)) =
    ([(0, "list", 1, 1), (1, "item", 1, 1), (2, "p", 1, 1), (0, "p", 3, 3)], 0) := by decide_lit

/-- `htb`: the text `* *` (a list in a list) behind the marker "* " is the thematic break `* * *` -/
example : outlineOf (blockPhase dflt 30 [L "* *\n"]) =
    ([(0, "list", 1, 1), (1, "item", 1, 1), (2, "list", 1, 1), (3, "item", 1, 1)], 0) := by decide_lit
example : outlineOf (blockPhase dflt 40 (indentDocAt 0 (L "*") 1 false [L "* *\n"])) = ([(0, "hr", 1, 1)], 0) := by decide_lit
/-- no such coincidence for "+", "N." and "N)" -/
example (rest : Str) : Scan.thematicBreak (List.replicate 3 ' ' ++ (L "12." ++ rest)) = false :=
  C04_htb_of_marker (L "12.") (listLeader_ordered (L "12") '.' (by decide) (by decide) (by decide) (Or.inl rfl)) 3 (by omega) rest
    (by intro c m' h; cases h; decide)

end Mistletoe.Props.C04
