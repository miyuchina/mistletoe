/-
  C03 with tables and indented code blocks (`Proofs/ComposeTable.lean`): non-vacuity.  A sample forest is well-formed by
  kernel evaluation; the theorems apply to it; evaluating the model on the written text in the kernel, independently of the
  theorems, gives the same HTML; the real `mistletoe.markdown` returns this string for this text.  Then what the predicate
  rejects and accepts, and the inputs on which model and implementation differ from the GFM / CommonMark documents.
-/
import Mistletoe.Proofs.ComposeTable
import Mistletoe.Proofs.Lit
namespace Mistletoe.ComposeT
open Mistletoe Mistletoe.Py Mistletoe.Scan Mistletoe.Compose
open Mistletoe.Block
open Mistletoe.Html

def L (s : String) : Str := s.toList
/-- several string literals joined (the kernel evaluates short literals much faster than long ones) -/
def LL (ss : List String) : Str := (ss.map String.toList).flatten
attribute [lit] L LL
attribute [local lit] List.map_cons List.map_nil

/-- * a table with three columns `:--` (left), ` :-: ` (centre), `---:` (right), cells with characters to escape; a short
      body row, a long one written without outer pipes, one with an empty cell and no trailing pipe;
    * a quote holding a table written without outer pipes (its body row with them) and an indented code block;
    * a loose list whose item holds a paragraph, a one-column table without body rows and an indented code block with a
      blank line inside;
    * a fence; an indented code block with interior lines "\n", "  \n" and "      \n" and a deeper indented line; a
      paragraph. -/
def sampleT : List T4 := [
  .leaf (.table ⟨true, true, [L " a ", L " b & 1 < 2 ", L " d "]⟩
      ⟨true, true, [⟨0, true, 2, false, 0⟩, ⟨1, true, 1, true, 1⟩, ⟨0, false, 3, true, 0⟩]⟩
      [⟨true, true, [L " 1 "]⟩,
       ⟨false, false, [L "1 ", L " 2 ", L " 3 ", L " 4"]⟩,
       ⟨true, false, [L " ", L " \"x\""]⟩]),
  .quote false [
    .leaf (.table ⟨false, false, [L "h1 ", L " h2"]⟩ ⟨false, false, [⟨0, false, 3, false, 1⟩, ⟨1, false, 3, false, 0⟩]⟩
      [⟨true, true, [L "q"]⟩]),
    .leaf (.icode [L "    quoted code\n"])],
  .list false 0 '-' 1 true [[.para [L "item\n"],
    .leaf (.table ⟨true, true, [L "k"]⟩ ⟨true, true, [⟨0, false, 1, false, 0⟩]⟩ []),
    .leaf (.icode [L "    in item\n", L "\n", L "     deeper\n"])]],
  .fence 0 (L "```") (L "") [L "x\n"] (L "```\n"),
  .leaf (.icode [L "    code <1>\n", L "\n", L "      more  \n", L "  \n", L "      \n", L "    last\n"]),
  .para [L "after\n"]]

theorem sampleT_ok : T4.oks sampleT = true := by decide +kernel

def textT : Str := LL [
  "| a | b & 1 < 2 | d |\n|:--| :-: |---:|\n| 1 |\n1 | 2 | 3 | 4\n",
  "| | \"x\"\n\n> h1 | h2\n> --- | ---\n> |q|\n> \n>     quoted code\n\n",
  "- item\n\n  |k|\n  |-|\n\n      in item\n\n       deeper\n\n```\nx\n",
  "```\n\n    code <1>\n\n      more  \n  \n      \n    last\n\nafter\n"]
attribute [lit] textT

theorem writesT_eq : (writes4 sampleT).flatten = textT := by decide_lit
example : (writes4 sampleT).flatten = textT := writesT_eq

/-- on /repo, `mistletoe.markdown(textT) == htmlT` -/
def htmlT : Str := LL [
  "<table>\n<thead>\n<tr>\n<th align=\"left\">a</th>\n",
  "<th align=\"center\">b &amp; 1 &lt; 2</th>\n",
  "<th align=\"right\">d</th>\n</tr>\n</thead>\n<tbody>\n<tr>\n",
  "<td align=\"left\">1</td>\n<td align=\"center\"></td>\n",
  "<td align=\"right\"></td>\n</tr>\n<tr>\n<td align=\"left\">1</td>\n",
  "<td align=\"center\">2</td>\n<td align=\"right\">3</td>\n",
  "<td align=\"left\">4</td>\n</tr>\n<tr>\n<td align=\"left\"></td>\n",
  "<td align=\"center\">\"x\"</td>\n<td align=\"right\"></td>\n</tr>\n",
  "</tbody>\n</table>\n<blockquote>\n<table>\n<thead>\n<tr>\n",
  "<th align=\"left\">h1</th>\n<th align=\"left\">h2</th>\n</tr>\n",
  "</thead>\n<tbody>\n<tr>\n<td align=\"left\">q</td>\n",
  "<td align=\"left\"></td>\n</tr>\n</tbody>\n</table>\n",
  "<pre><code>quoted code\n</code></pre>\n</blockquote>\n<ul>\n",
  "<li>\n<p>item</p>\n<table>\n<thead>\n<tr>\n",
  "<th align=\"left\">k</th>\n</tr>\n</thead>\n<tbody>\n</tbody>\n",
  "</table>\n<pre><code>in item\n\n deeper\n</code></pre>\n</li>\n",
  "</ul>\n<pre><code>x\n</code></pre>\n<pre><code>code &lt;1&gt;\n\n",
  "  more  \n\n  \nlast\n</code></pre>\n<p>after</p>\n"]
attribute [lit] htmlT

theorem htmlOfT_eq : htmlOf4 {} sampleT = htmlT := by decide_lit
example : htmlOf4 {} sampleT = htmlT := htmlOfT_eq
example : needs4 sampleT = 285 := by decide +kernel

example : Config.renderHtml {} 285 textT = some htmlT := by
  rw [← writesT_eq, C03_table_html_partial {} sampleT sampleT_ok (by decide) 285 (by decide +kernel), htmlOfT_eq]

/-- the same fact by evaluating the model on the text, without the theorem -/
example : Config.renderHtml {} 285 textT = some htmlT :=
  Config.renderHtml_of (by decide_lit)

example (cfg : Document.Cfg) (h : Config.html = some cfg) :
    Document.parse cfg 285 (writes4 sampleT).flatten = .ok { kids := blocks4 1 sampleT, footnotes := [] } := by
  obtain ⟨hb, ht, hc⟩ := Compose.html_config cfg h
  exact (C03_table_document_partial cfg _ hb ht hc sampleT sampleT_ok (by decide) 285 (by decide +kernel)).2

/-- the line numbers of the top-level tokens of the sample: the real `Document(textT)` reports 1, 7, 13, 22, 26, 33 -/
def lnOf : Mistletoe.Block → Nat
  | .table _ _ _ n => n
  | .quote _ n => n
  | .list _ _ _ n => n
  | .codeFence _ _ _ _ _ n => n
  | .blockCode _ n => n
  | .paragraph _ n => n
  | _ => 0
example : (blocks4 1 sampleT).map lnOf = [1, 7, 13, 22, 26, 33] := by decide +kernel

/-- **what the tree of a table looks like**: `column_align` from the delimiter row; the header `TableRow`; a short body row
    filled up with empty cells carrying the columns' alignments; a long body row with ALL its cells, the fourth with
    alignment `None`; header on the table's line, body rows two lines further down.  (The real code: `column_align`
    `[None, 0, 1]`, row line numbers 1, 3, 4, cells as here.) -/
example : blocks4 1 [.leaf (.table ⟨true, true, [L " a ", L " b ", L " c "]⟩
      ⟨true, true, [⟨0, true, 2, false, 0⟩, ⟨1, true, 1, true, 1⟩, ⟨0, false, 3, true, 0⟩]⟩
      [⟨true, true, [L " 1 "]⟩, ⟨false, false, [L "1 ", L " 2 ", L " 3 ", L " 4"]⟩])] =
    [.table [none, some 0, some 1]
      [.tableRow [none, some 0, some 1]
        [.tableCell none [.rawText (L "a")] 1, .tableCell (some 0) [.rawText (L "b")] 1, .tableCell (some 1) [.rawText (L "c")] 1] 1]
      [.tableRow [none, some 0, some 1]
        [.tableCell none [.rawText (L "1")] 3, .tableCell (some 0) [] 3, .tableCell (some 1) [] 3] 3,
       .tableRow [none, some 0, some 1]
        [.tableCell none [.rawText (L "1")] 4, .tableCell (some 0) [.rawText (L "2")] 4, .tableCell (some 1) [.rawText (L "3")] 4,
         .tableCell none [.rawText (L "4")] 4] 4] 1] := by
  simp only [lit]
  repeat rw [String.toList_ofList]
  rfl

/-- the content of the last code block of the sample: every line minus four columns; "  \n" gives "\n" -/
example : blocks4 26 [.leaf (.icode [L "    code <1>\n", L "\n", L "      more  \n", L "  \n", L "      \n", L "    last\n"])] =
    [.blockCode (L "code <1>\n\n  more  \n\n  \nlast\n") 26] := by
  simp only [lit]
  repeat rw [String.toList_ofList]
  rfl

def okT (h : Row) (d : DRow) (rows : List Row) : Bool := (Leaf.table h d rows).ok
def d1 : DRow := ⟨true, true, [⟨0, false, 3, false, 0⟩]⟩

/-- rejected: a cell with a pipe, with a backslash, with a code span; an empty cell string; a header that does not begin with a pipe
    and is a list item / a quote; a row without any pipe; a delimiter cell without a hyphen; a delimiter row without a
    pipe; header and delimiter row of different lengths; a row that begins with a space; a tab -/
example : [okT ⟨true, true, [L "a|b"]⟩ d1 [], okT ⟨true, true, [L "a\\"]⟩ d1 [], okT ⟨true, true, [L "`a`"]⟩ d1 [],
    okT ⟨true, true, [L ""]⟩ d1 [], okT ⟨false, true, [L "- a"]⟩ d1 [], okT ⟨false, true, [L "> a"]⟩ d1 [],
    okT ⟨true, true, [L "a"]⟩ d1 [⟨false, false, [L "b"]⟩], okT ⟨true, true, [L "a"]⟩ ⟨true, true, [⟨0, true, 0, true, 0⟩]⟩ [],
    okT ⟨true, true, [L "a"]⟩ ⟨false, false, [⟨0, false, 3, false, 0⟩]⟩ [], okT ⟨true, true, [L "a", L "b"]⟩ d1 [],
    okT ⟨false, true, [L " a"]⟩ d1 [], okT ⟨true, true, [L "a\tb"]⟩ d1 []] = List.replicate 12 false := by
  decide +kernel

/-- accepted: header without a leading pipe; one-column rows with one pipe only; wide padding; body rows of every
    spelling -/
example : [okT ⟨false, true, [L "a"]⟩ d1 [], okT ⟨true, false, [L "a"]⟩ ⟨false, true, [⟨2, true, 5, true, 3⟩]⟩ [],
    okT ⟨true, true, [L "   a   b   "]⟩ d1 [⟨true, false, [L "x"]⟩, ⟨false, true, [L "x"]⟩, ⟨false, false, [L "x", L "y"]⟩, ⟨true, true, [L "  "]⟩]] =
    List.replicate 3 true := by
  decide_lit

/-- indented code: a first or last line of whitespace, a line indented by three spaces, a tab, an empty block are
    rejected; two code blocks in a row are rejected (they would be one block), as is a code block as the first block of a
    list item or directly behind a list -/
example : [(Leaf.icode [L "    \n", L "    a\n"]).ok, (Leaf.icode [L "    a\n", L "\n"]).ok, (Leaf.icode [L "    a\n", L "   b\n"]).ok,
    (Leaf.icode [L "    a\tb\n"]).ok, (Leaf.icode []).ok,
    T4.oks [.leaf (.icode [L "    a\n"]), .leaf (.icode [L "    b\n"])],
    T4.ok (.list false 0 '-' 1 false [[.leaf (.icode [L "    a\n"])]]),
    T4.oks [.list false 0 '-' 1 false [[.para [L "a\n"]]], .leaf (.icode [L "    b\n"])]] = List.replicate 8 false := by
  decide_lit

/-- inside a list item an interior line of spaces is rejected (`itemDocOk`), "\n" is accepted -/
example : T4.ok (.list false 0 '-' 1 true [[.para [L "a\n"], .leaf (.icode [L "    a\n", L "  \n", L "    b\n"])]]) = false ∧
    T4.ok (.list false 0 '-' 1 true [[.para [L "a\n"], .leaf (.icode [L "    a\n", L "\n", L "    b\n"])]]) = true := by
  refine ⟨?_, ?_⟩ <;> decide_lit

/-! ### The delimiter row

  `drowOk` asks only for the shape; that the scanners accept every row of the shape is proved in `Proofs/ComposeTable.lean`
  (`delimiterRow_line`, `findAligns_line`, `mapRes_cores`).  Instances: -/

example : (DRow.mk true false [⟨3, true, 1, false, 0⟩, ⟨0, false, 4, true, 2⟩, ⟨0, true, 2, true, 0⟩]).line = L "|   :-|----:  |:--:\n" := by
  decide_lit
example : delimiterRow (L "|   :-|----:  |:--:\n") = true ∧ findAligns (L "|   :-|----:  |:--:\n") = [L ":-", L "----:", L ":--:"] ∧
    (DRow.mk true false [⟨3, true, 1, false, 0⟩, ⟨0, false, 4, true, 2⟩, ⟨0, true, 2, true, 0⟩]).aligns = [none, some 1, some 0] := by
  decide_lit

/-! ### Findings: where implementation (and model) leave the GFM / CommonMark documents

  Each input was run on /repo (`mistletoe.markdown`); the model returns the same string. -/

/-- **A body row with more cells than columns keeps its excess cells.**  GFM (tables extension): "The remainder of the
    table's rows may vary in the number of cells. … If there are greater, the excess is ignored".  `TableRow.__init__` pairs
    cells and alignments with `zip_longest`, so the extra cell is kept, with alignment `None`: two `<td>` in a one-column
    table.  The real code returns the same. -/
example : Config.renderHtml {} 100 (L "| a |\n|---|\n| 1 | 2 |\n") =
    some (L "<table>\n<thead>\n<tr>\n<th align=\"left\">a</th>\n</tr>\n</thead>\n<tbody>\n<tr>\n<td align=\"left\">1</td>\n<td align=\"left\">2</td>\n</tr>\n</tbody>\n</table>\n") :=
  Config.renderHtml_of (by decide_lit)

/-- **A header with more cells than the delimiter row still starts a table.**  GFM: "The header row must match the
    delimiter row in the number of cells.  If not, a table will not be recognized."  `Table.read` only tests the delimiter
    row.  (`Leaf.ok` asks for equal lengths, so the theorem does not speak about this input.) -/
example : Config.renderHtml {} 100 (L "| a | b |\n|---|\n") =
    some (L "<table>\n<thead>\n<tr>\n<th align=\"left\">a</th>\n<th align=\"left\">b</th>\n</tr>\n</thead>\n<tbody>\n</tbody>\n</table>\n") :=
  Config.renderHtml_of (by decide_lit)

/-- **A body row without a pipe ends the table.**  GFM example 201: "| abc | def |", "| --- | --- |", "| bar | baz |",
    "bar" - the line "bar" is a further row (the table is broken only at an empty line or at the beginning of another
    block).  `Table.read` collects lines only while they contain a `|`: the line becomes a paragraph.  (`rowOk` asks
    for a pipe in every row.) -/
example : Config.renderHtml {} 100 (L "| a |\n|---|\nbar\n") =
    some (L "<table>\n<thead>\n<tr>\n<th align=\"left\">a</th>\n</tr>\n</thead>\n<tbody>\n</tbody>\n</table>\n<p>bar</p>\n") :=
  Config.renderHtml_of (by decide_lit)

/-- **A line of four or more spaces between blank lines is a blank line.**  CommonMark: an indented code block is made of
    indented chunks separated by blank lines, a chunk being a sequence of NON-BLANK lines; a whitespace-only line is a
    blank line and is ignored here (`<p>a</p>`, `<p>b</p>`).  `BlockCode.start` asks for a visible character besides the
    four leading spaces (/repo 0b09465; with the four spaces alone the line opens a code block whose content is "\n",
    `<pre><code>\n</code></pre>` between the two paragraphs), and model and implementation return the two paragraphs. -/
example : Config.renderHtml {} 100 (L "a\n\n    \n\nb\n") = some (L "<p>a</p>\n<p>b</p>\n") :=
  Config.renderHtml_of (by decide_lit)

#print axioms C03_table_block_phase_partial
#print axioms C03_table_tokenize_partial
#print axioms C03_table_document_partial
#print axioms C03_table_render_partial
#print axioms C03_table_html_partial
#print axioms codeContent_eq

end Mistletoe.ComposeT
