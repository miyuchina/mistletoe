/-
  C03 for the tree `ComposeL.T2` (paragraphs, ATX headings, thematic breaks, block quotes, lists; `Proofs/ComposeLists.lean`):
  its block tokens and its HTML, and the theorems from the block phase to HTML.

  `T2` lies inside the tree with fenced code and setext headings, `ComposeC.T3`, as `T3` lies inside `T4`
  (`Proofs/ComposeEmbed.lean`): `up : T2 → T3` is the inclusion, the same eight groups of equations say that every function of
  `T3`, after `up`, is the function of `T2` (a tree of `T2` has no setext heading: `hasSx_up`), and every theorem about `T2`
  is the theorem about `T3` read at `up`.
-/
import Mistletoe.Proofs.ComposeEmbed
import Mistletoe.Proofs.Lit
namespace Mistletoe.ComposeL
open Mistletoe Mistletoe.Py Mistletoe.Scan Mistletoe.Compose
open Mistletoe.Block
open Mistletoe.Props.C14 (defaultTypes numbered)
open Mistletoe.InertInline (proseInlines inertClass)
open Mistletoe.Document (joinNl mkBlock mkBlocks mkItems)
open Mistletoe.Html Mistletoe.Escape
open Mistletoe.ComposeC (T3 write3 writes3 writeItems3 entry3 entries3 items3 need3 needs3 needItems3 touch3 touches3
  touchItems3 block3 blocks3 itemBlocks3 html3 htmlAfter3 htmlSep3 htmlItems3 htmlOf3 itemHtml3 isPara3 isList3
  sepOk3 firstLine3 writes3_single writes3_cons2 writeItems3_single writeItems3_cons2 sxOk_false)

/-! ### The expected block tokens -/

mutual
def block2 (n : Nat) : T2 → Mistletoe.Block
  | .para ls => .paragraph (proseInlines (ls.map strip)) n
  | .heading lv t line => .heading lv (closingOf line) [.rawText t] n
  | .hr line => .thematicBreak (Document.stripNl line) n
  | .quote _ kids => .quote (blocks2 n kids) n
  | .list o s mk pad loose items => .list loose (if o then some s else none) (itemBlocks o mk pad loose s n items) n
def blocks2 (n : Nat) : List T2 → List Mistletoe.Block
  | [] => []
  | t :: rest => block2 n t :: blocks2 (n + (write2 t).length + 1) rest
def itemBlocks (o : Bool) (mk : Char) (pad : Nat) (loose : Bool) (s : Nat) (n : Nat) : List (List T2) → List Mistletoe.Block
  | [] => []
  | it :: rest =>
    .listItem (leaderOf o s mk) 0 ((leaderOf o s mk).length + pad) ((loose && !rest.isEmpty) || decide (1 < it.length)) (blocks2 n it) n
      :: itemBlocks o mk pad loose (s + 1) (n + (writes2 it).length + (sepS loose).length) rest
end

/-! ### HTML written directly from the tree -/

def isPara2 : T2 → Bool
  | .para _ => true
  | _ => false

/-- `<li>`, the blocks of the item separated by newlines, `</li>`; a newline after `<li>` and before `</li>`, except, in a
    tight list (`s`), next to a paragraph (which is written without `<p>` there) -/
def itemHtml (s : Bool) (it : List T2) (inner : Str) : Str :=
  match it with
  | [] => "<li></li>".toList
  | first :: _ =>
    "<li>".toList ++ (if s && isPara2 first then [] else ['\n']) ++ inner
      ++ (if s && (it.getLast?.map isPara2).getD false then [] else ['\n']) ++ "</li>".toList

mutual
/-- `s`: directly inside an item of a tight list -/
def html2 (q : Quotes) (s : Bool) : T2 → Str
  | .para ls => if s then escapeHtmlText q.dq q.sq (joinNl (ls.map strip)) else paraHtml q ls
  | .heading lv t _ => headHtml q lv t
  | .hr _ => hrHtml
  | .quote _ kids => quoteHtml (htmlAfter q kids)
  | .list o st _ _ loose items => listHtml o st (htmlItems q (!loose) items)
/-- nodes, each followed by a newline (document, quote) -/
def htmlAfter (q : Quotes) : List T2 → Str
  | [] => []
  | t :: rest => html2 q false t ++ '\n' :: htmlAfter q rest
/-- nodes separated by newlines (list item) -/
def htmlSep (q : Quotes) (s : Bool) : List T2 → Str
  | [] => []
  | t :: rest =>
    match rest with
    | [] => html2 q s t
    | _ :: _ => html2 q s t ++ '\n' :: htmlSep q s rest
def htmlItems (q : Quotes) (s : Bool) : List (List T2) → Str
  | [] => []
  | it :: rest =>
    match rest with
    | [] => itemHtml s it (htmlSep q s it)
    | _ :: _ => itemHtml s it (htmlSep q s it) ++ '\n' :: htmlItems q s rest
end

def htmlOf2 (o : Opts) (ts : List T2) : Str := htmlAfter o.q ts

theorem itemHtml_nil (s : Bool) (inner : Str) : itemHtml s [] inner = "<li></li>".toList := rfl
theorem itemHtml_cons (s : Bool) (first : T2) (rest : List T2) (inner : Str) : itemHtml s (first :: rest) inner =
    "<li>".toList ++ (if s && isPara2 first then [] else ['\n']) ++ inner
      ++ (if s && ((first :: rest).getLast?.map isPara2).getD false then [] else ['\n']) ++ "</li>".toList := rfl

theorem htmlItems_cons2 (q : Quotes) (s : Bool) (it it' : List T2) (r : List (List T2)) :
    htmlItems q s (it :: it' :: r) = itemHtml s it (htmlSep q s it) ++ '\n' :: htmlItems q s (it' :: r) := by
  simp [htmlItems]

/-! ### The inclusion of `T2` in `T3` -/

mutual
def up : T2 → T3
  | .para ls => .para ls
  | .heading lv t line => .heading lv t line
  | .hr line => .hr line
  | .quote bare kids => .quote bare (ups kids)
  | .list o n mk pad loose items => .list o n mk pad loose (upItems items)
def ups : List T2 → List T3
  | [] => []
  | t :: r => up t :: ups r
def upItems : List (List T2) → List (List T3)
  | [] => []
  | it :: r => ups it :: upItems r
end

theorem ups_eq : ∀ ts, ups ts = ts.map up
  | [] => rfl
  | t :: r => by simp [ups, ups_eq r]
theorem upItems_eq : ∀ its, upItems its = its.map ups
  | [] => rfl
  | t :: r => by simp [upItems, upItems_eq r]
theorem ups_length (ts : List T2) : (ups ts).length = ts.length := by simp [ups_eq]
theorem ups_isEmpty (ts : List T2) : (ups ts).isEmpty = ts.isEmpty := by cases ts <;> rfl
theorem upItems_isEmpty (its : List (List T2)) : (upItems its).isEmpty = its.isEmpty := by cases its <;> rfl
theorem ups_ne {ts : List T2} (h : ts ≠ []) : ups ts ≠ [] := by cases ts <;> simp_all [ups]
theorem upItems_ne {its : List (List T2)} (h : its ≠ []) : upItems its ≠ [] := by cases its <;> simp_all [upItems]

/-! ### Every function of `T3`, after the inclusion, is the function of `T2` -/

mutual
theorem write_up : ∀ t, write3 (up t) = write2 t
  | .para _ | .heading .. | .hr _ => by simp [up, write3, write2]
  | .quote bare kids => by simp [up, write3, write2, writes_up kids]
  | .list o n mk pad loose items => by simp [up, write3, write2, writeItems_up o mk pad loose items n]
theorem writes_up : ∀ ts, writes3 (ups ts) = writes2 ts
  | [] => rfl
  | [t] => by rw [ups, ups, writes3_single, writes2_single, write_up t]
  | t :: t' :: r => by
    rw [ups, ups, writes3_cons2, writes2_cons2, write_up t, ← ups, writes_up (t' :: r)]
theorem writeItems_up (o : Bool) (mk : Char) (pad : Nat) (loose : Bool) : ∀ its n,
    writeItems3 o mk pad loose n (upItems its) = writeItems o mk pad loose n its
  | [], _ => rfl
  | [it], n => by rw [upItems, upItems, writeItems3_single, writeItems_single, writes_up it]
  | it :: it' :: r, n => by
    rw [upItems, upItems, writeItems3_cons2, writeItems_cons2, writes_up it, ← upItems, writeItems_up o mk pad loose (it' :: r)]
end

mutual
theorem hasSx_up : ∀ t, ComposeC.hasSx (up t) = false
  | .para _ | .heading .. | .hr _ => rfl
  | .quote _ kids => by simp [up, ComposeC.hasSx, hasSxs_up kids]
  | .list _ _ _ _ _ items => by simp [up, ComposeC.hasSx, hasSxItems_up items]
theorem hasSxs_up : ∀ ts, ComposeC.hasSxs (ups ts) = false
  | [] => rfl
  | t :: r => by simp [ups, ComposeC.hasSxs, hasSx_up t, hasSxs_up r]
theorem hasSxItems_up : ∀ its, ComposeC.hasSxItems (upItems its) = false
  | [] => rfl
  | t :: r => by simp [upItems, ComposeC.hasSxItems, hasSxs_up t, hasSxItems_up r]
end

mutual
theorem need_up : ∀ t, need3 (up t) = need2 t
  | .para _ | .heading .. | .hr _ => rfl
  | .quote _ kids => by simp [up, need3, need2, needs_up kids]
  | .list _ _ _ _ _ items => by simp [up, need3, need2, needItems_up items]
theorem needs_up : ∀ ts, needs3 (ups ts) = needs2 ts
  | [] => rfl
  | t :: r => by simp [ups, needs3, needs2, need_up t, needs_up r]
theorem needItems_up : ∀ its, needItems3 (upItems its) = needItems its
  | [] => rfl
  | t :: r => by simp [upItems, needItems3, needItems, needs_up t, needItems_up r]
end

mutual
theorem touch_up : ∀ t, touch3 (up t) = touch t
  | .para _ | .heading .. | .hr _ | .quote .. => rfl
  | .list _ _ _ _ _ items => by simp [up, touch3, touch, touchItems_up items]
theorem touches_up : ∀ ts, touches3 (ups ts) = touches ts
  | [] => rfl
  | t :: r => by simp [ups, touches3, touches, touch_up t, touches_up r]
theorem touchItems_up : ∀ its, touchItems3 (upItems its) = touchItems its
  | [] => rfl
  | t :: r => by simp [upItems, touchItems3, touchItems, touches_up t, touchItems_up r]
end

mutual
theorem entry_up : ∀ t n, entry3 n (up t) = entry2 n t
  | .para _, _ | .heading .., _ | .hr _, _ => rfl
  | .quote _ kids, n => by simp [up, entry3, entry2, entries_up kids n, ups_length]
  | .list o s mk pad loose items, n => by simp [up, entry3, entry2, items_up o mk pad loose items s n]
theorem entries_up : ∀ ts n, entries3 n (ups ts) = entries2 n ts
  | [], _ => rfl
  | t :: r, n => by simp [ups, entries3, entries2, entry_up t n, write_up t, entries_up r]
theorem items_up (o : Bool) (mk : Char) (pad : Nat) (loose : Bool) : ∀ its s n,
    items3 o mk pad loose s n (upItems its) = items2 o mk pad loose s n its
  | [], _, _ => rfl
  | it :: r, s, n => by
    simp [upItems, items3, items2, entries_up it n, writes_up it, ups_length, upItems_isEmpty, items_up o mk pad loose r]
end

theorem sepOk_up (t t' : T2) : sepOk3 (up t) (up t') = sepOk t t' := by
  have h1 : ∀ t, isList3 (up t) = isList t := fun t => by cases t <;> rfl
  simp [sepOk3, sepOk, h1, write_up]

mutual
theorem ok_up : ∀ t, (up t).ok = t.ok
  | .para _ | .heading .. | .hr _ => rfl
  | .quote bare kids => by simp [up, ComposeC.T3.ok, T2.ok, oks_up kids, writes_up kids, hasSxs_up kids, ups_isEmpty]
  | .list o n mk pad loose items => by
    have hl : (upItems items).length = items.length := by simp [upItems_eq]
    rw [up, ComposeC.T3.ok, T2.ok, okItems_up o mk pad items n, hl, upItems_isEmpty]
    simp [upItems_eq, ups_length, Function.comp_def]
theorem oks_up : ∀ ts, ComposeC.T3.oks (ups ts) = T2.oks ts
  | [] => rfl
  | [t] => by simp [ups, ComposeC.T3.oks, T2.oks, ok_up t]
  | t :: t' :: r => by
    have := oks_up (t' :: r)
    rw [ups] at this
    rw [ups, ups, ComposeC.T3.oks, T2.oks, ok_up t, this]
    simp only [sepOk_up]
theorem okItems_up (o : Bool) (mk : Char) (pad : Nat) : ∀ its n,
    ComposeC.T3.okItems o mk pad n (upItems its) = T2.okItems o mk pad n its
  | [], _ => rfl
  | it :: r, n => by
    simp [upItems, ComposeC.T3.okItems, T2.okItems, oks_up it, writes_up it, ups_isEmpty, okItems_up o mk pad r]
end

mutual
theorem block_up : ∀ t n, block3 n (up t) = block2 n t
  | .para _, _ | .heading .., _ | .hr _, _ => rfl
  | .quote _ kids, n => by simp [up, block3, block2, blocks_up kids n]
  | .list o s mk pad loose items, n => by simp [up, block3, block2, itemBlocks_up o mk pad loose items s n]
theorem blocks_up : ∀ ts n, blocks3 n (ups ts) = blocks2 n ts
  | [], _ => rfl
  | t :: r, n => by simp [ups, blocks3, blocks2, block_up t n, write_up t, blocks_up r]
theorem itemBlocks_up (o : Bool) (mk : Char) (pad : Nat) (loose : Bool) : ∀ its s n,
    itemBlocks3 o mk pad loose s n (upItems its) = itemBlocks o mk pad loose s n its
  | [], _, _ => rfl
  | it :: r, s, n => by
    simp [upItems, itemBlocks3, itemBlocks, blocks_up it n, writes_up it, ups_length, upItems_isEmpty,
      itemBlocks_up o mk pad loose r]
end

theorem itemHtml_up (s : Bool) (it : List T2) (inner : Str) : itemHtml3 s (ups it) inner = itemHtml s it inner := by
  have hp : ∀ t, isPara3 (up t) = isPara2 t := fun t => by cases t <;> rfl
  have hl : (ups it).getLast?.map isPara3 = it.getLast?.map isPara2 := by
    rw [ups_eq, List.getLast?_map, Option.map_map]
    exact congrArg (Option.map · _) (funext hp)
  cases it with
  | nil => rw [ups, ComposeC.itemHtml3_nil, itemHtml_nil]
  | cons t r =>
    rw [ups] at hl ⊢
    -- through the two equations: unfolding the definitions would evaluate the string literals
    rw [ComposeC.itemHtml3_cons, itemHtml_cons, hp, hl]

mutual
theorem html_up (q : Quotes) : ∀ t s, html3 q s (up t) = html2 q s t
  | .para _, _ | .heading .., _ | .hr _, _ => rfl
  | .quote _ kids, _ => by simp [up, html3, html2, htmlAfter_up q kids]
  | .list o st _ _ loose items, _ => by simp [up, html3, html2, htmlItems_up q items]
theorem htmlAfter_up (q : Quotes) : ∀ ts, htmlAfter3 q (ups ts) = htmlAfter q ts
  | [] => rfl
  | t :: r => by simp [ups, htmlAfter3, htmlAfter, html_up q t, htmlAfter_up q r]
theorem htmlSep_up (q : Quotes) : ∀ ts s, htmlSep3 q s (ups ts) = htmlSep q s ts
  | [], _ => rfl
  | [t], s => by simp [ups, htmlSep3, htmlSep, html_up q t]
  | t :: t' :: r, s => by
    have := htmlSep_up q (t' :: r) s
    rw [ups] at this
    simp only [ups, htmlSep3, htmlSep, html_up q t] at this ⊢
    rw [this]
theorem htmlItems_up (q : Quotes) : ∀ its s, htmlItems3 q s (upItems its) = htmlItems q s its
  | [], _ => rfl
  | [it], s => by simp [upItems, htmlItems3, htmlItems, htmlSep_up q it, itemHtml_up]
  | it :: it' :: r, s => by
    rw [upItems, upItems, ComposeC.htmlItems3_cons2, htmlItems_cons2, htmlSep_up q it, itemHtml_up, ← upItems,
      htmlItems_up q (it' :: r)]
end

/-! ### The statements about `T3`, read at `up` -/

theorem writeItems_lineOk (o : Bool) (mk : Char) (pad : Nat) (loose : Bool) : ∀ (n : Nat) (items : List (List T2)),
    T2.okItems o mk pad n items = true → ∀ s ∈ writeItems o mk pad loose n items, LineOk s := by
  intro n items h s hs
  rw [← writeItems_up] at hs
  exact ComposeC.writeItems3_lineOk o mk pad loose n (upItems items) (by rw [okItems_up, h]) s hs

theorem entry2_shift (j : Nat) : ∀ (n : Nat) (t : T2), shiftEntry j (entry2 n t) = entry2 (n + j) t := by
  intro n t
  have := ComposeC.entry3_shift j n (up t)
  rwa [entry_up, entry_up] at this

theorem items2_shift (j : Nat) (o : Bool) (mk : Char) (pad : Nat) (loose : Bool) : ∀ (s n : Nat) (items : List (List T2)),
    shiftItems j (items2 o mk pad loose s n items) = items2 o mk pad loose s (n + j) items := by
  intro s n items
  have := ComposeC.items3_shift j o mk pad loose s n (upItems items)
  rwa [items_up, items_up] at this

theorem firstLine_up (items : List (List T2)) : firstLine3 (upItems items) = firstLine items := by
  cases items with
  | nil => rfl
  | cons it r => simp [upItems, firstLine3, firstLine, writes_up]

theorem items_claim (ti : Bool) (o : Bool) (mk : Char) (pad : Nat) (loose : Bool) (h1 : 1 ≤ pad) (h4 : pad ≤ 4) :
    ∀ (n : Nat) (items : List (List T2)), T2.okItems o mk pad n items = true → items ≠ [] → ItemsClaim ti o mk pad loose n items := by
  intro n items h hne pre post start k st gas acc ld nm hk hg hpost hln
  have := ComposeC.items_claim ti o mk pad loose h1 h4 n (upItems items) (by rw [okItems_up, h]) (upItems_ne hne)
    pre post start k st gas acc ld nm hk (by rwa [needItems_up]) hpost (by unfold ComposeC.LdNm; rw [firstLine_up]; exact hln)
    (by rw [hasSxItems_up]; exact sxOk_false _)
  rwa [writeItems_up, items_up, touchItems_up] at this

theorem mkBlock_entry2 (cfg : Document.Cfg) (fn : Footnotes.Table) (ht : ∀ t ∈ cfg.span, inertClass t = true)
    (hc : cfg.span.count .lineBreak = 1) : ∀ (t : T2), t.ok = true → ∀ (n : Nat),
    mkBlock cfg fn (entry2 n t) = .ok (some (block2 n t)) := by
  intro t h n
  have := ComposeC.mkBlock_entry3 cfg fn ht hc (up t) (by rw [ok_up, h]) n
  rwa [entry_up, block_up] at this

theorem mkItems_items2 (cfg : Document.Cfg) (fn : Footnotes.Table) (ht : ∀ t ∈ cfg.span, inertClass t = true)
    (hc : cfg.span.count .lineBreak = 1) (o : Bool) (mk : Char) (pad : Nat) (loose : Bool) : ∀ (s n : Nat) (items : List (List T2)),
    T2.okItems o mk pad s items = true →
    mkItems cfg fn (items2 o mk pad loose s n items) = .ok (itemBlocks o mk pad loose s n items) := by
  intro s n items h
  have := ComposeC.mkItems_items3 cfg fn ht hc o mk pad loose s n (upItems items) (by rw [okItems_up, h])
  rwa [items_up, itemBlocks_up] at this

theorem flat_sep2 (q : Quotes) (s : Bool) : ∀ (ts : List T2) (n : Nat),
    flat (renderSep q s (blocks2 n ts)) = htmlSep q s ts := by
  intro ts n
  have := ComposeC.flat_sep3 q s (ups ts) n
  rwa [blocks_up, htmlSep_up] at this

theorem flat_items2 (q : Quotes) (o : Bool) (mk : Char) (pad : Nat) (loose : Bool) (s : Bool) : ∀ (items : List (List T2)) (st n : Nat),
    flat (renderSep q s (itemBlocks o mk pad loose st n items)) = htmlItems q s items := by
  intro items st n
  have := ComposeC.flat_items3 q o mk pad loose s (upItems items) st n
  rwa [itemBlocks_up, htmlItems_up] at this

/-! ### C03 with lists: the statements

  INSIDE the fragment (tree type `T2`, well-formedness `T2.oks`, decidable): everything `Props/C03.lean` covers
  (paragraphs of inert lines, ATX headings and thematic breaks in any spelling, block quotes with "> " or ">") and
  bullet lists (`-`, `+`, `*`) and ordered lists (numbers `start`, `start + 1`, …, up to nine digits, delimiter `.` or `)`),
  one to four spaces after the marker, TIGHT (no blank line between items, one block per item) or LOOSE (one blank line
  between items; an item holds one or more blocks separated by one blank line), any number of items; an item holds any
  blocks of the fragment - paragraphs (one or more lines), headings, thematic breaks, quotes, lists - to any depth;
  lists inside quotes, quotes inside lists.  Continuation lines are indented by the width of marker + padding.

  OUTSIDE (in addition to what `Props/C03.lean` lists): two lists in a row (same marker type: one list, by the
  specification too; other marker type: the "\n" line between them is taken into the last item, see the examples); a
  block behind a list whose first line begins with a space; an item whose first line begins with whitespace, is empty
  or is a blank line; marker indentation 1-3; lazy continuation lines; a tight list whose items hold two blocks (a
  paragraph directly followed by a nested list); more than one blank line between items. -/

/-- **The block phase parses a written tree back (lists included).**  For every well-formed forest `ts`, either
    `tableInterrupt`, every gas ≥ `needs2 ts`: one entry per top-level node; a `List` entry holds one `Item` per item of the
    tree - content the entries of the item's blocks, `loose` = "a blank line follows inside the list, or more than one
    block", indentation 0, content offset = marker width + padding, the marker as leader - every entry and item
    reporting the line the writer put it on; no link definition is found. -/
theorem C03_lists_block_phase_partial (ti : Bool) (ts : List T2) (h : T2.oks ts = true) (hne : ts ≠ []) (gas : Nat)
    (hg : needs2 ts ≤ gas) :
    blockPhase { types := Props.C14.defaultTypes, tableInterrupt := ti } gas (writes2 ts) =
      .ok ({ entries := entries2 1 ts, loose := decide (1 < ts.length) }, {}) := by
  have := ComposeC.C03_code_block_phase_partial ti (ups ts) (by rw [oks_up, h]) (ups_ne hne) gas (by rwa [needs_up])
  rwa [writes_up, entries_up, ups_length] at this

/-- the same at an arbitrary place: lines numbered from `k + 1`, any state, with or without a final "\n" line -/
theorem C03_lists_tokenize_partial (ti : Bool) (ts : List T2) (h : T2.oks ts = true) (hne : ts ≠ []) (tail : Bool) (k : Nat) (st : St)
    (gas : Nat) (hg : needs2 ts ≤ gas) :
    tokenizeBlock { types := Props.C14.defaultTypes, tableInterrupt := ti } gas (numbered k (writes2 ts ++ sepS tail)) (k + 1) st =
      .ok ({ entries := entries2 (k + 1) ts, loose := decide (1 < ts.length) || tail },
           { setext := st.setext || touches ts, defs := st.defs }) := by
  have := ComposeC.C03_code_tokenize_partial ti (ups ts) (by rw [oks_up, h]) (ups_ne hne) tail k st gas (by rwa [needs_up])
    (by rw [hasSxs_up]; intro e; cases e)
  rwa [writes_up, entries_up, touches_up, ups_length] at this

/-- **`Document(lines)` is the tree.**  The document's children are the expected block tokens: paragraphs, headings,
    thematic breaks, quotes as in `Props/C03.lean`; a `List` token per list node with `loose` as the tree says, `start` the
    tree's start number (ordered) or `None` (bullet), and one `ListItem` per item (leader, indentation 0, content offset,
    looseness, the item's blocks) - each with the line number the writer put it on; no footnotes. -/
theorem C03_lists_document_partial (cfg : Document.Cfg) (ti : Bool)
    (hb : cfg.block = { types := Props.C14.defaultTypes, tableInterrupt := ti })
    (ht : ∀ t ∈ cfg.span, inertClass t = true) (hc : cfg.span.count .lineBreak = 1)
    (ts : List T2) (h : T2.oks ts = true) (hne : ts ≠ []) (gas : Nat) (hg : needs2 ts ≤ gas) :
    Document.parseLines cfg gas (writes2 ts) = .ok { kids := blocks2 1 ts, footnotes := [] } ∧
    Document.parse cfg gas (writes2 ts).flatten = .ok { kids := blocks2 1 ts, footnotes := [] } := by
  have := ComposeC.C03_code_document_partial cfg ti hb ht hc (ups ts) (by rw [oks_up, h]) (ups_ne hne) gas (by rwa [needs_up])
  rwa [writes_up, blocks_up] at this

/-- **The HTML of the expected document is the HTML written directly from the tree**, for every quote option. -/
theorem C03_lists_render_partial (o : Opts) (ts : List T2) (hne : ts ≠ []) (fn : List (Str × Str × Str)) :
    render o { kids := blocks2 1 ts, footnotes := fn } = htmlOf2 o ts := by
  have := ComposeC.C03_code_render_partial o (ups ts) (ups_ne hne) fn
  rwa [blocks_up, htmlOf3, htmlAfter_up] at this

/-- **End to end.**  `HtmlRenderer(**opts).render(Document(text))`, with the token lists the HTML renderer installs in the
    working tree, on the text written out from a well-formed forest, returns the HTML written directly from the forest:
    `<ul>` / `<ol>` (`start="n"` unless n = 1), one `<li>` per item, paragraphs of a tight list without `<p>`, those of
    a loose list with `<p>` and on lines of their own; everything else as in `Props/C03.lean`. -/
theorem C03_lists_html_partial (o : Opts) (ts : List T2) (h : T2.oks ts = true) (hne : ts ≠ []) (gas : Nat) (hg : needs2 ts ≤ gas) :
    Config.renderHtml o gas (writes2 ts).flatten = some (htmlOf2 o ts) := by
  have := ComposeC.C03_code_html_partial o (ups ts) (by rw [oks_up, h]) (ups_ne hne) gas (by rwa [needs_up])
  rwa [writes_up, htmlOf3, htmlAfter_up] at this

/-! ### Non-vacuity -/

def L (s : String) : Str := s.toList

/-- a tight three-item bullet list (the second item a two-line paragraph) between two paragraphs -/
def sampleA : List T2 := [
  .para [L "before the list\n"],
  .list false 0 '-' 1 false [[.para [L "one\n"]], [.para [L "two, first line\n", L "second & last line\n"]], [.para [L "three\n"]]],
  .para [L "after the list\n"]]

/-- a loose ordered list starting at 7 (delimiter ")", two spaces): an item of a paragraph and a quote; an item that is a
    heading; an item of a nested loose bullet list (whose second item has two paragraphs) and a paragraph; then a
    thematic break; then a quote holding a tight bullet list whose second item is a tight ordered list -/
def sampleB : List T2 := [
  .list true 7 ')' 2 true [
    [.para [L "seven\n"], .quote false [.para [L "quoted\n"], .hr (L "***\n")]],
    [.heading 2 (L "eight") (L "## eight ##\n")],
    [.list false 0 '*' 3 true [[.para [L "n1\n"]], [.para [L "n2\n"], .para [L "n2 b\n"]]], .para [L "end of nine\n"]]],
  .hr (L "___\n"),
  .quote false [.list false 0 '+' 1 false [[.para [L "a\n"]], [.list true 1 '.' 1 false [[.para [L "b\n"]], [.para [L "c\n"]]]]]]]

attribute [lit] L sampleA sampleB

theorem sampleA_ok : T2.oks sampleA = true := by decide_lit
theorem sampleB_ok : T2.oks sampleB = true := by decide_lit

example : (writes2 sampleA).flatten =
    L "before the list\n\n- one\n- two, first line\n  second & last line\n- three\n\nafter the list\n" := by decide_lit
example : (writes2 sampleB).flatten =
    L "7)  seven\n\n    > quoted\n    > \n    > ***\n\n8)  ## eight ##\n\n9)  *   n1\n\n    *   n2\n\n        n2 b\n\n    end of nine\n\n___\n\n> + a\n> + 1. b\n>   2. c\n" := by decide_lit

/-- the HTML written directly from the trees; the real renderer returns these strings for the two texts above -/
def htmlA : Str :=
  L "<p>before the list</p>\n<ul>\n<li>one</li>\n<li>two, first line\nsecond &amp; last line</li>\n<li>three</li>\n</ul>\n<p>after the list</p>\n"
def htmlB : Str :=
  L "<ol start=\"7\">\n<li>\n<p>seven</p>\n<blockquote>\n<p>quoted</p>\n<hr />\n</blockquote>\n</li>\n<li>\n<h2>eight</h2>\n</li>\n<li>\n<ul>\n<li>\n<p>n1</p>\n</li>\n<li>\n<p>n2</p>\n<p>n2 b</p>\n</li>\n</ul>\n<p>end of nine</p>\n</li>\n</ol>\n<hr />\n<blockquote>\n<ul>\n<li>a</li>\n<li>\n<ol>\n<li>b</li>\n<li>c</li>\n</ol>\n</li>\n</ul>\n</blockquote>\n"

attribute [lit] htmlA htmlB

theorem htmlA_eq : htmlOf2 {} sampleA = htmlA := by decide_lit
theorem htmlB_eq : htmlOf2 {} sampleB = htmlB := by decide_lit

example : htmlOf2 {} sampleA = htmlA ∧ htmlOf2 {} sampleB = htmlB := ⟨htmlA_eq, htmlB_eq⟩

example : needs2 sampleA = 169 ∧ needs2 sampleB = 489 := by decide +kernel

example : Config.renderHtml {} 169 (writes2 sampleA).flatten = some htmlA := by
  rw [C03_lists_html_partial {} sampleA sampleA_ok (by decide) 169 (by decide +kernel), htmlA_eq]
example : Config.renderHtml {} 489 (writes2 sampleB).flatten = some htmlB := by
  rw [C03_lists_html_partial {} sampleB sampleB_ok (by decide) 489 (by decide +kernel), htmlB_eq]

/-- the same two facts by evaluating the model on the text, without the theorem -/
example : Config.renderHtml {} 169 (writes2 sampleA).flatten = some htmlA :=
  Config.renderHtml_of (by decide_lit)
example : Config.renderHtml {} 489 (writes2 sampleB).flatten = some htmlB :=
  Config.renderHtml_of (by decide_lit)

-- `termination_by structural`: left to itself Lean compiles the four by well-founded recursion, without a message
mutual
/-- equality test on the entries that occur here -/
def sameE : Entry → Entry → Bool
  | .paragraph a l o, .paragraph a' l' o' => a == a' && l == l' && o == o'
  | .heading lv c cl l o, .heading lv' c' cl' l' o' => lv == lv' && c == c' && cl == cl' && l == l' && o == o'
  | .thematicBreak s l o, .thematicBreak s' l' o' => s == s' && l == l' && o == o'
  | .quote es lo l o, .quote es' lo' l' o' => sameEs es es' && lo == lo' && l == l' && o == o'
  | .list is l o, .list is' l' o' => sameIs is is' && l == l' && o == o'
  | _, _ => false
termination_by structural a => a
def sameIs : List Item → List Item → Bool
  | [], [] => true
  | i :: is, i' :: is' => sameI i i' && sameIs is is'
  | _, _ => false
termination_by structural a => a
def sameI : Item → Item → Bool
  | .mk inner lo ind pre ld ln og, .mk inner' lo' ind' pre' ld' ln' og' =>
    sameEs inner inner' && lo == lo' && ind == ind' && pre == pre' && ld == ld' && ln == ln' && og == og'
termination_by structural a => a
def sameEs : List Entry → List Entry → Bool
  | [], [] => true
  | e :: es, e' :: es' => sameE e e' && sameEs es es'
  | _, _ => false
termination_by structural a => a
end

def sameR : Res (Buf × St) → List Entry → Bool → Bool
  | .ok (b, st), es, lo => sameEs b.entries es && b.loose == lo && st.setext && st.defs.isEmpty
  | .err _, _, _ => false

/-- the entries `C03_lists_block_phase_partial` states for the first sample, written out: the list on line 3, its items
    on lines 3, 4, 6, not loose, indentation 0, content offset 2, leader "-" -/
example : sameEs (entries2 1 sampleA)
    [.paragraph [L "before the list\n"] 1 1,
     .list [.mk [.paragraph [L "one\n"] 3 3] false 0 2 ['-'] 3 3,
            .mk [.paragraph [L "two, first line\n", L "second & last line\n"] 4 4] false 0 2 ['-'] 4 4,
            .mk [.paragraph [L "three\n"] 6 6] false 0 2 ['-'] 6 6] 3 3,
     .paragraph [L "after the list\n"] 8 8] = true := by decide_lit

/-- the block phase evaluated in the kernel, independently of the theorem, gives the stated entries (both samples) -/
example : sameR (blockPhase (dcfg true) 169 (writes2 sampleA)) (entries2 1 sampleA) true = true := by decide_lit
example : sameR (blockPhase (dcfg true) 489 (writes2 sampleB)) (entries2 1 sampleB) true = true := by decide_lit
/-- the comparison does tell trees apart: the same list read as loose is not what comes out -/
example : sameR (blockPhase (dcfg true) 169 (writes2 sampleA))
    (entries2 1 [.para [L "before the list\n"],
      .list false 0 '-' 1 true [[.para [L "one\n"]], [.para [L "two, first line\n", L "second & last line\n"]], [.para [L "three\n"]]],
      .para [L "after the list\n"]]) true = false := by decide_lit

/-- the predicate is not trivially true: `* ***` (marker + first line is a thematic break), an item whose first line begins
    with a space, pad 5, an ordered list reaching ten digits, a bullet that is none, a "loose" list of one one-block item,
    a tight list with a two-block item; two lists in a row; a paragraph that begins with a space behind a list -/
example : [T2.list false 0 '*' 1 false [[.hr (L "***\n")]], T2.list false 0 '-' 1 false [[.para [L " a\n"]]],
    T2.list false 0 '-' 5 false [[.para [L "a\n"]]], T2.list true 999999999 '.' 1 false [[.para [L "a\n"]], [.para [L "b\n"]]],
    T2.list false 0 'x' 1 false [[.para [L "a\n"]]], T2.list false 0 '-' 1 true [[.para [L "a\n"]]],
    T2.list false 0 '-' 1 false [[.para [L "a\n"], .para [L "b\n"]]]].map T2.ok = List.replicate 7 false := by
  decide_lit
example : T2.oks [.list false 0 '-' 1 false [[.para [L "a\n"]]], .list false 0 '*' 1 false [[.para [L "b\n"]]]] = false ∧
    T2.oks [.list false 0 '-' 1 false [[.para [L "a\n"]]], .para [L "  b\n"]] = false ∧
    T2.oks [.list false 0 '-' 1 false [[.para [L "a\n"]]], .para [L "b\n"]] = true := by
  refine ⟨?_, ?_, ?_⟩ <;> decide_lit

/-- **Why no list behind a list.**  `- a`, blank, `* b`: `ListItem.read` hands the "\n" line to the first item (it sees the
    next marker before it would drop trailing blank lines), so the dispatcher never sees a blank line and the buffer is
    not marked loose, whereas two blocks separated by a blank line make a loose buffer everywhere else (the real
    `tokenize_block` does the same; the HTML is not affected: `<ul><li>a</li></ul><ul><li>b</li></ul>`) -/
example : sameR (blockPhase (dcfg true) 100 [L "- a\n", L "\n", L "* b\n"])
    [.list [.mk [.paragraph [L "a\n"] 1 1] false 0 2 ['-'] 1 1] 1 1, .list [.mk [.paragraph [L "b\n"] 3 3] false 0 2 ['*'] 3 3] 3 3]
    false = true := by decide_lit
/-- same marker type: one loose list (in the specification, too) -/
example : sameR (blockPhase (dcfg true) 100 [L "- a\n", L "\n", L "- b\n"])
    [.list [.mk [.paragraph [L "a\n"] 1 1] true 0 2 ['-'] 1 1, .mk [.paragraph [L "b\n"] 3 3] false 0 2 ['-'] 3 3] 1 1] false = true := by
  decide_lit
/-- **Why the block behind a list must not begin with a space**: two spaces are the content offset of "- " -/
example : sameR (blockPhase (dcfg true) 100 [L "- a\n", L "\n", L "  b\n"])
    [.list [.mk [.paragraph [L "a\n"] 1 1, .paragraph [L "b\n"] 3 3] true 0 2 ['-'] 1 1] 1 1] false = true := by decide_lit

end Mistletoe.ComposeL
