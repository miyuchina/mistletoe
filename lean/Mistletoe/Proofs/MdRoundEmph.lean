/-
  C09 (Markdown round trip) with INLINE MARKUP: emphasis, strong emphasis and backslash escapes.

  Elsewhere in C09 the text of a block is inline-inert (one `RawText` per line); here a paragraph's text has inline
  constructs: for a one-line text `s` of the C06 alphabet with backslashes (`plainEsc`: no backquote,
  brackets, `<`, `&`; `stdWs`; no `~~`) the Markdown renderer writes the inline tokens back as the text itself.

  `make_tokens` + the token constructors (`Inline.build`) + `MarkdownRenderer.make_fragments` (`Markdown.renderInlines`)
  on a resolved forest all of whose nodes are `Emphasis` / `Strong` tokens that carry the delimiter character found in the
  source, or `EscapeSequence`s (`NodeMd`), give back the source text, piece by piece (`md_make` / `md_before`, by induction
  over the forest: arbitrary nesting; the gaps are `RawText`, whose content is the source piece because there is no `&`
  for `html.unescape` to act on).  The candidates of a text of the alphabet are such nodes (`Parse.nodeMd`, from the parse
  of Proofs/EmphHtml.lean: the delimiters of a match are one or two copies of `m.delimiter`, in the source).  Hence
  `md_inline_exact_esc`: `tokenize_inner(s)` succeeds and `span_to_lines(tokens, None)` is `[s]`.  For documents,
  `emph_laws` is what the document chain (`MdRoundDoc.doc_roundtrip`) needs of such a paragraph; `blk3_laws` collects it
  with `MdRound.blk2_laws` (the theorems from the `str`: Props/C09_Emph.lean).

  No counterexample: on the alphabet the model reproduces every text exactly (the `Emphasis` / `Strong` tokens keep their
  `delimiter`, so `__a__` stays `__a__`; `EscapeSequence` is written back with its backslash), and so does the real code
  (see the examples at the end).
-/
import Mistletoe.Proofs.EmphHtml
import Mistletoe.Proofs.MdRoundCode
import Mistletoe.Proofs.MdRoundDoc
import Mistletoe.Proofs.Lit
namespace Mistletoe.MdRoundEmph
open Mistletoe Mistletoe.Span Mistletoe.Inline Mistletoe.Wrap Mistletoe.Markdown Mistletoe.EmphHtml

def texts (fs : List Fragment) : Str := (fs.map (·.text)).flatten

theorem texts_nil : texts [] = [] := rfl
theorem texts_cons (f : Fragment) (fs : List Fragment) : texts (f :: fs) = f.text ++ texts fs := by simp [texts]
theorem texts_append (a b : List Fragment) : texts (a ++ b) = texts a ++ texts b := by simp [texts]

theorem mem_texts {fs : List Fragment} {f : Fragment} (hf : f ∈ fs) : ∀ c ∈ f.text, c ∈ texts fs := by
  intro c hc
  unfold texts
  rw [List.mem_flatten]
  exact ⟨f.text, List.mem_map.2 ⟨f, hf, rfl⟩, hc⟩

theorem plainAux_flat : ∀ (fs : List Fragment) (cur : Str), (∀ f ∈ fs, '\n' ∉ f.text) →
    plainAux fs cur = if (cur ++ texts fs).isEmpty then [] else [cur ++ texts fs]
  | [], cur, _ => by simp [plainAux, texts]
  | f :: fs, cur, h => by
    have hf := h f (by simp)
    simp only [plainAux, MdRound.contains_nl_false f.text hf, Bool.false_eq_true, if_false]
    rw [plainAux_flat fs (cur ++ f.text) (fun g hg => h g (List.mem_cons_of_mem _ hg)), texts_cons]
    simp only [List.append_assoc]

theorem renderInlines_append_ok : ∀ (a b : List Mistletoe.Inline) (fa fb : List Fragment),
    renderInlines a = .ok fa → renderInlines b = .ok fb → renderInlines (a ++ b) = .ok (fa ++ fb)
  | [], b, fa, fb, ha, hb => by
    simp only [renderInlines, Res.ok.injEq] at ha
    subst ha
    simpa using hb
  | i :: a, b, fa, fb, ha, hb => by
    simp only [renderInlines] at ha
    cases hi : renderInline i with
    | err e => rw [hi] at ha; cases ha
    | ok f =>
      rw [hi] at ha
      cases hr : renderInlines a with
      | err e => rw [hr] at ha; cases ha
      | ok fs =>
        rw [hr] at ha
        simp only [Res.ok.injEq] at ha
        subst ha
        simp only [List.cons_append, renderInlines, hi, renderInlines_append_ok a b fs fb hr hb, List.append_assoc]

/-! ## From the resolved forest back to the source text -/

section
variable (s : Str) (found : List Found)

def Rd (os : List Out) (a b : Nat) : Prop :=
  ∃ fs, renderInlines (builds s found os) = .ok fs ∧ texts fs = slice s a b

theorem Rd_nil (a : Nat) : Rd s found [] a a := ⟨[], rfl, by rw [slice_self]; rfl⟩

theorem Rd_append {xs ys : List Out} {a b c : Nat} (h1 : Rd s found xs a b) (h2 : Rd s found ys b c) (hab : a ≤ b) (hbc : b ≤ c) :
    Rd s found (xs ++ ys) a c := by
  obtain ⟨fa, ha, ta⟩ := h1
  obtain ⟨fb, hb, tb⟩ := h2
  refine ⟨fa ++ fb, ?_, ?_⟩
  · rw [InertInline.builds_append]
    exact renderInlines_append_ok _ _ _ _ ha hb
  · rw [texts_append, ta, tb, slice_append s a b c hab hbc]

/-- a gap is a `RawText` holding the source piece: written back as it is -/
theorem Rd_raw (hamp : ∀ c ∈ s, c ≠ '&') (a b : Nat) (hab : a ≤ b) :
    Rd s found (if b > a then [.raw a b] else []) a b := by
  by_cases he : b > a
  · rw [if_pos he]
    refine ⟨[fragW (slice s a b)], ?_, ?_⟩
    · simp only [builds, build_raw found hamp, renderInlines, renderInline, List.append_nil]
    · simp [texts, fragW]
  · rw [if_neg he, show b = a by omega]
    exact Rd_nil s found a

/-- what the renderer needs to know about the token built from the candidate `c`: it is an `Emphasis` / `Strong` whose
    `delimiter` is the character the source has at both delimiter positions (once / twice), or the `EscapeSequence` of
    a backslash of the source with the character after it -/
def NodeMd (c : Cand) : Prop :=
  (c.inner = true ∧ ∃ (strong : Bool) (d : Char),
    slice s c.start c.pstart = (if strong then [d, d] else [d]) ∧
    slice s c.pend c.stop = (if strong then [d, d] else [d]) ∧
    ∀ kids, build s found (.tok c kids) =
      if strong then Mistletoe.Inline.strong [d] (builds s found kids) else Mistletoe.Inline.emphasis [d] (builds s found kids)) ∨
  (c.inner = false ∧ c.stop = c.start + 2 ∧ s[c.start]? = some '\\' ∧ c.start + 2 ≤ s.length ∧
    ∀ kids, build s found (.tok c kids) = Mistletoe.Inline.escapeSequence (slice s (c.start + 1) (c.start + 2)))

variable {s found}

mutual
theorem md_make (hamp : ∀ c ∈ s, c ≠ '&') : ∀ (t : PTok), t.WF → (∀ c ∈ nodes t, NodeMd s found c) →
    Rd s found [make t] t.c.start t.c.stop
  | .mk c kids, hwf, hN => by
    simp only [PTok.WF, CandWF] at hwf
    simp only [PTok.c]
    rcases hN c (mem_nodes_mk.2 (Or.inl rfl)) with ⟨hin, strong, d, ho, hcl, hb⟩ | ⟨hin, e3, hbs, hlen, hb⟩
    · obtain ⟨fs, hfs, tfs⟩ := md_before hamp kids c.pstart c.pend hwf.2 (by omega)
        (fun c' hc' => hN c' (mem_nodes_mk.2 (Or.inr hc')))
      rw [make_inner hin hwf.2 (show c.pstart ≤ c.pend by omega)]
      have hsl : slice s c.start c.pstart ++ slice s c.pstart c.pend ++ slice s c.pend c.stop = slice s c.start c.stop := by
        rw [slice_append s _ _ _ (by omega) (by omega), slice_append s _ _ _ (by omega) (by omega)]
      cases strong
      · refine ⟨embed (frag [d]) fs (frag [d]) ++ [], ?_, ?_⟩
        · simp only [builds, hb, Bool.false_eq_true, if_false, renderInlines, renderInline, hfs]
        · rw [← hsl, ho, hcl, ← tfs]
          simp [texts, embed, frag]
      · refine ⟨embed (frag ([d] ++ [d])) fs (frag ([d] ++ [d])) ++ [], ?_, ?_⟩
        · simp only [builds, hb, if_true, renderInlines, renderInline, hfs]
        · rw [← hsl, ho, hcl, ← tfs]
          simp [texts, embed, frag]
    · rw [make_leaf kids hin]
      refine ⟨[frag ('\\' :: slice s (c.start + 1) (c.start + 2))], ?_, ?_⟩
      · simp only [builds, hb, renderInlines, renderInline, List.append_nil]
      · rw [e3, slice_step s c.start (c.start + 2) '\\' (by omega) hbs]
        simp [texts, frag]
theorem md_before (hamp : ∀ c ∈ s, c ≠ '&') : ∀ (ts : List PTok) (a e : Nat), KidsOK ts a e → a ≤ e →
    (∀ c ∈ nodesL ts, NodeMd s found c) → Rd s found (makeBefore ts a e) a e
  | [], a, e, _, hae, _ => Rd_raw s found hamp a e hae
  | t :: earlier, a, e, hk, hae, hN => by
    simp only [KidsOK] at hk
    have wt := wf_cand t hk.1
    unfold CandWF at wt
    simp only [makeBefore]
    have i1 := md_before hamp earlier a t.c.start hk.2.2.2 hk.2.1 (fun c' hc' => hN c' (mem_nodesL_cons.2 (Or.inr hc')))
    have i2 := md_make hamp t hk.1 (fun c' hc' => hN c' (mem_nodesL_cons.2 (Or.inl hc')))
    have i3 := Rd_raw s found hamp t.c.stop e hk.2.2.1
    exact Rd_append s found (Rd_append s found i1 i2 hk.2.1 (by omega)) i3 (by omega) hk.2.2.1
end

theorem md_rev (hamp : ∀ c ∈ s, c ≠ '&') (ts : List PTok) (a e : Nat) (hk : KidsOK ts a e) (hae : a ≤ e)
    (hN : ∀ c ∈ nodesL ts, NodeMd s found c) : Rd s found (makeTokensRev ts a e) a e := by
  rw [← makeBefore_eq ts a e hk hae]
  exact md_before hamp ts a e hk hae hN

end

open Mistletoe.Core Mistletoe.InertInline Mistletoe.RefResolve Mistletoe.InlineScan

theorem _root_.Mistletoe.EmphHtml.Parse.nodeMd {types : List STok} {fn : Footnotes.Table} {s : Str} {ms : List CoreM}
    {found : List Found} (P : Parse types fn s ms found) : ∀ c ∈ nodesL (resolve (candsF types found)).reverse, NodeMd s found c := by
  intro c hc
  rcases P.cand c ((P.nodes c).1 hc) with ⟨m, hm, k, rfl, hb⟩ | ⟨i, hi, k, rfl, hb⟩
  · exact Or.inl ⟨rfl, m.kind == .strong, m.delimiter, (P.delim m hm).1, (P.delim m hm).2, hb⟩
  · exact Or.inr ⟨rfl, rfl, (P.esc i hi).1, (P.esc i hi).2.1, hb⟩

open Mistletoe.Py Mistletoe.Spec.EmphasisEsc

/-- **Exact reproduction at inline level, with backslash escapes.**  `s` is a one-line text of the alphabet of
    `C06_emphasis_is_spec_esc_partial` (`plainEsc`: no backquote, brackets, `<`, `&`; `stdWs`) without `~~`; `types` is a
    list of covered span token classes holding `CoreTokens` and `EscapeSequence` once each (the Markdown renderer's list:
    `md_config_covered`); `fn` is any table of link reference definitions.  Then `tokenize_inner(s)` succeeds, the
    fragments `MarkdownRenderer.make_fragments` makes of the tokens spell `s`, and `span_to_lines(tokens, None)` - what
    `render_paragraph` returns without line limit - is the single line `s`. -/
theorem md_inline_exact_esc (types : List STok) (fn : Footnotes.Table) (s : Str)
    (hp : plainEsc s = true) (hw : EmphRefine.stdWs s = true) (hnl : '\n' ∉ s) (htl : tildeOk s = true)
    (ht : ∀ t ∈ types, inertClass t = true) (hc : types.count .coreTokens = 1)
    (he : types.count .escapeSequence = 1) :
    ∃ ks, tokenizeInner types fn s = .ok ks ∧
      (∃ fs, renderInlines ks = .ok fs ∧ texts fs = s) ∧
      spanToLines ks none = .ok (if s.isEmpty then [] else [s]) := by
  obtain ⟨ms, found, P⟩ := emph_parse types fn s hp hw hnl htl ht hc (Or.inl he)
  obtain ⟨fs, hfs, tfs⟩ := md_rev P.amp _ 0 s.length P.kids (Nat.zero_le _) P.nodeMd
  rw [slice_full] at tfs
  refine ⟨_, P.tok, ⟨fs, hfs, tfs⟩, ?_⟩
  unfold spanToLines
  rw [hfs]
  simp only [fragmentsToLines]
  rw [plainAux_flat fs [] (fun f hf hm => hnl (tfs ▸ mem_texts hf _ hm)), tfs]
  simp

/-- **… for the alphabet without backslash** (`plain`, the alphabet of `emph_html_is_spec`): a special case -/
theorem md_inline_exact (types : List STok) (fn : Footnotes.Table) (s : Str)
    (hp : Spec.Emphasis.plain s = true) (hw : EmphRefine.stdWs s = true) (hnl : '\n' ∉ s) (htl : tildeOk s = true)
    (ht : ∀ t ∈ types, inertClass t = true) (hc : types.count .coreTokens = 1)
    (he : types.count .escapeSequence = 1) :
    ∃ ks, tokenizeInner types fn s = .ok ks ∧
      (∃ fs, renderInlines ks = .ok fs ∧ texts fs = s) ∧
      spanToLines ks none = .ok (if s.isEmpty then [] else [s]) :=
  md_inline_exact_esc types fn s (EmphRefine.plainEsc_of_plain hp) hw hnl htl ht hc he

open Mistletoe.Props.C14 (inertLine inertLine_quiet C14_config_covered)

/-- the span-token list the Markdown renderer installs consists of covered classes and holds `CoreTokens` and
    `EscapeSequence` once each (the lists are regenerated from /repo: Gen/RenderMaps.lean); the block types and `LineBreak`:
    `MdRound.markdown_cfg` -/
theorem md_config_covered : ∀ cfg, Config.markdown = some cfg →
    (∀ t ∈ cfg.span, inertClass t = true) ∧ cfg.span.count .coreTokens = 1 ∧ cfg.span.count .escapeSequence = 1 := by
  intro cfg hc
  obtain ⟨ht, hcore⟩ := C07_config_covered cfg (Or.inr (Or.inl hc))
  rw [Config.markdown_eq] at hc
  cases hc
  exact ⟨ht, hcore, by decide⟩

/-- `Document(s + "\n")` under the Markdown renderer's token lists, for a line that is one paragraph line, and
    `MarkdownRenderer.render` of it without line limit: one `Paragraph` holding the tokens of the inline phase on the
    stripped text; the output is the line `span_to_lines` makes of them -/
theorem paragraph_md (cfg : Document.Cfg) (hcfg : Config.markdown = some cfg) (o : Opts) (ho : o.maxLineLength = none)
    (gas : Nat) (s : Str) (ks : List Mistletoe.Inline) (out : Str)
    (h1 : oneLine (s ++ ['\n']) = true) (hl : inertLine (s ++ ['\n']) = true)
    (hin : tokenizeInner cfg.span (Document.footnotesOf ({} : Block.St).defs) (strip s) = .ok ks)
    (hr : spanToLines ks none = .ok [out]) :
    Document.parse cfg (gas + 15) (s ++ ['\n']) =
        .ok { kids := [.paragraph ks 1], footnotes := Document.footnotesOf ({} : Block.St).defs } ∧
      renderRes o { kids := [.paragraph ks 1], footnotes := Document.footnotesOf ({} : Block.St).defs } =
        .ok (out ++ ['\n']) := by
  have hbt := (MdRound.markdown_cfg cfg hcfg).1
  have hg : gas + 15 = gas + (cfg.block.types.length + 4) := by rw [hbt]; rfl
  refine ⟨?_, ?_⟩
  · rw [hg]
    exact paragraph_parse cfg (C14_config_covered cfg (Or.inr (Or.inl hcfg))).1 gas s ks h1 hl hin
  · simp only [renderRes, ho, renderBlocks, renderBlock, hr, List.append_nil, joinLines]

theorem emph_line (cfg : Document.Cfg) (hcfg : Config.markdown = some cfg) (fn : Footnotes.Table) (s : Str)
    (hp : plainEsc s = true) (hw : EmphRefine.stdWs s = true) (htl : tildeOk s = true)
    (h1 : oneLine (s ++ ['\n']) = true) (hl : inertLine (s ++ ['\n']) = true) :
    ∃ ks, tokenizeInner cfg.span fn (strip s) = .ok ks ∧ spanToLines ks none = .ok [strip s] := by
  obtain ⟨ht, hc, he⟩ := md_config_covered cfg hcfg
  obtain ⟨hp', htl', hnl'⟩ := strip_hyps s _ hp htl h1
  obtain ⟨hw', _, _⟩ := strip_hyps s _ hw htl h1
  obtain ⟨ks, hk1, _, hk3⟩ := md_inline_exact_esc cfg.span fn (strip s) hp' hw' hnl' htl' ht hc he
  rw [List.isEmpty_eq_false_iff.mpr (Strip.strip_ne_nil s (nonblank_of_inert s hl))] at hk3
  exact ⟨ks, hk1, hk3⟩

/-- **One paragraph line with emphasis, strong emphasis and backslash escapes, any indentation.**  `Document(s + "\n")`
    under the Markdown renderer's token lists is one `Paragraph` holding the inline tokens of the stripped text, and
    `MarkdownRenderer(max_line_length=None, normalize_whitespace=…).render` of it is the stripped text and a newline. -/
theorem C09_emphasis_paragraph_render (cfg : Document.Cfg) (hcfg : Config.markdown = some cfg)
    (o : Opts) (ho : o.maxLineLength = none) (gas : Nat) (s : Str)
    (hp : plainEsc s = true) (hw : EmphRefine.stdWs s = true) (htl : tildeOk s = true)
    (h1 : oneLine (s ++ ['\n']) = true) (hl : inertLine (s ++ ['\n']) = true) :
    ∃ ks d, tokenizeInner cfg.span (Document.footnotesOf ({} : Block.St).defs) (strip s) = .ok ks ∧
      d = { kids := [.paragraph ks 1], footnotes := Document.footnotesOf ({} : Block.St).defs } ∧
      Document.parse cfg (gas + 15) (s ++ ['\n']) = .ok d ∧
      renderRes o d = .ok (strip s ++ ['\n']) := by
  obtain ⟨ks, hk1, hk2⟩ := emph_line cfg hcfg (Document.footnotesOf ({} : Block.St).defs) s hp hw htl h1 hl
  obtain ⟨h2, h3⟩ := paragraph_md cfg hcfg o ho gas s ks (strip s) h1 hl hk1 hk2
  exact ⟨ks, _, hk1, rfl, h2, h3⟩

/-- **C09 for a paragraph line with inline markup** (`_partial`: the alphabet and the normal form are hypotheses).
    `s` is a text of the alphabet of `C06_emphasis_is_spec_esc_partial` (`plainEsc`: anything but backquote, brackets,
    `<`, `&`; backslashes, `*`, `_` allowed; `stdWs`) without `~~`; the line `s ++ "\n"` holds no other line separator
    (`oneLine`), no block pattern fires on it (`inertLine` of C14) and `s` has no whitespace at either end (the
    renderer's normal form; otherwise the output is the stripped line: `C09_emphasis_paragraph_render`).  Then, under the
    token lists of the working tree's `MarkdownRenderer` and for `max_line_length=None` and either value of
    `normalize_whitespace`: `Document(s + "\n")` succeeds; rendering it gives `s + "\n"` byte for byte; rendering that
    text again reproduces it; the rendered text parses like the original under every configuration (same document, same
    definitions, same HTML). -/
theorem C09_emphasis_paragraph_roundtrip_partial (cfg : Document.Cfg) (hcfg : Config.markdown = some cfg)
    (o : Opts) (ho : o.maxLineLength = none) (gas : Nat) (s : Str)
    (hp : plainEsc s = true) (hw : EmphRefine.stdWs s = true) (htl : tildeOk s = true)
    (h1 : oneLine (s ++ ['\n']) = true) (hl : inertLine (s ++ ['\n']) = true) (hs : strip s = s) :
    ∃ d, Document.parse cfg (gas + 15) (s ++ ['\n']) = .ok d ∧
      renderRes o d = .ok (s ++ ['\n']) ∧
      render o d = s ++ ['\n'] ∧
      (∃ d', Document.parse cfg (gas + 15) (render o d) = .ok d' ∧ render o d' = render o d) ∧
      (∀ (cfg' : Document.Cfg) (g : Nat), Document.parse cfg' g (render o d) = Document.parse cfg' g (s ++ ['\n'])) ∧
      (∀ (hopts : Html.Opts) (g : Nat), Config.renderHtml hopts g (render o d) = Config.renderHtml hopts g (s ++ ['\n'])) := by
  obtain ⟨ks, d, _, _, h2, h3⟩ := C09_emphasis_paragraph_render cfg hcfg o ho gas s hp hw htl h1 hl
  rw [hs] at h3
  have h4 : render o d = s ++ ['\n'] := by simp only [render, h3]
  refine ⟨d, h2, h3, h4, ⟨d, ?_, rfl⟩, fun _ _ => by rw [h4], fun _ _ => by rw [h4]⟩
  rw [h4]; exact h2

/-- the same for the alphabet without backslash (`plain`, the alphabet of `emph_html_is_spec`) -/
theorem C09_emphasis_paragraph_roundtrip_plain_partial (cfg : Document.Cfg) (hcfg : Config.markdown = some cfg)
    (o : Opts) (ho : o.maxLineLength = none) (gas : Nat) (s : Str)
    (hp : Spec.Emphasis.plain s = true) (hw : EmphRefine.stdWs s = true) (htl : tildeOk s = true)
    (h1 : oneLine (s ++ ['\n']) = true) (hl : inertLine (s ++ ['\n']) = true) (hs : strip s = s) :
    ∃ d, Document.parse cfg (gas + 15) (s ++ ['\n']) = .ok d ∧
      renderRes o d = .ok (s ++ ['\n']) ∧
      render o d = s ++ ['\n'] ∧
      (∃ d', Document.parse cfg (gas + 15) (render o d) = .ok d' ∧ render o d' = render o d) ∧
      (∀ (cfg' : Document.Cfg) (g : Nat), Document.parse cfg' g (render o d) = Document.parse cfg' g (s ++ ['\n'])) ∧
      (∀ (hopts : Html.Opts) (g : Nat), Config.renderHtml hopts g (render o d) = Config.renderHtml hopts g (s ++ ['\n'])) :=
  C09_emphasis_paragraph_roundtrip_partial cfg hcfg o ho gas s (EmphRefine.plainEsc_of_plain hp) hw htl h1 hl hs

/-! ## Documents: paragraphs with inline markup among the blocks of Props/C09_Code.lean

  `Blk3`: a `Blk2` (inert prose paragraph, ATX heading, thematic break, fenced code block, indented code block) or a
  one-line paragraph with inline markup (`Blk3.emph s`).  The names `Blk3`, `frag3`, `blk3_laws`, `adjOk3`, `itemsLines3`
  of this namespace are not those of `MdRound` (Proofs/MdRoundSetext.lean: `Blk2` + setext headings + HTML blocks). -/

open Mistletoe.MdRound Mistletoe.Block Mistletoe.MdRoundDoc
open Mistletoe.Document (mkBlock)

inductive Blk3 where
  | blk2 (b : Blk2)
  | emph (s : Str)

def Blk3.lines : Blk3 → List Str
  | .blk2 b => b.lines
  | .emph s => [s ++ ['\n']]

/-- the hypotheses of `C09_emphasis_paragraph_roundtrip_partial` on `s`, as one check -/
def emphOk (s : Str) : Bool :=
  plainEsc s && EmphRefine.stdWs s && tildeOk s && oneLine (s ++ ['\n']) && inertLine (s ++ ['\n']) && strip s == s

def Blk3.ok : Blk3 → Bool
  | .blk2 b => b.ok
  | .emph s => emphOk s

def Blk3.isICode : Blk3 → Bool
  | .blk2 b => b.isICode
  | .emph _ => false

def adjOk3 : Blk3 → List Blk3 → Bool
  | _, [] => true
  | it, it' :: rest => !(it.isICode && it'.isICode) && adjOk3 it' rest

def itemsLines3 : Blk3 → List Blk3 → List Str
  | it, [] => it.lines
  | it, it' :: rest => it.lines ++ ['\n'] :: itemsLines3 it' rest

structure EmphOk (s : Str) : Prop where
  plain : plainEsc s = true
  ws : EmphRefine.stdWs s = true
  tilde : tildeOk s = true
  one : oneLine (s ++ ['\n']) = true
  inert : inertLine (s ++ ['\n']) = true
  flush : strip s = s

theorem emphOk_of (s : Str) (h : (Blk3.emph s).ok = true) : EmphOk s := by
  simp only [Blk3.ok, emphOk, Bool.and_eq_true, beq_iff_eq] at h
  obtain ⟨⟨⟨⟨⟨a, b⟩, c⟩, d⟩, e⟩, f⟩ := h
  exact ⟨a, b, c, d, e, f⟩

/-- the inline tokens of a text (`[]` where `tokenize_inner` raises: never, on the fragment) -/
def kidsOf (cfg : Document.Cfg) (fn : Footnotes.Table) (s : Str) : List Mistletoe.Inline :=
  match tokenizeInner cfg.span fn s with
  | .ok ks => ks
  | .err _ => []

theorem emph_kids (cfg : Document.Cfg) (hcfg : Config.markdown = some cfg) (fn : Footnotes.Table) (s : Str) (f : EmphOk s) :
    tokenizeInner cfg.span fn s = .ok (kidsOf cfg fn s) ∧ spanToLines (kidsOf cfg fn s) none = .ok [s] := by
  obtain ⟨ks, h1, h2⟩ := emph_line cfg hcfg fn s f.plain f.ws f.tilde f.one f.inert
  rw [f.flush] at h1 h2
  have : kidsOf cfg fn s = ks := by simp only [kidsOf, h1]
  rw [this]
  exact ⟨h1, h2⟩

def emphTok (cfg : Document.Cfg) (fn : Footnotes.Table) (s : Str) : Tok :=
  ⟨fun ln og => .paragraph [s ++ ['\n']] ln og, fun ln => .paragraph (kidsOf cfg fn s) ln, [s]⟩

theorem emph_laws (cfg : Document.Cfg) (hcfg : Config.markdown = some cfg) (fn : Footnotes.Table) (o : Opts) (st : St) (s : Str)
    (f : EmphOk s) : Laws cfg fn o st [s ++ ['\n']] false (emphTok cfg fn s) := by
  obtain ⟨hty, _, _⟩ := markdown_cfg cfg hcfg
  have hq := inertLine_quiet _ f.inert
  refine {
    step := ?_, flush := fun _ => ⟨_, [], rfl, hq.nb, hq.bc⟩, one := ?_, ne := (by simp), mkB := fun ln og => ?_,
    render := fun ln => ?_, text := rfl }
  · refine fun k => Step.one fun pre post start g acc loose ⟨hb, _⟩ hg => ?_
    exact tokLoop_para_step cfg.block (mdTypes_par _ hty) g hg
      { s := s ++ ['\n'], origin := k + 1 } [] pre post start st acc loose hq (by simp) (by intro b hb'; rw [hb b hb']; decide)
  · intro l hl
    simp only [List.mem_singleton] at hl
    subst hl
    exact f.one
  · simp only [emphTok, mkBlock, inl_one_line, Strip.strip_snoc_nl s (nonblank_of_inert s f.inert), f.flush,
      (emph_kids cfg hcfg fn s f).1]
  · simp only [emphTok, renderBlock, (emph_kids cfg hcfg fn s f).2]

def blk3Tok (cfg : Document.Cfg) (fn : Footnotes.Table) : Blk3 → Tok
  | .blk2 b => blk2Tok b
  | .emph s => emphTok cfg fn s

theorem blk3_laws (cfg : Document.Cfg) (hcfg : Config.markdown = some cfg) (fn : Footnotes.Table) (o : Opts) (st : St)
    (b : Blk3) (hok : b.ok = true) : Laws cfg fn o st b.lines b.isICode (blk3Tok cfg fn b) := by
  obtain ⟨hty, ht, hc⟩ := markdown_cfg cfg hcfg
  cases b with
  | blk2 b => exact blk2_laws cfg fn o st hty ht hc b hok
  | emph s => exact emph_laws cfg hcfg fn o st s (emphOk_of s hok)

def frag3 (cfg : Document.Cfg) (fn : Footnotes.Table) : Frag Blk3 :=
  { lines := Blk3.lines, isICode := Blk3.isICode, tok := blk3Tok cfg fn, adj := adjOk3, docLines := itemsLines3 }

end Mistletoe.MdRoundEmph

/-! ## Non-vacuity

  For each text: the hypotheses hold by kernel evaluation, the theorem applies, and the kernel evaluation of the whole model
  (`Document` + `MarkdownRenderer`) gives the text back; so does the real code
  (`with MarkdownRenderer() as r: r.render(Document(TEXT + "\n")) == TEXT + "\n"`, run on /repo for every text below). -/

namespace Mistletoe.MdRoundEmph.Examples
open Mistletoe Mistletoe.Inline Mistletoe.Markdown Mistletoe.InertInline Mistletoe.MdRound Mistletoe.MdRoundEmph
open Mistletoe.MdRoundCode (L mdCfg)
attribute [lit] L
open Mistletoe.Props.C14 (inertLine)

/-- `mdCfg` is the configuration of the working tree (so the kernel evaluations below are about `Config.markdown`) -/
example : Config.markdown.map (fun c => (c.block.types, c.block.tableInterrupt, c.span)) =
    some (mdCfg.block.types, mdCfg.block.tableInterrupt, mdCfg.span) := by rw [Config.markdown_eq]; rfl

theorem inst (s : Str) (hp : Spec.EmphasisEsc.plainEsc s = true) (hw : EmphRefine.stdWs s = true)
    (hnl : ('\n' ∈ s) = False) (htl : tildeOk s = true) (hne : s.isEmpty = false) :
    ∃ ks, tokenizeInner mdCfg.span [] s = .ok ks ∧ spanToLines ks none = .ok [s] := by
  obtain ⟨ks, h1, _, h3⟩ := md_inline_exact_esc mdCfg.span [] s hp hw (by rw [hnl]; exact id) htl (by decide) (by decide) (by decide)
  rw [hne] at h3
  exact ⟨ks, h1, h3⟩

def inlineMd (s : Str) : Res (List Str) := (tokenizeInner mdCfg.span [] s).bind (fun ks => spanToLines ks none)

example : ∃ ks, tokenizeInner mdCfg.span [] (L "***a** b* and _c_ \\*d\\*") = .ok ks ∧
    spanToLines ks none = .ok [L "***a** b* and _c_ \\*d\\*"] :=
  inst _ (by decide_lit) (by decide_lit) (by decide_lit) (by decide_lit) (by decide_lit)
example : inlineMd (L "***a** b* and _c_ \\*d\\*") = .ok [L "***a** b* and _c_ \\*d\\*"] := by decide_lit

example : ∃ ks, tokenizeInner mdCfg.span [] (L "*a **b** c*") = .ok ks ∧ spanToLines ks none = .ok [L "*a **b** c*"] :=
  inst _ (by decide_lit) (by decide_lit) (by decide_lit) (by decide_lit) (by decide_lit)
example : inlineMd (L "*a **b** c*") = .ok [L "*a **b** c*"] := by decide_lit

example : ∃ ks, tokenizeInner mdCfg.span [] (L "foo*bar*baz __x__") = .ok ks ∧ spanToLines ks none = .ok [L "foo*bar*baz __x__"] :=
  inst _ (by decide_lit) (by decide_lit) (by decide_lit) (by decide_lit) (by decide_lit)
example : inlineMd (L "foo*bar*baz __x__") = .ok [L "foo*bar*baz __x__"] := by decide_lit

/-- the fragments `make_fragments` yields (text, word-wrappable): the text is not one `RawText` but is parsed into
    `Emphasis` / `Strong` / `EscapeSequence` tokens, each written back with its own delimiter -/
def inlineFrags (s : Str) : Res (List (Str × Bool)) :=
  ((tokenizeInner mdCfg.span [] s).bind renderInlines).bind (fun fs => .ok (fs.map (fun f => (f.text, f.wordwrap))))

example : inlineFrags (L "*a **b** c* \\*") =
    .ok [(L "*", false), (L "a ", true), (L "**", false), (L "b", true), (L "**", false), (L " c", true), (L "*", false),
         (L " ", true), (L "\\*", false)] := by decide_lit
/-- `_` and `*` delimiters keep their spelling (the token's `delimiter`) -/
example : inlineFrags (L "__x__ _y_") =
    .ok [(L "__", false), (L "x", true), (L "__", false), (L " ", true), (L "_", false), (L "y", true), (L "_", false)] := by
  decide_lit

/-- unmatched delimiters, an escaped backslash, a literal backslash before a letter, a final backslash, several blanks -/
example : ∃ ks, tokenizeInner mdCfg.span [] (L "x **a*  \\\\ \\a _b *c_ d*\\") = .ok ks ∧
    spanToLines ks none = .ok [L "x **a*  \\\\ \\a _b *c_ d*\\"] :=
  inst _ (by decide_lit) (by decide_lit) (by decide_lit) (by decide_lit) (by decide_lit)
example : inlineMd (L "x **a*  \\\\ \\a _b *c_ d*\\") = .ok [L "x **a*  \\\\ \\a _b *c_ d*\\"] := by decide_lit

theorem instDoc (cfg : Document.Cfg) (hcfg : Config.markdown = some cfg) (s : Str)
    (hp : Spec.EmphasisEsc.plainEsc s = true) (hw : EmphRefine.stdWs s = true) (htl : tildeOk s = true)
    (h1 : oneLine (s ++ ['\n']) = true) (hl : inertLine (s ++ ['\n']) = true) (hs : (Py.strip s == s) = true) :
    ∃ d, Document.parse cfg 15 (s ++ ['\n']) = .ok d ∧ renderRes {} d = .ok (s ++ ['\n']) := by
  obtain ⟨d, h2, h3, _⟩ := C09_emphasis_paragraph_roundtrip_partial cfg hcfg {} rfl 0 s hp hw htl h1 hl (by simpa using hs)
  exact ⟨d, h2, h3⟩

example (cfg : Document.Cfg) (hcfg : Config.markdown = some cfg) :
    ∃ d, Document.parse cfg 15 (L "***a** b* and _c_ \\*d\\*" ++ ['\n']) = .ok d ∧
      renderRes {} d = .ok (L "***a** b* and _c_ \\*d\\*" ++ ['\n']) :=
  instDoc cfg hcfg _ (by decide_lit) (by decide_lit) (by decide_lit) (by decide_lit) (by decide_lit)
    (by decide_lit)
example : (Document.parse mdCfg 15 (L "***a** b* and _c_ \\*d\\*\n")).bind (fun d => renderRes {} d) =
    .ok (L "***a** b* and _c_ \\*d\\*\n") := by decide_lit

example (cfg : Document.Cfg) (hcfg : Config.markdown = some cfg) :
    ∃ d, Document.parse cfg 15 (L "*a **b** c*" ++ ['\n']) = .ok d ∧ renderRes {} d = .ok (L "*a **b** c*" ++ ['\n']) :=
  instDoc cfg hcfg _ (by decide_lit) (by decide_lit) (by decide_lit) (by decide_lit) (by decide_lit)
    (by decide_lit)
example : (Document.parse mdCfg 15 (L "*a **b** c*\n")).bind (fun d => renderRes {} d) = .ok (L "*a **b** c*\n") := by
  decide_lit

example (cfg : Document.Cfg) (hcfg : Config.markdown = some cfg) :
    ∃ d, Document.parse cfg 15 (L "foo*bar*baz __x__" ++ ['\n']) = .ok d ∧ renderRes {} d = .ok (L "foo*bar*baz __x__" ++ ['\n']) :=
  instDoc cfg hcfg _ (by decide_lit) (by decide_lit) (by decide_lit) (by decide_lit) (by decide_lit)
    (by decide_lit)
example : (Document.parse mdCfg 15 (L "foo*bar*baz __x__\n")).bind (fun d => renderRes {} d) = .ok (L "foo*bar*baz __x__\n") := by
  decide_lit

/-- with `normalize_whitespace=True` -/
example : (Document.parse mdCfg 15 (L "*a **b** c*\n")).bind (fun d => renderRes { normalizeWhitespace := true } d) =
    .ok (L "*a **b** c*\n") := by decide_lit

/-- an indented line is outside the normal form: the output is the stripped line (`C09_emphasis_paragraph_render`) -/
example : (Document.parse mdCfg 15 (L "  *a* b  \n")).bind (fun d => renderRes {} d) = .ok (L "*a* b\n") := by decide_lit

/-- the block-level hypothesis `inertLine` is needed: `* a*` is a list item, `***` a thematic break -/
example : inertLine (L "* a*\n") = false ∧ inertLine (L "***\n") = false ∧ inertLine (L "*a*\n") = true := by decide_lit

/-! ### a document: heading, paragraphs with markup, a fenced code block, an inert paragraph; also inside a block quote -/

def doc : Blk3 := .blk2 (.blk (.heading 1 (L "T")))
def docRest : List Blk3 :=
  [.emph (L "***a** b* and _c_ \\*d\\*"), .blk2 (.fence (L "```") (L "py") [L "*x* = 1\n"]), .emph (L "foo*bar*baz __x__"),
   .blk2 (.blk (.para [L "last line.\n"]))]

attribute [lit] doc docRest

theorem doc_ok : doc.ok = true ∧ (∀ x ∈ docRest, x.ok = true) ∧ adjOk3 doc docRest = true ∧
    (∀ l ∈ itemsLines3 doc docRest, '\t' ∉ l) := by decide_lit

example : (itemsLines3 doc docRest).flatten =
    L "# T\n\n***a** b* and _c_ \\*d\\*\n\n```py\n*x* = 1\n```\n\nfoo*bar*baz __x__\n\nlast line.\n" := by decide_lit

example : (Document.parse mdCfg 22
      (L "# T\n\n***a** b* and _c_ \\*d\\*\n\n```py\n*x* = 1\n```\n\nfoo*bar*baz __x__\n\nlast line.\n")).bind
    (fun d => renderRes {} d) =
      .ok (L "# T\n\n***a** b* and _c_ \\*d\\*\n\n```py\n*x* = 1\n```\n\nfoo*bar*baz __x__\n\nlast line.\n") := by decide_lit

example : (Document.parse mdCfg 30 (L "> # T\n> \n> *a **b** c*\n> \n> last\n")).bind (fun d => renderRes {} d) =
    .ok (L "> # T\n> \n> *a **b** c*\n> \n> last\n") := by decide_lit

end Mistletoe.MdRoundEmph.Examples
