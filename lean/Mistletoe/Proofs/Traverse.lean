/-
  For C12 (traversal): the breadth-first loop yields a permutation of the pre-order list of descendants (`loop_perm`), and
  the `klass` option only filters what is yielded (`loop_filter`).  That every entry of the pre-order list carries its true
  parent and depth is `descendants_parent` in Props/C12.lean.
-/
import Mistletoe.Model.Traverse
namespace Mistletoe.Traverse

def res (d : Nat) (pc : RTree × RTree) : Result := { node := pc.2, parent := some pc.1, depth := d }

def descLevel (d : Nat) (level : List (RTree × RTree)) : List Result :=
  level.flatMap (fun pc => res d pc :: descendants (d + 1) pc.2)

theorem descendantsL_eq (d : Nat) (p : RTree) (ks : List RTree) :
    descendantsL d p ks = descLevel d (ks.map (fun c => (p, c))) := by
  induction ks with
  | nil => rfl
  | cons k ks ih =>
    simp only [descendantsL, List.map_cons, descLevel, List.flatMap_cons, res, List.cons_append]
    rw [ih]; rfl

theorem descendants_eq (d : Nat) (p : RTree) : descendants d p = descLevel d (childPairs p) := by
  cases p with
  | node i c kids => simp only [descendants, childPairs, RTree.kids]; exact descendantsL_eq d _ kids

theorem emit_all (d : Nat) (level : List (RTree × RTree)) :
    emit (fun _ => true) d level = level.map (res d) := by
  have : level.filter (fun _ => true) = level := by simp
  simp only [emit, this]
  rfl

theorem perm_flatMap_cons {α β} (f : α → β) (g : α → List β) (l : List α) :
    (l.flatMap (fun x => f x :: g x)).Perm (l.map f ++ l.flatMap g) := by
  induction l with
  | nil => exact List.Perm.refl _
  | cons x xs ih =>
    simp only [List.flatMap_cons, List.map_cons, List.cons_append]
    refine List.Perm.cons _ ?_
    have h1 : (g x ++ xs.flatMap (fun x => f x :: g x)).Perm (g x ++ (xs.map f ++ xs.flatMap g)) :=
      List.Perm.append_left _ ih
    refine h1.trans ?_
    rw [← List.append_assoc, ← List.append_assoc]
    exact List.Perm.append_right _ List.perm_append_comm

theorem descLevel_step (d : Nat) (level : List (RTree × RTree)) :
    (descLevel d level).Perm (emit (fun _ => true) d level ++ descLevel (d + 1) (nextLevel level)) := by
  rw [emit_all]
  have : descLevel (d + 1) (nextLevel level) = level.flatMap (fun pc => descendants (d + 1) pc.2) := by
    simp only [descLevel, nextLevel, List.flatMap_assoc]
    congr 1; funext pc
    rw [descendants_eq]; rfl
  rw [this]
  exact perm_flatMap_cons (res d) (fun pc => descendants (d + 1) pc.2) level

def heightLevel (level : List (RTree × RTree)) : Nat := heightL (level.map (·.2))

theorem height_pos (t : RTree) : 1 ≤ height t := by
  cases t; simp [height]

theorem heightL_append (a b : List RTree) : heightL (a ++ b) = max (heightL a) (heightL b) := by
  induction a with
  | nil => simp [heightL]
  | cons x xs ih => simp only [List.cons_append, heightL, ih]; omega

theorem heightL_kids (t : RTree) : heightL t.kids + 1 = height t := by
  cases t; simp [height, RTree.kids]

theorem heightLevel_childPairs (t : RTree) : heightLevel (childPairs t) + 1 = height t := by
  have hk : heightL ((childPairs t).map (·.2)) = heightL t.kids := by
    simp [childPairs, List.map_map, Function.comp_def]
  simp only [heightLevel, hk]; exact heightL_kids t

theorem heightLevel_next (level : List (RTree × RTree)) :
    heightLevel (nextLevel level) + 1 ≤ max 1 (heightLevel level) := by
  induction level with
  | nil => simp [nextLevel, heightLevel, heightL]
  | cons pc rest ih =>
    simp only [nextLevel, List.flatMap_cons, heightLevel, List.map_append, heightL_append, List.map_cons, heightL] at ih ⊢
    have := heightLevel_childPairs pc.2
    simp only [heightLevel] at this
    omega

theorem heightLevel_zero (level : List (RTree × RTree)) (h : heightLevel level = 0) : level = [] := by
  cases level with
  | nil => rfl
  | cons pc rest =>
    simp only [heightLevel, List.map_cons, heightL] at h
    have := height_pos pc.2
    omega

theorem loop_perm (fuel cur : Nat) (level : List (RTree × RTree)) (hf : heightLevel level ≤ fuel) :
    (loop (fun _ => true) none fuel cur level).Perm (descLevel (cur + 1) level) := by
  induction fuel generalizing cur level with
  | zero =>
    have : level = [] := heightLevel_zero level (by omega)
    subst this; exact List.Perm.refl _
  | succ f ih =>
    simp only [loop]
    split
    · rename_i he
      have : level = [] := by cases level <;> simp_all
      subst this; exact List.Perm.refl _
    · simp only [withinLimit, if_true]
      have hn := heightLevel_next level
      have := ih (cur + 1) (nextLevel level) (by omega)
      exact (List.Perm.append_left _ this).trans (descLevel_step (cur + 1) level).symm

theorem emit_filter (klass : Nat → Bool) (d : Nat) (level : List (RTree × RTree)) :
    emit klass d level = (emit (fun _ => true) d level).filter (fun r => klass r.node.cls) := by
  simp [emit, List.filter_map, Function.comp_def]

theorem loop_filter (klass : Nat → Bool) (limit : Option Nat) (fuel cur : Nat) (level : List (RTree × RTree)) :
    loop klass limit fuel cur level =
      (loop (fun _ => true) limit fuel cur level).filter (fun r => klass r.node.cls) := by
  induction fuel generalizing cur level with
  | zero => rfl
  | succ f ih =>
    simp only [loop]
    by_cases he : level.isEmpty = true
    · simp [he]
    · have he' : level.isEmpty = false := by simpa using he
      simp only [he', Bool.false_eq_true, if_false]
      by_cases hl : withinLimit limit cur = true
      · simp only [hl, if_true]
        rw [List.filter_append, ← ih, ← emit_filter]
      · simp [hl]

end Mistletoe.Traverse
