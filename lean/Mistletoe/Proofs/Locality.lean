/-
  Locality of the block parser (C05).

  A `View T k Inv Free` (section "Views") shows a cursor `a` inside another buffer.  Two views:
  (S)  `mvView`: `FW.mv pre k b`, the cursor `b` seen through a buffer that has `pre` in front (`FW.up`), with `start` and the
       ghost origins of its own lines `k` higher (`FW.sh`).  No reader looks at or steps back into `pre`, and `start` enters
       a result only through the reported line numbers.
  (P)  `extView`: `FW.ext (nl :: rest) a`, the same cursor on the buffer with a "\n" line and anything else appended.
  One lemma per reader says that it commutes with views (`loop_view`, `readTable_view`, `paragraphLoop_view`, …): the readers
  that stop at a "\n" line as at the end of input (Table and the interrupt test, called with a line under the cursor: `hn`;
  Paragraph, Quote, Footnote; Heading reads one line) with every view; the others (BlockCode, CodeFence, HtmlBlock, the
  blank-skipping loop) when the view does not go on behind the end, or when they stopped on a line of `a` — which they did
  when a line that is not whitespace-only remains at or after the cursor they returned.  `ListItem.read` has one lemma for each view (`itemLoop_mv`/`itemLoop_ext`,
  `itemLines_mv`/`itemLines_ext`): only its (P) side needs the count of whitespace-only lines just consumed (`BlanksBefore`).
  The dispatcher, `List.read` and the loop under (S): one simulation, equations that include the errors (`mv_all`;
  `tokLoop_suffix` is `k = 0`, `tokenizeBlock_shift` is `pre = []`), which also carries a state that already holds definitions `d`
  (`preSt d st`): nothing reads them, the result has `d` in front.
  (M)  more gas never changes a result: `tokenizeBlock_mono`, `tryTypes_mono` of `Proofs/BlockTotal.lean`.
  Under (P) (`extList_all`, `extTry_all`, for runs that return): a block of a closed kind (paragraph, setext/ATX heading,
  thematic break, quote, table) starts on a line that is not whitespace-only (`tryTypes_closed_nonblank`), so every block that
  is followed by blocks the last of which is closed has one behind it (`tokLoop_closed_nbl`, `tokLoop_ext`).  `List.read` tests
  the next marker BEFORE reading its item (`otherMarkerType`); a read of an item that is then discarded could run to the end
  of the buffer.
  Also: the accumulator of the dispatch loop is a prefix of its result (`tokLoop_acc`).
-/
import Mistletoe.Proofs.Block
import Mistletoe.Proofs.BlockTotal
import Mistletoe.Proofs.Inert
namespace Mistletoe.Block
open Mistletoe Mistletoe.Py Mistletoe.Scan

def rmap {α β} (f : α → β) : Res α → Res β
  | .ok a => .ok (f a)
  | .err e => .err e

@[simp] theorem rmap_ok {α β} (f : α → β) (a : α) : rmap f (.ok a) = .ok (f a) := rfl
@[simp] theorem rmap_err {α β} (f : α → β) (e : Err) : rmap f (.err e : Res α) = .err e := rfl

/-! ### (S) a prefix in front of the buffer; the start line and every ghost origin shifted -/

/-- the cursor `b` seen through a buffer with `pre` put in front of it -/
def FW.up (pre : List Line) (b : FW) : FW :=
  { lines := pre ++ b.lines, pos := b.pos + pre.length, start := b.start - pre.length }

@[reducible] def Line.sh (k : Nat) (l : Line) : Line := { s := l.s, origin := l.origin + k }

@[simp] theorem Line.sh_s (k : Nat) (l : Line) : (l.sh k).s = l.s := rfl
@[simp] theorem Line.sh_origin (k : Nat) (l : Line) : (l.sh k).origin = l.origin + k := rfl

/-- the same cursor on the buffer whose first line is numbered `k` higher, origins shifted alike -/
def FW.sh (k : Nat) (b : FW) : FW := { lines := b.lines.map (Line.sh k), pos := b.pos, start := b.start + k }

theorem sh_backstep (k : Nat) (b : FW) : (b.sh k).backstep = b.backstep.sh k := rfl

/-- both at once: `b` seen through a buffer that has `pre` in front, with its own lines numbered `k`
    higher.  The readers are shown to commute with `mv`; `up` is `mv pre 0`, `sh` is `mv [] k`. -/
def FW.mv (pre : List Line) (k : Nat) (b : FW) : FW := (b.sh k).up pre

theorem mv_peek (pre : List Line) (k : Nat) (b : FW) : (b.mv pre k).peek = b.peek.map (Line.sh k) := by
  simp [FW.mv, FW.up, FW.sh, FW.peek, List.getElem?_append_right]

theorem mv_next (pre : List Line) (k : Nat) (b : FW) : (b.mv pre k).next = b.next.mv pre k := by
  simp only [FW.mv, FW.up, FW.sh, FW.next, FW.mk.injEq, true_and, and_true]; omega

theorem mv_remaining (pre : List Line) (k : Nat) (b : FW) : (b.mv pre k).remaining = b.remaining := by
  simp only [FW.mv, FW.up, FW.sh, FW.remaining, List.length_append, List.length_map]; omega

theorem mv_next_lineNumber (pre : List Line) (k : Nat) (b : FW) (hs : pre.length ≤ b.start + k) :
    (b.mv pre k).next.lineNumber = b.next.lineNumber + k := by
  simp only [FW.mv, FW.up, FW.sh, FW.next, FW.lineNumber]; omega

theorem mv_ln (pre : List Line) (k : Nat) (b : FW) (hs : pre.length ≤ b.start + k) :
    (b.mv pre k).start + (b.mv pre k).pos = b.start + b.pos + k := by
  simp only [FW.mv, FW.up, FW.sh]; omega

theorem mv_backstep (pre : List Line) (k : Nat) (b : FW) (h : 0 < b.pos) : (b.mv pre k).backstep = b.backstep.mv pre k := by
  simp only [FW.mv, FW.up, FW.sh, FW.backstep, FW.mk.injEq, true_and, and_true]; omega

def FW.ext (post : List Line) (a : FW) : FW := { lines := a.lines ++ post, pos := a.pos, start := a.start }

def FW.InB (a : FW) : Prop := a.pos ≤ a.lines.length

theorem ext_next (post : List Line) (a : FW) : (a.ext post).next = a.next.ext post := rfl
theorem ext_lineNumber (post : List Line) (a : FW) : (a.ext post).lineNumber = a.lineNumber := rfl
@[simp] theorem ext_start (post : List Line) (a : FW) : (a.ext post).start = a.start := rfl
@[simp] theorem ext_pos (post : List Line) (a : FW) : (a.ext post).pos = a.pos := rfl

theorem ext_peek_some (post : List Line) (a : FW) (l : Line) (h : a.peek = some l) : (a.ext post).peek = some l := by
  have hlt := peek_lt a l h
  simp only [FW.peek, FW.ext] at h ⊢
  rw [List.getElem?_append_left hlt]; exact h

theorem ext_peek_none (nl : Line) (rest : List Line) (a : FW) (h : a.peek = none) (hb : a.InB) :
    (a.ext (nl :: rest)).peek = some nl := by
  simp only [FW.peek] at h
  have hge := List.getElem?_eq_none_iff.mp h
  have : a.pos = a.lines.length := by unfold FW.InB at hb; omega
  simp only [FW.peek, FW.ext, this]
  simp

theorem next_inb (a : FW) (l : Line) (h : a.peek = some l) : a.next.InB := by
  have := peek_lt a l h
  simp only [FW.InB, FW.next]; omega

theorem ext_remaining (post : List Line) (a : FW) : (a.ext post).remaining = a.remaining + post.length ∨ a.lines.length < a.pos := by
  simp only [FW.ext, FW.remaining, List.length_append]; omega

theorem ext_remaining_le (post : List Line) (a : FW) : a.remaining ≤ (a.ext post).remaining := by
  simp only [FW.ext, FW.remaining, List.length_append]; omega

theorem peek_none_ge (a : FW) (h : a.peek = none) : a.lines.length ≤ a.pos := by
  simp only [FW.peek] at h
  exact List.getElem?_eq_none_iff.mp h

theorem loop_inb {σ : Type} (step : Str → σ → Act σ) (fuel : Nat) (a : FW) (s : σ) (hb : a.InB) : (loop step fuel a s).2.InB :=
  loop_inv step (fun fw' _ => fw'.InB) (fun fw' l _ _ hp _ _ => next_inb fw' l hp) fuel a s hb

/-- a line that is not whitespace-only remains at or after the cursor
    (`BlockCode.read` hands back EVERY trailing whitespace-only line, so "a line other than \"\\n\"
    remains" would not do: the reader may have run to the end of the buffer over a line of spaces) -/
def FW.NB (a : FW) : Prop := ∃ q l, a.pos ≤ q ∧ a.lines[q]? = some l ∧ isBlank l.s = false

theorem nb_lt (a : FW) (h : a.NB) : a.pos < a.lines.length := by
  obtain ⟨q, l, hq, hl, _⟩ := h
  have := (List.getElem?_eq_some_iff.mp hl).1
  omega

/-- the `n` lines just before the cursor are whitespace-only (the readers that hand such lines back
    count them: `trailing_blanks` in `BlockCode.read`, `newline_count` in `ListItem.read`) -/
def BlanksBefore (a : FW) (n : Nat) : Prop :=
  ∀ q l, a.pos - n ≤ q → q < a.pos → a.lines[q]? = some l → isBlank l.s = true

theorem blanksBefore_zero (a : FW) : BlanksBefore a 0 := by
  intro q l _ _ _; omega

theorem blanksBefore_next {a : FW} {l : Line} {n : Nat} (m : Nat) (hp : a.peek = some l) (h : BlanksBefore a n)
    (hm : m = 0 ∨ (m = n + 1 ∧ isBlank l.s = true)) : BlanksBefore a.next m := by
  intro q l' hq1 hq2 hl'
  have hnp : a.next.pos = a.pos + 1 := rfl
  rcases hm with rfl | ⟨rfl, hb⟩
  · omega
  · by_cases hqe : q = a.pos
    · subst hqe
      have : l' = l := Option.some.inj (hl'.symm.trans hp)
      rw [this]; exact hb
    · exact h q l' (by omega) (by omega) hl'

/-! ### Views

  `View T k Inv Free`: `T a` shows the cursor `a` (one that satisfies `Inv`) inside another buffer: the same line under the
  cursor (its ghost origin `k` higher), the same cursor behind it; and where the buffer of `a` ends the other ends too, or
  goes on with a "\n" line.  The cursor may be set back up to the first line of the buffer of `a`, or any number of lines
  when `Free`.  (S) is the view `mv pre k`, which never goes on; (P) is the view `ext (nl :: rest)`.  A reader that stops at
  a "\n" line as at the end of input commutes with every view. -/

structure View (T : FW → FW) (k : Nat) (Inv : FW → Prop) (Free : Prop) : Prop where
  peek_some : ∀ {a l}, a.peek = some l → (T a).peek = some (l.sh k)
  peek_none : ∀ {a}, Inv a → a.peek = none → (T a).peek = none ∨ ∃ nl, (T a).peek = some nl ∧ nl.s = ['\n']
  next : ∀ a, (T a).next = T a.next
  inv_next : ∀ {a l}, Inv a → a.peek = some l → Inv a.next
  rem : ∀ a, a.remaining ≤ (T a).remaining
  ln : ∀ {a}, Inv a → (T a.next).lineNumber = a.next.lineNumber + k
  setpos : ∀ a t, Free ∨ t ≤ a.pos → { T a with pos := (T a).pos - t } = T { a with pos := a.pos - t }

theorem mv_peek_none (pre : List Line) (k : Nat) {b : FW} (h : b.peek = none) : (b.mv pre k).peek = none := by rw [mv_peek, h]; rfl

theorem mvView (pre : List Line) (k : Nat) : View (FW.mv pre k) k (fun a => pre.length ≤ a.start + k) (pre = []) where
  peek_some h := by rw [mv_peek, h]; rfl
  peek_none _ h := .inl (mv_peek_none pre k h)
  next a := mv_next pre k a
  inv_next h _ := h
  rem a := Nat.le_of_eq (mv_remaining pre k a).symm
  ln h := by rw [← mv_next]; exact mv_next_lineNumber pre k _ h
  setpos a t h := by
    -- stepping back `t` lines, not beyond the first line of `a` when something is in front
    simp only [FW.mv, FW.up, FW.sh, FW.mk.injEq, true_and, and_true]
    rcases h with rfl | h
    · rfl
    · omega

theorem extView (nl : Line) (rest : List Line) (hnl : nl.s = ['\n']) : View (FW.ext (nl :: rest)) 0 FW.InB True where
  peek_some h := ext_peek_some _ _ _ h
  peek_none hb h := .inr ⟨nl, ext_peek_none nl rest _ h hb, hnl⟩
  next _ := rfl
  inv_next _ h := next_inb _ _ h
  rem a := ext_remaining_le _ a
  ln _ := rfl
  setpos _ _ _ := rfl

theorem peek_some_ne {a : FW} {l : Line} {α : Prop} (hp : a.peek = some l) (h : a.peek = none) : α := by rw [hp] at h; cases h

section
variable {T : FW → FW} {k : Nat} {Inv : FW → Prop} {Free : Prop} (V : View T k Inv Free)
include V

/-- a `loop` of Proofs/Block.lean: when a "\n" line stops it, or the view does not go on behind the end, or it stopped on a line of `a` -/
theorem loop_view {σ : Type} (step : Str → σ → Act σ) : ∀ (f f' : Nat) (a : FW), a.remaining < f → a.remaining < f' → Inv a → ∀ (s : σ),
    ((∀ s, step ['\n'] s = .stop) ∨ (∀ b, b.peek = none → (T b).peek = none) ∨ (loop step f a s).2.peek ≠ none) →
    loop step f' (T a) s = ((loop step f a s).1, T (loop step f a s).2) :=
  fuel_irrelevant_fw fun f f' a ih hi s hr => by
    simp only [loop] at hr ⊢
    cases hp : a.peek with
    | none =>
      simp only [hp] at hr
      rcases V.peek_none hi hp with h | ⟨nl, h, hnl⟩
      · simp only [h]
      · rcases hr with hr | hr | hr
        · simp only [h, hnl, hr]
        · rw [hr a hp] at h; cases h
        · exact absurd rfl hr
    | some l =>
      simp only [hp] at hr
      simp only [V.peek_some hp, V.next]
      cases hs : step l.s s with
      | go s' => simp only [hs] at hr; exact ih l hp (V.inv_next hi hp) s' hr
      | stop => rfl
      | take s' => rfl

theorem readHeading_view (a : FW) (line : Str) :
    readHeading (T a) line = (readHeading a line).map (fun r => (r.1, r.2.1, r.2.2.1, T r.2.2.2)) := by
  unfold readHeading
  split
  · rfl
  · simp only [V.next, Option.map_some]

theorem readCodeFence_view (a : FW) (m : FenceMatch) (hn : Inv a.next)
    (h : (∀ b, b.peek = none → (T b).peek = none) ∨ (readCodeFence a m).2.peek ≠ none) :
    readCodeFence (T a) m = ((readCodeFence a m).1, T (readCodeFence a m).2) := by
  have hr : a.next.remaining ≤ a.remaining := by simp only [FW.remaining, FW.next]; omega
  have hrem := V.rem a
  unfold readCodeFence at h ⊢
  simp only [codeFenceLoop_eq] at h ⊢
  rw [V.next, loop_view V _ (a.remaining + 1) ((T a).remaining + 1) a.next (by omega) (by omega) hn [] (.inr h)]

theorem readHtmlBlock_view (a : FW) (ec : Option Str) (hi : Inv a)
    (h : (∀ b, b.peek = none → (T b).peek = none) ∨ (readHtmlBlock a ec).2.peek ≠ none) :
    readHtmlBlock (T a) ec = ((readHtmlBlock a ec).1, T (readHtmlBlock a ec).2) := by
  have hrem := V.rem a
  unfold readHtmlBlock at h ⊢
  simp only [htmlBlockLoop_eq] at h ⊢
  rw [loop_view V _ (a.remaining + 1) ((T a).remaining + 1) a (by omega) (by omega) hi [] (.inr h)]

theorem skipBlanks_view (f f' : Nat) (a : FW) (n : Nat) (h1 : a.remaining < f) (h2 : a.remaining < f') (hi : Inv a)
    (h : (∀ b, b.peek = none → (T b).peek = none) ∨ (skipBlanks f a n).1.peek ≠ none) :
    skipBlanks f' (T a) n = (T (skipBlanks f a n).1, (skipBlanks f a n).2) := by
  simp only [skipBlanks_eq] at h ⊢
  rw [loop_view V _ f f' a h1 h2 hi n (.inr h)]

/-- `hn`: where `a` stands at the end of its buffer the view does not go on (a table could begin with the "\n" line) -/
theorem readTable_view (a : FW) (hi : Inv a) (hn : a.peek = none → (T a).peek = none) :
    readTable (T a) = (readTable a).map (fun r => (r.1, r.2.1 + k, T r.2.2)) := by
  unfold readTable
  cases hp : a.peek with
  | none => simp only [hn hp]; rfl
  | some l0 =>
    have hr := remaining_next a l0 hp
    have hrem := V.rem a
    simp only [V.peek_some hp, V.next, V.ln hi, tableLoop_eq,
      loop_view V tableStep (a.remaining + 1) ((T a).remaining + 1) a.next (by omega) (by omega) (V.inv_next hi hp) [l0.s]
        (.inl fun _ => rfl)]
    split
    · split <;> rfl
    · rfl

theorem interruptsOne_view (cfg : Cfg) (a : FW) (hi : Inv a) (hn : a.peek = none → (T a).peek = none) (t : BTok) :
    interruptsOne cfg (T a) t = interruptsOne cfg a t := by
  unfold interruptsOne
  cases hp : a.peek with
  | none => simp only [hn hp]
  | some l => simp only [V.peek_some hp, readTable_view V a hi hn, Option.isSome_map]

theorem anyInterrupt_view (cfg : Cfg) (a : FW) (hi : Inv a) (hn : a.peek = none → (T a).peek = none) (skip : BTok) (sk : Bool) :
    ∀ ts, anyInterrupt cfg (T a) skip sk ts = anyInterrupt cfg a skip sk ts
  | [] => rfl
  | t :: ts => by
    simp only [anyInterrupt, interruptsOne_view V cfg a hi hn, anyInterrupt_view cfg a hi hn skip sk ts]

theorem paragraphLoop_view (cfg : Cfg) (so : Bool) : ∀ (f f' : Nat) (a : FW), a.remaining < f → a.remaining < f' → Inv a →
    ∀ (buf : List Str), paragraphLoop cfg so f' (T a) buf = rmap (fun r => (r.1, r.2.1, T r.2.2)) (paragraphLoop cfg so f a buf) :=
  fuel_irrelevant_fw fun f f' a ih hi buf => by
    simp only [paragraphLoop]
    cases hp : a.peek with
    | none =>
      rcases V.peek_none hi hp with h | ⟨nl, h, hnl⟩
      · simp only [h]; rfl
      · simp only [h, hnl]; rfl
    | some l =>
      simp only [V.peek_some hp, anyInterrupt_view V cfg a hi (peek_some_ne hp), V.next]
      split
      · rfl
      · split
        · rfl
        · rfl
        · split
          · rfl
          · split
            · rfl
            · exact ih l hp (V.inv_next hi hp) _

theorem readParagraph_view (cfg : Cfg) (so : Bool) (a : FW) (hn : Inv a.next) (l0 : Str) :
    readParagraph cfg so (T a) l0 = rmap (fun r => (r.1, r.2.1, T r.2.2)) (readParagraph cfg so a l0) := by
  have hr : a.next.remaining ≤ a.remaining := by simp only [FW.remaining, FW.next]; omega
  have hrem := V.rem a
  unfold readParagraph
  rw [V.next, paragraphLoop_view V cfg so (a.remaining + 1) ((T a).remaining + 1) a.next (by omega) (by omega) hn]
  cases paragraphLoop cfg so (a.remaining + 1) a.next [l0] <;> rfl

theorem quoteLoop_view (cfg : Cfg) : ∀ (f f' : Nat) (a : FW), a.remaining < f → a.remaining < f' → Inv a →
    ∀ (buf : List Line) (fl : QFlags), quoteLoop cfg f' (T a) (buf.map (Line.sh k)) fl =
      rmap (fun r => (r.1.map (Line.sh k), T r.2)) (quoteLoop cfg f a buf fl) :=
  fuel_irrelevant_fw fun f f' a ih hi buf fl => by
    simp only [quoteLoop]
    cases hp : a.peek with
    | none =>
      rcases V.peek_none hi hp with h | ⟨nl, h, hnl⟩
      · simp only [h]; rfl
      · simp only [h, hnl]; rfl
    | some l =>
      simp only [V.peek_some hp, anyInterrupt_view V cfg a hi (peek_some_ne hp), V.next]
      split
      · rfl
      · split
        · rfl
        · rfl
        · split
          · rfl
          · split
            · rfl
            · split
              · split
                · rfl
                · exact ih l hp (V.inv_next hi hp) ({ s := _, origin := l.origin } :: buf) _
              · split
                · rfl
                · exact ih l hp (V.inv_next hi hp) (l :: buf) _

theorem quoteLines_view (cfg : Cfg) (a : FW) (hi : Inv a) (hn : Inv a.next) (l0 : Line) :
    quoteLines cfg (T a) (l0.sh k) = rmap (fun r => (r.1.map (Line.sh k), r.2.1 + k, T r.2.2)) (quoteLines cfg a l0) := by
  have hr : a.next.remaining ≤ a.remaining := by simp only [FW.remaining, FW.next]; omega
  have hrem := V.rem a
  obtain ⟨s0, o0⟩ := l0
  unfold quoteLines
  dsimp only [Line.sh]
  split
  · rfl
  · split
    · rfl
    · have := fun s fl => quoteLoop_view V cfg (a.remaining + 1) ((T a).remaining + 1) a.next (by omega) (by omega) hn
        [{ s := s, origin := o0 }] fl
      simp only [List.map_cons, List.map_nil] at this
      simp only [V.next, V.ln hi, this]
      cases quoteLoop cfg (a.remaining + 1) a.next _ _ with
      | err e => rfl
      | ok r => simp only [rmap_ok, List.map_reverse]

end

theorem map_sh_zero (ls : List Line) : ls.map (Line.sh 0) = ls := List.map_id' ls

/-- what the readers need of the cursor `b` under `mv pre k`: the line numbers do not underflow, and
    `Footnote.read` hands back at most the lines it consumed because every line ends with its only
    newline — unless nothing is in front -/
def Front (pre : List Line) (k : Nat) (b : FW) : Prop := pre.length ≤ b.start + k ∧ (pre = [] ∨ AllNlEnd b.lines)

theorem front_nil (k : Nat) (b : FW) : Front [] k b := ⟨Nat.zero_le _, Or.inl rfl⟩

theorem Front.step {pre : List Line} {k : Nat} {b b' : FW} (hf : Front pre k b) (h : AllNlEnd b.lines → Same b b') :
    Front pre k b' := by
  rcases hf.2 with rfl | hl
  · exact front_nil k b'
  · have hs := h hl
    exact ⟨by rw [hs.2]; exact hf.1, Or.inr (by rw [hs.1]; exact hl)⟩

/-! #### Footnote: hands back at most the lines it consumed -/

theorem footnoteRefs_backLe (s : Str) : ∀ (fuel off : Nat) (acc : List FnMatch) (ms) (k : Nat),
    footnoteRefs s fuel off acc = .ok (ms, some k) → k ≤ count '\n' s
  | 0, _, _, _, _, h => by simp [footnoteRefs] at h
  | fuel + 1, off, acc, ms, k, h => by
    simp only [footnoteRefs] at h
    split at h
    · split at h
      · cases h
      · cases h; exact count_drop_le _ _ _
      · exact footnoteRefs_backLe s fuel _ _ _ _ h
    · cases h

section
variable {T : FW → FW} {k : Nat} {Inv : FW → Prop} {Free : Prop} (V : View T k Inv Free)
include V

theorem readFootnote_view (a : FW) (hi : Inv a) (hl : Free ∨ AllNlEnd a.lines) :
    readFootnote (T a) = rmap (fun r => (r.1, T r.2)) (readFootnote a) := by
  have hrem := V.rem a
  have key : footnoteLines ((T a).remaining + 1) (T a) [] =
      ((footnoteLines (a.remaining + 1) a []).1, T (footnoteLines (a.remaining + 1) a []).2) := by
    simp only [footnoteLines_eq]
    exact loop_view V footnoteStep _ _ a (by omega) (by omega) hi [] (.inl fun _ => rfl)
  unfold readFootnote
  simp only [key]
  split
  · rfl
  · rename_i ms back hrefs
    cases back with
    | none => rfl
    | some t =>
      simp only [rmap_ok]
      -- lines handed back ≤ lines consumed (every line ends with its only newline)
      rw [V.setpos _ _ (hl.imp id fun hl => by
        have := footnoteRefs_backLe _ _ _ _ _ _ hrefs
        have := footnoteLines_count (a.remaining + 1) a hl
        omega)]

/-- the trailing blank lines handed back were all consumed (`blockCodeLoop_pos`); the loop stopped on a line of `a` when a
    line that is not whitespace-only remains at or after the cursor `BlockCode.read` returned -/
theorem readBlockCode_view (a : FW) (hi : Inv a) (h : (∀ b, b.peek = none → (T b).peek = none) ∨ (readBlockCode a).2.NB) :
    readBlockCode (T a) = ((readBlockCode a).1, T (readBlockCode a).2) := by
  have hrem := V.rem a
  have hpos := blockCodeLoop_pos (a.remaining + 1) a [] 0 0 (by omega)
  unfold readBlockCode at h ⊢
  simp only [blockCodeLoop_eq] at h hpos ⊢
  have hin : (∀ b, b.peek = none → (T b).peek = none) ∨ (loop codeStep (a.remaining + 1) a ([], 0)).2.peek ≠ none :=
    h.imp id fun ⟨q, l, hq, hl, hne⟩ hp => by
      have hi' := loop_inv codeStep (fun fw st => fw.lines = a.lines ∧ BlanksBefore fw st.2)
        (fun fw l s s' hp h hs => ⟨h.1, blanksBefore_next _ hp h.2 (codeStep_push hs)⟩) (a.remaining + 1) a ([], 0)
        ⟨rfl, blanksBefore_zero a⟩
      have hge := peek_none_ge _ hp
      have hlt := (List.getElem?_eq_some_iff.mp hl).1
      simp only at hq hl hlt
      rw [hi'.2 q l hq (by omega) hl] at hne; cases hne
  rw [loop_view V codeStep _ _ a (by omega) (by omega) hi ([], 0) (.inr hin)]
  simp only
  rw [V.setpos _ _ (.inr (by omega))]

end

/-! #### ListItem -/

theorem dropTrailing_mv (pre : List Line) (k : Nat) (b : FW) (buf : List Line) (nl : Nat) (hp : 0 < b.pos) :
    dropTrailing (b.mv pre k) (buf.map (Line.sh k)) nl =
      ((dropTrailing b buf nl).1.mv pre k, (dropTrailing b buf nl).2.map (Line.sh k)) := by
  unfold dropTrailing
  split
  · simp only [mv_backstep pre k b hp, List.map_drop]
  · rfl

theorem itemLoop_mv (cfg : Cfg) (prepend : Nat) (pre : List Line) (k : Nat) : ∀ (fuel : Nat) (b : FW) (buf : List Line) (nl : Nat),
    pre.length ≤ b.start + k → 0 < b.pos →
    itemLoop cfg prepend fuel (b.mv pre k) (buf.map (Line.sh k)) nl =
      rmap (fun r => (r.1.map (Line.sh k), r.2.1.mv pre k, r.2.2)) (itemLoop cfg prepend fuel b buf nl)
  | 0, _, _, _, _, _ => rfl
  | fuel + 1, b, buf, nl, hs, hp => by
    have hn : 0 < b.next.pos := Nat.succ_pos _
    simp only [itemLoop, mv_peek, anyInterrupt_view (mvView pre k) cfg b hs (mv_peek_none pre k), dropTrailing_mv pre k b buf nl hp]
    cases b.peek with
    | none => rfl
    | some l =>
      simp only [Option.map_some, mv_next]
      split
      · split
        · rfl
        · exact itemLoop_mv cfg prepend pre k fuel b.next ({ s := _, origin := l.origin } :: buf) _ hs hn
      · split
        · rfl
        · rfl
        · split
          · rfl
          · split
            · rfl
            · exact itemLoop_mv cfg prepend pre k fuel b.next (l :: buf) _ hs hn

def ItemLines.up (pre : List Line) : ItemLines → ItemLines
  | .empty i p ld ln og nx fw => .empty i p ld ln og nx (fw.up pre)
  | .lines buf cs i p ld ln og nx fw => .lines buf cs i p ld ln og nx (fw.up pre)

def ItemLines.mv (pre : List Line) (k : Nat) : ItemLines → ItemLines
  | .empty i p ld ln og nx fw => .empty i p ld (ln + k) (og + k) nx (fw.mv pre k)
  | .lines buf cs i p ld ln og nx fw => .lines (buf.map (Line.sh k)) (cs + k) i p ld (ln + k) (og + k) nx (fw.mv pre k)

theorem itemLines_up_fw (pre : List Line) (il : ItemLines) : (il.up pre).cursor = il.cursor.up pre := by
  cases il <;> rfl

theorem itemLines_same (cfg : Cfg) (fw : FW) (prev) (il : ItemLines) (h : itemLines cfg fw prev = .ok il) : Same fw il.cursor := by
  rw [itemLines_cursor_fw]; exact (itemLines_fwd cfg fw prev il h).1

/-- the item loop starts after at least one line, so its one backstep stays inside `b` -/
theorem itemLines_mv (cfg : Cfg) (pre : List Line) (k : Nat) (b : FW) (prev) (hs : pre.length ≤ b.start + k) :
    itemLines cfg (b.mv pre k) prev = rmap (ItemLines.mv pre k) (itemLines cfg b prev) := by
  have hsk := skipBlanks_inv (b.remaining + 1) b.next 1
  have hpos : 0 < (skipBlanks (b.remaining + 1) b.next 1).1.pos := by
    have : b.next.pos = b.pos + 1 := rfl
    have := hsk.2.1; omega
  have hst : pre.length ≤ (skipBlanks (b.remaining + 1) b.next 1).1.start + k := by
    rw [hsk.1.2]; exact hs
  unfold itemLines
  simp only [mv_peek]
  cases b.peek with
  | none => rfl
  | some l0 =>
    simp only [Option.map_some, mv_remaining, mv_next_lineNumber pre k b hs]
    split
    · rfl
    · simp only [mv_next, mv_peek, skipBlanks_view (mvView pre k) (b.remaining + 1) (b.remaining + 1) b.next 1
        (by simp only [FW.remaining, FW.next]; omega) (by simp only [FW.remaining, FW.next]; omega) hs (.inl fun _ => mv_peek_none pre k)]
      split
      · split
        · simp only [rmap_ok, ItemLines.mv]
          cases (skipBlanks (b.remaining + 1) b.next 1).1.peek <;> rfl
        · have := fun p => itemLoop_mv cfg p pre k (b.remaining + 1) (skipBlanks (b.remaining + 1) b.next 1).1 [] 0 hst hpos
          simp only [List.map_nil] at this
          rw [this]
          cases itemLoop cfg _ (b.remaining + 1) (skipBlanks (b.remaining + 1) b.next 1).1 [] 0 with
          | err e => rfl
          | ok r => simp only [rmap_ok, ItemLines.mv, List.map_reverse, Nat.add_right_comm]
      · have := fun p s => itemLoop_mv cfg p pre k (b.remaining + 1) b.next [{ s := s, origin := l0.origin }] 0 hs (Nat.succ_pos _)
        simp only [List.map_cons, List.map_nil] at this
        rw [this]
        cases itemLoop cfg _ (b.remaining + 1) b.next _ 0 with
        | err e => rfl
        | ok r => simp only [rmap_ok, ItemLines.mv, List.map_reverse]

theorem ItemLines.mv_next (pre : List Line) (k : Nat) (il : ItemLines) : (il.mv pre k).next = il.next := by cases il <;> rfl
theorem ItemLines.mv_cursor (pre : List Line) (k : Nat) (il : ItemLines) : (il.mv pre k).cursor = il.cursor.mv pre k := by
  cases il <;> rfl
theorem ItemLines.mv_leader (pre : List Line) (k : Nat) (il : ItemLines) : (il.mv pre k).itemLeader = il.itemLeader := by cases il <;> rfl

/-! #### the shifted entries -/

mutual
/-- add `k` to the reported line number and to the ghost origin of an entry, at every depth -/
def shiftEntry (k : Nat) : Entry → Entry
  | .blockCode ls ln og => .blockCode ls (ln + k) (og + k)
  | .heading lv c cl ln og => .heading lv c cl (ln + k) (og + k)
  | .quote inner loose ln og => .quote (shiftEntries k inner) loose (ln + k) (og + k)
  | .codeFence ls p ld info lang ln og => .codeFence ls p ld info lang (ln + k) (og + k)
  | .thematicBreak s ln og => .thematicBreak s (ln + k) (og + k)
  | .list items ln og => .list (shiftItems k items) (ln + k) (og + k)
  | .table ls sl ln og => .table ls (sl + k) (ln + k) (og + k)
  | .footnote ms ln og => .footnote ms (ln + k) (og + k)
  | .linkRefDefs ms ln og => .linkRefDefs ms (ln + k) (og + k)
  | .paragraph ls ln og => .paragraph ls (ln + k) (og + k)
  | .setext ls ln og => .setext ls (ln + k) (og + k)
  | .htmlBlock ls ln og => .htmlBlock ls (ln + k) (og + k)
  | .blankLine ln og => .blankLine (ln + k) (og + k)
def shiftEntries (k : Nat) : List Entry → List Entry
  | [] => []
  | e :: es => shiftEntry k e :: shiftEntries k es
def shiftItem (k : Nat) : Item → Item
  | .mk inner loose i p ld ln og => .mk (shiftEntries k inner) loose i p ld (ln + k) (og + k)
def shiftItems (k : Nat) : List Item → List Item
  | [] => []
  | i :: is => shiftItem k i :: shiftItems k is
end

theorem shiftEntries_map (k : Nat) : ∀ es, shiftEntries k es = es.map (shiftEntry k)
  | [] => rfl
  | e :: es => by simp [shiftEntries, shiftEntries_map k es]

theorem shiftItems_map (k : Nat) : ∀ is, shiftItems k is = is.map (shiftItem k)
  | [] => rfl
  | i :: is => by simp [shiftItems, shiftItems_map k is]

theorem shiftEntries_append (k : Nat) (a b : List Entry) : shiftEntries k (a ++ b) = shiftEntries k a ++ shiftEntries k b := by
  simp [shiftEntries_map]

theorem shiftItems_reverse (k : Nat) (is : List Item) : shiftItems k is.reverse = (shiftItems k is).reverse := by
  simp [shiftItems_map]

theorem lastTight_shift (k : Nat) : ∀ acc, lastTight (shiftItems k acc) = shiftItems k (lastTight acc)
  | [] => rfl
  | .mk .. :: _ => by simp only [shiftItems, shiftItem, lastTight, shiftEntries_map, List.length_map]

mutual
theorem shiftEntry_zero : ∀ e, shiftEntry 0 e = e
  | .quote inner loose ln og => by simp only [shiftEntry, shiftEntries_zero inner, Nat.add_zero]
  | .list items ln og => by simp only [shiftEntry, shiftItems_zero items, Nat.add_zero]
  | .blockCode .. | .heading .. | .codeFence .. | .thematicBreak .. | .table .. | .footnote .. | .linkRefDefs ..
  | .paragraph .. | .setext .. | .htmlBlock .. | .blankLine .. => rfl
theorem shiftEntries_zero : ∀ es, shiftEntries 0 es = es
  | [] => rfl
  | e :: es => by simp only [shiftEntries, shiftEntry_zero e, shiftEntries_zero es]
theorem shiftItem_zero : ∀ i, shiftItem 0 i = i
  | .mk inner loose i p ld ln og => by simp only [shiftItem, shiftEntries_zero inner, Nat.add_zero]
theorem shiftItems_zero : ∀ is, shiftItems 0 is = is
  | [] => rfl
  | i :: is => by simp only [shiftItems, shiftItem_zero i, shiftItems_zero is]
end

/-! #### tokenize_block commutes with `mv`, and does not read the definitions

  One simulation: the buffer stands behind `pre`, is numbered `k` higher, and is read in a state that already holds the
  definitions `d` (C05 needs the three together: `B` behind `A`, in the state `A` leaves).  Of the readers only
  `Footnote.read` (appends its definitions) and `Paragraph.read` (asks `parse_setext`) touch the state. -/

/-- the state with the definitions `d` registered before its own -/
def preSt (d : List FnMatch) (st : St) : St := { setext := st.setext, defs := d ++ st.defs }

theorem preSt_defs (d : List FnMatch) (st : St) (ms : List FnMatch) :
    ({ preSt d st with defs := (preSt d st).defs ++ ms } : St) = preSt d { st with defs := st.defs ++ ms } := by
  simp [preSt, List.append_assoc]

def shB (k : Nat) (r : Buf × St) : Buf × St := ({ entries := shiftEntries k r.1.entries, loose := r.1.loose }, r.2)
def preB (d : List FnMatch) (r : Buf × St) : Buf × St := (r.1, preSt d r.2)
def mvT (pre : List Line) (k : Nat) (d : List FnMatch) (r : Entry × FW × St) : Entry × FW × St :=
  (shiftEntry k r.1, r.2.1.mv pre k, preSt d r.2.2)
def mvL (pre : List Line) (k : Nat) (d : List FnMatch) (r : List Item × FW × St) : List Item × FW × St :=
  (shiftItems k r.1, r.2.1.mv pre k, preSt d r.2.2)

/-- the nested tokenizer runs on a buffer of its own: only the shift reaches it -/
def ShTok (cfg : Cfg) (k : Nat) (d : List FnMatch) (gas : Nat) : Prop :=
  ∀ (lines : List Line) (start : Nat) (st : St),
    tokenizeBlock cfg gas (lines.map (Line.sh k)) (start + k) (preSt d st) = rmap ((preB d ∘ shB k)) (tokenizeBlock cfg gas lines start st)

def MvLoop (cfg : Cfg) (k : Nat) (d : List FnMatch) (gas : Nat) : Prop :=
  ∀ (pre : List Line) (b : FW) (st : St) (acc : List Entry) (loose : Bool), Front pre k b →
    tokLoop cfg gas (b.mv pre k) (preSt d st) (shiftEntries k acc) loose = rmap ((preB d ∘ shB k)) (tokLoop cfg gas b st acc loose)

def MvTry (cfg : Cfg) (k : Nat) (d : List FnMatch) (gas : Nat) : Prop :=
  ∀ (pre : List Line) (b : FW) (st : St) (l : Line) (ts : List BTok), Front pre k b →
    tryTypes cfg gas (b.mv pre k) (preSt d st) (l.sh k) ts = rmap (Option.map (mvT pre k d)) (tryTypes cfg gas b st l ts)

def MvList (cfg : Cfg) (k : Nat) (d : List FnMatch) (gas : Nat) : Prop :=
  ∀ (pre : List Line) (b : FW) (st : St) (ld) (nm) (acc : List Item), Front pre k b →
    readList cfg gas (b.mv pre k) (preSt d st) ld nm (shiftItems k acc) = rmap (mvL pre k d) (readList cfg gas b st ld nm acc)

theorem shTok_step (cfg : Cfg) (k : Nat) (d : List FnMatch) (gas : Nat) (hP : MvLoop cfg k d gas) : ShTok cfg k d (gas + 1) := by
  intro lines start st
  simp only [tokenizeBlock]
  exact hP [] { lines := lines, pos := 0, start := start } st [] false (front_nil _ _)

theorem mvLoop_step (cfg : Cfg) (k : Nat) (d : List FnMatch) (gas : Nat) (hY : MvTry cfg k d gas) (hP : MvLoop cfg k d gas) : MvLoop cfg k d (gas + 1) := by
  intro pre b st acc loose hf
  simp only [tokLoop, mv_peek]
  cases hp : b.peek with
  | none => simp only [Option.map_none, rmap_ok, Function.comp, preB, shB, shiftEntries_map, List.map_reverse]
  | some l =>
    simp only [Option.map_some, hY pre b st l cfg.types hf]
    cases ht : tryTypes cfg gas b st l cfg.types with
    | err e => rfl
    | ok o =>
      cases o with
      | none => simp only [rmap_ok, Option.map_none, mv_next]; exact hP pre b.next st acc true hf
      | some r =>
        obtain ⟨e, fw', st'⟩ := r
        simp only [rmap_ok, Option.map_some, mvT]
        exact hP pre fw' st' (e :: acc) loose
          (hf.step fun hl => (tryTypes_fwd cfg gas b st l cfg.types e fw' st' hl hp ht).1)

theorem readItem_mv (cfg : Cfg) (k : Nat) (d : List FnMatch) (gas : Nat) (hT : ShTok cfg k d gas) (pre : List Line) (st : St) (il : ItemLines) :
    readItem cfg gas (preSt d st) (il.mv pre k) = rmap (fun r => (shiftItem k r.1, preSt d r.2)) (readItem cfg gas st il) := by
  cases il with
  | empty => rfl
  | lines buf cs =>
    simp only [ItemLines.mv, readItem, hT buf cs st]
    cases tokenizeBlock cfg gas buf cs st <;> rfl

theorem mvList_step (cfg : Cfg) (k : Nat) (d : List FnMatch) (gas : Nat) (hT : ShTok cfg k d gas) (hL : MvList cfg k d gas) : MvList cfg k d (gas + 1) := by
  intro pre b st ld nm acc hf
  rw [readList_succ, readList_succ, itemLines_mv cfg pre k b nm hf.1]
  split
  · simp only [rmap_ok, mvL, lastTight_shift, shiftItems_reverse]
  · cases hil : itemLines cfg b nm with
    | err e => rfl
    | ok il =>
      have hf' : Front pre k il.cursor := hf.step fun _ => itemLines_same cfg b nm il hil
      simp only [rmap_ok, readItem_mv cfg k d gas hT, ItemLines.mv_next, ItemLines.mv_cursor, ItemLines.mv_leader]
      cases readItem cfg gas st il with
      | err e => rfl
      | ok r =>
        obtain ⟨item, st'⟩ := r
        simp only [rmap_ok]
        cases il.next with
        | none =>
          have h := lastTight_shift k (item :: acc)
          simp only [shiftItems] at h
          simp only [rmap_ok, mvL, shiftItems_reverse, h]
        | some m => exact hL pre il.cursor st' _ _ (item :: acc) hf'

theorem mvTry_step (cfg : Cfg) (k : Nat) (d : List FnMatch) (gas : Nat) (hT : ShTok cfg k d gas) (hY : MvTry cfg k d gas) (hL : MvList cfg k d gas) :
    MvTry cfg k d (gas + 1) := by
  intro pre b st l ts hf
  cases ts with
  | nil => rfl
  | cons t ts =>
    have ih := fun b st hf => hY pre b st l ts hf
    obtain ⟨s0, o0⟩ := l
    dsimp only [Line.sh] at ih ⊢
    cases t <;> simp only [tryTypes, mv_ln pre k b hf.1]
    · -- htmlBlock
      cases htmlBlockStart s0 with
      | err e => rfl
      | ok o =>
        cases o with
        | none => exact ih b st hf
        | some p => simp only [readHtmlBlock_view (mvView pre k) b p.2 hf.1 (.inl fun _ => mv_peek_none pre k)]; rfl
    · -- blockCode
      split
      · simp only [readBlockCode_view (mvView pre k) b hf.1 (.inl fun _ => mv_peek_none pre k)]; rfl
      · exact ih b st hf
    · -- heading
      rw [readHeading_view (mvView pre k)]
      cases readHeading b s0 with
      | none => exact ih b st hf
      | some r => rfl
    · -- quote
      split
      · have := quoteLines_view (mvView pre k) cfg b hf.1 hf.1 { s := s0, origin := o0 }
        dsimp only [Line.sh] at this
        rw [this]
        cases quoteLines cfg b { s := s0, origin := o0 } with
        | err e => rfl
        | ok r =>
          obtain ⟨qls, qstart, fw'⟩ := r
          simp only [rmap_ok]
          rw [show ({ preSt d st with setext := false } : St) = preSt d { st with setext := false } from rfl, hT qls qstart]
          cases tokenizeBlock cfg gas qls qstart { st with setext := false } <;> rfl
      · exact ih b st hf
    · -- codeFence
      cases codeFenceStart s0 with
      | none => exact ih b st hf
      | some m => simp only [readCodeFence_view (mvView pre k) b m hf.1 (.inl fun _ => mv_peek_none pre k)]; rfl
    case thematicBreak | blankLine =>
      split
      · rw [mv_next]; rfl
      · exact ih b st hf
    · -- list
      split
      · have := hL pre b st none none [] hf
        simp only [shiftItems] at this
        rw [this]
        cases readList cfg gas b st none none [] <;> rfl
      · exact ih b st hf
    · -- table
      split
      · rw [readTable_view (mvView pre k) b hf.1 (mv_peek_none pre k)]
        cases readTable b with
        | none => exact ih b st hf
        | some r => rfl
      · exact ih b st hf
    case footnote | linkRefDefBlock =>
      split
      · rw [readFootnote_view (mvView pre k) b hf.1 hf.2]
        cases hfn : readFootnote b with
        | err e => rfl
        | ok r =>
          obtain ⟨ms, fw'⟩ := r
          simp only [rmap_ok, preSt_defs]
          split
          · exact ih fw' _ (hf.step fun _ => readFootnote_same b ms fw' hfn)
          · rfl
      · exact ih b st hf
    · -- paragraph
      split
      · rw [show (preSt d st).setext = st.setext from rfl, readParagraph_view (mvView pre k) cfg _ b hf.1 s0]
        cases readParagraph cfg st.setext b s0 with
        | err e => rfl
        | ok r =>
          obtain ⟨bb, se, fw'⟩ := r
          cases se <;> rfl
      · exact ih b st hf

theorem mv_all (cfg : Cfg) (k : Nat) (d : List FnMatch) : ∀ gas, ShTok cfg k d gas ∧ MvLoop cfg k d gas ∧ MvTry cfg k d gas ∧ MvList cfg k d gas
  | 0 => ⟨fun _ _ _ => rfl, fun _ _ _ _ _ _ => rfl, fun _ _ _ _ _ _ => rfl, fun _ _ _ _ _ _ _ => rfl⟩
  | gas + 1 => by
    obtain ⟨hT, hP, hY, hL⟩ := mv_all cfg k d gas
    exact ⟨shTok_step cfg k d gas hP, mvLoop_step cfg k d gas hY hP, mvTry_step cfg k d gas hT hY hL, mvList_step cfg k d gas hT hL⟩

theorem tokLoop_mv (cfg : Cfg) (k gas : Nat) (pre : List Line) (b : FW) (st : St) (acc : List Entry) (loose : Bool)
    (hf : Front pre k b) :
    tokLoop cfg gas (b.mv pre k) st (shiftEntries k acc) loose = rmap (shB k) (tokLoop cfg gas b st acc loose) :=
  (mv_all cfg k [] gas).2.1 pre b st acc loose hf

/-- **Shift.**  Numbering the first line of a buffer `k` higher (and shifting the ghost origins
    alike) changes nothing in the result of `tokenize_block` except that every reported line number
    (and ghost origin), at every depth, is `k` higher. -/
theorem tokenizeBlock_shift (cfg : Cfg) (k gas : Nat) (lines : List Line) (start : Nat) (st : St) :
    tokenizeBlock cfg gas (lines.map (Line.sh k)) (start + k) st = rmap (shB k) (tokenizeBlock cfg gas lines start st) :=
  (mv_all cfg k [] gas).1 lines start st

/-- **Suffix locality.**  The dispatch loop started at the first line of `B` inside the buffer
    `pre ++ B` behaves exactly as on the buffer `B` alone whose first line is numbered
    `start + pre.length`: no reader ever looks at, or steps back into, the lines before the
    position where its block started.  (Every line of `B` ends with its only newline: `Footnote.read`
    hands back `string.count('\n')` lines.) -/
theorem tokLoop_suffix (cfg : Cfg) (gas : Nat) (pre B : List Line) (start : Nat) (st : St) (acc : List Entry) (loose : Bool)
    (hB : AllNlEnd B) :
    tokLoop cfg gas { lines := pre ++ B, pos := pre.length, start := start } st acc loose =
      tokLoop cfg gas { lines := B, pos := 0, start := start + pre.length } st acc loose := by
  have := tokLoop_mv cfg 0 gas pre { lines := B, pos := 0, start := start + pre.length } st acc loose
    ⟨by simp only; omega, Or.inr hB⟩
  simp only [FW.mv, FW.up, FW.sh, map_sh_zero, shiftEntries_zero, Nat.zero_add, Nat.add_zero, Nat.add_sub_cancel] at this
  rw [this]
  cases tokLoop cfg gas { lines := B, pos := 0, start := start + pre.length } st acc loose with
  | err e => rfl
  | ok r => simp only [rmap_ok, shB, shiftEntries_zero]

/-! ### The accumulator of the dispatch loop is only ever extended -/

def withAcc (acc : List Entry) (loose : Bool) (r : Buf × St) : Buf × St :=
  ({ entries := acc.reverse ++ r.1.entries, loose := loose || r.1.loose }, r.2)

theorem tokLoop_acc (cfg : Cfg) : ∀ (gas : Nat) (fw : FW) (st : St) (acc : List Entry) (loose : Bool),
    tokLoop cfg gas fw st acc loose = rmap (withAcc acc loose) (tokLoop cfg gas fw st [] false)
  | 0, _, _, _, _ => rfl
  | gas + 1, fw, st, acc, loose => by
    simp only [tokLoop]
    cases fw.peek with
    | none => simp [withAcc]
    | some l =>
      simp only
      cases tryTypes cfg gas fw st l cfg.types with
      | err e => rfl
      | ok o =>
        cases o with
        | none =>
          simp only
          rw [tokLoop_acc cfg gas fw.next st acc true, tokLoop_acc cfg gas fw.next st [] true]
          cases tokLoop cfg gas fw.next st [] false with
          | err e => rfl
          | ok r => simp [withAcc]
        | some x =>
          obtain ⟨e, fw', st'⟩ := x
          simp only
          rw [tokLoop_acc cfg gas fw' st' (e :: acc) loose, tokLoop_acc cfg gas fw' st' [e] false]
          cases tokLoop cfg gas fw' st' [] false with
          | err e => rfl
          | ok r => simp [withAcc]

theorem tokLoop_mem (cfg : Cfg) (gas : Nat) (fw : FW) (st : St) (acc : List Entry) (loose : Bool) (buf : Buf) (st' : St)
    (h : tokLoop cfg gas fw st acc loose = .ok (buf, st')) : ∀ e ∈ acc, e ∈ buf.entries := by
  rw [tokLoop_acc] at h
  cases hr : tokLoop cfg gas fw st [] false with
  | err e => simp [hr] at h
  | ok r =>
    simp only [hr, rmap_ok, withAcc, Res.ok.injEq, Prod.mk.injEq] at h
    intro e he
    rw [← h.1]
    simp [he]

/-! ### (P) lines appended after a "\n" line

  `a.ext post` (defined with the cursors at the head of the file): the same cursor on the buffer with `post` appended.
  Readers that stop at a blank line exactly as at the end of input (Table, Footnote, Paragraph, Quote; Heading and
  ThematicBreak read one line) behave identically when `post` begins with a "\n" line (their `_view` lemmas at `extView`).
  First: the cursor each of them returns is inside its buffer (`…_inb`). -/

theorem readTable_inb (a : FW) (r) (h : readTable a = some r) : r.2.2.InB := by
  obtain ⟨b, sl, fw'⟩ := r
  obtain ⟨l, hl, _, _, rfl, _⟩ := readTable_ok h
  rw [tableLoop_eq]
  exact loop_inb tableStep _ _ _ (next_inb a l hl)

theorem paragraphLoop_inb (cfg : Cfg) (so : Bool) : ∀ (fuel : Nat) (fw : FW) (buf : List Str) (r), fw.InB →
    paragraphLoop cfg so fuel fw buf = .ok r → r.2.2.InB
  | 0, _, _, _, _, h => by simp [paragraphLoop] at h
  | fuel + 1, fw, buf, r, hb, h => by
    rcases paragraphLoop_ok h with rfl | ⟨l, hp, _, rfl | h'⟩
    · exact hb
    · exact next_inb fw l hp
    · exact paragraphLoop_inb cfg so fuel _ _ r (next_inb fw l hp) h'

theorem readParagraph_inb (cfg : Cfg) (so : Bool) (a : FW) (l : Line) (hp : a.peek = some l) (l0 : Str) (r)
    (h : readParagraph cfg so a l0 = .ok r) : r.2.2.InB := by
  obtain ⟨buf, heq, _⟩ := readParagraph_ok h
  exact paragraphLoop_inb cfg so _ _ _ (buf, _, _) (next_inb a l hp) heq

theorem quoteLoop_inb (cfg : Cfg) : ∀ (fuel : Nat) (fw : FW) (buf : List Line) (fl : QFlags) (r), fw.InB →
    quoteLoop cfg fuel fw buf fl = .ok r → r.2.InB
  | 0, _, _, _, _, _, h => by simp [quoteLoop] at h
  | fuel + 1, fw, buf, fl, r, hb, h => by
    rcases quoteLoop_ok h with rfl | ⟨l, hp, _, ⟨_, _, _, _, h'⟩ | h'⟩
    · exact hb
    · exact quoteLoop_inb cfg fuel _ _ _ r (next_inb fw l hp) h'
    · exact quoteLoop_inb cfg fuel _ _ _ r (next_inb fw l hp) h'

theorem quoteLines_inb (cfg : Cfg) (a : FW) (l : Line) (hp : a.peek = some l) (l0 : Line) (r)
    (h : quoteLines cfg a l0 = .ok r) : r.2.2.InB := by
  obtain ⟨_, _, _, buf, fw2, _, _, heq, rfl⟩ := quoteLines_ok h
  exact quoteLoop_inb cfg _ _ _ _ (buf, fw2) (next_inb a l hp) heq

theorem readFootnote_inb (a : FW) (hb : a.InB) (ms) (fw') (h : readFootnote a = .ok (ms, fw')) : fw'.InB := by
  have h1 := footnoteLines_eq (a.remaining + 1) a [] ▸ loop_inb footnoteStep (a.remaining + 1) a [] hb
  unfold readFootnote at h
  simp only at h
  split at h
  · cases h
  · cases h
    split
    · unfold FW.InB at h1 ⊢; simp only; omega
    · exact h1

/-! ### Lines that are not whitespace-only -/

/-- `FW.NB` under a second name: the statements about `ListItem.read` and `List.read` on the extended buffer say `NBl`, those
    about the silent readers and the dispatcher say `NB` -/
abbrev FW.NBl (a : FW) : Prop := a.NB

theorem nbl_nb (a : FW) (h : a.NBl) : a.NB := h

theorem nbl_of_same_pos {a b : FW} (hl : b.lines = a.lines) (hp : b.pos ≤ a.pos) (h : a.NBl) : b.NBl := by
  obtain ⟨q, l, hq, hl', hb⟩ := h
  exact ⟨q, l, Nat.le_trans hp hq, by rw [hl]; exact hl', hb⟩

theorem parseContinuation_nl_blank (s : Str) (p : Nat) (hs : NlEnd s) (h : parseContinuation s p = some ['\n']) :
    isBlank s = true := by
  unfold parseContinuation at h
  cases hc : continuation s with
  | none => simp [hc] at h
  | some g =>
    obtain ⟨g1, g2⟩ := g
    simp only [hc] at h
    obtain ⟨hs', hne, hall⟩ := continuation_split hs hc
    have hg2 : g2 = ['\n'] := by
      split at h
      · rename_i hg; exact beq_iff_eq.mp hg
      · split at h
        · cases hd : List.drop p (expandtabs g1) with
          | nil => rw [hd] at h; exact Option.some.inj h
          | cons y ys =>
            rw [hd] at h
            simp only [List.cons_append, Option.some.injEq, List.cons.injEq, List.append_eq_nil_iff] at h
            exact absurd h.2.2 hne
        · cases h
    subst hg2
    rw [hs']
    unfold isBlank
    rw [List.all_eq_true]
    intro x hx
    simp only [List.mem_append, List.mem_singleton] at hx
    rcases hx with hx | hx
    · have := hall x hx
      simp only [Bool.or_eq_true, beq_iff_eq] at this
      rcases this with rfl | rfl <;> decide
    · subst hx; decide

/-! ### `ListItem.read` on the extended buffer -/

theorem dropTrailing_ext (post : List Line) (a : FW) (buf : List Line) (nl : Nat) :
    dropTrailing (a.ext post) buf nl = ((dropTrailing a buf nl).1.ext post, (dropTrailing a buf nl).2) := by
  unfold dropTrailing; split <;> rfl

/-- the item loop never looked at the end of the buffer if it found a next marker, or if a line that
    is not whitespace-only remains at or after the cursor it returned; then it runs identically on the
    extended buffer.  (`nl` counts whitespace-only lines just consumed.) -/
theorem itemLoop_ext (cfg : Cfg) (prepend : Nat) (nl0 : Line) (rest : List Line) (hnl0 : nl0.s = ['\n']) :
    ∀ (f f' : Nat) (a : FW) (buf : List Line) (nl : Nat) (r), f ≤ f' → AllNlEnd a.lines → BlanksBefore a nl →
    itemLoop cfg prepend f a buf nl = .ok r → (r.2.2 ≠ none ∨ r.2.1.NBl) →
    itemLoop cfg prepend f' (a.ext (nl0 :: rest)) buf nl = .ok (r.1, r.2.1.ext (nl0 :: rest), r.2.2)
  | 0, _, _, _, _, _, _, _, _, h, _ => by simp [itemLoop] at h
  | _ + 1, 0, _, _, _, _, hle, _, _, _, _ => by omega
  | f + 1, f' + 1, a, buf, nl, r, hle, hnlA, hinv, h, hg => by
    simp only [itemLoop] at h ⊢
    cases hp : a.peek with
    | none =>
      exfalso
      have hge := peek_none_ge a hp
      simp only [hp] at h
      cases h
      rcases hg with hg | hg
      · exact hg rfl
      · obtain ⟨q, l, hq, hl, hb⟩ := hg
        have hlt := (List.getElem?_eq_some_iff.mp hl).1
        have hsame := (dropTrailing_same a buf nl).1
        simp only at hq hl hlt
        rw [hsame] at hl hlt
        unfold dropTrailing at hq
        split at hq
        · simp only [FW.backstep] at hq
          have := hinv q l (by omega) (by omega) hl
          rw [this] at hb; cases hb
        · simp only at hq; omega
    | some l =>
      have hlm : l ∈ a.lines := peek_mem a l hp
      -- the counter of whitespace-only lines just consumed, after `l` has been consumed with the text `c`
      have hinv' : ∀ (c : Str), (c = ['\n'] → isBlank l.s = true) →
          BlanksBefore a.next (if c == ['\n'] then nl + 1 else 0) := by
        intro c hc
        refine blanksBefore_next _ hp hinv ?_
        split
        · rename_i hcn; exact Or.inr ⟨rfl, hc (by simpa using hcn)⟩
        · exact Or.inl rfl
      simp only [hp] at h
      simp only [ext_peek_some _ a l hp, anyInterrupt_view (extView nl0 rest hnl0) cfg a (Nat.le_of_lt (peek_lt a l hp)) (peek_some_ne hp),
        dropTrailing_ext]
      cases hc : parseContinuation l.s prepend with
      | some cont =>
        simp only [hc] at h ⊢
        split
        · rename_i he; simp [he] at h
        · rename_i he
          simp only [he] at h
          rw [ext_next]
          exact itemLoop_ext cfg prepend nl0 rest hnl0 f f' a.next _ _ r (by omega) hnlA
            (hinv' cont fun hcn => parseContinuation_nl_blank _ prepend (hnlA _ hlm) (hcn ▸ hc)) h hg
      | none =>
        simp only [hc] at h ⊢
        cases hi : anyInterrupt cfg a .list (parseMarker l.s).isSome cfg.types with
        | err e => simp [hi] at h
        | ok bi =>
          simp only [hi] at h ⊢
          cases bi with
          | true => simp only at h ⊢; cases h; rfl
          | false =>
            simp only at h ⊢
            cases hm : parseMarker l.s with
            | some m => simp only [hm] at h ⊢; cases h; rfl
            | none =>
              simp only [hm] at h ⊢
              split
              · rename_i hn; simp only [hn, if_true] at h; cases h; rfl
              · rename_i hn
                simp only [hn] at h
                rw [ext_next]
                exact itemLoop_ext cfg prepend nl0 rest hnl0 f f' a.next _ _ r (by omega) hnlA
                  (hinv' l.s fun hcn => by rw [hcn]; decide) h hg

def ItemLines.ext (post : List Line) : ItemLines → ItemLines
  | .empty i p ld ln og nx fw => .empty i p ld ln og nx (fw.ext post)
  | .lines buf cs i p ld ln og nx fw => .lines buf cs i p ld ln og nx (fw.ext post)

theorem itemLines_ext_cursor (post : List Line) (il : ItemLines) : (il.ext post).cursor = il.cursor.ext post := by
  cases il <;> rfl

theorem itemLines_ext (cfg : Cfg) (nl0 : Line) (rest : List Line) (hnl0 : nl0.s = ['\n']) (a : FW) (prev) (il : ItemLines)
    (hnlA : AllNlEnd a.lines) (h : itemLines cfg a prev = .ok il) (hg : il.next ≠ none ∨ il.cursor.NBl) :
    itemLines cfg (a.ext (nl0 :: rest)) prev = .ok (il.ext (nl0 :: rest)) := by
  have hsk := skipBlanks_inv (a.remaining + 1) a.next 1
  have hle := ext_remaining_le (nl0 :: rest) a
  unfold itemLines at h ⊢
  cases hp : a.peek with
  | none => simp [hp] at h
  | some l0 =>
    have hr' := remaining_next a l0 hp
    simp only [hp] at h
    have hln : (a.ext (nl0 :: rest)).next.lineNumber = a.next.lineNumber := rfl
    simp only [ext_peek_some _ a l0 hp, hln]
    split at h
    · cases h
    · rename_i ind pre0 ldr content hmk
      split at h
      · rename_i hbc
        simp only [hbc, if_true]
        have hlt : (skipBlanks (a.remaining + 1) a.next 1).1.pos < a.lines.length := by
          split at h
          · cases h
            simp only [ItemLines.next, ItemLines.cursor] at hg
            rcases hg with hg | hg
            · cases hpk : (skipBlanks (a.remaining + 1) a.next 1).1.peek with
              | none => simp [hpk] at hg
              | some l => have := peek_lt _ l hpk; rw [hsk.1.1] at this; exact this
            · have := nb_lt _ hg; rw [hsk.1.1] at this; exact this
          · split at h
            · cases h
            · rename_i buf fw3 next heq
              cases h
              simp only [ItemLines.next, ItemLines.cursor] at hg
              have hfwd := itemLoop_fwd cfg _ _ _ _ _ (skipBlanks (a.remaining + 1) a.next 1).1.pos _ heq (Nat.le_refl _)
              have hpos := hfwd.2
              have hs3 := hfwd.1.1
              simp only at hpos hs3
              have : fw3.pos < fw3.lines.length := by
                rcases hg with hg | hg
                · cases hn : next with
                  | none => exact absurd hn hg
                  | some m =>
                    obtain ⟨l, hl, _⟩ := itemLoop_next_marker cfg _ _ _ _ _ _ heq m hn
                    exact peek_lt _ l hl
                · exact nb_lt _ hg
              rw [hs3, hsk.1.1] at this
              show _ < a.lines.length
              have e : a.next.lines = a.lines := rfl
              rw [e] at this
              omega
        have e : a.next.lines = a.lines := rfl
        have hske : skipBlanks ((a.ext (nl0 :: rest)).remaining + 1) (a.ext (nl0 :: rest)).next 1 =
            ((skipBlanks (a.remaining + 1) a.next 1).1.ext (nl0 :: rest), (skipBlanks (a.remaining + 1) a.next 1).2) :=
          skipBlanks_view (extView nl0 rest hnl0) (a.remaining + 1) ((a.ext (nl0 :: rest)).remaining + 1) a.next 1 (by omega) (by omega)
            (next_inb a l0 hp) (.inr fun hpk => by have := peek_none_ge _ hpk; rw [hsk.1.1, e] at this; omega)
        rw [hske]
        simp only
        split at h
        · rename_i hb1
          simp only [hb1, if_true]
          cases h
          have hpk : ((skipBlanks (a.remaining + 1) a.next 1).1.ext (nl0 :: rest)).peek = (skipBlanks (a.remaining + 1) a.next 1).1.peek := by
            cases hpk : (skipBlanks (a.remaining + 1) a.next 1).1.peek with
            | none =>
              have := peek_none_ge _ hpk
              rw [hsk.1.1] at this
              have e2 : a.next.lines.length = a.lines.length := rfl
              omega
            | some l => exact ext_peek_some _ _ l hpk
          simp only [hpk, ItemLines.ext]
        · rename_i hb1
          rw [if_neg hb1]
          split at h
          · cases h
          · rename_i buf fw3 next heq
            cases h
            simp only [ItemLines.next, ItemLines.cursor] at hg
            rw [itemLoop_ext cfg _ nl0 rest hnl0 (a.remaining + 1) _ _ [] 0 _ (by omega)
              (by rw [hsk.1.1]; exact hnlA) (blanksBefore_zero _) heq hg]
            simp only [ItemLines.ext]
      · rename_i hbc
        rw [if_neg hbc]
        split at h
        · cases h
        · rename_i buf fw3 next heq
          cases h
          simp only [ItemLines.next, ItemLines.cursor] at hg
          have hile := itemLoop_ext cfg _ nl0 rest hnl0 (a.remaining + 1) ((a.ext (nl0 :: rest)).remaining + 1) a.next _ 0 _ (by omega)
            hnlA (blanksBefore_zero _) heq hg
          rw [← ext_next] at hile
          rw [hile]
          simp only [ItemLines.ext]

/-! ### `List.read` on the extended buffer -/

/-- `List.read` runs identically on the extended buffer, unless its last item looked at the end of
    the buffer: then no line that is not whitespace-only remains at or after the cursor it returned -/
def ExtList (cfg : Cfg) (nl0 : Line) (rest : List Line) (g : Nat) : Prop :=
  ∀ (a : FW) (st : St) (ld) (nm) (acc : List Item) (items) (fw' : FW) (st' : St), AllNlEnd a.lines →
    readList cfg g a st ld nm acc = .ok (items, fw', st') →
    readList cfg g (a.ext (nl0 :: rest)) st ld nm acc = .ok (items, fw'.ext (nl0 :: rest), st') ∨ ¬ fw'.NBl

theorem ItemLines.ext_next (post : List Line) (il : ItemLines) : (il.ext post).next = il.next := by cases il <;> rfl
theorem ItemLines.ext_leader (post : List Line) (il : ItemLines) : (il.ext post).itemLeader = il.itemLeader := by cases il <;> rfl
theorem readItem_ext (cfg : Cfg) (g : Nat) (st : St) (post : List Line) (il : ItemLines) :
    readItem cfg g st (il.ext post) = readItem cfg g st il := by cases il <;> rfl

theorem extList_step (cfg : Cfg) (nl0 : Line) (rest : List Line) (hnl0 : nl0.s = ['\n']) (g : Nat)
    (hL : ExtList cfg nl0 rest g) : ExtList cfg nl0 rest (g + 1) := by
  intro a st ld nm acc items fw' st' hnlA h
  rw [readList_succ] at h ⊢
  by_cases hom : otherMarkerType ld nm = true
  · -- a marker of another type: nothing is read
    simp only [hom, if_true] at h ⊢
    cases h; exact Or.inl rfl
  simp only [hom, Bool.false_eq_true, if_false] at h ⊢
  cases hil : itemLines cfg a nm with
  | err e => simp [hil] at h
  | ok il =>
    have hsame := itemLines_same cfg a nm il hil
    have hnlC : AllNlEnd il.cursor.lines := by rw [hsame.1]; exact hnlA
    simp only [hil] at h
    cases hi : readItem cfg g st il with
    | err e => simp [hi] at h
    | ok x =>
      obtain ⟨item, st1⟩ := x
      simp only [hi] at h
      by_cases hg : il.next ≠ none ∨ il.cursor.NBl
      · rw [itemLines_ext cfg nl0 rest hnl0 a nm il hnlA hil hg]
        simp only [readItem_ext, hi, ItemLines.ext_next, ItemLines.ext_leader, itemLines_ext_cursor]
        cases hn : il.next with
        | none => simp only [hn] at h ⊢; cases h; exact Or.inl rfl
        | some m => simp only [hn] at h ⊢; exact hL il.cursor _ _ _ _ _ _ _ hnlC h
      · -- the last item may have looked at the end of the buffer
        right
        have hnn : il.next = none := by
          cases hn : il.next with
          | none => rfl
          | some m => exact absurd (Or.inl (by rw [hn]; simp)) hg
        simp only [hnn] at h
        cases h
        exact fun x => hg (Or.inr x)

theorem extList_all (cfg : Cfg) (nl0 : Line) (rest : List Line) (hnl0 : nl0.s = ['\n']) : ∀ g, ExtList cfg nl0 rest g
  | 0 => by intro a st ld nm acc items fw' st' _ h; simp [readList] at h
  | g + 1 => extList_step cfg nl0 rest hnl0 g (extList_all cfg nl0 rest hnl0 g)

/-! ### The dispatcher on the extended buffer -/

/-- the block kinds that a blank line closes exactly as the end of input does, and that define no
    link reference: paragraph, setext heading, ATX heading, thematic break, block quote, table -/
def closedE : Entry → Bool
  | .paragraph .. => true
  | .setext .. => true
  | .heading .. => true
  | .thematicBreak .. => true
  | .quote .. => true
  | .table .. => true
  | _ => false

def extT (post : List Line) (r : Entry × FW × St) : Entry × FW × St := (r.1, r.2.1.ext post, r.2.2)

/-- no list: a hypothesis of the statements of `Props/C05.lean`.  Nothing in this file asks it: `tokLoop_ext` covers buffers with
    lists through `extList_all` -/
def noList : Entry → Bool
  | .list .. => false
  | _ => true

/-- what the dispatch loop knows about a step: the entry is of a closed kind, or a line that is not
    whitespace-only remains at or after the cursor it returned -/
def okR : Option (Entry × FW × St) → Prop
  | none => True
  | some (e, fw', _) => closedE e = true ∨ fw'.NB

/-- the dispatcher returns the same on the extended buffer when its result satisfies `okR`; the cursor it returns is inside its
    buffer (the `Inv` of `extView`, needed for the next round) -/
def ExtTry (cfg : Cfg) (nl : Line) (rest : List Line) (gas : Nat) : Prop :=
  ∀ (a : FW) (st : St) (l : Line) (ts : List BTok) (r), AllNlEnd a.lines → a.peek = some l →
    tryTypes cfg gas a st l ts = .ok r → okR r →
    tryTypes cfg gas (a.ext (nl :: rest)) st l ts = .ok (r.map (extT (nl :: rest))) ∧
      ∀ x, r = some x → x.2.1.InB

theorem nb_of_okR {e : Entry} {fw' : FW} {st' : St} (h : okR (some (e, fw', st'))) (hc : closedE e = false) : fw'.NB := by
  rcases h with h | h
  · rw [hc] at h; cases h
  · exact h

theorem inb_of_nb (a : FW) (h : a.NB) : a.InB := Nat.le_of_lt (nb_lt a h)

theorem nb_peek (a : FW) (h : a.NB) : a.peek ≠ none := by
  intro hp; have := peek_none_ge a hp; have := nb_lt a h; omega

theorem declines_ext (nl : Line) (rest : List Line) (hnl : nl.s = ['\n']) {a : FW} {l : Line} (hp : a.peek = some l) {s : Str} {t : BTok}
    (h : Declines a s t) : Declines (a.ext (nl :: rest)) s t := by
  cases t
  case table =>
    exact h.imp id fun ht => by
      rw [readTable_view (extView nl rest hnl) a (Nat.le_of_lt (peek_lt a l hp)) (peek_some_ne hp), ht]; rfl
  all_goals exact h

/-- the types that decline on `a` decline on the extended buffer; the type that accepts the line accepts it there and its
    reader commutes with the view -/
theorem extTry_step (cfg : Cfg) (nl : Line) (rest : List Line) (hnl : nl.s = ['\n']) (gas : Nat)
    (hY : ExtTry cfg nl rest gas) : ExtTry cfg nl rest (gas + 1) := by
  intro a st l ts r hl hp h hc
  cases ts with
  | nil =>
    simp only [tryTypes] at h ⊢
    cases h
    exact ⟨rfl, fun x hx => by cases hx⟩
  | cons t ts =>
    have hinb : a.InB := Nat.le_of_lt (peek_lt a l hp)
    have hn : a.next.InB := next_inb a l hp
    have V := extView nl rest hnl
    have fin : ∀ {x : Entry × FW × St}, x.2.1.InB → ∀ y, some x = some y → y.2.1.InB := fun h y hy => by cases hy; exact h
    rcases tryTypes_some h with ⟨_, hd, h⟩ | ⟨ms, fwf, _, ht, hsw, hf, hms, h⟩ | ⟨rule, ec, hst⟩ | hst | ⟨lvl, c, cl, fw', hh⟩ |
      ⟨qls, qstart, fw', b, stb, hqs, hq, hb⟩ | ⟨m, hm⟩ | hst | ⟨items, fw', st', hls, hrl⟩ | ⟨b, sl, fw', hbar, ht⟩ |
      ⟨ms, fw', hsw, hf, hms⟩ | ⟨ms, fw', hsw, hf, hms⟩ | ⟨b, fw', hnb, hpp⟩ | ⟨b, fw', hnb, hpp⟩ | hst
    · rw [tryTypes_decline (declines_ext nl rest hnl hp hd)]
      exact hY a st l ts _ hl hp h hc
    · obtain ⟨e1, e2⟩ := handedBack_eq hsw hf hms hl hp
      have e1' := e1.symm
      subst e1' e2
      rw [tryTypes_handedBack ht hsw (by
        rw [readFootnote_view V a hinb (.inl trivial), hf]; rfl) rfl]
      exact hY a _ l ts _ hl hp h hc
    · have hnb := nb_of_okR hc rfl
      rw [tryTypes_hit_htmlBlock hst, readHtmlBlock_view V a ec hinb (.inr (nb_peek _ hnb))]
      exact ⟨rfl, fin (inb_of_nb _ hnb)⟩
    · have hnb := nb_of_okR hc rfl
      rw [tryTypes_hit_blockCode hst, readBlockCode_view V a hinb (.inr hnb)]
      exact ⟨rfl, fin (inb_of_nb _ hnb)⟩
    · obtain ⟨_, _, _, _, rfl⟩ := readHeading_ok hh
      rw [tryTypes_hit_heading (by
        rw [readHeading_view V, hh]; rfl)]
      exact ⟨rfl, fin hn⟩
    · rw [tryTypes_hit_quote hqs (show quoteLines cfg (a.ext (nl :: rest)) l = .ok (qls, qstart, fw'.ext (nl :: rest)) from by
        rw [show quoteLines cfg (a.ext (nl :: rest)) l = _ from quoteLines_view V cfg a hinb hn l, hq]
        simp only [rmap_ok, map_sh_zero, Nat.add_zero]), hb]
      exact ⟨rfl, fin (quoteLines_inb cfg a l hp l _ hq)⟩
    · have hnb := nb_of_okR hc rfl
      rw [tryTypes_hit_codeFence hm, readCodeFence_view V a m hn (.inr (nb_peek _ hnb))]
      exact ⟨rfl, fin (inb_of_nb _ hnb)⟩
    · rw [tryTypes_hit_thematicBreak hst]
      exact ⟨rfl, fin hn⟩
    · -- a list is not of a closed kind, so a line that is not whitespace-only follows it
      have hnb := nb_of_okR hc rfl
      rcases extList_all cfg nl rest hnl gas a st none none [] items fw' st' hl hrl with hx | hx
      · rw [tryTypes_hit_list hls hx]
        exact ⟨rfl, fin (inb_of_nb _ hnb)⟩
      · exact absurd hnb hx
    · rw [tryTypes_hit_table hbar (by
        rw [readTable_view V a hinb (peek_some_ne hp), ht]; rfl)]
      exact ⟨rfl, fin (readTable_inb a _ ht)⟩
    · rw [tryTypes_hit_def (.inl rfl) hsw (by rw [readFootnote_view V a hinb (.inl trivial), hf]; rfl) hms]
      exact ⟨rfl, fin (readFootnote_inb a hinb ms fw' hf)⟩
    · rw [tryTypes_hit_def (.inr rfl) hsw (by rw [readFootnote_view V a hinb (.inl trivial), hf]; rfl) hms]
      exact ⟨rfl, fin (readFootnote_inb a hinb ms fw' hf)⟩
    · rw [tryTypes_hit_setext hnb (by
        rw [readParagraph_view V cfg _ a hn, hpp]; rfl)]
      exact ⟨rfl, fin (readParagraph_inb cfg _ a l hp l.s _ hpp)⟩
    · rw [tryTypes_hit_paragraph hnb (by
        rw [readParagraph_view V cfg _ a hn, hpp]; rfl)]
      exact ⟨rfl, fin (readParagraph_inb cfg _ a l hp l.s _ hpp)⟩
    · rw [tryTypes_hit_blankLine hst]
      exact ⟨rfl, fin hn⟩

theorem extTry_all (cfg : Cfg) (nl : Line) (rest : List Line) (hnl : nl.s = ['\n']) : ∀ gas, ExtTry cfg nl rest gas
  | 0 => by intro a st l ts r _ _ h; simp [tryTypes] at h
  | gas + 1 => extTry_step cfg nl rest hnl gas (extTry_all cfg nl rest hnl gas)

/-! #### (P) the dispatch loop on the extended buffer -/

theorem tryTypes_some_ne_nl (cfg : Cfg) (hbl : .blankLine ∉ cfg.types) (gas : Nat) (fw : FW) (st : St) (l : Line) (x)
    (h : tryTypes cfg gas fw st l cfg.types = .ok (some x)) : l.s ≠ ['\n'] := by
  intro hl
  have h1 := tryTypes_mono cfg fw st l cfg.types _ gas (gas + cfg.types.length + 1) (by omega) h
  rw [tryTypes_nl cfg fw st l hl cfg.types _ hbl (by omega)] at h1
  cases h1

/-- if the loop started at `fw` produces any entry at all, a line other than "\n" lies at or after `fw`
    (too weak for `readBlockCode_view`, which needs a line that is not whitespace-only: `tokLoop_closed_nbl`) -/
theorem tokLoop_new_nb (cfg : Cfg) (hbl : .blankLine ∉ cfg.types) : ∀ (gas : Nat) (fw : FW) (st : St) (acc : List Entry)
    (loose : Bool) (buf : Buf) (st' : St) (new : List Entry),
    tokLoop cfg gas fw st acc loose = .ok (buf, st') → buf.entries = acc.reverse ++ new → new ≠ [] →
    ∃ q l, fw.pos ≤ q ∧ fw.lines[q]? = some l ∧ l.s ≠ ['\n']
  | 0, _, _, _, _, _, _, _, h, _, _ => by simp [tokLoop] at h
  | gas + 1, fw, st, acc, loose, buf, st', new, h, hn, hne => by
    simp only [tokLoop] at h
    cases hp : fw.peek with
    | none =>
      simp only [hp, Res.ok.injEq, Prod.mk.injEq] at h
      rw [← h.1] at hn
      simp only at hn
      have : new = [] := by simpa using hn
      exact absurd this hne
    | some l =>
      simp only [hp] at h
      cases ht : tryTypes cfg gas fw st l cfg.types with
      | err e => simp [ht] at h
      | ok o =>
        simp only [ht] at h
        cases o with
        | none =>
          simp only at h
          obtain ⟨q, l', hq, hl', hne'⟩ := tokLoop_new_nb cfg hbl gas fw.next st acc true buf st' new h hn hne
          exact ⟨q, l', Nat.le_trans (Nat.le_succ _) hq, hl', hne'⟩
        | some x => exact ⟨fw.pos, l, Nat.le_refl _, hp, tryTypes_some_ne_nl cfg hbl gas fw st l x ht⟩

theorem nonblank_of_mem (s : Str) (c : Char) (hm : c ∈ s) (hc : pyIsSpace c = false) : isBlank s = false := by
  unfold isBlank
  cases h : s.all pyIsSpace with
  | false => rfl
  | true =>
    rw [List.all_eq_true] at h
    rw [h c hm] at hc; cases hc

/-! ### A block of a closed kind starts on a line that is not whitespace-only -/

theorem upTo3_mem (s : Str) (n : Nat) (r : Str) (h : upTo3Spaces s = some (n, r)) (c : Char) (hc : c ∈ r) : c ∈ s := by
  unfold upTo3Spaces at h
  simp only at h
  split at h
  · cases h
  · cases h; exact List.mem_of_mem_drop hc

theorem heading_nonblank (s : Str) (m) (h : Scan.heading s = some m) : isBlank s = false := by
  unfold Scan.heading at h
  cases hu : upTo3Spaces s with
  | none => simp [hu] at h
  | some x =>
    obtain ⟨n, r⟩ := x
    simp only [hu] at h
    have hne : (span (· == '#') r).1 ≠ [] := by
      intro e
      rw [e] at h
      simp at h
    obtain ⟨c, r', hr, hc⟩ := span_head _ r hne
    simp only [beq_iff_eq] at hc
    subst hc
    exact nonblank_of_mem s '#' (upTo3_mem s n r hu '#' (by rw [hr]; simp)) (by decide)

theorem thematicBreak_nonblank (s : Str) (h : Scan.thematicBreak s = true) : isBlank s = false := by
  unfold Scan.thematicBreak at h
  cases hu : upTo3Spaces s with
  | none => simp [hu] at h
  | some x =>
    obtain ⟨n, r⟩ := x
    simp only [hu] at h
    cases r with
    | nil => simp at h
    | cons c r' =>
      simp only [Bool.and_eq_true, Bool.or_eq_true, beq_iff_eq] at h
      have hm : c ∈ s := upTo3_mem s n (c :: r') hu c (by simp)
      rcases h.1.1 with (rfl | rfl) | rfl
      · exact nonblank_of_mem s _ hm (by decide)
      · exact nonblank_of_mem s _ hm (by decide)
      · exact nonblank_of_mem s _ hm (by decide)

theorem quoteStart_nonblank (s : Str) (h : quoteStart s = true) : isBlank s = false := by
  obtain ⟨r, hr⟩ := quoteStart_lstrip s h
  cases hb : isBlank s with
  | false => rfl
  | true => rw [Strip.isBlank_lstrip s hb] at hr; cases hr

theorem contains_bar_nonblank (s : Str) (h : s.contains '|' = true) : isBlank s = false :=
  nonblank_of_mem s '|' (by simpa using h) (by decide)

theorem tryTypes_closed_nonblank (cfg : Cfg) : ∀ (gas : Nat) (fw : FW) (st : St) (l : Line) (ts : List BTok) (e : Entry) (fw' : FW) (st' : St),
    tryTypes cfg gas fw st l ts = .ok (some (e, fw', st')) → closedE e = true → isBlank l.s = false
  | 0, _, _, _, _, _, _, _, h, _ => by simp [tryTypes] at h
  | _ + 1, _, _, _, [], _, _, _, h, _ => by simp [tryTypes] at h
  | gas + 1, fw, st, l, t :: ts, e, fw', st', h, hc => by
    rcases tryTypes_some h with ⟨_, _, h⟩ | ⟨_, _, _, _, _, _, _, h⟩ | _ | _ | ⟨_, _, _, _, hh⟩ |
      ⟨_, _, _, _, _, hq, _, _⟩ | _ | ht | _ | ⟨_, _, _, hbar, _⟩ | _ | _ | ⟨_, _, hnb, _⟩ | ⟨_, _, hnb, _⟩ | _
    · exact tryTypes_closed_nonblank cfg gas fw st l ts e fw' st' h hc
    · exact tryTypes_closed_nonblank cfg gas _ _ l ts e fw' st' h hc
    · cases hc
    · cases hc
    · obtain ⟨m, hm, _⟩ := readHeading_ok hh
      exact heading_nonblank _ m hm
    · exact quoteStart_nonblank _ hq
    · cases hc
    · exact thematicBreak_nonblank _ ht
    · cases hc
    · exact contains_bar_nonblank _ hbar
    · cases hc
    · cases hc
    · exact hnb
    · exact hnb
    · cases hc

theorem tokLoop_new_cons (cfg : Cfg) (gas : Nat) (fw : FW) (st : St) (e : Entry) (acc : List Entry) (loose : Bool)
    (buf : Buf) (st' : St) (new : List Entry)
    (h : tokLoop cfg gas fw st (e :: acc) loose = .ok (buf, st')) (hn : buf.entries = acc.reverse ++ new) :
    ∃ tail, new = e :: tail ∧ buf.entries = (e :: acc).reverse ++ tail := by
  rw [tokLoop_acc] at h
  cases hr : tokLoop cfg gas fw st [] false with
  | err x => rw [hr] at h; cases h
  | ok r =>
    rw [hr] at h
    simp only [rmap_ok, withAcc, Res.ok.injEq, Prod.mk.injEq] at h
    have hent : buf.entries = (e :: acc).reverse ++ r.1.entries := by rw [← h.1]
    refine ⟨r.1.entries, List.append_cancel_left (as := acc.reverse) ?_, hent⟩
    rw [← hn, hent]; simp

theorem lastClosed_tail {e : Entry} {tail : List Entry} (h : ∀ x, (e :: tail).getLast? = some x → closedE x = true) :
    ∀ x, tail.getLast? = some x → closedE x = true := by
  intro x hx
  cases tail with
  | nil => cases hx
  | cons y ys => exact h x (by rw [List.getLast?_cons_cons]; exact hx)

theorem tokLoop_closed_nbl (cfg : Cfg) : ∀ (gas : Nat) (fw : FW) (st : St) (acc : List Entry)
    (loose : Bool) (buf : Buf) (st' : St) (new : List Entry), AllNlEnd fw.lines →
    tokLoop cfg gas fw st acc loose = .ok (buf, st') → buf.entries = acc.reverse ++ new → new ≠ [] →
    (∀ e, new.getLast? = some e → closedE e = true) → fw.NB
  | 0, _, _, _, _, _, _, _, _, h, _, _, _ => by simp [tokLoop] at h
  | gas + 1, fw, st, acc, loose, buf, st', new, hl, h, hn, hne, hlast => by
    simp only [tokLoop] at h
    cases hp : fw.peek with
    | none =>
      simp only [hp, Res.ok.injEq, Prod.mk.injEq] at h
      rw [← h.1] at hn
      simp only at hn
      have : new = [] := by simpa using hn
      exact absurd this hne
    | some l =>
      simp only [hp] at h
      cases ht : tryTypes cfg gas fw st l cfg.types with
      | err e => simp [ht] at h
      | ok o =>
        simp only [ht] at h
        cases o with
        | none =>
          simp only at h
          obtain ⟨q, l', hq, hl', hb⟩ := tokLoop_closed_nbl cfg gas fw.next st acc true buf st' new hl h hn hne hlast
          exact ⟨q, l', Nat.le_trans (Nat.le_succ _) hq, hl', hb⟩
        | some x =>
          obtain ⟨en, fw1, st1⟩ := x
          simp only at h
          have hfwd := tryTypes_fwd cfg gas fw st l cfg.types en fw1 st1 hl hp ht
          obtain ⟨tail, hnew, hent⟩ := tokLoop_new_cons cfg gas fw1 st1 en acc loose buf st' new h hn
          subst hnew
          cases tail with
          | nil =>
            exact ⟨fw.pos, l, Nat.le_refl _, hp, tryTypes_closed_nonblank cfg gas fw st l cfg.types en fw1 st1 ht (hlast en rfl)⟩
          | cons y ys =>
            obtain ⟨q, l', hq, hl', hb⟩ := tokLoop_closed_nbl cfg gas fw1 st1 (en :: acc) loose buf st' (y :: ys)
              (by rw [hfwd.1.1]; exact hl) h hent (List.cons_ne_nil _ _) (lastClosed_tail hlast)
            have := hfwd.2
            exact ⟨q, l', by omega, by rw [← hfwd.1.1]; exact hl', hb⟩

/-- the dispatch loop on the buffer extended by a "\n" line and anything after it: when the loop on
    `a` ends with a block of a closed kind, the loop on the extended buffer produces the same entries
    and stands, after the "\n", with `loose := true`.  `extra`: the gas left for the "\n" line, which every type has to
    pass over (`tryTypes_nl` asks more than `|types|`) -/
theorem tokLoop_ext (cfg : Cfg) (nl : Line) (rest : List Line) (hnl : nl.s = ['\n']) (hbl : .blankLine ∉ cfg.types)
    (extra : Nat) (hex : cfg.types.length < extra) :
    ∀ (gas : Nat) (a : FW) (st : St) (acc : List Entry) (loose : Bool) (buf : Buf) (st' : St) (new : List Entry),
      a.InB → AllNlEnd a.lines → tokLoop cfg gas a st acc loose = .ok (buf, st') →
      buf.entries = acc.reverse ++ new → (∀ e, new.getLast? = some e → closedE e = true) →
      ∃ g', extra ≤ g' ∧
        tokLoop cfg (gas + extra) (a.ext (nl :: rest)) st acc loose =
          tokLoop cfg g' { lines := a.lines ++ nl :: rest, pos := a.lines.length + 1, start := a.start } st'
            buf.entries.reverse true
  | 0, _, _, _, _, _, _, _, _, _, h, _, _ => by simp [tokLoop] at h
  | gas + 1, a, st, acc, loose, buf, st', new, hb, hl, h, hn, hlast => by
    have e : gas + 1 + extra = (gas + extra) + 1 := by omega
    rw [e]
    simp only [tokLoop] at h ⊢
    cases hp : a.peek with
    | none =>
      simp only [hp, Res.ok.injEq, Prod.mk.injEq] at h
      obtain ⟨h1, h2⟩ := h
      subst h2
      rw [← h1]
      simp only [ext_peek_none nl rest a hp hb,
        tryTypes_nl cfg _ st nl hnl cfg.types (gas + extra) hbl (by omega), List.reverse_reverse]
      refine ⟨gas + extra, by omega, ?_⟩
      have hpos : a.pos = a.lines.length := by
        have := peek_none_ge a hp
        unfold FW.InB at hb; omega
      simp only [FW.next, FW.ext, hpos]
    | some l =>
      simp only [hp] at h
      simp only [ext_peek_some _ a l hp]
      cases ht : tryTypes cfg gas a st l cfg.types with
      | err e => simp [ht] at h
      | ok o =>
        have hm := tryTypes_mono cfg a st l cfg.types o gas (gas + extra) (by omega) ht
        simp only [ht] at h
        cases o with
        | none =>
          have key := extTry_all cfg nl rest hnl (gas + extra) a st l cfg.types none hl hp hm trivial
          simp only [key.1, Option.map_none]
          simp only at h
          exact tokLoop_ext cfg nl rest hnl hbl extra hex gas a.next st acc true buf st' new (next_inb a l hp) hl h hn hlast
        | some x =>
          obtain ⟨en, fw', st1⟩ := x
          simp only at h
          obtain ⟨tail, hnew, hent⟩ := tokLoop_new_cons cfg gas fw' st1 en acc loose buf st' new h hn
          subst hnew
          have hsame := (tryTypes_fwd cfg gas a st l cfg.types en fw' st1 hl hp ht).1
          have hl' : AllNlEnd fw'.lines := by rw [hsame.1]; exact hl
          have hlast' := lastClosed_tail hlast
          -- `en` is closed, or blocks follow it, the last of them closed
          have hok : okR (some (en, fw', st1)) := by
            cases tail with
            | nil => exact Or.inl (hlast en rfl)
            | cons y ys =>
              exact Or.inr (tokLoop_closed_nbl cfg gas fw' st1 (en :: acc) loose buf st' (y :: ys) hl' h hent (List.cons_ne_nil _ _) hlast')
          have key := extTry_all cfg nl rest hnl (gas + extra) a st l cfg.types (some (en, fw', st1)) hl hp hm hok
          simp only [key.1, Option.map_some, extT]
          obtain ⟨g', hg, heq⟩ := tokLoop_ext cfg nl rest hnl hbl extra hex gas fw' st1 (en :: acc) loose buf st' tail
            (key.2 _ rfl) hl' h hent hlast'
          refine ⟨g', hg, ?_⟩
          rw [heq, hsame.1, hsame.2]

/-! ### What C05 is stated with: suffix shift, prefix independence, concatenation across a blank line -/

/-- **(S) Suffix shift.**  Start the dispatch loop at the first line of `B` inside the buffer
    `pre ++ B` whose first line is numbered `start`, the ghost origins of `B` being those of `B0`
    shifted by `pre.length`.  The result is the result of `tokenize_block(B0, start)` with every
    reported line number and ghost origin, at every depth, raised by `pre.length` — appended to
    whatever the accumulator already holds. -/
theorem tokLoop_suffix_shift (cfg : Cfg) (gas : Nat) (pre B0 : List Line) (start : Nat) (st : St)
    (acc : List Entry) (loose : Bool) (hB : AllNlEnd B0) :
    tokLoop cfg gas { lines := pre ++ B0.map (Line.sh pre.length), pos := pre.length, start := start } st acc loose =
      rmap (withAcc acc loose) (rmap (shB pre.length) (tokenizeBlock cfg (gas + 1) B0 start st)) := by
  have := tokLoop_mv cfg pre.length gas pre { lines := B0, pos := 0, start := start } st [] false
    ⟨Nat.le_add_left _ _, Or.inr hB⟩
  simp only [FW.mv, FW.up, FW.sh, shiftEntries, Nat.zero_add, Nat.add_sub_cancel] at this
  rw [tokLoop_acc, this]
  simp only [tokenizeBlock]

/-- the last top-level block, if any, is of a closed kind -/
def lastClosed (es : List Entry) : Prop := ∀ e, es.getLast? = some e → closedE e = true

theorem lastClosed_of_check (es : List Entry) (h : (match es.getLast? with | some e => closedE e | none => true) = true) :
    lastClosed es := by
  intro e he
  rw [he] at h
  exact h

/-- **(P) Prefix independence.**  If `tokenize_block(A)` returns and the last top-level block it
    produced is a paragraph, setext or ATX heading, thematic break, block quote or table, then on
    `A ++ "\n" :: rest` (any `rest`) the tokenizer produces the same blocks, leaves the same state,
    and continues, with `loose := true`, at the line after the "\n".  Lists may occur among the
    earlier blocks of `A` (and anywhere inside its blocks). -/
theorem tokenizeBlock_prefix (cfg : Cfg) (hbl : .blankLine ∉ cfg.types) (A : List Line) (nl : Line) (hnl : nl.s = ['\n'])
    (rest : List Line) (start : Nat) (st : St) (gas : Nat) (bA : Buf) (stA : St)
    (hA : tokenizeBlock cfg gas A start st = .ok (bA, stA)) (hlast : lastClosed bA.entries)
    (hnlA : AllNlEnd A) (extra : Nat) (hex : cfg.types.length < extra) :
    ∃ g', extra ≤ g' ∧
      tokenizeBlock cfg (gas + extra) (A ++ nl :: rest) start st =
        tokLoop cfg g' { lines := A ++ nl :: rest, pos := A.length + 1, start := start } stA bA.entries.reverse true := by
  cases gas with
  | zero => simp [tokenizeBlock] at hA
  | succ g =>
    have e : g + 1 + extra = (g + extra) + 1 := by omega
    rw [e]
    simp only [tokenizeBlock] at hA ⊢
    exact tokLoop_ext cfg nl rest hnl hbl extra hex g { lines := A, pos := 0, start := start } st [] false bA stA
      bA.entries (Nat.zero_le _) hnlA hA (by simp) hlast

/-- **Concatenation across a blank line.**  `A`, a "\n" line and `B` tokenized as one buffer give
    `A`'s blocks followed by `B`'s blocks, the latter with line numbers (and ghost origins) raised by
    `A.length + 1`; `B` is read in the state `A` leaves behind. -/
theorem tokenizeBlock_concat (cfg : Cfg) (hbl : .blankLine ∉ cfg.types) (A B0 : List Line) (nl : Line) (hnl : nl.s = ['\n'])
    (start : Nat) (st : St) (gA gB : Nat) (bA bB : Buf) (stA stB : St)
    (hA : tokenizeBlock cfg gA A start st = .ok (bA, stA)) (hlast : lastClosed bA.entries)
    (hB : tokenizeBlock cfg gB B0 start stA = .ok (bB, stB)) (hnlA : AllNlEnd A) (hnlB : AllNlEnd B0) :
    tokenizeBlock cfg (gA + (gB + cfg.types.length + 1)) (A ++ nl :: B0.map (Line.sh (A.length + 1))) start st =
      .ok ({ entries := bA.entries ++ shiftEntries (A.length + 1) bB.entries, loose := true }, stB) := by
  obtain ⟨g', hg, heq⟩ := tokenizeBlock_prefix cfg hbl A nl hnl (B0.map (Line.sh (A.length + 1))) start st gA bA stA hA hlast hnlA
    (gB + cfg.types.length + 1) (by omega)
  rw [heq]
  have h1 : A ++ nl :: B0.map (Line.sh (A.length + 1)) = (A ++ [nl]) ++ B0.map (Line.sh (A ++ [nl]).length) := by simp
  have h2 : A.length + 1 = (A ++ [nl]).length := by simp
  rw [h1, h2, tokLoop_suffix_shift cfg g' (A ++ [nl]) B0 start stA _ true hnlB,
    tokenizeBlock_mono cfg B0 start stA (bB, stB) gB (g' + 1) (by omega) hB]
  simp [withAcc, shB]

end Mistletoe.Block
