/-
  C14, inline half: the conditions on the text, from `inertBody` (Proofs/InertSilent.lean) to the widest one, and the
  proof that the widest (`InertInline5.Wide`) is `Silent` - the regex scanners, `find_core_tokens`, `html.unescape` and
  `LineBreak` are gone through once, for it; every other condition implies it.

  Namespaces and files of the inline half:
    `Mistletoe.InertInline`   Proofs/InertSilent.lean (`inertBody`, `Silent`), Proofs/InertInline.lean
    `Mistletoe.InertInline2`  this file: `inertBody2`, `inertBodyG`, `inertBody3`, the loop invariant `Inv2`
    `Mistletoe.InertInline3`  this file: `inertBody4`, `Inv4`
    `Mistletoe.InertInline5`  this file: `inertBody5`, `Wide`
  The files Proofs/InertInline2.lean, InertInline3.lean, InertInline5.lean hold the property theorems and test vectors of
  these conditions, in namespace `Mistletoe.Props.C14`.
-/
import Mistletoe.Proofs.InertSilent
import Mistletoe.Proofs.ScanSuffix

/-! ## the widened conditions `inertBody2`, `inertBody3`

  `inertBody` forbids every delimiter run that can close emphasis, every `]` after a `[`, every `&…;` and every `<`
  before a letter, digit or ``.!#$%&'*+/=?^_`{|}~-``.  It is the special case of two weaker conditions, `inertBody2`
  (any table of link definitions) and `inertBody3` (empty table, which is what a document of inert paragraphs has),
  and is proved silent through them:

  * `*` / `_` (`emphOk2`): runs may open or close emphasis provided no run that can open is followed
    later by a run of the same character that can close.  Then `process_emphasis` finds no match:
    `matching_opener` finds no opener for any closer (`processEmphasis_nopair`).
  * `&` (`ampOk2`): a `&` may begin something the Markdown character-reference regex matches as long as
    `html.unescape` replaces it by itself (`&foo;`, `&é;`), and `&;`, `&#;`, `&#x;`, `&#12345678;` (no match).
  * `<` (`ltOk2`): `<` may be followed by a digit or one of ``.#$%&'*+=^_`{|}~-`` when the run of e-mail
    local-part characters there is not followed by `@` (`<=`, `<3`, `<-`).
  * brackets (`inertBody3` only, `brOkG false`): a `]` after a `[` is allowed when neither `(` nor `[`
    follows it directly; with an empty definitions table `match_link_image` fails. -/

namespace Mistletoe.InertInline2
open Mistletoe Mistletoe.Py Mistletoe.Scan Mistletoe.InlineScan Mistletoe.Core Mistletoe.Inline Mistletoe.InertInline

/-! ## `process_emphasis` on a delimiter list without any opener/closer pair -/

/-- `a` (earlier) and `b` (later) are not an opener/closer pair of the same delimiter character -/
def NoMatch (a b : Delim) : Prop :=
  ¬((a.emph && a.opens) = true ∧ (b.emph && b.closes) = true ∧ a.type.head? = b.type.head?)

theorem nopair_none (ds : List Delim) (curr : Nat) (bottom : Option Nat) (c : Delim)
    (hty : ∀ d ∈ ds, d.type ≠ []) (hp : ds.Pairwise NoMatch) (hc : ds[curr]? = some c)
    (he : c.emph = true) (hcl : c.closes = true) : matchingOpener curr ds bottom = .ok none := by
  rcases matchingOpener_cases ds curr bottom c hty hc with h | ⟨A, B, C, o, hds, _, _, hoe, hoo, hcb⟩
  · exact h
  · rw [hds] at hp
    have := (List.pairwise_cons.1 (List.pairwise_append.1 hp).2.1).1 c (by simp)
    exact absurd ⟨by simp [hoe, hoo], by simp [he, hcl], (closedBy_true_head o c hcb).1⟩ this

theorem processEmphasis_nopair (s : Str) (ds : List Delim) (ms : List CoreM)
    (hh : ∀ d ∈ ds, d.type ≠ []) (hp : ds.Pairwise NoMatch) : processEmphasis s none ds ms = .ok ([], ms) := by
  -- no iteration finds an opener: the matches stay, the delimiters only get fewer, and a closer is dropped or stepped over
  obtain ⟨st', e, _, _, hm⟩ := emphLoop_rule s none (fun st => (∀ d ∈ st.ds, d.type ≠ []) ∧ st.ds.Pairwise NoMatch ∧ st.ms = ms)
    (fun ds k => ds.length + (ds.length - k)) (fun _ _ _ _ => by omega)
    (fun st curr c ⟨hh, hp, hm⟩ hc he hcl => by
      obtain ⟨ch, hch⟩ := head_of_ne_nil (hh c (List.mem_of_getElem? hc))
      have hl := (List.getElem?_eq_some_iff.1 hc).1
      rw [emphStep_noOpener s none st curr c ch hc hch (nopair_none st.ds curr _ c hh hp hc he hcl)]
      refine ⟨_, _, rfl, ?_⟩
      cases c.opens
      · have hsub : (st.ds.eraseIdx curr).Sublist st.ds := List.eraseIdx_sublist _ _
        exact ⟨⟨fun d hd => hh d (hsub.subset hd), hp.sublist hsub, hm⟩, by
          simp only [Bool.false_eq_true, if_false, List.length_eraseIdx_of_lt hl]; omega⟩
      · exact ⟨⟨hh, hp, hm⟩, by simp only [if_true]; omega⟩)
    (2 * s.length + 2 * ds.length + 4) { ds := ds, ms := ms, bottoms := [] } (nextCloser (Option.getD none 0) ds)
    ⟨hh, hp, rfl⟩ (CurrOK_nextCloser _ _) (by omega) (fun k _ => by simp only; omega)
  unfold processEmphasis
  rw [e]
  simp [hm]


/-! ## the widened predicate -/

/-- the run of `d`s can open emphasis (`Delimiter.open`), in terms of the characters before and after it -/
def canOpen (d b a : Char) : Bool :=
  if d == '*' then leftFl b a else leftFl b a && (!rightFl b a || (rightFl b a && punct b))

/-- the character after the run of `c`s that begins just before `rest` (`' '` at the end of the text) -/
def runAfter (c : Char) (rest : Str) : Char := ((rest.drop (countLeading c rest)).head?).getD ' '

/-- "an earlier run of this delimiter character can open": `so` for `*`, `su` for `_` -/
def seenOf (so su : Bool) (c : Char) : Bool := if c == '*' then so else su

/-- **no opener run is followed later by a closer run of the same character.**  `so` / `su`: a run of
    `*` / of `_` that can open emphasis has been seen; `p` is the character before the text (`' '` at
    the start).  At the beginning of each run: it must not be the case that an opener of the same
    character was seen and this run can close; then the run's own ability to open is recorded. -/
def emphOk2 : Bool → Bool → Char → Str → Bool
  | _, _, _, [] => true
  | so, su, p, c :: rest =>
    if (c == '*' || c == '_') && p != c then
      !(seenOf so su c && canClose c p (runAfter c rest)) &&
        emphOk2 (so || (c == '*' && canOpen c p (runAfter c rest))) (su || (c == '_' && canOpen c p (runAfter c rest))) c rest
    else emphOk2 so su c rest

/-- brackets.  `seen`: a `[` occurred earlier.  `strict = true`: no `]` after a `[` (this is
    `bracketsOk`).  `strict = false`: a `]` after a `[` is allowed when neither `(` nor `[` follows it
    directly (then, with an empty table of link definitions, `match_link_image` fails). -/
def brOkG (strict : Bool) : Bool → Str → Bool
  | _, [] => true
  | seen, c :: rest =>
    (c != ']' || !seen || (!strict && rest.head? != some '(' && rest.head? != some '[')) &&
      brOkG strict (seen || c == '[') rest

/-! ### `<` -/

/-- after a `<`: the end of the text, or a character that is not an ASCII letter, `/`, `!`, `?` (no
    HTML tag, comment, declaration, instruction, no URI autolink) such that the run of e-mail
    local-part characters starting there is empty or not followed by `@` (no e-mail autolink):
    `<=`, `<3`, `<-`, `<$` are allowed -/
def ltNext2 : Str → Bool
  | [] => true
  | d :: r => !isAlpha d && d != '/' && d != '!' && d != '?' &&
      (!localChar d || (span localChar (d :: r)).2.head? != some '@')

def ltOk2 : Str → Bool
  | [] => true
  | c :: rest => (c != '<' || ltNext2 rest) && ltOk2 rest

theorem ltNext_ltNext2 (r : Str) (h : ltNext r = true) : ltNext2 r = true := by
  cases r with
  | nil => rfl
  | cons d r =>
    simp only [ltNext, Bool.not_eq_eq_eq_not, Bool.not_true] at h
    obtain ⟨ha, h1, h2, h3⟩ := localChar_of d h
    simp [ltNext2, ha, h1, h2, h3, h]

theorem ltOk_ltOk2 : ∀ (s : Str), ltOk s = true → ltOk2 s = true
  | [], _ => rfl
  | c :: rest, h => by
    simp only [ltOk, Bool.and_eq_true, Bool.or_eq_true] at h
    simp only [ltOk2, Bool.and_eq_true, Bool.or_eq_true]
    exact ⟨h.1.imp id (ltNext_ltNext2 rest), ltOk_ltOk2 rest h.2⟩

theorem ltNext2_of (d : Char) (r : Str) (h : ltNext2 (d :: r) = true) :
    isAlpha d = false ∧ d ≠ '/' ∧ d ≠ '!' ∧ d ≠ '?' ∧
      (localChar d = false ∨ (span localChar (d :: r)).2.head? ≠ some '@') := by
  simpa [ltNext2, and_assoc] using h

theorem span_snd_subset (p : Char → Bool) (s : Str) : (span p s).2 ⊆ s := (Block.span_suffix p s).subset

/-- what a match of `AutoLink.pattern` after the `<` needs: a `>` further on; and a letter, scheme characters and `:`
    (URI), or a non-empty run of e-mail local-part characters and `@` -/
theorem autoLinkBody_some (r : Str) (n : Nat) (e : autoLinkBody r = some n) :
    '>' ∈ r ∧ ((∃ c r1, r = c :: r1 ∧ isAlpha c = true ∧ (span schemeChar r1).2.head? = some ':') ∨
      ((span localChar r).1.isEmpty = false ∧ (span localChar r).2.head? = some '@')) := by
  unfold autoLinkBody at e
  dsimp only at e
  split at e
  · rename_i n' hs
    split at hs
    · rename_i c r1
      split at hs
      · cases hs
      · rename_i ha
        split at hs
        · cases hs
        · split at hs
          · rename_i r3 h3
            split at hs
            · rename_i tl h4
              refine ⟨?_, Or.inl ⟨c, r1, rfl, by simpa using ha, by rw [h3]; rfl⟩⟩
              have : '>' ∈ (span (fun d => d != ' ' && d != '<' && d != '>') r3).snd := by rw [h4]; simp
              have := span_snd_subset _ _ this
              have : '>' ∈ (span schemeChar r1).snd := by rw [h3]; exact List.mem_cons_of_mem _ this
              exact List.mem_cons_of_mem _ (span_snd_subset _ _ this)
            · cases hs
          · cases hs
    · cases hs
  · split at e
    · cases e
    · rename_i hl
      split at e
      · rename_i r2 h2
        split at e
        · rename_i tl h3
          refine ⟨?_, Or.inr ⟨by simpa using hl, by rw [h2]; rfl⟩⟩
          have : '>' ∈ (span (fun d => domChar d || d == '.') r2).snd := by rw [h3]; simp
          have := span_snd_subset _ _ this
          have : '>' ∈ (span localChar r).snd := by rw [h2]; exact List.mem_cons_of_mem _ this
          exact span_snd_subset _ _ this
        · cases e
      · cases e

theorem autoLinkBody_none2 (r : Str) (h : ltNext2 r = true) : autoLinkBody r = none := by
  refine Option.eq_none_iff_forall_ne_some.2 fun n e => ?_
  rcases (autoLinkBody_some r n e).2 with ⟨c, r1, rfl, ha', _⟩ | ⟨hl, h'⟩
  · rw [(ltNext2_of c r1 h).1] at ha'; cases ha'
  · cases r with
    | nil => simp [span] at hl
    | cons d r1 =>
      rcases (ltNext2_of d r1 h).2.2.2.2 with h5 | h5
      · simp [span, h5] at hl
      · exact h5 h'

theorem autoLinkAt_none_of (prev : Option Char) (c : Char) (rest : Str) (hc : c ≠ '\\')
    (h : c = '<' → autoLinkBody rest = none) : autoLinkAt prev (c :: rest) = none := by
  unfold autoLinkAt
  split
  · rfl
  · simp only [leadingBackslashes, countLeading_ne _ _ _ hc, List.drop_zero]
    split
    · rfl
    · split
      · rename_i heq
        simp only [List.cons.injEq] at heq
        obtain ⟨rfl, rfl⟩ := heq
        rw [h rfl]
      · rfl

/-- without `<` no autolink begins, whatever backslashes the pattern skips first -/
theorem autoLinkAt_noLt (prev : Option Char) (r : Str) (h : '<' ∉ r) : autoLinkAt prev r = none := by
  unfold autoLinkAt
  split
  · rfl
  · simp only
    split
    · rfl
    · split
      · rename_i body heq
        have : '<' ∈ r.drop (leadingBackslashes r) := by rw [heq]; simp
        exact absurd (List.mem_of_mem_drop this) h
      · rfl

theorem openTag_first (r : Str) (h : ∀ d x, r = '<' :: d :: x → isAlpha d = false) : openTag r = none := by
  unfold openTag
  split
  · rename_i c x
    simp [h c x rfl]
  · rfl

section
attribute [local simp] closingTag commentAt instructionAt declarationAt cdataAt startsWith

/-- What can begin at a `<`: besides an open tag only the alternatives of `HtmlSpan.pattern` selected by the next
    character - `/` and a letter (closing tag), `!` (comment, declaration, CDATA), `?` (instruction). -/
theorem htmlSpanAt_first (prev : Option Char) (r : Str) (ho : openTag r = none)
    (h : ∀ d x, r = '<' :: d :: x → d ≠ '!' ∧ d ≠ '?' ∧ (d = '/' → ∀ e y, x = e :: y → isAlpha e = false)) :
    htmlSpanAt prev r = none := by
  have e4 : "<!--".toList = ['<', '!', '-', '-'] := by decide
  have e8 : "<![CDATA".toList = ['<', '!', '[', 'C', 'D', 'A', 'T', 'A'] := by decide
  unfold htmlSpanAt
  split
  · rfl
  · rw [ho]
    match r, h with
    | [], _ => simp [e4, e8]
    | [c], _ => simp [e4, e8, List.isPrefixOf]
    | c :: d :: x, h =>
      by_cases hc : c = '<'
      · subst hc
        obtain ⟨h1, h2, h3⟩ := h d x rfl
        by_cases hs : d = '/'
        · subst hs
          cases x with
          | nil => simp [e4, e8, List.isPrefixOf]
          | cons e y =>
            simp [e4, e8, h3 rfl e y rfl,
              Block.isPrefix_ne '!' '/' _ (e :: y) (by decide)]
        · simp [e4, e8, h1, h2, hs,
            Block.isPrefix_ne '!' d _ x h1]
      · simp [e4, e8, hc,
          Block.isPrefix_ne '<' c _ (d :: x) hc]

end

theorem htmlSpanAt_none2 (prev : Option Char) (c : Char) (rest : Str)
    (hl : (c != '<' || ltNext2 rest) = true) : htmlSpanAt prev (c :: rest) = none := by
  have key : ∀ d x, c :: rest = '<' :: d :: x → isAlpha d = false ∧ d ≠ '/' ∧ d ≠ '!' ∧ d ≠ '?' := fun d x e => by
    cases e
    obtain ⟨ha, h1, h2, h3, _⟩ := ltNext2_of d x (by simpa using hl)
    exact ⟨ha, h1, h2, h3⟩
  exact htmlSpanAt_first prev _ (openTag_first _ fun d x e => (key d x e).1)
    fun d x e => ⟨(key d x e).2.2.1, (key d x e).2.2.2, fun hs => absurd hs (key d x e).2.1⟩

theorem ltOk2_cons {c : Char} {rest : Str} (h : ltOk2 (c :: rest) = true) :
    (c != '<' || ltNext2 rest) = true ∧ ltOk2 rest = true := by
  simpa only [ltOk2, Bool.and_eq_true] using h

theorem tildeOk_cons {c : Char} {rest : Str} (h : tildeOk (c :: rest) = true) :
    (c == '~' && rest.head? == some '~') = false ∧ tildeOk rest = true := by
  simpa only [tildeOk, Bool.and_eq_true, Bool.not_eq_eq_eq_not, Bool.not_true] using h

/-- the covered classes find nothing in a text satisfying `Q`, if `Q` passes to tails and none of the patterns searched
    position by position (`HtmlSpan`, `Strikethrough`, `AutoLink`; `EscapeSequence`, asked for that class only) matches at
    the head of a text satisfying `Q`; for `LineBreak` the text has no newline -/
theorem findOne_scan_of (Q : Str → Prop) (htl : ∀ c r, Q (c :: r) → Q r)
    (hhtml : ∀ p c r, Q (c :: r) → htmlSpanAt p (c :: r) = none)
    (hstrike : ∀ p c r, Q (c :: r) → strikeAt p (c :: r) = none)
    (hauto : ∀ p c r, Q (c :: r) → autoLinkAt p (c :: r) = none)
    (s : Str) (h : Q s) (t : STok) (ht : inertClass t = true)
    (hesc : t = .escapeSequence → ∀ p c r, Q (c :: r) → escapeAt p (c :: r) = none)
    (hlb : t = .lineBreak → '\n' ∉ s) : findOne s [] [] t = [] := by
  cases t with
  | escapeSequence =>
    simp only [findOne, List.map_eq_nil_iff]
    exact findIter_nil _ Q htl (hesc rfl) s h
  | htmlSpan =>
    simp only [findOne, List.map_eq_nil_iff]
    exact findIter_nil _ Q htl hhtml s h
  | strikethrough =>
    simp only [findOne, List.map_eq_nil_iff]
    exact findIter_nil _ Q htl hstrike s h
  | autoLink =>
    simp only [findOne, List.map_eq_nil_iff]
    exact findIter_nil _ Q htl hauto s h
  | coreTokens => rfl
  | inlineCode => rfl
  | lineBreak => exact findOne_lineBreak s (hlb rfl)
  | math => cases ht
  | githubWiki => cases ht
  | xwikiMacroStart => cases ht
  | xwikiMacroEnd => cases ht


/-! ### `&` -/

/-- `html.unescape` leaves the `&` before `rest` alone: no character reference (in the Markdown
    regex's sense) begins there, or it is a named one that is replaced by itself — the name is not an
    HTML5 entity and does not begin with one (`&foo;`, `&é;`) -/
def ampFree (rest : Str) : Bool :=
  match Unescape.charrefAt true rest with
  | none => true
  | some (_, rep) => rest.head? != some '#' && rep == '&' :: (span Unescape.nameChar rest).1 ++ [';']

def ampOk2 : Str → Bool
  | [] => true
  | c :: rest => (c != '&' || ampFree rest) && ampOk2 rest

theorem ampOk_ampOk2 : ∀ (s : Str), ampOk s = true → ampOk2 s = true
  | [], _ => rfl
  | c :: rest, h => by
    simp only [ampOk, Bool.and_eq_true, Bool.or_eq_true] at h
    simp only [ampOk2, Bool.and_eq_true, Bool.or_eq_true]
    refine ⟨?_, ampOk_ampOk2 rest h.2⟩
    rcases h.1 with h1 | h1
    · exact Or.inl h1
    · right; simp [ampFree, charrefAt_none rest h1]

theorem ampOk2_append_right : ∀ (a b : Str), ampOk2 (a ++ b) = true → ampOk2 b = true
  | [], _, h => h
  | c :: a, b, h => by
    simp only [List.cons_append, ampOk2, Bool.and_eq_true] at h
    exact ampOk2_append_right a b h.2

theorem charrefAt_named (rest : Str) (len : Nat) (rep : Str) (hh : rest.head? ≠ some '#')
    (h : Unescape.charrefAt true rest = some (len, rep)) :
    ∃ tail, rest = (span Unescape.nameChar rest).1 ++ ';' :: tail ∧ len = (span Unescape.nameChar rest).1.length + 1 := by
  unfold Unescape.charrefAt at h
  split at h
  · simp at hh
  · simp only [if_true] at h
    obtain ⟨e, _⟩ := span_eq Unescape.nameChar rest _ _ rfl
    split at h
    · cases h
    · split at h
      · rename_i hc
        simp only [Bool.and_eq_true, decide_eq_true_eq, beq_iff_eq] at hc
        cases hb : (span Unescape.nameChar rest).2 with
        | nil => rw [hb] at hc; simp at hc
        | cons d b =>
          rw [hb] at hc e
          simp only [List.head?_cons, Option.some.injEq] at hc
          obtain ⟨_, rfl⟩ := hc
          simp only [Option.some.injEq, Prod.mk.injEq] at h
          exact ⟨b, e, h.1.symm⟩
      · cases h

theorem unescapeAux_inert2 : ∀ (fuel : Nat) (s : Str), ampOk2 s = true → Unescape.unescapeAux true fuel s = s
  | 0, _, _ => rfl
  | _ + 1, [], _ => rfl
  | fuel + 1, c :: rest, h => by
    simp only [ampOk2, Bool.and_eq_true, Bool.or_eq_true] at h
    have ih := unescapeAux_inert2 fuel rest h.2
    simp only [Unescape.unescapeAux]
    split
    · rename_i hc
      simp only [beq_iff_eq] at hc
      subst hc
      have hf : ampFree rest = true := by simpa using h.1
      unfold ampFree at hf
      cases hcr : Unescape.charrefAt true rest with
      | none => simp only [ih]
      | some r =>
        obtain ⟨len, rep⟩ := r
        rw [hcr] at hf
        simp only [Bool.and_eq_true, bne_iff_ne, ne_eq, beq_iff_eq] at hf
        obtain ⟨tail, e1, e2⟩ := charrefAt_named rest len rep hf.1 hcr
        simp only
        rw [unescapeAux_inert2 fuel (rest.drop len) (ampOk2_append_right (rest.take len) _
          (by rw [List.take_append_drop]; exact h.2)), hf.2]
        subst e2
        generalize (span Unescape.nameChar rest).1 = run at e1 ⊢
        subst e1
        simp
    · rw [ih]

theorem unescape_inert2 (s : Str) (h : ampOk2 s = true) : Unescape.unescape true s = s := unescapeAux_inert2 _ s h

/-! without backslash and `&` the unescapers of link destinations and titles change nothing, under either regex -/

theorem stripBackslashes_id : ∀ (s : Str), '\\' ∉ s → Unescape.stripBackslashes s = s
  | [], _ => rfl
  | c :: rest, h => by
    have hc : c ≠ '\\' := fun e => h (by simp [e])
    have ih := stripBackslashes_id rest (fun hm => h (List.mem_cons_of_mem _ hm))
    unfold Unescape.stripBackslashes
    split
    · rename_i heq; simp only [List.cons.injEq] at heq; exact absurd heq.1 hc
    · rename_i heq; simp only [List.cons.injEq] at heq; obtain ⟨rfl, rfl⟩ := heq; rw [ih]
    · rename_i heq; cases heq

theorem unescapeAux_noamp (md : Bool) : ∀ (fuel : Nat) (s : Str), '&' ∉ s → Unescape.unescapeAux md fuel s = s
  | 0, _, _ => rfl
  | _ + 1, [], _ => rfl
  | fuel + 1, c :: rest, h => by
    have hc : (c == '&') = false := by
      have : c ≠ '&' := fun e => h (by simp [e])
      simpa using this
    simp only [Unescape.unescapeAux, hc, Bool.false_eq_true, if_false]
    rw [unescapeAux_noamp md fuel rest (fun hm => h (List.mem_cons_of_mem _ hm))]

theorem escStrip_id (md : Bool) (s : Str) (h1 : '\\' ∉ s) (h2 : '&' ∉ s) : Unescape.escStrip md s = s := by
  unfold Unescape.escStrip Unescape.unescape
  rw [stripBackslashes_id s h1, unescapeAux_noamp md _ s h2]


theorem span_nl_gen (p : Char → Bool) (hp : p '\n' = false) (more : Str) : ∀ (t : Str),
    span p (t ++ '\n' :: more) = ((span p t).1, (span p t).2 ++ '\n' :: more)
  | [] => by simp [span, hp]
  | c :: t => by
    simp only [List.cons_append, span]
    split
    · rw [span_nl_gen p hp more t]
    · rfl

theorem head_semi (x more : Str) : ((x ++ '\n' :: more).head? == some ';') = (x.head? == some ';') := by
  cases x <;> simp

theorem charrefAt_not_hash (r : Str) (h : r.head? ≠ some '#') :
    Unescape.charrefAt true r =
      if (span Unescape.nameChar r).1.isEmpty then none
      else if (span Unescape.nameChar r).1.length ≤ 32 && (span Unescape.nameChar r).2.head? == some ';' then
        some ((span Unescape.nameChar r).1.length + 1, Unescape.namedRef ((span Unescape.nameChar r).1 ++ [';']))
      else none := by
  unfold Unescape.charrefAt
  split
  · simp at h
  · simp

theorem charrefAt_nl (t more : Str) : Unescape.charrefAt true (t ++ '\n' :: more) = Unescape.charrefAt true t := by
  have h1 : Unescape.hexDigitC '\n' = false := by decide
  have h2 : Unescape.asciiDigit '\n' = false := by decide
  have h3 : Unescape.nameChar '\n' = false := by decide
  cases t with
  | nil => simp [Unescape.charrefAt, span, h3]
  | cons c t1 =>
    by_cases hc : c = '#'
    · subst hc
      cases t1 with
      | nil => simp [Unescape.charrefAt, span, h2]
      | cons x t2 =>
        have := span_nl_gen _ h2 more (x :: t2)
        simp only [List.cons_append] at this
        unfold Unescape.charrefAt
        simp only [List.cons_append, span_nl_gen _ h1, this, head_semi]
    · rw [charrefAt_not_hash (c :: t1) (by simpa using hc),
        charrefAt_not_hash (c :: t1 ++ '\n' :: more) (by simpa using hc), span_nl_gen _ h3]
      simp only [head_semi]

theorem ampFree_nl (t more : Str) (h : ampFree (t ++ '\n' :: more) = true) : ampFree t = true := by
  unfold ampFree at h ⊢
  rw [charrefAt_nl] at h
  have h3 : Unescape.nameChar '\n' = false := by decide
  rw [span_nl_gen _ h3] at h
  cases hcr : Unescape.charrefAt true t with
  | none => rfl
  | some r =>
    rw [hcr] at h
    simp only [Bool.and_eq_true, bne_iff_ne, ne_eq, beq_iff_eq] at h ⊢
    refine ⟨?_, h.2⟩
    intro e
    apply h.1
    cases t with
    | nil => simp at e
    | cons c t1 => simpa using e

theorem ampOk2_prefix_nl (more : Str) : ∀ (t : Str), ampOk2 (t ++ '\n' :: more) = true → ampOk2 t = true
  | [], _ => rfl
  | c :: t, h => by
    simp only [List.cons_append, ampOk2, Bool.and_eq_true, Bool.or_eq_true] at h ⊢
    refine ⟨?_, ampOk2_prefix_nl more t h.2⟩
    rcases h.1 with h1 | h1
    · exact Or.inl h1
    · exact Or.inr (ampFree_nl t more h1)

open Mistletoe.Document in
theorem ampOk2_lines : ∀ (ts : List Str), ampOk2 (joinNl ts) = true → ∀ t ∈ ts, ampOk2 t = true
  | [], _, _, h => by simp at h
  | [t], h, x, hx => by
    simp only [List.mem_singleton] at hx
    subst hx
    simpa [joinNl] using h
  | t :: t' :: rest, h, x, hx => by
    rw [joinNl_cons2] at h
    rcases List.mem_cons.mp hx with rfl | hx
    · exact ampOk2_prefix_nl _ _ h
    · have h2 : ampOk2 (joinNl (t' :: rest)) = true := by
        have := ampOk2_append_right (t ++ ['\n']) (joinNl (t' :: rest)) (by simpa using h)
        exact this
      exact ampOk2_lines (t' :: rest) h2 x hx

/-! ### `inertBodyG`, `inertBody2`, `inertBody3` -/

/-- inert text, widened (`strict = true`: any table of link definitions; `false`: the empty table) -/
def inertBodyG (strict : Bool) (s : Str) : Bool :=
  s.all okChar && ltOk2 s && ampOk2 s && tildeOk s && brOkG strict false s && emphOk2 false false ' ' s

/-- **the widened inline condition**: no backslash, no backquote; `<` not before a tag / autolink start
    (`ltOk2`); no `&` that `html.unescape` would change (`ampOk2`); no `~~`; no `]` after the first `[`
    (`bracketsOk`); runs of `*` / `_` may open or close emphasis as long as no run that can open is
    followed later by a run of the same character that can close (`emphOk2`) -/
def inertBody2 (s : Str) : Bool :=
  s.all okChar && ltOk2 s && ampOk2 s && tildeOk s && bracketsOk s && emphOk2 false false ' ' s

/-- widened further, for an empty table of link definitions: `]` after `[` is allowed when it is
    followed directly by neither `(` nor `[` -/
def inertBody3 (s : Str) : Bool := inertBodyG false s

theorem emphOk_emphOk2 : ∀ (s : Str) (so su : Bool) (p : Char), emphOk p s = true → emphOk2 so su p s = true
  | [], _, _, _, _ => rfl
  | c :: rest, so, su, p, h => by
    simp only [emphOk, Bool.and_eq_true] at h
    simp only [emphOk2]
    split
    · rename_i hc
      have hc' : (c == '*' || c == '_') = true ∧ (p != c) = true := by simpa using hc
      rw [if_pos hc'] at h
      have h1 : canClose c p (runAfter c rest) = false := by simpa [runAfter] using h.1
      simp only [h1, Bool.and_false, Bool.not_false, Bool.true_and]
      exact emphOk_emphOk2 rest _ _ c h.2
    · exact emphOk_emphOk2 rest _ _ c h.2

theorem brOkG_notin (strict : Bool) : ∀ (s : Str) (seen : Bool), ']' ∉ s → brOkG strict seen s = true
  | [], _, _ => rfl
  | c :: rest, seen, h => by
    have hc : c ≠ ']' := fun e => h (by simp [e])
    simp only [brOkG, Bool.and_eq_true, Bool.or_eq_true]
    exact ⟨Or.inl (Or.inl (by simpa using hc)), brOkG_notin strict rest _ (fun hm => h (List.mem_cons_of_mem _ hm))⟩

theorem bracketsOk_brOkG (strict : Bool) : ∀ (s : Str), bracketsOk s = true → brOkG strict false s = true
  | [], _ => rfl
  | c :: rest, h => by
    simp only [bracketsOk] at h
    simp only [brOkG, Bool.not_false, Bool.or_true, Bool.true_or, Bool.true_and, Bool.false_or]
    split at h
    · exact brOkG_notin strict rest _ (by simpa using h)
    · rename_i hc
      have : (c == '[') = false := by simpa using hc
      rw [this]
      exact bracketsOk_brOkG strict rest h

theorem inertBody2_inertBodyG (strict : Bool) (s : Str) (h : inertBody2 s = true) : inertBodyG strict s = true := by
  simp only [inertBody2, Bool.and_eq_true] at h
  simp only [inertBodyG, Bool.and_eq_true]
  exact ⟨⟨h.1.1, bracketsOk_brOkG strict s h.1.2⟩, h.2⟩

theorem inertBody_inertBody2 (s : Str) (h : inertBody s = true) : inertBody2 s = true := by
  simp only [inertBody, Bool.and_eq_true] at h
  simp only [inertBody2, Bool.and_eq_true]
  obtain ⟨⟨⟨⟨⟨h1, h2⟩, h3⟩, h4⟩, h5⟩, h6⟩ := h
  exact ⟨⟨⟨⟨⟨h1, ltOk_ltOk2 s h2⟩, ampOk_ampOk2 s h3⟩, h4⟩, h5⟩, emphOk_emphOk2 s _ _ _ h6⟩


/-! ## `find_core_tokens` finds nothing under the widened predicate -/

theorem isOpener_at (pre : Str) (c : Char) (rest : Str) (k : Nat) :
    isOpener pre.length (pre.length + 1 + k) (pre ++ c :: rest) =
      canOpen c (pre.getLast?.getD ' ') (((rest.drop k).head?).getD ' ') := by
  unfold isOpener isRightDelimiter isLeftDelimiter precededBy succeededBy canOpen rightFl leftFl
  rw [getElem?_at, getElem?_after, getElem?_before]
  simp

/-- the delimiter list: no empty type, no opener/closer pair, and the flags cover the openers in it -/
structure DsOk (so su : Bool) (ds : List Delim) : Prop where
  head : ∀ d ∈ ds, d.type ≠ []
  pair : ds.Pairwise NoMatch
  seen : ∀ d ∈ ds, (d.emph && d.opens) = true → ∀ ch, d.type.head? = some ch → seenOf so su ch = true

theorem DsOk.nil (so su : Bool) : DsOk so su [] := ⟨by simp, List.Pairwise.nil, by simp⟩

theorem DsOk.sublist {so su : Bool} {ds ds' : List Delim} (h : DsOk so su ds) (hs : ds'.Sublist ds) : DsOk so su ds' :=
  ⟨fun d hd => h.head d (hs.subset hd), h.pair.sublist hs, fun d hd => h.seen d (hs.subset hd)⟩

theorem DsOk.mono {so su so' su' : Bool} {ds : List Delim} (h : DsOk so su ds)
    (hm : ∀ ch, seenOf so su ch = true → seenOf so' su' ch = true) : DsOk so' su' ds :=
  ⟨h.head, h.pair, fun d hd ho ch hc => hm ch (h.seen d hd ho ch hc)⟩

theorem DsOk.push {so su : Bool} {ds : List Delim} (h : DsOk so su ds) (D : Delim) (h1 : D.type ≠ [])
    (h2 : (D.emph && D.closes) = true → ∀ d ∈ ds, (d.emph && d.opens) = true → d.type.head? ≠ D.type.head?)
    (h3 : (D.emph && D.opens) = true → ∀ ch, D.type.head? = some ch → seenOf so su ch = true) :
    DsOk so su (ds ++ [D]) := by
  refine ⟨?_, ?_, ?_⟩
  · intro d hd
    rcases List.mem_append.mp hd with hd | hd
    · exact h.head d hd
    · simp only [List.mem_singleton] at hd; subst hd; exact h1
  · rw [List.pairwise_append]
    refine ⟨h.pair, List.pairwise_singleton _ _, ?_⟩
    intro a ha b hb
    simp only [List.mem_singleton] at hb; subst hb
    intro ⟨x1, x2, x3⟩
    exact h2 x2 a ha x1 x3
  · intro d hd
    rcases List.mem_append.mp hd with hd | hd
    · exact h.seen d hd
    · simp only [List.mem_singleton] at hd; subst hd; exact h3

theorem DsOk.push_plain {so su : Bool} {ds : List Delim} (h : DsOk so su ds) (D : Delim) (h1 : D.type ≠ [])
    (he : D.emph = false) : DsOk so su (ds ++ [D]) :=
  h.push D h1 (by simp [he]) (by simp [he])

theorem mkDelim_type_ne (s : Str) (a b : Nat) (c0 : Char) (hab : a < b) (h : s[a]? = some c0) : (mkDelim a b s).type ≠ [] := by
  intro e
  have := mkDelim_head s a b hab
  rw [e, h] at this
  simp at this

theorem mkDelim_run (s : Str) (a b : Nat) (ch : Char) (hab : a < b) (h : s[a]? = some ch) (hd : ch = '*' ∨ ch = '_') :
    (mkDelim a b s).type.head? = some ch ∧ (mkDelim a b s).emph = true ∧
      (mkDelim a b s).opens = isOpener a b s ∧ (mkDelim a b s).closes = isCloser a b s := by
  have hh := mkDelim_head s a b hab
  rw [h] at hh
  have he : (mkDelim a b s).emph = true := by
    simp only [mkDelim, Core.slice_head s a b hab, h]
    rcases hd with rfl | rfl <;> simp
  refine ⟨hh, he, ?_, ?_⟩
  · have : (mkDelim a b s).opens = ((mkDelim a b s).emph && isOpener a b s) := rfl
    rw [this, he, Bool.true_and]
  · have : (mkDelim a b s).closes = ((mkDelim a b s).emph && isCloser a b s) := rfl
    rw [this, he, Bool.true_and]

theorem close_run (s : Str) (ds : List Delim) (so su : Bool) (start stop : Nat) (ch : Char) (hds : DsOk so su ds)
    (hdel : ch = '*' ∨ ch = '_') (hst : start < stop) (hsa : s[start]? = some ch)
    (hcl : isCloser start stop s = true → ∀ d ∈ ds, (d.emph && d.opens) = true → d.type.head? ≠ some ch)
    (hop : isOpener start stop s = true → seenOf so su ch = true) :
    DsOk so su (ds ++ [mkDelim start stop s]) ∧ isBr (mkDelim start stop s) = false := by
  obtain ⟨r1, r2, r3, r4⟩ := mkDelim_run s start stop ch hst hsa hdel
  have hch1 : ch ≠ '[' := by rcases hdel with rfl | rfl <;> decide
  have hch2 : ch ≠ '!' := by rcases hdel with rfl | rfl <;> decide
  refine ⟨?_, isBr_of_head start stop s ch hst hsa hch1 hch2⟩
  apply hds.push _ (mkDelim_type_ne s start stop ch hst hsa)
  · intro hc d hd ho
    rw [r1]
    rw [r2, r4, Bool.true_and] at hc
    exact hcl hc d hd ho
  · intro ho c' hc'
    rw [r1] at hc'
    simp only [Option.some.injEq] at hc'
    subst hc'
    rw [r2, r3, Bool.true_and] at ho
    exact hop ho

theorem noBr_push {seen : Bool} {ds : List Delim} {D : Delim} (h : seen = false → ∀ d ∈ ds, isBr d = false)
    (hD : isBr D = false) : seen = false → ∀ d ∈ ds ++ [D], isBr d = false := by
  intro hs d hd
  rcases List.mem_append.mp hd with h' | h'
  · exact h hs d h'
  · simp only [List.mem_singleton] at h'; subst h'; exact hD

theorem flags_step (so su : Bool) (c : Char) (x : Bool) (hd : c = '*' ∨ c = '_') :
    (∀ ch, seenOf so su ch = true → seenOf (so || (c == '*' && x)) (su || (c == '_' && x)) ch = true) ∧
    (x = true → seenOf (so || (c == '*' && x)) (su || (c == '_' && x)) c = true) := by
  constructor
  · intro ch h
    unfold seenOf at h ⊢
    split
    · rename_i hc; rw [if_pos hc] at h; simp [h]
    · rename_i hc; rw [if_neg hc] at h; simp [h]
  · intro hx
    subst hx
    rcases hd with rfl | rfl <;> simp [seenOf]

theorem em2_skip (so su : Bool) (p c : Char) (rest : Str) (h : emphOk2 so su p (c :: rest) = true)
    (hn : ¬((c = '*' ∨ c = '_') ∧ p ≠ c)) : emphOk2 so su c rest = true := by
  simp only [emphOk2] at h
  split at h
  · rename_i hc
    simp only [Bool.and_eq_true, Bool.or_eq_true, beq_iff_eq, bne_iff_ne, ne_eq] at hc
    exact absurd hc hn
  · exact h

theorem em2_head (so su : Bool) (p c : Char) (rest : Str) (h : emphOk2 so su p (c :: rest) = true)
    (hd : c = '*' ∨ c = '_') (hp : p ≠ c) :
    (canClose c p (runAfter c rest) = true → seenOf so su c = false) ∧
    emphOk2 (so || (c == '*' && canOpen c p (runAfter c rest))) (su || (c == '_' && canOpen c p (runAfter c rest))) c rest = true := by
  simp only [emphOk2] at h
  have : ((c == '*' || c == '_') && p != c) = true := by
    rcases hd with rfl | rfl <;> simp [hp]
  rw [if_pos this] at h
  simp only [Bool.and_eq_true, Bool.not_eq_eq_eq_not, Bool.not_true, Bool.and_eq_false_iff] at h
  refine ⟨?_, h.2⟩
  intro hc
  rcases h.1 with h1 | h1
  · exact h1
  · rw [hc] at h1; cases h1

/-- the loop invariant; `so`, `su`, `seen` are the scanner's flags at the current position -/
structure Inv2 (strict : Bool) (s pre suf : Str) (so su seen : Bool) (st : FState) : Prop where
  ms : st.ms = []
  codes : st.codes = []
  code : st.code = none
  esc : st.escaped = false
  ds : DsOk so su st.ds
  br : brOkG strict seen suf = true ∧ (seen = false → ∀ d ∈ st.ds, isBr d = false)
  img : st.inImage = true → ∃ ch, pre.getLast? = some ch ∧ ch ≠ '*' ∧ ch ≠ '_'
  em : emphOk2 so su (pre.getLast?.getD ' ') suf = true
  runNone : st.inRun = none → pre.getLast?.getD ' ' ≠ '*' ∧ pre.getLast?.getD ' ' ≠ '_'
  runSome : ∀ ch, st.inRun = some ch → (ch = '*' ∨ ch = '_') ∧ pre.getLast? = some ch ∧ st.start < pre.length ∧
      s[st.start]? = some ch ∧
      (isCloser st.start (pre.length + countLeading ch suf) s = true →
        ∀ d ∈ st.ds, (d.emph && d.opens) = true → d.type.head? ≠ some ch) ∧
      (isOpener st.start (pre.length + countLeading ch suf) s = true → seenOf so su ch = true)

/-- `Inv2` with no run pending, just after a character `c` that is no delimiter character -/
theorem Inv2.plain {strict : Bool} {s pre rest : Str} {c : Char} {so su seen : Bool} {ds : List Delim}
    (inImage : Bool) (start : Nat) (hlast : pre.getLast? = some c) (hd1 : c ≠ '*') (hd2 : c ≠ '_')
    (hds : DsOk so su ds) (hbr : brOkG strict seen rest = true) (hbr2 : seen = false → ∀ d ∈ ds, isBr d = false)
    (hem : emphOk2 so su c rest = true) :
    Inv2 strict s pre rest so su seen { ds := ds, inImage := inImage, start := start } :=
  ⟨rfl, rfl, rfl, rfl, hds, ⟨hbr, hbr2⟩, fun _ => ⟨c, hlast, hd1, hd2⟩, by simpa [hlast] using hem,
    fun _ => by rw [hlast]; exact ⟨hd1, hd2⟩, by simp⟩

theorem brG_step (strict seen : Bool) (c : Char) (rest : Str) (h : brOkG strict seen (c :: rest) = true) :
    brOkG strict (seen || c == '[') rest = true := by
  simp only [brOkG, Bool.and_eq_true] at h; exact h.2

theorem brG_step_ne (strict seen : Bool) (c : Char) (rest : Str) (hc : c ≠ '[') (h : brOkG strict seen (c :: rest) = true) :
    brOkG strict seen rest = true := by
  have := brG_step strict seen c rest h
  have e : (c == '[') = false := by simpa using hc
  simpa [e] using this

theorem brG_close (strict seen : Bool) (rest : Str) (h : brOkG strict seen (']' :: rest) = true) :
    seen = false ∨ (strict = false ∧ rest.head? ≠ some '(' ∧ rest.head? ≠ some '[') := by
  simp only [brOkG, Bool.and_eq_true, Bool.or_eq_true, bne_self_eq_false, Bool.false_eq_true, false_or,
    Bool.not_eq_eq_eq_not, Bool.not_true, bne_iff_ne, ne_eq] at h
  rcases h.1 with h1 | h1
  · exact Or.inl h1
  · exact Or.inr ⟨h1.1.1, h1.1.2, h1.2⟩

theorem matchLinkImage_none (s : Str) (i : Nat) (d : Delim) (h1 : follows s i '(' = false) (h2 : follows s i '[' = false) :
    matchLinkImage s i d [] = none := by
  unfold matchLinkImage
  simp [h1, h2, getLinkLabel, Footnotes.lookup]

theorem findLinkImage_fail (s : Str) (i : Nat) (ds : List Delim) (fn : Footnotes.Table)
    (h : (∀ d ∈ ds, isBr d = false) ∨ (fn = [] ∧ follows s i '(' = false ∧ follows s i '[' = false)) :
    ∃ ds', findLinkImage s i ds [] fn = .ok (i, ds', []) ∧ ds'.Sublist ds := by
  rcases h with h | ⟨rfl, h1, h2⟩
  · exact ⟨ds, findLinkImage_none s i ds [] fn h, List.Sublist.refl _⟩
  · unfold findLinkImage
    cases hl : lastBracket ds 0 none with
    | none => exact ⟨ds, rfl, List.Sublist.refl _⟩
    | some k =>
      have hk : k < ds.length := by
        rcases lastBracket_spec ds 0 none k hl with h | h
        · cases h
        · omega
      simp only [List.getElem?_eq_getElem hk, matchLinkImage_none s i _ h1 h2]
      refine ⟨ds.eraseIdx k, ?_, List.eraseIdx_sublist _ _⟩
      split <;> rfl

theorem follows_mid (a : Str) (c : Char) (rest : Str) (x : Char) :
    follows (a ++ c :: rest) a.length x = (rest.head? == some x) := by
  unfold follows
  have := getElem?_after a c rest 0
  simp only [Nat.add_zero, List.drop_zero] at this
  rw [this]

theorem close_bracket (strict : Bool) (s : Str) (fn : Footnotes.Table) (pre rest : Str) (seen : Bool) (ds : List Delim)
    (hs : s = pre ++ ']' :: rest) (hfn : strict = false → fn = [])
    (hbr : brOkG strict seen (']' :: rest) = true) (hno : seen = false → ∀ d ∈ ds, isBr d = false) :
    ∃ ds', findLinkImage s pre.length ds [] fn = .ok (pre.length, ds', []) ∧ ds'.Sublist ds := by
  apply findLinkImage_fail
  rcases brG_close strict seen rest hbr with h | ⟨h1, h2, h3⟩
  · exact Or.inl (hno h)
  · right
    rw [hs]
    exact ⟨hfn h1, by rw [follows_mid]; simpa using h2, by rw [follows_mid]; simpa using h3⟩

/-- one iteration with no run pending; `hp`: a delimiter character here begins a run -/
theorem coreStep_none (strict : Bool) (s : Str) (fn : Footnotes.Table) (pre : Str) (c : Char) (rest : Str)
    (ds : List Delim) (inImage : Bool) (start : Nat) (so su seen : Bool)
    (hs : s = pre ++ c :: rest) (hc : c ≠ '\\') (hbt : '`' ∉ s) (hfn : strict = false → fn = [])
    (hds : DsOk so su ds) (hbr1 : brOkG strict seen (c :: rest) = true) (hbr2 : seen = false → ∀ d ∈ ds, isBr d = false)
    (himg : inImage = true → ∃ ch, pre.getLast? = some ch ∧ ch ≠ '*' ∧ ch ≠ '_')
    (hem : emphOk2 so su (pre.getLast?.getD ' ') (c :: rest) = true)
    (hp : c = '*' ∨ c = '_' → pre.getLast?.getD ' ' ≠ c) :
    ∃ so' su' seen' st', stepWith (linkOf s fn) s pre.length c { ds := ds, inImage := inImage, start := start } =
        .ok (pre.length + 1, st') ∧ Inv2 strict s (pre ++ [c]) rest so' su' seen' st' := by
  have hi : s[pre.length]? = some c := by rw [hs]; exact getElem?_at pre c rest
  have hlen : (pre ++ [c]).length = pre.length + 1 := by simp
  have hlast := List.getLast?_concat (l := pre) (a := c)
  have e := stepWith_char (link := linkOf s fn) (s := s) (i := pre.length)
    (st := { ds := ds, inImage := inImage, start := start }) (NoCode.of_none rfl) rfl hc (fun h => nomatch h)
  rw [if_neg (fun h => nomatch h), endRun_none rfl] at e
  by_cases hd : c = '*' ∨ c = '_'
  · have hb1 : c ≠ '[' := by rcases hd with rfl | rfl <;> decide
    have hp := hp hd
    obtain ⟨hcl, hem'⟩ := em2_head _ _ _ _ _ hem hd hp
    obtain ⟨hf1, hf2⟩ := flags_step so su c (canOpen c (pre.getLast?.getD ' ') (runAfter c rest)) hd
    refine ⟨so || (c == '*' && canOpen c (pre.getLast?.getD ' ') (runAfter c rest)), su || (c == '_' && canOpen c (pre.getLast?.getD ' ') (runAfter c rest)), seen, { ds := ds, inRun := some c, inImage := false, start := pre.length }, ?_, ?_⟩
    · rw [e, if_pos hd]
    · refine ⟨rfl, rfl, rfl, rfl, hds.mono hf1, ⟨brG_step_ne _ _ c rest hb1 hbr1, hbr2⟩, by simp,
        by simpa [hlast] using hem', by simp, ?_⟩
      intro ch hch
      simp only [Option.some.injEq] at hch
      subst hch
      refine ⟨hd, hlast, by show pre.length < (pre ++ [c]).length; omega, hi, ?_, ?_⟩
      · show isCloser pre.length ((pre ++ [c]).length + countLeading c rest) s = true → _
        have e := isCloser_at pre c rest (countLeading c rest)
        rw [← hs] at e
        rw [hlen, e]
        intro hcc d hdm ho hh
        have := hds.seen d hdm ho c hh
        rw [hcl hcc] at this
        cases this
      · show isOpener pre.length ((pre ++ [c]).length + countLeading c rest) s = true → _
        have e := isOpener_at pre c rest (countLeading c rest)
        rw [← hs] at e
        rw [hlen, e]
        exact hf2
  · have hd1 : c ≠ '*' := fun e => hd (Or.inl e)
    have hd2 : c ≠ '_' := fun e => hd (Or.inr e)
    have hem' := em2_skip _ _ _ _ _ hem (fun h => hd h.1)
    by_cases hb1 : c = '['
    · subst hb1
      have hbr' := brG_step _ _ _ _ hbr1
      simp only [beq_self_eq_true, Bool.or_true] at hbr'
      rw [e, if_neg hd, if_pos rfl]
      cases inImage with
      | false =>
        refine ⟨so, su, true, { ds := ds ++ [mkDelim pre.length (pre.length + 1) s], start := start }, rfl, ?_⟩
        exact Inv2.plain false start hlast hd1 hd2 (hds.push_plain _ (mkDelim_type_ne s _ _ '[' (by omega) hi)
            (mkDelim_emph_false s _ _ (by omega) '[' hi (by decide) (by decide))) hbr' (by simp) hem'
      | true =>
        obtain ⟨b, hb, hbn1, hbn2⟩ := himg rfl
        have hpos : 0 < pre.length := by
          cases pre with
          | nil => simp at hb
          | cons _ _ => simp
        have hib : s[pre.length - 1]? = some b := by
          rw [hs, List.getElem?_append_left (by omega), ← List.getLast?_eq_getElem?, hb]
        refine ⟨so, su, true, { ds := ds ++ [mkDelim (pre.length - 1) (pre.length + 1) s], start := start }, rfl, ?_⟩
        exact Inv2.plain false start hlast hd1 hd2 (hds.push_plain _ (mkDelim_type_ne s _ _ b (by omega) hib)
            (mkDelim_emph_false s _ _ (by omega) b hib hbn1 hbn2)) hbr' (by simp) hem'
    · have hbr' := brG_step_ne _ _ c rest hb1 hbr1
      by_cases hb2 : c = '!'
      · subst hb2
        rw [e, if_neg hd, if_neg hb1, if_pos rfl]
        exact ⟨so, su, seen, _, rfl, Inv2.plain true start hlast hd1 hd2 hds hbr' hbr2 hem'⟩
      · by_cases hb3 : c = ']'
        · subst hb3
          obtain ⟨ds', e', hsub⟩ := close_bracket strict s fn pre rest seen ds hs hfn hbr1 hbr2
          rw [e, if_neg hd, if_neg hb1, if_neg hb2, if_pos rfl]
          simp only [linkOf, e', codeSearch_eq_none s pre.length hbt]
          exact ⟨so, su, seen, _, rfl, Inv2.plain inImage start hlast hd1 hd2 (hds.sublist hsub) hbr'
              (fun h d hd' => hbr2 h d (hsub.subset hd')) hem'⟩
        · rw [e, if_neg hd, if_neg hb1, if_neg hb2, if_neg hb3]
          exact ⟨so, su, seen, _, rfl, Inv2.plain false start hlast hd1 hd2 hds hbr' hbr2 hem'⟩

theorem coreStep_inv2 (strict : Bool) (s : Str) (fn : Footnotes.Table) (pre : Str) (c : Char) (rest : Str) (st : FState)
    (so su seen : Bool) (hs : s = pre ++ c :: rest) (hc : c ≠ '\\') (hbt : '`' ∉ s) (hfn : strict = false → fn = [])
    (inv : Inv2 strict s pre (c :: rest) so su seen st) :
    ∃ so' su' seen' st', stepWith (linkOf s fn) s pre.length c st = .ok (pre.length + 1, st') ∧
      Inv2 strict s (pre ++ [c]) rest so' su' seen' st' := by
  obtain ⟨ds, ms, codes, escaped, inRun, inImage, start, code⟩ := st
  obtain ⟨h1, h2, h3, h4, hds, hbr, himg, hem, hrn, hrs⟩ := inv
  simp only at h1 h2 h3 h4 hds hbr himg hrn hrs
  subst h1 h2 h3 h4
  obtain ⟨hbr1, hbr2⟩ := hbr
  cases inRun with
  | none =>
    refine coreStep_none strict s fn pre c rest ds inImage start so su seen hs hc hbt hfn hds hbr1 hbr2 himg hem ?_
    rintro (rfl | rfl)
    · exact (hrn rfl).1
    · exact (hrn rfl).2
  | some ch =>
    have hlen : (pre ++ [c]).length = pre.length + 1 := by simp
    have hlast := List.getLast?_concat (l := pre) (a := c)
    obtain ⟨hdel, hlastp, hst, hsa, hcl, hop⟩ := hrs ch rfl
    have hch1 : ch ≠ '[' := by rcases hdel with rfl | rfl <;> decide
    have hlastD : pre.getLast?.getD ' ' = ch := by rw [hlastp]; rfl
    have himf : inImage = false := by
      cases inImage with
      | false => rfl
      | true =>
        obtain ⟨b, hb, hbn1, hbn2⟩ := himg rfl
        rw [hlastp] at hb
        simp only [Option.some.injEq] at hb
        subst hb
        rcases hdel with h | h
        · exact absurd h hbn1
        · exact absurd h hbn2
    subst himf
    by_cases hcc : c = ch
    · subst hcc
      have hem' := em2_skip _ _ _ _ _ hem (fun h => h.2 hlastD)
      refine ⟨so, su, seen, _, (stepWith_char (NoCode.of_none rfl) rfl hc (fun _ => hdel)).trans (if_pos rfl), ?_⟩
      refine ⟨rfl, rfl, rfl, rfl, hds, ⟨brG_step_ne _ _ c rest hch1 hbr1, hbr2⟩, by simp, by simpa [hlast] using hem', by simp, ?_⟩
      intro ch' hch'
      simp only [Option.some.injEq] at hch'
      subst hch'
      have e : (pre ++ [c]).length + countLeading c rest = pre.length + countLeading c (c :: rest) := by
        simp [countLeading]; omega
      refine ⟨hdel, hlast, by show start < (pre ++ [c]).length; omega, hsa, ?_, ?_⟩
      · show isCloser start ((pre ++ [c]).length + countLeading c rest) s = true → _
        rw [e]; exact hcl
      · show isOpener start ((pre ++ [c]).length + countLeading c rest) s = true → _
        rw [e]; exact hop
    · rw [countLeading_ne _ _ _ hcc, Nat.add_zero] at hcl hop
      obtain ⟨hds', hbrD⟩ := close_run s ds so su start pre.length ch hds hdel hst hsa hcl hop
      have hbr2' := noBr_push hbr2 hbrD
      rw [stepWith_endRun (NoCode.of_none rfl) rfl hc (by simpa using fun e => hcc e.symm), endRun_some rfl]
      exact coreStep_none strict s fn pre c rest _ false start so su seen hs hc hbt hfn hds' hbr1 hbr2' (by simp) hem
        (fun _ => by rw [hlastD]; exact fun e => hcc e.symm)

/-- from the loop's result to `find_core_tokens`: a pending run is closed, `process_emphasis` finds no pair -/
theorem findCoreTokens_after_loop (strict : Bool) (s : Str) (fn : Footnotes.Table) (hbt : '`' ∉ s)
    (hbr : brOkG strict false s = true) (hem : emphOk2 false false ' ' s = true)
    (hloop : ∀ st, Inv2 strict s [] s false false false st →
      ∃ so su seen st', coreLoop s fn (s.length + 2) 0 st = .ok (s.length, st') ∧ Inv2 strict s s [] so su seen st') :
    findCoreTokens s fn = .ok ([], []) := by
  have inv0 : Inv2 strict s [] s false false false { code := codeSearch s 0 } := by
    refine ⟨rfl, rfl, codeSearch_eq_none s 0 hbt, rfl, DsOk.nil _ _, ⟨hbr, by simp⟩, by simp, hem, ?_, by simp⟩
    intro _; exact ⟨by decide, by decide⟩
  obtain ⟨so, su, seen, st, e, inv⟩ := hloop _ inv0
  rw [findCoreTokens_of_loop e]
  simp only [inv.esc, Bool.not_false, if_true]
  have hds : DsOk so su (endRun s s.length st).ds := by
    cases hr : st.inRun with
    | none => rw [endRun_none hr]; exact inv.ds
    | some ch =>
      obtain ⟨hdel, _, hst, hsa, hcl, hop⟩ := inv.runSome ch hr
      simp only [countLeading, Nat.add_zero] at hcl hop
      rw [endRun_some hr]
      exact (close_run s st.ds so su st.start s.length ch inv.ds hdel hst hsa hcl hop).1
  rw [processEmphasis_nopair s _ _ hds.head hds.pair]
  simp [inv.ms, inv.codes]

end Mistletoe.InertInline2

/-! ## literal backslashes (`inertBody4`)

  `inertBody3` rejects every text containing a backslash.  In CommonMark - and in mistletoe - a backslash is special only before an
  ASCII punctuation character (`EscapeSequence`) and directly before a newline (hard `LineBreak`);
  before a letter, digit, space or non-ASCII character it is a literal backslash (`C:\dir`, `a \ b`, `\a`).

  `inertBody4` is `inertBody3` with the character condition weakened: a `\` is allowed when the next
  character exists, is not in `InlineScan.escapable` (the class of `EscapeSequence.pattern`) and is not
  "\n".  What the model does with such a backslash:
  * `find_core_tokens` sets `escaped` at EVERY backslash; the next character is then skipped (a pending
    delimiter run is closed just before the backslash, `escaped` and `in_image` are reset).  The skipped
    character is none of `* _ [ ] !`, so nothing is lost: the two iterations keep the invariant `Inv2`
    (`inv2_bs`; the state between them is the second case of `Inv4`).
  * `escapeAt` needs an escapable character after the backslash; `strikeAt` / `autoLinkAt` see exactly one
    leading backslash (odd) and fail; `htmlSpanAt` needs a `<`; `lineBreakAt` needs "\n" after it.
  * `html.unescape` does not look at backslashes (the `&` condition `ampOk2` is unchanged).
-/

namespace Mistletoe.InertInline3
open Mistletoe Mistletoe.Py Mistletoe.Scan Mistletoe.InlineScan Mistletoe.Core Mistletoe.Inline Mistletoe.InertInline
open Mistletoe.InertInline2

/-- after a `\`: a character exists, it is not ASCII punctuation (`EscapeSequence.pattern`'s class) and
    it is not "\n" (`LineBreak.pattern`'s `\\\n`) -/
def bsNext : Str → Bool
  | [] => false
  | d :: _ => !escapable d && d != '\n'

/-- no backquote; every backslash is a literal one -/
def bsOk : Str → Bool
  | [] => true
  | c :: rest => (if c == '\\' then bsNext rest else c != '`') && bsOk rest

/-- **`inertBody3` with literal backslashes allowed** -/
def inertBody4 (s : Str) : Bool :=
  bsOk s && ltOk2 s && ampOk2 s && tildeOk s && brOkG false false s && emphOk2 false false ' ' s

theorem bsOk_of_okChar : ∀ (s : Str), s.all okChar = true → bsOk s = true
  | [], _ => rfl
  | c :: rest, h => by
    simp only [List.all_cons, Bool.and_eq_true] at h
    have hc : c ≠ '\\' ∧ c ≠ '`' := by simpa [okChar] using h.1
    have e : (c == '\\') = false := by simpa using hc.1
    simp only [bsOk, e, Bool.false_eq_true, if_false, Bool.and_eq_true, bne_iff_ne, ne_eq]
    exact ⟨hc.2, bsOk_of_okChar rest h.2⟩

theorem inertBody3_inertBody4 (s : Str) (h : inertBody3 s = true) : inertBody4 s = true := by
  simp only [inertBody3, inertBodyG, Bool.and_eq_true] at h
  simp only [inertBody4, Bool.and_eq_true]
  obtain ⟨⟨⟨⟨⟨h1, h2⟩, h3⟩, h4⟩, h5⟩, h6⟩ := h
  exact ⟨⟨⟨⟨⟨bsOk_of_okChar s h1, h2⟩, h3⟩, h4⟩, h5⟩, h6⟩

theorem bsOk_tail (c : Char) (rest : Str) (h : bsOk (c :: rest) = true) : bsOk rest = true := by
  simp only [bsOk, Bool.and_eq_true] at h; exact h.2

theorem bsOk_ne (c : Char) (rest : Str) (h : bsOk (c :: rest) = true) (hc : c ≠ '\\') : c ≠ '`' := by
  have e : (c == '\\') = false := by simpa using hc
  simp only [bsOk, e, Bool.false_eq_true, if_false, Bool.and_eq_true, bne_iff_ne, ne_eq] at h
  exact h.1

theorem bsOk_bs (rest : Str) (h : bsOk ('\\' :: rest) = true) :
    ∃ d r, rest = d :: r ∧ escapable d = false ∧ d ≠ '\n' := by
  simp only [bsOk, beq_self_eq_true, if_true, Bool.and_eq_true] at h
  cases rest with
  | nil => simp [bsNext] at h
  | cons d r =>
    refine ⟨d, r, rfl, ?_⟩
    simpa [bsNext] using h.1

theorem bsOk_notin : ∀ (s : Str), bsOk s = true → '`' ∉ s
  | [], _ => by simp
  | c :: rest, h => by
    intro hm
    rcases List.mem_cons.mp hm with e | hm
    · subst e
      exact bsOk_ne _ rest h (by decide) rfl
    · exact bsOk_notin rest (bsOk_tail c rest h) hm

theorem bsOk_append_right : ∀ (a b : Str), bsOk (a ++ b) = true → bsOk b = true
  | [], _, h => h
  | c :: a, b, h => bsOk_append_right a b (bsOk_tail c (a ++ b) h)

theorem escapable_of (d : Char) (h : escapable d = false) :
    d ≠ '*' ∧ d ≠ '_' ∧ d ≠ '[' ∧ d ≠ ']' ∧ d ≠ '!' ∧ d ≠ '\\' ∧ d ≠ '<' ∧ d ≠ '~' := by
  unfold escapable at h
  rw [String.toList_ofList] at h
  simp only [List.contains_eq_mem, decide_eq_false_iff_not] at h
  refine ⟨?_, ?_, ?_, ?_, ?_, ?_, ?_, ?_⟩ <;> (intro e; subst e; exact h (by decide))

/-! ## `find_core_tokens`: a literal backslash and the character after it -/

/-- the state in the conclusion is the one after the two iterations, at the backslash and at `d`; the flags are unchanged -/
theorem inv2_bs (strict : Bool) (s : Str) (pre : Str) (d : Char) (rest : Str) (st : FState)
    (so su seen : Bool) (hd : escapable d = false)
    (inv : Inv2 strict s pre ('\\' :: d :: rest) so su seen st) :
    Inv2 strict s (pre ++ ['\\', d]) rest so su seen
      { endRun s pre.length { st with escaped := true } with escaped := false, inImage := false } := by
  obtain ⟨ds, ms, codes, escaped, inRun, inImage, start, code⟩ := st
  obtain ⟨h1, h2, h3, h4, hds, hbr, himg, hem, hrn, hrs⟩ := inv
  simp only at h1 h2 h3 h4 hds hbr himg hrn hrs
  subst h1 h2 h3 h4
  obtain ⟨hbr1, hbr2⟩ := hbr
  obtain ⟨d1, d2, d3, d4, d5, d6, _, _⟩ := escapable_of d hd
  have hlast : (pre ++ ['\\', d]).getLast? = some d := by simp
  have hem' : emphOk2 so su d rest = true :=
    em2_skip _ _ _ _ _ (em2_skip _ _ _ _ _ hem (fun h => by rcases h.1 with e | e <;> cases e))
      (fun h => by rcases h.1 with e | e; exact d1 e; exact d2 e)
  have hbr' : brOkG strict seen rest = true :=
    brG_step_ne _ _ d rest d3 (brG_step_ne _ _ '\\' (d :: rest) (by decide) hbr1)
  cases inRun with
  | none =>
    rw [endRun_none rfl]
    exact Inv2.plain false start hlast d1 d2 hds hbr' hbr2 hem'
  | some ch =>
    obtain ⟨hdel, hlastp, hst, hsa, hcl, hop⟩ := hrs ch rfl
    have hne : '\\' ≠ ch := by rcases hdel with rfl | rfl <;> decide
    rw [countLeading_ne _ _ _ hne, Nat.add_zero] at hcl hop
    obtain ⟨hds', hbrD⟩ := close_run s ds so su start pre.length ch hds hdel hst hsa hcl hop
    rw [endRun_some rfl]
    exact Inv2.plain false start hlast d1 d2 hds' hbr' (noBr_push hbr2 hbrD) hem'

/-- the invariant of the loop: `Inv2`, or `Inv2` one position back at a backslash whose flag has been set -/
def Inv4 (strict : Bool) (s pre suf : Str) (st : FState) : Prop :=
  (∃ so su seen, Inv2 strict s pre suf so su seen st) ∨
  (∃ so su seen st0 pre0, st = { st0 with escaped := true } ∧ pre = pre0 ++ ['\\'] ∧
    Inv2 strict s pre0 ('\\' :: suf) so su seen st0)

theorem stepWith_inv4 (strict : Bool) (s : Str) (fn : Footnotes.Table) (hbs : bsOk s = true)
    (hfn : strict = false → fn = []) (pre : Str) (c : Char) (suf : Str) (st : FState) (hs : s = pre ++ c :: suf)
    (h : Inv4 strict s pre (c :: suf) st) :
    ∃ st', stepWith (linkOf s fn) s pre.length c st = .ok (pre.length + 1, st') ∧ Inv4 strict s (pre ++ [c]) suf st' := by
  rcases h with ⟨so, su, seen, inv⟩ | ⟨so, su, seen, st0, pre0, rfl, rfl, inv⟩
  · by_cases hb : c = '\\'
    · subst hb
      exact ⟨_, stepWith_bs (NoCode.of_none inv.code) inv.esc, Or.inr ⟨so, su, seen, st, pre, rfl, rfl, inv⟩⟩
    · obtain ⟨so', su', seen', st', e, inv'⟩ := coreStep_inv2 strict s fn pre c suf st so su seen hs hb
        (bsOk_notin s hbs) hfn inv
      exact ⟨st', e, Or.inl ⟨so', su', seen', inv'⟩⟩
  · have hs' : s = pre0 ++ '\\' :: c :: suf := by rw [hs]; simp
    obtain ⟨d', r', hcons, hesc, _⟩ := bsOk_bs (c :: suf) (bsOk_append_right pre0 _ (hs' ▸ hbs))
    cases hcons
    have inv' := inv2_bs strict s pre0 c suf st0 so su seen hesc inv
    refine ⟨_, stepWith_esc c (NoCode.of_none inv.code) rfl, Or.inl ⟨so, su, seen, ?_⟩⟩
    rw [List.append_assoc, List.length_append, List.length_singleton, Nat.add_sub_cancel]
    exact inv'

theorem findCoreTokens_inert4 (strict : Bool) (s : Str) (fn : Footnotes.Table) (hbs : bsOk s = true)
    (hfn : strict = false → fn = []) (hbr : brOkG strict false s = true) (hem : emphOk2 false false ' ' s = true) :
    findCoreTokens s fn = .ok ([], []) := by
  refine findCoreTokens_after_loop strict s fn (bsOk_notin s hbs) hbr hem fun st inv => ?_
  rw [coreLoop_eq]
  obtain ⟨st', e, h⟩ := loopWith_induct_split (s := s) (Inv4 strict s) (stepWith_inv4 strict s fn hbs hfn) st
    (Or.inl ⟨false, false, false, inv⟩)
  rcases h with ⟨so, su, seen, inv'⟩ | ⟨_, _, _, _, pre0, _, rfl, _⟩
  · exact ⟨so, su, seen, st', e, inv'⟩
  · -- the text does not end with a backslash
    obtain ⟨d, r', h, _⟩ := bsOk_bs [] (bsOk_append_right pre0 _ hbs)
    cases h

/-! ## the regex scanners -/

theorem escapeAt_none4 (prev : Option Char) (c : Char) (rest : Str) (h : bsOk (c :: rest) = true) :
    escapeAt prev (c :: rest) = none := by
  by_cases hc : c = '\\'
  · subst hc
    obtain ⟨d, r, rfl, hd, _⟩ := bsOk_bs rest h
    simp [escapeAt, hd]
  · exact escapeAt_none prev c rest hc

/-- a literal backslash: exactly one leading backslash, so `(?:\\\\)*` cannot consume it -/
theorem leadingBackslashes_one (d : Char) (r : Str) (hd : escapable d = false) :
    leadingBackslashes ('\\' :: d :: r) = 1 := by
  have d6 := (escapable_of d hd).2.2.2.2.2.1
  simp [leadingBackslashes, countLeading, d6]

theorem autoLinkAt_none4 (prev : Option Char) (c : Char) (rest : Str) (h : bsOk (c :: rest) = true)
    (hl : (c != '<' || ltNext2 rest) = true) : autoLinkAt prev (c :: rest) = none := by
  by_cases hc : c = '\\'
  · subst hc
    obtain ⟨d, r, rfl, hd, _⟩ := bsOk_bs rest h
    unfold autoLinkAt
    split
    · rfl
    · simp [leadingBackslashes_one d r hd]
  · exact autoLinkAt_none_of prev c rest hc fun e => autoLinkBody_none2 rest (by simpa [e] using hl)

end Mistletoe.InertInline3

/-! ## a `<` that starts neither a tag nor an autolink (`inertBody5`)

  `inertBody4` rejects every text in which a `<` stands directly before an ASCII letter, `/`,
  `!` or `?` (`ltNext2`), and every `<` followed by a run of e-mail local-part characters and `@`.  Each alternative of
  `HtmlSpan.pattern` (open tag, closing tag, comment, processing instruction, declaration, CDATA section) and both
  alternatives of `AutoLink.pattern` end with a literal `>`; a match starting at a `<` therefore needs a `>` later in
  the text.  `inertBody5` is `inertBody4` with the `<` condition weakened to `ltNext5`: after a `<`
    * the condition `ltNext2` of `inertBody4` holds, or
    * there is no `>` in the rest of the text (lines joined by "\n" - a tag may span lines): `a <b c`, `x<y z`,
      `1 <a href`, a final `<b`, `a<=/...@home` (`noGt`), or
    * a letter follows and (`ltWord`) after its tag name `[A-Za-z0-9-]*` and the whitespace behind it neither `>` nor
      `/>` follows, nor - if there is whitespace - a character that can begin an attribute name (`[A-Za-z_:]`); the
      run of scheme characters `[A-Za-z0-9+.-]*` is not followed by `:` and the run of e-mail local-part characters
      is not followed by `@`: `if i<n; then j>0`, `a <b, c> d`, `a<b 50% > c`, or
    * `/` follows, not followed by a letter, and the run of e-mail local-part characters is not followed by `@`
      (`ltSlash`): `</3 > x`.
  What is NOT accepted, rightly: `x<y and y>z` (`<y and y>` is an open tag with the attributes `and`, `y`).
-/

namespace Mistletoe.InertInline5
open Mistletoe Mistletoe.Py Mistletoe.Scan Mistletoe.InlineScan Mistletoe.Core Mistletoe.Inline Mistletoe.InertInline
open Mistletoe.InertInline2 Mistletoe.InertInline3

/-! ## every HTML-span / autolink match contains a `>` after its `<` -/

theorem findFrom_startsWith (pat : Str) : ∀ (s : Str) (j k : Nat), findFrom (fun t => startsWith pat t) j s = some k → pat ⊆ s
  | [], _, _, h => by simp [findFrom] at h
  | c :: rest, j, k, h => by
    simp only [findFrom] at h
    split at h
    · rename_i hp
      simp only [startsWith] at hp
      exact (List.isPrefixOf_iff_prefix.mp hp).subset
    · exact (findFrom_startsWith pat rest _ _ h).trans (List.subset_cons_self _ _)

theorem commentBody_gt : ∀ (fuel n : Nat) (prev : Option Char) (s : Str) (k : Nat), commentBody fuel n prev s = some k → '>' ∈ s
  | 0, _, _, _, _, h => by simp [commentBody] at h
  | _ + 1, _, _, [], _, h => by simp [commentBody] at h
  | fuel + 1, n, prev, c :: rest, k, h => by
    simp only [commentBody] at h
    split at h
    · rename_i hp
      simp only [Bool.and_eq_true, startsWith] at hp
      exact (List.isPrefixOf_iff_prefix.mp hp.2).subset (by simp)
    · split at h
      · cases h
      · exact List.mem_cons_of_mem _ (commentBody_gt fuel _ _ rest k h)

theorem commentAt_gt (r : Str) (n : Nat) (h : commentAt r = some n) : '>' ∈ r := by
  unfold commentAt at h
  split at h
  · cases h
  · dsimp only at h
    split at h
    · cases h
    · split at h
      · rename_i k hk
        exact List.mem_of_mem_drop (commentBody_gt _ _ _ _ _ hk)
      · cases h

theorem instructionAt_gt (r : Str) (n : Nat) (h : instructionAt r = some n) : '>' ∈ r := by
  unfold instructionAt at h
  split at h
  · split at h
    · rename_i j hj
      have := findFrom_startsWith _ _ _ _ hj
      have : '>' ∈ _ := this (by simp)
      simp [this]
    · cases h
  · cases h

theorem declarationAt_gt (r : Str) (n : Nat) (h : declarationAt r = some n) : '>' ∈ r := by
  unfold declarationAt at h
  split at h
  · split at h
    · split at h
      · rename_i j hj
        have := findFrom_startsWith _ _ _ _ hj
        have : '>' ∈ _ := this (by simp)
        simp [this]
      · cases h
    · cases h
  · cases h

theorem cdataAt_gt (r : Str) (n : Nat) (h : cdataAt r = some n) : '>' ∈ r := by
  unfold cdataAt at h
  split at h
  · cases h
  · split at h
    · rename_i x body1 heq
      split at h
      · rename_i j hj
        have := findFrom_startsWith _ _ _ _ hj
        have h1 : '>' ∈ body1 := this (by simp)
        have h2 : '>' ∈ r.drop 8 := by rw [heq]; exact List.mem_cons_of_mem _ h1
        exact List.mem_of_mem_drop h2
      · cases h
    · cases h


/-- every alternative of `HtmlSpan.pattern` ends with `>` -/
theorem htmlSpanAt_gt (prev : Option Char) (rest : Str) (h : '>' ∉ rest) : htmlSpanAt prev ('<' :: rest) = none := by
  have hn : '>' ∉ '<' :: rest := by
    intro hm
    rcases List.mem_cons.mp hm with e | hm
    · cases e
    · exact h hm
  have h1 : openTag ('<' :: rest) = none :=
    Option.eq_none_iff_forall_ne_some.2 fun r e => h ((Block.openTag_suffix e).subset (List.mem_cons_self ..))
  have h2 : closingTag ('<' :: rest) = none :=
    Option.eq_none_iff_forall_ne_some.2 fun r e => h ((Block.closingTag_suffix e).subset (List.mem_cons_self ..))
  have h3 : commentAt ('<' :: rest) = none :=
    Option.eq_none_iff_forall_ne_some.2 fun r e => hn (commentAt_gt _ r e)
  have h4 : instructionAt ('<' :: rest) = none :=
    Option.eq_none_iff_forall_ne_some.2 fun r e => hn (instructionAt_gt _ r e)
  have h5 : declarationAt ('<' :: rest) = none :=
    Option.eq_none_iff_forall_ne_some.2 fun r e => hn (declarationAt_gt _ r e)
  have h6 : cdataAt ('<' :: rest) = none :=
    Option.eq_none_iff_forall_ne_some.2 fun r e => hn (cdataAt_gt _ r e)
  unfold htmlSpanAt
  split
  · rfl
  · simp only [h1, h2, h3, h4, h5, h6]

/-- both alternatives of `AutoLink.pattern` end with `>` -/
theorem autoLinkBody_gt (r : Str) (h : '>' ∉ r) : autoLinkBody r = none :=
  Option.eq_none_iff_forall_ne_some.2 fun n e => h (autoLinkBody_some r n e).1

/-- first character of a text, if any, is no attribute-name start `[A-Za-z_:]` -/
def noAttrStart : Str → Bool
  | [] => true
  | d :: _ => !nameStart d

/-- the text does not begin with `>` or `/>` -/
def noTagEnd : Str → Bool
  | [] => true
  | d :: x => if d == '/' then x.head? != some '>' else d != '>'

/-- what follows the tag name `[A-Za-z][A-Za-z0-9-]*` lets `(?:\s+attribute)*\s*/?>` fail at once: after the run of
    whitespace (if it is empty no attribute can follow; otherwise the next character must not start an attribute
    name) neither `>` nor `/>` follows -/
def afterTagName (r1 : Str) : Bool :=
  ((span ws r1).1.isEmpty || noAttrStart (span ws r1).2) && noTagEnd (span ws r1).2

/-- `<` + letter, and neither a tag nor an autolink can follow: what follows the tag name satisfies `afterTagName`;
    the run of scheme characters is not followed by `:`; the run of e-mail local-part characters is not followed by `@` -/
def ltWord : Str → Bool
  | [] => false
  | c :: r => isAlpha c && afterTagName (span (fun d => isAlnum d || d == '-') r).2 &&
      (span schemeChar r).2.head? != some ':' && (span localChar (c :: r)).2.head? != some '@'

theorem attrs_stop (fuel : Nat) (r : Str) (h : ((span ws r).1.isEmpty || noAttrStart (span ws r).2) = true) :
    attrs fuel r = r := by
  cases fuel with
  | zero => rfl
  | succ f =>
    unfold attrs
    split
    rename_i w r' h1
    rw [h1] at h
    simp only at h
    split
    · rfl
    · rename_i hw
      split
      · rename_i c x
        split
        · rename_i hn
          simp [hw, noAttrStart, hn] at h
        · rfl
      · rfl

theorem openTag_word (c : Char) (r : Str) (h : afterTagName (span (fun d => isAlnum d || d == '-') r).2 = true) :
    openTag ('<' :: c :: r) = none := by
  unfold openTag
  simp only
  split
  · rfl
  · generalize (span (fun d => isAlnum d || d == '-') r).2 = r1 at h
    simp only [afterTagName, Bool.and_eq_true] at h
    rw [attrs_stop _ _ h.1]
    have h2 := h.2
    generalize (span ws r1).2 = r3 at h2
    cases r3 with
    | nil => rfl
    | cons d x =>
      simp only [noTagEnd] at h2
      split at h2
      · rename_i hd
        simp only [beq_iff_eq] at hd
        subst hd
        cases x with
        | nil => rfl
        | cons e y =>
          have : e ≠ '>' := by simpa using h2
          simp [this]
      · rename_i hd
        have hd' : d ≠ '/' := by simpa using hd
        have hd2 : d ≠ '>' := by simpa using h2
        split
        · rename_i y heq
          split at heq
          · rename_i z hz
            simp only [List.cons.injEq] at hz
            exact absurd hz.1 hd'
          · simp only [List.cons.injEq] at heq
            exact absurd heq.1 hd2
        · rfl

theorem autoLinkBody_word (c : Char) (r : Str) (h1 : (span schemeChar r).2.head? ≠ some ':')
    (h2 : (span localChar (c :: r)).2.head? ≠ some '@') : autoLinkBody (c :: r) = none :=
  Option.eq_none_iff_forall_ne_some.2 fun n e => by
    rcases (autoLinkBody_some _ n e).2 with ⟨_, _, hr, _, h⟩ | ⟨_, h⟩
    · cases hr; exact h1 h
    · exact h2 h

theorem ltWord_of (rest : Str) (h : ltWord rest = true) : ∃ c r, rest = c :: r ∧ isAlpha c = true ∧
    afterTagName (span (fun d => isAlnum d || d == '-') r).2 = true ∧ (span schemeChar r).2.head? ≠ some ':' ∧
    (span localChar (c :: r)).2.head? ≠ some '@' := by
  cases rest with
  | nil => simp [ltWord] at h
  | cons c r =>
    simp only [ltWord, Bool.and_eq_true, bne_iff_ne, ne_eq] at h
    exact ⟨c, r, rfl, h.1.1.1, h.1.1.2, h.1.2, h.2⟩

theorem isAlpha_ne (c : Char) (h : isAlpha c = true) : c ≠ '/' ∧ c ≠ '!' ∧ c ≠ '?' := by
  refine ⟨?_, ?_, ?_⟩ <;> (intro e; subst e; revert h; decide)

theorem htmlSpanAt_word (prev : Option Char) (rest : Str) (h : ltWord rest = true) : htmlSpanAt prev ('<' :: rest) = none := by
  obtain ⟨c, r, rfl, ha, ht, _, _⟩ := ltWord_of rest h
  obtain ⟨h1, h2, h3⟩ := isAlpha_ne c ha
  exact htmlSpanAt_first prev _ (openTag_word c r ht) fun d x e => by
    cases e; exact ⟨h2, h3, fun hs => absurd hs h1⟩

/-- `</` not followed by a letter (no closing tag), the run of e-mail local-part characters not followed by `@` -/
def ltSlash : Str → Bool
  | [] => false
  | c :: r => c == '/' && (match r with | [] => true | d :: _ => !isAlpha d) &&
      (span localChar (c :: r)).2.head? != some '@'

theorem htmlSpanAt_slash (prev : Option Char) (rest : Str) (h : ltSlash rest = true) : htmlSpanAt prev ('<' :: rest) = none := by
  cases rest with
  | nil => simp [ltSlash] at h
  | cons c r =>
    simp only [ltSlash, Bool.and_eq_true, beq_iff_eq] at h
    obtain ⟨⟨rfl, h2⟩, _⟩ := h
    refine htmlSpanAt_first prev _ (openTag_first _ fun d x e => by cases e; decide) fun d x e => ?_
    cases e
    refine ⟨by decide, by decide, fun _ e y hy => ?_⟩
    subst hy
    simpa using h2

theorem autoLinkBody_slash (rest : Str) (h : ltSlash rest = true) : autoLinkBody rest = none := by
  cases rest with
  | nil => simp [ltSlash] at h
  | cons c r =>
    simp only [ltSlash, Bool.and_eq_true, beq_iff_eq, bne_iff_ne, ne_eq] at h
    obtain ⟨⟨rfl, _⟩, h3⟩ := h
    refine Option.eq_none_iff_forall_ne_some.2 fun n e => ?_
    rcases (autoLinkBody_some _ n e).2 with ⟨_, _, hr, ha, _⟩ | ⟨_, h'⟩
    · cases hr; revert ha; decide
    · exact h3 h'

/-! ## `ltNext5`, `inertBody5` -/

def noGt (rest : Str) : Bool := !rest.contains '>'

def ltNext5 (rest : Str) : Bool := ltNext2 rest || noGt rest || ltWord rest || ltSlash rest

def ltOk5 : Str → Bool
  | [] => true
  | c :: rest => (c != '<' || ltNext5 rest) && ltOk5 rest

/-- **`inertBody4` with `<` allowed wherever no tag and no autolink can be completed** -/
def inertBody5 (s : Str) : Bool :=
  bsOk s && ltOk5 s && ampOk2 s && tildeOk s && brOkG false false s && emphOk2 false false ' ' s

theorem ltOk2_ltOk5 : ∀ (s : Str), ltOk2 s = true → ltOk5 s = true
  | [], _ => rfl
  | c :: rest, h => by
    simp only [ltOk2, Bool.and_eq_true, Bool.or_eq_true] at h
    simp only [ltOk5, ltNext5, Bool.and_eq_true, Bool.or_eq_true]
    refine ⟨?_, ltOk2_ltOk5 rest h.2⟩
    rcases h.1 with h1 | h1
    · exact Or.inl h1
    · exact Or.inr (Or.inl (Or.inl (Or.inl h1)))

theorem inertBody4_inertBody5 (s : Str) (h : inertBody4 s = true) : inertBody5 s = true := by
  simp only [inertBody4, Bool.and_eq_true] at h
  simp only [inertBody5, Bool.and_eq_true]
  obtain ⟨⟨⟨⟨⟨h1, h2⟩, h3⟩, h4⟩, h5⟩, h6⟩ := h
  exact ⟨⟨⟨⟨⟨h1, ltOk2_ltOk5 s h2⟩, h3⟩, h4⟩, h5⟩, h6⟩

/-! ## the two scanners that look at `<` -/

theorem ltNext5_cases (rest : Str) (h : ltNext5 rest = true) :
    ltNext2 rest = true ∨ '>' ∉ rest ∨ ltWord rest = true ∨ ltSlash rest = true := by
  simp only [ltNext5, noGt, Bool.or_eq_true, Bool.not_eq_eq_eq_not, Bool.not_true, List.contains_eq_mem,
    decide_eq_false_iff_not] at h
  rcases h with ((h | h) | h) | h
  · exact Or.inl h
  · exact Or.inr (Or.inl h)
  · exact Or.inr (Or.inr (Or.inl h))
  · exact Or.inr (Or.inr (Or.inr h))

theorem htmlSpanAt_lt5 (prev : Option Char) (rest : Str) (h : ltNext5 rest = true) : htmlSpanAt prev ('<' :: rest) = none := by
  rcases ltNext5_cases rest h with h | h | h | h
  · exact htmlSpanAt_none2 prev '<' rest (by simpa using h)
  · exact htmlSpanAt_gt prev rest h
  · exact htmlSpanAt_word prev rest h
  · exact htmlSpanAt_slash prev rest h

theorem autoLinkBody_lt5 (rest : Str) (h : ltNext5 rest = true) : autoLinkBody rest = none := by
  rcases ltNext5_cases rest h with h | h | h | h
  · exact autoLinkBody_none2 rest h
  · exact autoLinkBody_gt rest h
  · obtain ⟨c, r, rfl, _, _, h1, h2⟩ := ltWord_of rest h
    exact autoLinkBody_word c r h1 h2
  · exact autoLinkBody_slash rest h

theorem htmlSpanAt_none5 (prev : Option Char) (c : Char) (rest : Str)
    (hl : (c != '<' || ltNext5 rest) = true) : htmlSpanAt prev (c :: rest) = none := by
  by_cases hc : c = '<'
  · subst hc
    exact htmlSpanAt_lt5 prev rest (by simpa using hl)
  · exact htmlSpanAt_none2 prev c rest (by simp [hc])

theorem autoLinkAt_none5 (prev : Option Char) (c : Char) (rest : Str) (h : bsOk (c :: rest) = true)
    (hl : (c != '<' || ltNext5 rest) = true) : autoLinkAt prev (c :: rest) = none := by
  by_cases hc : c = '<'
  · subst hc
    exact autoLinkAt_none_of prev '<' rest (by decide) fun _ => autoLinkBody_lt5 rest (by simpa using hl)
  · exact autoLinkAt_none4 prev c rest h (by simp [hc])

/-- what the regex scanners need of the text -/
structure ScanOk5 (s : Str) : Prop where
  bs : bsOk s = true
  lt : ltOk5 s = true
  tilde : tildeOk s = true

theorem ltOk5_cons {c : Char} {rest : Str} (h : ltOk5 (c :: rest) = true) :
    (c != '<' || ltNext5 rest) = true ∧ ltOk5 rest = true := by
  simpa only [ltOk5, Bool.and_eq_true] using h

theorem findOne_scan5 (s : Str) (h : ScanOk5 s) (t : STok) (ht : inertClass t = true) (hlb : t ≠ .lineBreak) :
    findOne s [] [] t = [] :=
  findOne_scan_of ScanOk5 (fun c r hq => ⟨bsOk_tail c r hq.bs, (ltOk5_cons hq.lt).2, (tildeOk_cons hq.tilde).2⟩)
    (fun p c r hq => htmlSpanAt_none5 p c r (ltOk5_cons hq.lt).1)
    (fun p _ _ hq => strikeAt_none p _ hq.tilde)
    (fun p c r hq => autoLinkAt_none5 p c r hq.bs (ltOk5_cons hq.lt).1) s h t ht
    (fun _ p c r hq => escapeAt_none4 p c r hq.bs) (fun e => absurd e hlb)

/-! ## the widest condition is silent

  `inertBody`, `inertBody2`, `inertBodyG`, `inertBody3`, `inertBody4`, `inertBody5` differ in what they ask of backslashes,
  `<` and brackets; each asks at least what `Wide` asks, for which the scanners, `find_core_tokens`, `html.unescape`
  and `LineBreak` are gone through once. -/

/-- literal backslashes only and no backquote, `<` where neither a tag nor an autolink can be completed, no `~~`; `&` that
    `html.unescape` leaves alone; no `]` that completes a link (`strict`: under any table of link definitions; otherwise
    under the empty one); no opener run before a closer run of the same character -/
structure Wide (strict : Bool) (s : Str) : Prop where
  scan : ScanOk5 s
  amp : ampOk2 s = true
  br : brOkG strict false s = true
  em : emphOk2 false false ' ' s = true

open Mistletoe.Document in
theorem Wide.silent {strict : Bool} {s : Str} (h : Wide strict s) (fn : Footnotes.Table) (hfn : strict = false → fn = []) :
    Silent fn s := by
  refine ⟨findOne_scan5 s h.scan, findCoreTokens_inert4 strict s fn h.scan.bs hfn h.br h.em,
    fun ts e t ht => unescape_inert2 t (ampOk2_lines ts (e ▸ h.amp) t ht), ?_⟩
  intro ts e hl
  subst e
  -- no backslash stands directly before a "\n": `bsOk` at that backslash
  refine findIter_joinNl ts hl fun a r e => ?_
  obtain ⟨d, _, e', _, hd⟩ := bsOk_bs _ (bsOk_append_right a _ (e ▸ h.scan.bs))
  exact hd (List.cons.inj e').1.symm

theorem inertBody5_wide (s : Str) (h : inertBody5 s = true) : Wide false s := by
  simp only [inertBody5, Bool.and_eq_true] at h
  obtain ⟨⟨⟨⟨⟨h1, h2⟩, h3⟩, h4⟩, h5⟩, h6⟩ := h
  exact ⟨⟨h1, h2, h4⟩, h3, h5, h6⟩

theorem inertBodyG_wide (strict : Bool) (s : Str) (h : inertBodyG strict s = true) : Wide strict s := by
  simp only [inertBodyG, Bool.and_eq_true] at h
  obtain ⟨⟨⟨⟨⟨h1, h2⟩, h3⟩, h4⟩, h5⟩, h6⟩ := h
  exact ⟨⟨bsOk_of_okChar s h1, ltOk2_ltOk5 s h2, h4⟩, h3, h5, h6⟩

theorem inertBody5_silent (s : Str) (h : inertBody5 s = true) : Silent [] s :=
  (inertBody5_wide s h).silent [] fun _ => rfl

theorem inline_inert5 (types : List STok) (s : Str) (ht : ∀ t ∈ types, inertClass t = true)
    (h : inertBody5 s = true) (hnl : '\n' ∉ s) :
    findAll s types [] = .ok [] ∧ Unescape.unescape true s = s ∧
      (s ≠ [] → tokenizeInner types [] s = .ok [.rawText s]) :=
  (inertBody5_silent s h).inline types ht hnl

end Mistletoe.InertInline5

namespace Mistletoe.InertInline3
open Mistletoe Mistletoe.Inline Mistletoe.InertInline Mistletoe.InertInline5

theorem inertBody4_silent (s : Str) (h : inertBody4 s = true) : Silent [] s :=
  inertBody5_silent s (inertBody4_inertBody5 s h)

end Mistletoe.InertInline3

namespace Mistletoe.InertInline2
open Mistletoe Mistletoe.Inline Mistletoe.InertInline Mistletoe.InertInline5

theorem inertBody2_silent (fn : Footnotes.Table) (s : Str) (h : inertBody2 s = true) : Silent fn s :=
  (inertBodyG_wide true s (inertBody2_inertBodyG true s h)).silent fn (by simp)

theorem inertBody3_silent (s : Str) (h : inertBody3 s = true) : Silent [] s :=
  (inertBodyG_wide false s h).silent [] fun _ => rfl

end Mistletoe.InertInline2
