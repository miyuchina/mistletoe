/-
  The block-parser model, reader by reader and round by round: what every later file about the block phase rests on.

  * The read cursor only ever moves within one buffer (`Same`).  The six readers that collect lines without failing are
    one loop over the cursor (`loop`; an equation `X_eq` per reader); the fuels of the inner loops never matter
    (`fuel_irrelevant`).
  * What `Quote.read` and `ListItem.read` hand to the nested tokenizer is said once: every piece is a `Cut` of its line
    and the loops' buffers are `Reads`; complete lines (`NlEnd`), less weight (`lw`, for the gas bound of BlockTotal),
    consecutive origins and, in ContribSame, any line invariant follow from these.
  * For each reader loop one lemma says what a round that returns has done (`…_ok`); for `List.read`, the dispatcher and
    its loop there is also one that says how a round fails (`readList_err`, `tryTypes_err`, `tokLoop_err`).  That the
    reader loops do not fail on complete lines is `…_noerr` in BlockTotal.  The invariants of the block phase, here
    (`all_ok`) and in BlockState, BlockTotal, BlockFrom, Locality and ContribSame, are inductions over the cases of these
    lemmas.
  * C13: the line buffers handed to nested `tokenize_block` calls carry consecutive origins starting at the `start_line`
    that is passed along, so every token reports the line it was found on (`all_ok`).  (`X_ok` of a reader or of
    `readList` / `tokLoop` is its elimination rule; `FW.Ok`, `EntryOk`, `TokOk`, `all_ok`, `tokenizeBlock_ok` are this
    invariant.)
-/
import Mistletoe.Model.Block
import Mistletoe.Proofs.Decline
import Mistletoe.Proofs.Strip
namespace Mistletoe.Block
open Mistletoe Mistletoe.Py Mistletoe.Scan

/-! ### The origins of a buffer's lines -/

def OriginsFrom : Nat → List Line → Prop
  | _, [] => True
  | s, l :: ls => l.origin = s ∧ OriginsFrom (s + 1) ls

theorem originsFrom_get : ∀ (ls : List Line) (s k : Nat) (l : Line), OriginsFrom s ls → ls[k]? = some l → l.origin = s + k
  | [], _, _, _, _, h => by simp at h
  | x :: xs, s, 0, l, ho, h => by
    simp only [List.getElem?_cons_zero, Option.some.injEq] at h
    subst h; simpa using ho.1
  | x :: xs, s, k + 1, l, ho, h => by
    simp only [List.getElem?_cons_succ] at h
    have := originsFrom_get xs (s + 1) k l ho.2 h
    omega

theorem originsFrom_append : ∀ (a b : List Line) (s : Nat), OriginsFrom s a → OriginsFrom (s + a.length) b → OriginsFrom s (a ++ b)
  | [], b, s, _, hb => by simpa using hb
  | x :: xs, b, s, ha, hb => by
    refine ⟨ha.1, originsFrom_append xs b (s + 1) ha.2 ?_⟩
    have : s + 1 + xs.length = s + (x :: xs).length := by simp; omega
    rw [this]; exact hb

theorem originsFrom_take : ∀ (a : List Line) (s m : Nat), OriginsFrom s a → OriginsFrom s (a.take m)
  | [], _, _, _ => by simp [OriginsFrom]
  | x :: xs, s, 0, _ => by simp [OriginsFrom]
  | x :: xs, s, m + 1, h => by
    simp only [List.take_succ_cons]
    exact ⟨h.1, originsFrom_take xs (s + 1) m h.2⟩

theorem originsFrom_drop : ∀ (ls : List Line) (s k : Nat), OriginsFrom s ls → OriginsFrom (s + k) (ls.drop k)
  | _, _, 0, h => h
  | [], _, _ + 1, _ => trivial
  | _ :: xs, s, k + 1, h => by
    have := originsFrom_drop xs (s + 1) k h.2
    rwa [Nat.add_assoc, Nat.add_comm 1 k] at this

/-! ### The cursor stays in its buffer -/

def Same (a b : FW) : Prop := b.lines = a.lines ∧ b.start = a.start

theorem Same.refl (a : FW) : Same a a := ⟨rfl, rfl⟩

theorem Same.trans {a b c : FW} (h1 : Same a b) (h2 : Same b c) : Same a c := ⟨h2.1.trans h1.1, h2.2.trans h1.2⟩

theorem same_next (a : FW) : Same a a.next := ⟨rfl, rfl⟩

theorem same_backstep (a : FW) : Same a a.backstep := ⟨rfl, rfl⟩

theorem same_pos (a : FW) (p : Nat) : Same a { a with pos := p } := ⟨rfl, rfl⟩

def FW.Ok (fw : FW) : Prop := OriginsFrom fw.start fw.lines

theorem FW.Ok.of_same {a b : FW} (h : Same a b) (ha : a.Ok) : b.Ok := by
  unfold FW.Ok at *; rw [h.1, h.2]; exact ha

theorem peek_origin (fw : FW) (l : Line) (h : fw.Ok) (hp : fw.peek = some l) : l.origin = fw.start + fw.pos :=
  originsFrom_get fw.lines fw.start fw.pos l h hp

theorem peek_lt (fw : FW) (l : Line) (hp : fw.peek = some l) : fw.pos < fw.lines.length := by
  unfold FW.peek at hp
  exact (List.getElem?_eq_some_iff.mp hp).1

theorem remaining_next (fw : FW) (l : Line) (hp : fw.peek = some l) : fw.next.remaining + 1 = fw.remaining := by
  have := peek_lt fw l hp
  simp only [FW.remaining, FW.next]; omega

theorem peek_mem (fw : FW) (l : Line) (h : fw.peek = some l) : l ∈ fw.lines :=
  List.mem_of_getElem? h

theorem drop_peek (fw : FW) (l : Line) (hp : fw.peek = some l) : fw.lines.drop fw.pos = l :: fw.lines.drop (fw.pos + 1) := by
  obtain ⟨hlt, hget⟩ := List.getElem?_eq_some_iff.mp hp
  rw [List.drop_eq_getElem_cons hlt, hget]

theorem peek_of_isSome (fw : FW) (h : fw.peek.isSome = true) : ∃ l, fw.peek = some l := by
  cases hh : fw.peek with
  | none => rw [hh] at h; cases h
  | some l => exact ⟨l, rfl⟩

/-! ### Why the fuels of the inner loops do not matter -/

/-- Two runs of a fuelled loop agree (or are related by `P`) once both fuels exceed a measure of the argument that
    every round lowers: it is enough to show one round, given the claim for every argument of smaller measure. -/
theorem fuel_irrelevant {α : Type} (μ : α → Nat) {P : Nat → Nat → α → Prop}
    (step : ∀ f f' a, (∀ a', μ a' < μ a → P f f' a') → P (f + 1) (f' + 1) a) :
    ∀ (fuel fuel' : Nat) (a : α), μ a < fuel → μ a < fuel' → P fuel fuel' a
  | 0, _, _, h, _ => by omega
  | _ + 1, 0, _, _, h => by omega
  | f + 1, f' + 1, a, h, h' =>
    step f f' a fun a' hlt => fuel_irrelevant μ step f f' a' (by omega) (by omega)

theorem fuel_irrelevant_fw {P : Nat → Nat → FW → Prop}
    (step : ∀ f f' fw, (∀ l, fw.peek = some l → P f f' fw.next) → P (f + 1) (f' + 1) fw) :
    ∀ (fuel fuel' : Nat) (fw : FW), fw.remaining < fuel → fw.remaining < fuel' → P fuel fuel' fw :=
  fuel_irrelevant FW.remaining fun f f' fw ih =>
    step f f' fw fun l hp => ih _ (by have := remaining_next fw l hp; omega)

/-! ### The loops that collect lines without failing

  `BlockCode.read`, `CodeFence.read`, `Table.read`, `HtmlBlock.read`, the first loop of `Footnote.read` and the loop over
  the blank lines before an item's content are one loop `loop step`: peek; `step` on the line says go on with a new
  state, stop before the line, or take it and stop.  One equation per reader (`tableLoop_eq`, …) puts it in this form;
  that the cursor stays in its buffer, never moves back, and that the fuel does not matter are facts about `loop`. -/

inductive Act (σ : Type) where
  | go (s : σ)
  | stop
  | take (s : σ)

def loop {σ : Type} (step : Str → σ → Act σ) : Nat → FW → σ → σ × FW
  | 0, fw, s => (s, fw)
  | fuel + 1, fw, s =>
    match fw.peek with
    | none => (s, fw)
    | some l =>
      match step l.s s with
      | .go s' => loop step fuel fw.next s'
      | .stop => (s, fw)
      | .take s' => (s', fw.next)

section

variable {σ : Type} (step : Str → σ → Act σ)

theorem loop_inv (P : FW → σ → Prop)
    (hst : ∀ fw l s s', fw.peek = some l → P fw s → step l.s s = .go s' ∨ step l.s s = .take s' → P fw.next s') :
    ∀ (fuel : Nat) (fw : FW) (s : σ), P fw s → P (loop step fuel fw s).2 (loop step fuel fw s).1
  | 0, _, _, h => h
  | fuel + 1, fw, s, h => by
    simp only [loop]
    cases hp : fw.peek with
    | none => exact h
    | some l =>
      simp only
      cases hs : step l.s s with
      | go s' => exact loop_inv P hst fuel _ _ (hst fw l s s' hp h (Or.inl hs))
      | stop => exact h
      | take s' => exact hst fw l s s' hp h (Or.inr hs)

theorem loop_same (fuel : Nat) (fw : FW) (s : σ) : Same fw (loop step fuel fw s).2 :=
  loop_inv step (fun fw' _ => Same fw fw') (fun fw' _ _ _ _ h _ => h.trans (same_next fw')) fuel fw s (Same.refl fw)

theorem loop_pos (fuel : Nat) (fw : FW) (s : σ) : fw.pos ≤ (loop step fuel fw s).2.pos :=
  loop_inv step (fun fw' _ => fw.pos ≤ fw'.pos) (fun _ _ _ _ _ h _ => Nat.le_succ_of_le h) fuel fw s (Nat.le_refl _)

theorem loop_adv (fuel : Nat) (fw : FW) (s : σ) (l : Line) (hp : fw.peek = some l) (hs : step l.s s ≠ .stop) :
    fw.pos < (loop step (fuel + 1) fw s).2.pos := by
  simp only [loop, hp]
  cases h : step l.s s with
  | go s' => exact Nat.lt_of_lt_of_le (Nat.lt_succ_self _) (loop_pos step fuel fw.next s')
  | stop => exact absurd h hs
  | take s' => exact Nat.lt_succ_self _

theorem loop_fuel : ∀ (fuel fuel' : Nat) (fw : FW), fw.remaining < fuel → fw.remaining < fuel' →
    ∀ s, loop step fuel fw s = loop step fuel' fw s :=
  fuel_irrelevant_fw fun f f' fw ih s => by
    cases hp : fw.peek with
    | none => simp only [loop, hp]
    | some l => simp only [loop, hp, ih l hp]

end

/-- A loop that pushes every line it passes holds the stretch of the buffer it passed; instances: the rows of
    `Table.read`, the text of `Footnote.read`. -/
theorem loop_taken {step : Str → List Str → Act (List Str)} {Q : Str → Prop}
    (hpush : ∀ s b b', step s b = .go b' ∨ step s b = .take b' → b' = s :: b ∧ Q s) :
    ∀ (fuel : Nat) (fw : FW) (buf : List Str), ∃ taken rest, fw.lines.drop fw.pos = taken ++ rest ∧
      (loop step fuel fw buf).1 = (taken.map (·.s)).reverse ++ buf ∧
      (loop step fuel fw buf).2.pos = fw.pos + taken.length ∧ ∀ l ∈ taken, Q l.s
  | 0, _, _ => ⟨[], _, rfl, rfl, rfl, nofun⟩
  | fuel + 1, fw, buf => by
    simp only [loop]
    cases hp : fw.peek with
    | none => exact ⟨[], _, rfl, rfl, rfl, nofun⟩
    | some l =>
      simp only
      cases hs : step l.s buf with
      | stop => exact ⟨[], _, rfl, rfl, rfl, nofun⟩
      | go b' =>
        obtain ⟨rfl, hq⟩ := hpush _ _ _ (.inl hs)
        obtain ⟨taken, rest, hd, h1, h2, h3⟩ := loop_taken hpush fuel fw.next (l.s :: buf)
        exact ⟨l :: taken, rest, (drop_peek fw l hp).trans (congrArg (l :: ·) hd), by simp [h1],
          by rw [h2]; simp only [FW.next, List.length_cons]; omega, List.forall_mem_cons.mpr ⟨hq, h3⟩⟩
      | take b' =>
        obtain ⟨rfl, hq⟩ := hpush _ _ _ (.inr hs)
        exact ⟨[l], _, drop_peek fw l hp, rfl, rfl, List.forall_mem_singleton.mpr hq⟩

def tableStep (s : Str) (buf : List Str) : Act (List Str) := if s.contains '|' then .go (s :: buf) else .stop

theorem tableStep_push {s : Str} {b b' : List Str} (h : tableStep s b = .go b' ∨ tableStep s b = .take b') :
    b' = s :: b ∧ s.contains '|' = true := by
  unfold tableStep at h
  split at h <;> simp at h
  exact ⟨h.symm, ‹_›⟩

theorem tableLoop_eq : ∀ (fuel : Nat) (fw : FW) (buf : List Str), tableLoop fuel fw buf = loop tableStep fuel fw buf
  | 0, _, _ => rfl
  | fuel + 1, fw, buf => by
    simp only [tableLoop, loop, tableStep]
    cases fw.peek with
    | none => rfl
    | some l =>
      simp only
      split
      · exact tableLoop_eq fuel _ _
      · rfl

def footnoteStep (s : Str) (buf : List Str) : Act (List Str) := if !isBlank s then .go (s :: buf) else .stop

/-- (`True`: `loop_taken` asks a property `Q` of every line taken, and here there is none) -/
theorem footnoteStep_push {s : Str} {b b' : List Str} (h : footnoteStep s b = .go b' ∨ footnoteStep s b = .take b') :
    b' = s :: b ∧ True := by
  unfold footnoteStep at h
  split at h <;> simp at h
  exact ⟨h.symm, trivial⟩

theorem footnoteLines_eq : ∀ (fuel : Nat) (fw : FW) (buf : List Str), footnoteLines fuel fw buf = loop footnoteStep fuel fw buf
  | 0, _, _ => rfl
  | fuel + 1, fw, buf => by
    simp only [footnoteLines, loop, footnoteStep]
    cases fw.peek with
    | none => rfl
    | some l =>
      simp only
      split
      · exact footnoteLines_eq fuel _ _
      · rfl

def htmlStep (ec : Option Str) (s : Str) (buf : List Str) : Act (List Str) :=
  match ec with
  | some e => if isInfix e (Footnotes.casefold s) then .take (s :: buf) else .go (s :: buf)
  | none => if isBlank s then .stop else .go (s :: buf)

theorem htmlBlockLoop_eq (ec : Option Str) : ∀ (fuel : Nat) (fw : FW) (buf : List Str),
    htmlBlockLoop ec fuel fw buf = loop (htmlStep ec) fuel fw buf
  | 0, _, _ => rfl
  | fuel + 1, fw, buf => by
    simp only [htmlBlockLoop, loop, htmlStep]
    cases fw.peek with
    | none => rfl
    | some l =>
      cases ec with
      | some e =>
        simp only
        split
        · rfl
        · exact htmlBlockLoop_eq _ fuel _ _
      | none =>
        simp only
        split
        · rfl
        · exact htmlBlockLoop_eq _ fuel _ _

def fenceStep (leader : Str) (prepend : Nat) (s : Str) (buf : List Str) : Act (List Str) :=
  let stripped := lstripSp s
  let diff := s.length - stripped.length
  if startsWith leader stripped && (rstripSet [' ', '\t', '\n'] stripped).all (fun x => some x == leader.head?) && diff < 4 then
    .take buf
  else .go ((if diff > prepend then List.replicate (diff - prepend) ' ' ++ stripped else stripped) :: buf)

theorem codeFenceLoop_eq (ld : Str) (p : Nat) : ∀ (fuel : Nat) (fw : FW) (buf : List Str),
    codeFenceLoop ld p fuel fw buf = loop (fenceStep ld p) fuel fw buf
  | 0, _, _ => rfl
  | fuel + 1, fw, buf => by
    simp only [codeFenceLoop, loop, fenceStep]
    cases fw.peek with
    | none => rfl
    | some l =>
      simp only
      split
      · rfl
      · exact codeFenceLoop_eq ld p fuel _ _

def blankStep (s : Str) (n : Nat) : Act Nat := if isBlank s then .go (n + 1) else .stop

theorem blankStep_push {s : Str} {m m' : Nat} (h : blankStep s m = .go m' ∨ blankStep s m = .take m') : m' = m + 1 := by
  unfold blankStep at h
  split at h <;> simp at h
  exact h.symm

theorem skipBlanks_eq : ∀ (fuel : Nat) (fw : FW) (n : Nat),
    skipBlanks fuel fw n = ((loop blankStep fuel fw n).2, (loop blankStep fuel fw n).1)
  | 0, _, _ => rfl
  | fuel + 1, fw, n => by
    simp only [skipBlanks, loop, blankStep]
    cases fw.peek with
    | none => rfl
    | some l =>
      simp only
      split
      · exact skipBlanks_eq fuel _ _
      · rfl

def codeStep (s : Str) (st : List Str × Nat) : Act (List Str × Nat) :=
  if isBlank s then .go ((if s.length < 5 then lstripSp s else s.drop 4) :: st.1, st.2 + 1)
  else if !blockCodeStart s then .stop
  else .go (blockCodeStrip s 0 :: st.1, 0)

theorem codeStep_push {s : Str} {st st' : List Str × Nat} (h : codeStep s st = .go st' ∨ codeStep s st = .take st') :
    st'.2 = 0 ∨ (st'.2 = st.2 + 1 ∧ isBlank s = true) := by
  unfold codeStep at h
  split at h
  · rename_i hb
    simp at h; subst h; exact Or.inr ⟨rfl, hb⟩
  · split at h <;> simp at h
    subst h; exact Or.inl rfl

theorem blockCodeLoop_eq : ∀ (fuel : Nat) (fw : FW) (buf : List Str) (tb : Nat),
    blockCodeLoop fuel fw buf tb =
      ((loop codeStep fuel fw (buf, tb)).1.1, (loop codeStep fuel fw (buf, tb)).1.2, (loop codeStep fuel fw (buf, tb)).2)
  | 0, _, _, _ => rfl
  | fuel + 1, fw, buf, tb => by
    simp only [blockCodeLoop, loop, codeStep]
    cases fw.peek with
    | none => rfl
    | some l =>
      simp only
      split
      · exact blockCodeLoop_eq fuel _ _ _
      · split
        · rfl
        · exact blockCodeLoop_eq fuel _ _ _

theorem skipBlanks_inv (fuel : Nat) (fw : FW) (n : Nat) :
    Same fw (skipBlanks fuel fw n).1 ∧ fw.pos ≤ (skipBlanks fuel fw n).1.pos ∧
    (skipBlanks fuel fw n).2 = n + ((skipBlanks fuel fw n).1.pos - fw.pos) := by
  simp only [skipBlanks_eq]
  have hp := loop_pos blankStep fuel fw n
  have hi := loop_inv blankStep (fun fw' m => m + fw.pos = n + fw'.pos)
    (fun fw' l m m' _ h hs => by rw [blankStep_push hs]; show m + 1 + fw.pos = n + (fw'.pos + 1); omega) fuel fw n rfl
  exact ⟨loop_same _ _ _ _, hp, by omega⟩

theorem skipBlanks_lines : ∀ (fuel : Nat) (fw : FW) (n : Nat), (skipBlanks fuel fw n).1.lines = fw.lines := by
  intro fuel fw n; exact (skipBlanks_inv fuel fw n).1.1

/-! ### The readers that do not nest -/

theorem readBlockCode_same (fw : FW) : Same fw (readBlockCode fw).2 := by
  unfold readBlockCode
  rw [blockCodeLoop_eq]
  exact (loop_same _ _ fw _).trans (same_pos _ _)

theorem readHeading_same (fw : FW) (line : Str) (r) (h : readHeading fw line = some r) : Same fw r.2.2.2 := by
  obtain ⟨_, _, _, _⟩ := r
  obtain ⟨_, _, _, _, rfl⟩ := readHeading_ok h
  exact same_next fw

theorem readCodeFence_same (fw : FW) (m : FenceMatch) : Same fw (readCodeFence fw m).2 := by
  unfold readCodeFence
  rw [codeFenceLoop_eq]
  exact (same_next fw).trans (loop_same _ _ _ _)

theorem readTable_ok {fw : FW} {b : List Str} {sl : Nat} {fw' : FW} (h : readTable fw = some (b, sl, fw')) :
    ∃ l0, fw.peek = some l0 ∧ b = (tableLoop (fw.remaining + 1) fw.next [l0.s]).1.reverse ∧ sl = fw.next.lineNumber ∧
      fw' = (tableLoop (fw.remaining + 1) fw.next [l0.s]).2 ∧
      ∃ first second rest, b = first :: second :: rest ∧ delimiterRow second = true := by
  unfold readTable at h
  cases hp : fw.peek with
  | none => rw [hp] at h; cases h
  | some l0 =>
    simp only [hp] at h
    split at h
    · rename_i first second rest heq
      by_cases hd : delimiterRow second = true
      · rw [if_pos hd] at h; cases h; exact ⟨l0, rfl, rfl, rfl, rfl, first, second, rest, heq, hd⟩
      · rw [if_neg hd] at h; cases h
    · cases h

theorem readTable_same (fw : FW) (r) (h : readTable fw = some r) : Same fw r.2.2 ∧ r.2.1 = fw.start + fw.pos := by
  obtain ⟨l0, _, _, hsl, hfw, _⟩ := readTable_ok h
  rw [hfw, hsl, tableLoop_eq]
  exact ⟨(same_next fw).trans (loop_same _ _ _ _), by simp [FW.lineNumber, FW.next]⟩

theorem readHtmlBlock_same (fw : FW) (e : Option Str) : Same fw (readHtmlBlock fw e).2 := by
  unfold readHtmlBlock; rw [htmlBlockLoop_eq]; exact loop_same _ _ fw []

theorem readFootnote_same (fw : FW) (ms) (fw') (h : readFootnote fw = .ok (ms, fw')) : Same fw fw' := by
  unfold readFootnote at h
  simp only at h
  split at h
  · cases h
  · cases h
    have := footnoteLines_eq (fw.remaining + 1) fw [] ▸ loop_same footnoteStep (fw.remaining + 1) fw []
    split
    · exact this.trans (same_pos _ _)
    · exact this

/-- The three cases: stopped where it stands; took a setext underline and stopped behind it; took the line and went on. -/
theorem paragraphLoop_ok {cfg : Cfg} {so : Bool} {fuel : Nat} {fw : FW} {buf : List Str} {r : List Str × Bool × FW}
    (h : paragraphLoop cfg so (fuel + 1) fw buf = .ok r) :
    r = (buf, false, fw) ∨ ∃ l, fw.peek = some l ∧ isBlank l.s = false ∧
      (r = (l.s :: buf, true, fw.next) ∨ paragraphLoop cfg so fuel fw.next (l.s :: buf) = .ok r) := by
  simp only [paragraphLoop] at h
  split at h
  · cases h; exact .inl rfl
  · rename_i l hp
    split at h
    · cases h; exact .inl rfl
    · rename_i hb
      split at h
      · cases h
      · cases h; exact .inl rfl
      · split at h
        · cases h; exact .inr ⟨l, hp, by simpa using hb, .inl rfl⟩
        · split at h
          · cases h; exact .inl rfl
          · exact .inr ⟨l, hp, by simpa using hb, .inr h⟩

theorem paragraphLoop_same (cfg : Cfg) (so : Bool) : ∀ (fuel : Nat) (fw : FW) (buf : List Str) (r),
    paragraphLoop cfg so fuel fw buf = .ok r → Same fw r.2.2
  | 0, _, _, _, h => by simp [paragraphLoop] at h
  | fuel + 1, fw, buf, r, h => by
    rcases paragraphLoop_ok h with rfl | ⟨l, _, _, rfl | h'⟩
    · exact Same.refl fw
    · exact same_next fw
    · exact (same_next fw).trans (paragraphLoop_same cfg so fuel _ _ r h')

theorem readParagraph_ok {cfg : Cfg} {so : Bool} {fw : FW} {l0 : Str} {r : List Str × Bool × FW}
    (h : readParagraph cfg so fw l0 = .ok r) :
    ∃ buf, paragraphLoop cfg so (fw.remaining + 1) fw.next [l0] = .ok (buf, r.2.1, r.2.2) ∧ r.1 = buf.reverse := by
  unfold readParagraph at h
  cases hl : paragraphLoop cfg so (fw.remaining + 1) fw.next [l0] with
  | err e => rw [hl] at h; cases h
  | ok x => rw [hl] at h; cases h; exact ⟨x.1, rfl, rfl⟩

theorem readParagraph_same (cfg : Cfg) (so : Bool) (fw : FW) (l0 : Str) (r) (h : readParagraph cfg so fw l0 = .ok r) :
    Same fw r.2.2 := by
  obtain ⟨buf, heq, _⟩ := readParagraph_ok h
  exact (same_next fw).trans (paragraphLoop_same cfg so _ _ _ (buf, _, _) heq)

/-! ### `Quote.read` and `ListItem.read` up to the nested call

  `ItemLines.fw` and `ItemLines.cursor` are the same projection (`itemLines_cursor_fw`); Locality speaks `cursor`. -/

def ItemLines.fw : ItemLines → FW
  | .empty _ _ _ _ _ _ fw => fw
  | .lines _ _ _ _ _ _ _ _ fw => fw

def ItemLines.cursor : ItemLines → FW
  | .empty _ _ _ _ _ _ fw => fw
  | .lines _ _ _ _ _ _ _ _ fw => fw

theorem itemLines_cursor_fw (il : ItemLines) : il.cursor = il.fw := by cases il <;> rfl

def ItemLines.next : ItemLines → Option (Nat × Nat × Str × Str)
  | .empty _ _ _ _ _ n _ => n
  | .lines _ _ _ _ _ _ _ n _ => n

def ItemLines.itemLeader : ItemLines → Str
  | .empty _ _ ld _ _ _ _ => ld
  | .lines _ _ _ _ ld _ _ _ _ => ld

def ItemLines.buf : ItemLines → List Line
  | .empty _ _ _ _ _ _ _ => []
  | .lines b _ _ _ _ _ _ _ _ => b

/-- The cases: stopped where it stands; took the line cut behind its marker; took it whole, as a lazy continuation. -/
theorem quoteLoop_ok {cfg : Cfg} {fuel : Nat} {fw : FW} {buf : List Line} {fl : QFlags} {r : List Line × FW}
    (h : quoteLoop cfg (fuel + 1) fw buf fl = .ok r) :
    r = (buf, fw) ∨ ∃ l, fw.peek = some l ∧ isBlank l.s = false ∧
      ((∃ t c1, convertLeadingTabs (lstrip l.s) = .ok t ∧ t[1]? = some c1 ∧
          quoteLoop cfg fuel fw.next ({ s := t.drop (if c1 = ' ' then 2 else 1), origin := l.origin } :: buf)
            (qflags (t.drop (if c1 = ' ' then 2 else 1))) = .ok r) ∨
        quoteLoop cfg fuel fw.next (l :: buf) fl = .ok r) := by
  simp only [quoteLoop] at h
  split at h
  · cases h; exact .inl rfl
  · rename_i l hp
    split at h
    · cases h; exact .inl rfl
    · rename_i hb
      split at h
      · cases h
      · cases h; exact .inl rfl
      · split at h
        · cases h
        · rename_i t hcv
          split at h
          · cases h
          · split at h
            · split at h
              · cases h
              · rename_i c1 h1
                exact .inr ⟨l, hp, by simpa using hb, .inl ⟨_, c1, hcv, h1, h⟩⟩
            · split at h
              · cases h; exact .inl rfl
              · exact .inr ⟨l, hp, by simpa using hb, .inr h⟩

theorem quoteLines_ok {cfg : Cfg} {fw : FW} {l0 : Line} {r : List Line × Nat × FW} (h : quoteLines cfg fw l0 = .ok r) :
    ∃ t a after buf fw2, convertLeadingTabs (lstrip l0.s) = .ok t ∧ splitOnce '>' t = some (a, after) ∧
      quoteLoop cfg (fw.remaining + 1) fw.next [{ s := match after with | ' ' :: r => r | r => r, origin := l0.origin }]
        (qflags (match after with | ' ' :: r => r | r => r)) = .ok (buf, fw2) ∧
      r = (buf.reverse, fw.next.lineNumber, fw2) := by
  unfold quoteLines at h
  split at h
  · cases h
  · rename_i t hcv
    split at h
    · cases h
    · rename_i a after hso
      simp only at h
      split at h
      · cases h
      · rename_i buf fw2 heq
        cases h
        exact ⟨t, a, after, buf, fw2, hcv, hso, heq, rfl⟩

theorem dropTrailing_same (fw : FW) (buf : List Line) (nl : Nat) : Same fw (dropTrailing fw buf nl).1 := by
  unfold dropTrailing; split
  · exact same_backstep fw
  · exact Same.refl fw

theorem dropTrailing_buf (fw : FW) (buf : List Line) (nl : Nat) : ∃ k, (dropTrailing fw buf nl).2 = buf.drop k := by
  unfold dropTrailing; split
  · exact ⟨nl, rfl⟩
  · exact ⟨0, by simp⟩

theorem dropTrailing_pos (fw : FW) (buf : List Line) (nl : Nat) :
    (dropTrailing fw buf nl).1.pos = if nl > 0 then fw.pos - 1 else fw.pos := by
  unfold dropTrailing; split <;> rfl

/-- The cases: stopped and dropped the trailing blank lines; took the line cut as a continuation line; stopped in front
    of the next marker; took the line whole as a lazy continuation, which is only possible right after a non-blank line. -/
theorem itemLoop_ok {cfg : Cfg} {prepend fuel : Nat} {fw : FW} {buf : List Line} {nl : Nat}
    {r : List Line × FW × Option (Nat × Nat × Str × Str)} (h : itemLoop cfg prepend (fuel + 1) fw buf nl = .ok r) :
    r = ((dropTrailing fw buf nl).2, (dropTrailing fw buf nl).1, none) ∨ ∃ l, fw.peek = some l ∧
      ((∃ cont, parseContinuation l.s prepend = some cont ∧
          itemLoop cfg prepend fuel fw.next ({ s := cont, origin := l.origin } :: buf) (if cont == ['\n'] then nl + 1 else 0) = .ok r) ∨
        (∃ m, parseMarker l.s = some m ∧ r = (buf, fw, some m)) ∨
        (nl = 0 ∧ itemLoop cfg prepend fuel fw.next (l :: buf) (if l.s == ['\n'] then nl + 1 else 0) = .ok r)) := by
  simp only [itemLoop] at h
  split at h
  · cases h; exact .inl rfl
  · rename_i l hp
    split at h
    · rename_i cont hcont
      split at h
      · cases h
      · exact .inr ⟨l, hp, .inl ⟨cont, hcont, h⟩⟩
    · split at h
      · cases h
      · cases h; exact .inl rfl
      · split at h
        · rename_i m hm
          cases h; exact .inr ⟨l, hp, .inr (.inl ⟨m, hm, rfl⟩)⟩
        · split at h
          · cases h; exact .inl rfl
          · exact .inr ⟨l, hp, .inr (.inr ⟨by omega, h⟩)⟩

/-- The three ways `ListItem.read` gets its lines: the marker is followed by two blank lines (an empty
    item); by one (the content starts on the line after it); or by content on its own line. -/
theorem itemLines_ok {cfg : Cfg} {fw : FW} {prev : Option (Nat × Nat × Str × Str)} {il : ItemLines}
    (h : itemLines cfg fw prev = .ok il) :
    ∃ l0 ind pre0 ld content, fw.peek = some l0 ∧
      (match prev with | some m => some m | none => parseMarker l0.s) = some (ind, pre0, ld, content) ∧
      ((isBlank content = true ∧ 1 < (skipBlanks (fw.remaining + 1) fw.next 1).2 ∧
          il = .empty ind (ind + ld.length + 1) ld fw.next.lineNumber l0.origin
            (match (skipBlanks (fw.remaining + 1) fw.next 1).1.peek with | some l => parseMarker l.s | none => none)
            (skipBlanks (fw.remaining + 1) fw.next 1).1) ∨
       (isBlank content = true ∧ (skipBlanks (fw.remaining + 1) fw.next 1).2 ≤ 1 ∧ ∃ buf fw3 next,
          itemLoop cfg (ind + ld.length + 1) (fw.remaining + 1) (skipBlanks (fw.remaining + 1) fw.next 1).1 [] 0 = .ok (buf, fw3, next) ∧
          il = .lines buf.reverse (fw.next.lineNumber + 1) ind (ind + ld.length + 1) ld fw.next.lineNumber l0.origin next fw3) ∨
       (isBlank content = false ∧ ∃ buf fw3 next,
          itemLoop cfg pre0 (fw.remaining + 1) fw.next [{ s := content, origin := l0.origin }] 0 = .ok (buf, fw3, next) ∧
          il = .lines buf.reverse fw.next.lineNumber ind pre0 ld fw.next.lineNumber l0.origin next fw3)) := by
  unfold itemLines at h
  split at h
  · cases h
  · rename_i l0 hp
    simp only at h
    split at h
    · cases h
    · rename_i ind pre0 ld content hmk
      refine ⟨l0, ind, pre0, ld, content, hp, hmk, ?_⟩
      split at h
      · rename_i hb
        split at h
        · rename_i hk
          cases h; exact .inl ⟨hb, hk, rfl⟩
        · split at h
          · cases h
          · rename_i buf fw3 next heq
            cases h; exact .inr (.inl ⟨hb, by omega, buf, fw3, next, heq, rfl⟩)
      · rename_i hb
        split at h
        · cases h
        · rename_i buf fw3 next heq
          cases h; exact .inr (.inr ⟨by simpa using hb, buf, fw3, next, heq, rfl⟩)

theorem quoteLoop_fwd (cfg : Cfg) : ∀ (fuel : Nat) (fw : FW) (buf : List Line) (fl : QFlags) (r),
    quoteLoop cfg fuel fw buf fl = .ok r → Same fw r.2 ∧ fw.pos ≤ r.2.pos
  | 0, _, _, _, _, h => by simp [quoteLoop] at h
  | fuel + 1, fw, buf, fl, r, h => by
    have step : ∀ buf' fl', quoteLoop cfg fuel fw.next buf' fl' = .ok r → Same fw r.2 ∧ fw.pos ≤ r.2.pos :=
      fun buf' fl' h' =>
        have ih := quoteLoop_fwd cfg fuel fw.next buf' fl' r h'
        ⟨(same_next fw).trans ih.1, Nat.le_trans (Nat.le_succ _) ih.2⟩
    rcases quoteLoop_ok h with rfl | ⟨l, _, _, ⟨_, _, _, _, h'⟩ | h'⟩
    · exact ⟨Same.refl fw, Nat.le_refl _⟩
    · exact step _ _ h'
    · exact step _ _ h'

theorem quoteLines_fwd (cfg : Cfg) (fw : FW) (l0 : Line) (r) (h : quoteLines cfg fw l0 = .ok r) :
    Same fw r.2.2 ∧ fw.pos < r.2.2.pos := by
  obtain ⟨_, _, _, buf, fw2, _, _, heq, rfl⟩ := quoteLines_ok h
  have := quoteLoop_fwd cfg _ _ _ _ _ heq
  exact ⟨(same_next fw).trans this.1, this.2⟩

/-- The cursor `ListItem.read`'s loop returns is not before `p1` if it started at `p1` or later — one line later when
    `nl > 0`, since `dropTrailing` steps back one line exactly then (`dropTrailing_pos`). -/
theorem itemLoop_fwd (cfg : Cfg) (prepend : Nat) : ∀ (fuel : Nat) (fw : FW) (buf : List Line) (nl : Nat) (p1 : Nat) (r),
    itemLoop cfg prepend fuel fw buf nl = .ok r → p1 + min nl 1 ≤ fw.pos →
    Same fw r.2.1 ∧ p1 ≤ r.2.1.pos
  | 0, _, _, _, _, _, h, _ => by simp [itemLoop] at h
  | fuel + 1, fw, buf, nl, p1, r, h, hp1 => by
    have hn : fw.next.pos = fw.pos + 1 := rfl
    have step : ∀ buf' nl', itemLoop cfg prepend fuel fw.next buf' nl' = .ok r → Same fw r.2.1 ∧ p1 ≤ r.2.1.pos :=
      fun buf' nl' h' =>
        have ih := itemLoop_fwd cfg prepend fuel fw.next buf' nl' p1 r h' (by rw [hn]; omega)
        ⟨(same_next fw).trans ih.1, ih.2⟩
    rcases itemLoop_ok h with rfl | ⟨l, _, ⟨_, _, h'⟩ | ⟨m, _, rfl⟩ | ⟨_, h'⟩⟩
    · refine ⟨dropTrailing_same fw buf nl, ?_⟩
      show p1 ≤ (dropTrailing fw buf nl).1.pos
      rw [dropTrailing_pos]
      split <;> omega
    · exact step _ _ h'
    · exact ⟨Same.refl fw, by show p1 ≤ fw.pos; omega⟩
    · exact step _ _ h'

theorem itemLines_fwd (cfg : Cfg) (fw : FW) (prev) (il : ItemLines) (h : itemLines cfg fw prev = .ok il) :
    Same fw il.fw ∧ fw.pos < il.fw.pos := by
  have hn : fw.next.pos = fw.pos + 1 := rfl
  have hsk := skipBlanks_inv (fw.remaining + 1) fw.next 1
  obtain ⟨_, _, _, _, _, _, _, hcase⟩ := itemLines_ok h
  rcases hcase with ⟨_, _, rfl⟩ | ⟨_, _, buf, fw3, next, heq, rfl⟩ | ⟨_, buf, fw3, next, heq, rfl⟩
  · exact ⟨(same_next fw).trans hsk.1, by have := hsk.2.1; simp only [ItemLines.fw]; omega⟩
  · have := itemLoop_fwd cfg _ _ _ _ _ (fw.pos + 1) _ heq (by have := hsk.2.1; omega)
    exact ⟨((same_next fw).trans hsk.1).trans this.1, this.2⟩
  · have := itemLoop_fwd cfg _ _ _ _ _ (fw.pos + 1) _ heq (by rw [hn]; omega)
    exact ⟨(same_next fw).trans this.1, this.2⟩

/-- the marker `List.read` hands to `ListItem.read` (`prev_marker`), and the one `ListItem.read` hands back
    (`next_marker`), is the marker of the line under the cursor -/
def MarkerAt (fw : FW) (nm : Option (Nat × Nat × Str × Str)) : Prop :=
  ∀ m, nm = some m → ∃ l, fw.peek = some l ∧ parseMarker l.s = some m

theorem MarkerAt.none (fw : FW) : MarkerAt fw none := nofun

theorem itemLoop_next_marker (cfg : Cfg) (prepend : Nat) : ∀ (fuel : Nat) (fw : FW) (buf : List Line) (nl : Nat) (r),
    itemLoop cfg prepend fuel fw buf nl = .ok r → MarkerAt r.2.1 r.2.2
  | 0, _, _, _, _, h => by simp [itemLoop] at h
  | fuel + 1, fw, buf, nl, r, h => by
    rcases itemLoop_ok h with rfl | ⟨l, hp, ⟨_, _, h'⟩ | ⟨m0, hm0, rfl⟩ | ⟨_, h'⟩⟩
    · intro m hm; cases hm
    · exact itemLoop_next_marker cfg prepend fuel _ _ _ r h'
    · intro m hm; cases hm; exact ⟨l, hp, hm0⟩
    · exact itemLoop_next_marker cfg prepend fuel _ _ _ r h'

theorem itemLines_next_marker (cfg : Cfg) (fw : FW) (prev) (il : ItemLines) (h : itemLines cfg fw prev = .ok il) :
    MarkerAt il.fw il.next := by
  obtain ⟨_, _, _, _, _, _, _, hcase⟩ := itemLines_ok h
  rcases hcase with ⟨_, _, rfl⟩ | ⟨_, _, buf, fw3, next, heq, rfl⟩ | ⟨_, buf, fw3, next, heq, rfl⟩
  · intro m hm
    simp only [ItemLines.next] at hm
    split at hm
    · rename_i l hpk; exact ⟨l, hpk, hm⟩
    · cases hm
  · exact itemLoop_next_marker cfg _ _ _ _ _ _ heq
  · exact itemLoop_next_marker cfg _ _ _ _ _ _ heq

/-! ### Every line of every buffer ends with its only newline

  `Document.__init__` completes every line with '\n' (C15) and `Quote.read` / `ListItem.read` keep
  the terminator of the lines they cut a prefix off.  `Footnote.read` relies on it: it hands back
  `string.count('\n')` lines when no definition matches. -/

def NlEnd (s : Str) : Prop := ∃ body, s = body ++ ['\n'] ∧ '\n' ∉ body

theorem nlEnd_of_check (s : Str) (h : (s.getLast? == some '\n' && !s.dropLast.contains '\n') = true) : NlEnd s := by
  simp only [Bool.and_eq_true, beq_iff_eq, Bool.not_eq_eq_eq_not, Bool.not_true] at h
  have hne : s ≠ [] := by intro e; subst e; simp at h
  have hl : s.getLast hne = '\n' := by
    have := h.1
    rw [List.getLast?_eq_some_getLast hne] at this
    exact Option.some.inj this
  refine ⟨s.dropLast, ?_, ?_⟩
  · have := List.dropLast_concat_getLast hne
    rw [hl] at this; exact this.symm
  · intro hm
    have := h.2
    simp [hm] at this

theorem nlEnd_of_checks (ls : List Str) (h : ∀ s ∈ ls, (s.getLast? == some '\n' && !s.dropLast.contains '\n') = true) :
    ∀ s ∈ ls, NlEnd s := fun s hs => nlEnd_of_check s (h s hs)

theorem nlEnd_count (s : Str) (h : NlEnd s) : count '\n' s = 1 := by
  obtain ⟨body, rfl, hb⟩ := h
  unfold count
  rw [List.filter_append]
  have : body.filter (· == '\n') = [] := by
    rw [List.filter_eq_nil_iff]; intro c hc; simp; intro e; subst e; exact hb hc
  simp [this]

theorem nlEnd_ne_nil (s : Str) (h : NlEnd s) : s ≠ [] := by
  obtain ⟨body, rfl, _⟩ := h; simp

theorem nlEnd_suffix (s t : Str) (h : NlEnd s) (hs : t <:+ s) (ht : t ≠ []) : NlEnd t := by
  obtain ⟨body, rfl, hb⟩ := h
  obtain ⟨pre, hpre⟩ := hs
  rcases List.eq_nil_or_concat t with rfl | ⟨t', c, rfl⟩
  · exact absurd rfl ht
  · have : pre ++ t' ++ [c] = body ++ ['\n'] := by rw [← hpre]; simp
    have h2 := List.append_inj' this rfl
    have hc : c = '\n' := by simpa using h2.2
    subst hc
    refine ⟨t', by simp, ?_⟩
    intro hm
    apply hb
    rw [← h2.1]; exact List.mem_append_right _ hm

theorem nlEnd_prepend (pre t : Str) (hp : '\n' ∉ pre) (h : NlEnd t) : NlEnd (pre ++ t) := by
  obtain ⟨body, rfl, hb⟩ := h
  refine ⟨pre ++ body, by simp, ?_⟩
  intro hm
  rcases List.mem_append.mp hm with h1 | h1
  · exact hp h1
  · exact hb h1

def AllNlEnd (ls : List Line) : Prop := ∀ l ∈ ls, NlEnd l.s

theorem allNlEnd_nil : AllNlEnd [] := fun _ h => nomatch h

theorem allNlEnd_cons {l : Line} {ls : List Line} (h : NlEnd l.s) (hs : AllNlEnd ls) : AllNlEnd (l :: ls) := by
  intro x hx
  rcases List.mem_cons.mp hx with rfl | hx
  · exact h
  · exact hs x hx

theorem nlEnd_singleton {c : Char} (h : NlEnd [c]) : c = '\n' := by
  obtain ⟨body, hb, _⟩ := h
  cases body with
  | nil => simpa using hb
  | cons x xs => simp at hb

theorem nlEnd_getLast (s : Str) (h : NlEnd s) : s.getLast? = some '\n' := by
  obtain ⟨body, rfl, _⟩ := h; simp

/-- a complete line in terms of its text `t.dropLast`, which is how the renderers' output is written -/
theorem NlEnd.dropLast {t : Str} (h : NlEnd t) : t = t.dropLast ++ ['\n'] ∧ '\n' ∉ t.dropLast := by
  obtain ⟨u, rfl, hu⟩ := h
  rw [List.dropLast_concat]
  exact ⟨rfl, hu⟩

theorem nlEnd_append {a b : Str} (h : NlEnd (a ++ b)) (hb : b ≠ []) : NlEnd b ∧ '\n' ∉ a := by
  refine ⟨nlEnd_suffix _ _ h (List.suffix_append a b) hb, fun hm => ?_⟩
  obtain ⟨body, he, hn⟩ := h
  rcases List.eq_nil_or_concat b with rfl | ⟨b', c, rfl⟩
  · exact hb rfl
  · have := (List.append_inj' (show (a ++ b') ++ [c] = body ++ ['\n'] by simpa using he) rfl).1
    exact hn (this ▸ List.mem_append_left _ hm)

theorem nlEnd_tail (c : Char) (rest : Str) (h : NlEnd (c :: rest)) (hr : rest ≠ []) : NlEnd rest ∧ c ≠ '\n' :=
  have := nlEnd_append (a := [c]) (b := rest) h hr
  ⟨this.1, fun e => this.2 (by simp [e])⟩

/-! ### The string functions and scanners the readers use: what they return is an end of their input -/

theorem pyIsSpace_nl : pyIsSpace '\n' = true := by decide

theorem lstrip_head_ne_sp_tab (s : Str) (c : Char) (r : Str) (h : lstrip s = c :: r) : c ≠ ' ' ∧ c ≠ '\t' := by
  have := Strip.lstrip_head s c r h
  constructor <;> (rintro rfl; revert this; decide)

theorem span_suffix (p : Char → Bool) : ∀ (s : Str), (span p s).2 <:+ s
  | [] => List.suffix_refl _
  | c :: rest => by
    simp only [span]
    split
    · exact (span_suffix p rest).trans (List.suffix_cons c rest)
    · exact List.suffix_refl _

theorem span_all (p : Char → Bool) : ∀ (s : Str), ∀ x ∈ (span p s).1, p x = true
  | [] => by simp [span]
  | c :: rest => by
    simp only [span]
    split
    · rename_i hc
      intro x hx
      rcases List.mem_cons.mp hx with rfl | hx
      · exact hc
      · exact span_all p rest x hx
    · simp

theorem span_append (p : Char → Bool) : ∀ (s : Str), (span p s).1 ++ (span p s).2 = s
  | [] => by simp [span]
  | c :: rest => by
    simp only [span]
    split
    · simp [span_append p rest]
    · simp

theorem span_prefix (p : Char → Bool) : ∀ (a b : Str), (∀ x ∈ a, p x = true) → (∀ x, b.head? = some x → p x = false) →
    span p (a ++ b) = (a, b)
  | [], [], _, _ => rfl
  | [], c :: r, _, hb => by simp [span, hb c rfl]
  | c :: a, b, ha, hb => by
    have ih := span_prefix p a b (fun x hx => ha x (List.mem_cons_of_mem _ hx)) hb
    simp only [List.cons_append, span, ha c (by simp), if_true, ih]

/-- `span_prefix` in the form in which the scanners meet it -/
theorem span_run (p : Char → Bool) (e : Char) (r : Str) (he : p e = false) (d : Str) (h : ∀ x ∈ d, p x = true) :
    span p (d ++ e :: r) = (d, e :: r) :=
  span_prefix p d (e :: r) h (fun x hx => by cases hx; exact he)

theorem span_ws_rep (n : Nat) (c : Char) (rest : Str) (hc : pyIsSpace c = false) :
    span ws (List.replicate n ' ' ++ c :: rest) = (List.replicate n ' ', c :: rest) :=
  span_run ws c rest hc _ fun x hx => by rw [(List.mem_replicate.mp hx).2]; decide

theorem span_sptab_rep (n : Nat) (c : Char) (rest : Str) (h1 : c ≠ ' ') (h2 : c ≠ '\t') :
    span (fun c => c == ' ' || c == '\t') (List.replicate n ' ' ++ c :: rest) = (List.replicate n ' ', c :: rest) :=
  span_run _ c rest (by simp [h1, h2]) _ fun x hx => by rw [(List.mem_replicate.mp hx).2]; rfl

theorem span_neNl (body : Str) (tail : Str) (h : '\n' ∉ body) :
    span (· != '\n') (body ++ '\n' :: tail) = (body, '\n' :: tail) :=
  span_run _ '\n' tail rfl body fun x hx => by simpa using fun e : x = '\n' => h (e ▸ hx)

theorem span_all_true (p : Char → Bool) (s : Str) (h : ∀ x ∈ s, p x = true) : span p s = (s, []) := by
  simpa using span_prefix p s [] h (fun _ hx => nomatch hx)

theorem span_fst_nil (p : Char → Bool) (s : Str) (h : (span p s).1 = []) : (span p s).2 = s := by
  simpa [h] using span_append p s

theorem span_fst_ne_nil_mono (p q : Char → Bool) (hpq : ∀ c, p c = true → q c = true) (s : Str)
    (h : (span p s).1 ≠ []) : (span q s).1 ≠ [] := by
  cases s with
  | nil => simp [span] at h
  | cons c rest =>
    simp only [span] at h ⊢
    by_cases hc : p c = true
    · simp [hpq c hc]
    · simp [hc] at h

theorem span_head (p : Char → Bool) (s : Str) (h : (span p s).1 ≠ []) : ∃ c r, s = c :: r ∧ p c = true := by
  cases s with
  | nil => simp [span] at h
  | cons c r =>
    refine ⟨c, r, rfl, ?_⟩
    cases hp : p c with
    | true => rfl
    | false => simp [span, hp] at h

theorem span_snd_len (p : Char → Bool) (s : Str) : (span p s).2.length ≤ s.length :=
  (span_suffix p s).length_le

theorem span_snd_lt (p : Char → Bool) (s : Str) (h : (span p s).1 ≠ []) : (span p s).2.length < s.length := by
  have := congrArg List.length (span_append p s)
  simp only [List.length_append] at this
  have : 1 ≤ (span p s).1.length := by
    cases hh : (span p s).1 with
    | nil => exact absurd hh h
    | cons x xs => simp
  omega

theorem count_append (ch : Char) (a b : Str) : count ch (a ++ b) = count ch a + count ch b := by
  simp [count, List.filter_append]

theorem count_le_cons (ch c : Char) (r : Str) : count ch r ≤ count ch (c :: r) := by
  unfold count
  simp only [List.filter_cons]
  split <;> simp

theorem count_drop_lt (ch : Char) : ∀ (s : Str) (j : Nat), s[j]? = some ch → count ch (s.drop (j + 1)) < count ch s
  | [], _, h => by simp at h
  | c :: r, 0, h => by
    simp only [List.getElem?_cons_zero, Option.some.injEq] at h
    subst h
    simp [count]
  | c :: r, j + 1, h => by
    simp only [List.getElem?_cons_succ] at h
    have := count_drop_lt ch r j h
    have h2 := count_le_cons ch c r
    simp only [List.drop_succ_cons]
    omega

theorem count_drop_le (ch : Char) (s : Str) (n : Nat) : count ch (s.drop n) ≤ count ch s := by
  have : s = s.take n ++ s.drop n := (List.take_append_drop n s).symm
  conv => rhs; rw [this, count_append]
  omega

theorem count_flatten_nl : ∀ (ls : List Str), (∀ x ∈ ls, NlEnd x) → count '\n' ls.flatten = ls.length
  | [], _ => by simp [count]
  | x :: xs, h => by
    rw [List.flatten_cons, count_append, nlEnd_count x (h x (by simp)),
      count_flatten_nl xs (fun y hy => h y (List.mem_cons_of_mem _ hy))]
    simp only [List.length_cons]; omega

theorem countLeading_spec (ch : Char) : ∀ (s : Str), List.replicate (countLeading ch s) ch ++ s.drop (countLeading ch s) = s
  | [] => by simp [countLeading]
  | c :: rest => by
    simp only [countLeading]
    split
    · rename_i hc; subst hc
      simp [List.replicate_succ, countLeading_spec c rest]
    · simp

theorem isBlank_replicate_sp (k : Nat) : isBlank (List.replicate k ' ') = true := by
  simp only [isBlank, List.all_eq_true, List.mem_replicate]
  rintro x ⟨_, rfl⟩; decide

theorem expandtabs_no_nl : ∀ (s : Str) (col : Nat), '\n' ∉ s → '\n' ∉ expandtabsAux s col
  | [], _, _ => by simp [expandtabsAux]
  | c :: rest, col, h => by
    have hc : c ≠ '\n' := fun e => h (by simp [e])
    have hr : '\n' ∉ rest := fun e => h (List.mem_cons_of_mem _ e)
    simp only [expandtabsAux]
    split
    · simp only [List.mem_append, List.mem_replicate, not_or]
      exact ⟨by rintro ⟨_, e⟩; exact absurd e (by decide), expandtabs_no_nl rest _ hr⟩
    · split
      · simp only [List.mem_cons, not_or]
        exact ⟨fun e => hc e.symm, expandtabs_no_nl rest _ hr⟩
      · simp only [List.mem_cons, not_or]
        exact ⟨fun e => hc e.symm, expandtabs_no_nl rest _ hr⟩

theorem splitOnce_spec (ch : Char) : ∀ (t a b : Str), splitOnce ch t = some (a, b) → t = a ++ ch :: b
  | [], _, _, h => by simp [splitOnce] at h
  | c :: rest, a, b, h => by
    simp only [splitOnce] at h
    split at h
    · cases h; rename_i hc; simp [hc]
    · split at h
      · rename_i a' b' heq
        have := splitOnce_spec ch rest a' b' heq
        cases h
        simp [this]
      · cases h

theorem replaceFirst_spec (pat rep : Str) : ∀ (s : Str),
    replaceFirst pat rep s = s ∨ ∃ a b, s = a ++ pat ++ b ∧ replaceFirst pat rep s = a ++ rep ++ b
  | [] => Or.inl rfl
  | c :: rest => by
    simp only [replaceFirst]
    split
    · rename_i hc
      simp only [Bool.and_eq_true] at hc
      obtain ⟨b, hb⟩ := List.isPrefixOf_iff_prefix.mp hc.1
      refine Or.inr ⟨[], b, by simpa using hb.symm, ?_⟩
      rw [← hb]; simp
    · rcases replaceFirst_spec pat rep rest with h | ⟨a, b, h1, h2⟩
      · exact Or.inl (by rw [h])
      · exact Or.inr ⟨c :: a, b, by simp [h1], by simp [h2]⟩

theorem convertLeadingTabs_ne (s t : Str) (h : convertLeadingTabs s = .ok t) : s ≠ [] := by
  intro e; subst e
  simp [convertLeadingTabs, replaceFirst] at h

theorem dropSp_nl : ∀ (after : Str), NlEnd after → NlEnd (match after with | ' ' :: r => r | r => r) := by
  intro after h2
  split
  · rename_i r
    have : r ≠ [] := fun e => by subst e; exact absurd (nlEnd_singleton h2) (by decide)
    exact (nlEnd_tail ' ' r h2 this).1
  · exact h2

theorem listMarker_decomp (r m r1 : Str) (h : listMarker r = some (m, r1)) : r = m ++ r1 ∧ m ≠ [] := by
  unfold listMarker at h
  split at h
  · cases h
  · rename_i c rst
    split at h
    · cases h; exact ⟨rfl, by simp⟩
    · simp only at h
      split at h
      · cases h
      · split at h
        · rename_i e r2 he
          split at h
          · cases h
            have := span_append isDigit (c :: rst)
            rw [he] at this
            exact ⟨by simp only [List.append_assoc, List.cons_append, List.nil_append]; exact this.symm, by simp⟩
          · cases h
        · cases h

theorem listItem_decomp (line : Str) (m : ItemMatch) (h : listItem line = some m) :
    line = m.g1 ++ m.g2 ++ m.g3 ++ m.rest ∧ m.g2 ≠ [] := by
  unfold listItem at h
  split at h
  · cases h
  · rename_i n r hu
    have hr : line = List.replicate n ' ' ++ r := by
      unfold upTo3Spaces at hu
      simp only at hu
      split at hu
      · cases hu
      · cases hu; exact (countLeading_spec ' ' line).symm
    split at h
    · cases h
    · rename_i mk r1 hm
      have h1 := listMarker_decomp r mk r1 hm
      split at h
      · cases h; simp only [List.append_nil]; rw [hr, h1.1]; exact ⟨by simp, h1.2⟩
      · simp only at h
        split at h
        · cases h
        · cases h
          simp only
          have := span_append ws r1
          refine ⟨?_, h1.2⟩
          rw [hr, h1.1]
          conv => lhs; rw [← this]
          simp

/-! ### The weight of a line and of a buffer

  `convert_leading_tabs`, `parse_marker` and `parse_continuation` expand tabs to up to four spaces, so the number of
  characters handed to a nested tokenizer need not decrease.  A tab therefore weighs 4 and every other character 1
  (`cw`); `sw` is the weight of a string, `lw` of a buffer, `rw'` of the lines from the cursor on. -/

def cw (c : Char) : Nat := if c = '\t' then 4 else 1

def sw : Str → Nat
  | [] => 0
  | c :: r => cw c + sw r

def lw : List Line → Nat
  | [] => 0
  | l :: r => sw l.s + lw r

theorem cw_pos (c : Char) : 1 ≤ cw c := by unfold cw; split <;> omega

theorem sw_append : ∀ (a b : Str), sw (a ++ b) = sw a + sw b
  | [], b => by simp [sw]
  | c :: a, b => by simp only [List.cons_append, sw, sw_append a b]; omega

theorem sw_replicate_sp : ∀ (n : Nat), sw (List.replicate n ' ') = n
  | 0 => rfl
  | n + 1 => by
    simp only [List.replicate_succ, sw, sw_replicate_sp n]
    have : cw ' ' = 1 := by decide
    omega

theorem length_le_sw : ∀ (s : Str), s.length ≤ sw s
  | [] => Nat.le_refl _
  | c :: r => by have := length_le_sw r; have := cw_pos c; simp only [List.length_cons, sw]; omega

theorem sw_suffix_le (t s : Str) (h : t <:+ s) : sw t ≤ sw s := by
  obtain ⟨p, rfl⟩ := h; rw [sw_append]; omega

theorem sw_drop_le (s : Str) (k : Nat) : sw (s.drop k) ≤ sw s := sw_suffix_le _ _ (List.drop_suffix k s)

theorem sw_pos_of_nlEnd (s : Str) (h : NlEnd s) : 1 ≤ sw s := by
  have := length_le_sw s
  have := nlEnd_ne_nil s h
  cases s with
  | nil => exact absurd rfl this
  | cons c r => simp only [List.length_cons] at *; omega

theorem lw_append : ∀ (a b : List Line), lw (a ++ b) = lw a + lw b
  | [], b => by simp [lw]
  | c :: a, b => by simp only [List.cons_append, lw, lw_append a b]; omega

theorem lw_reverse : ∀ (a : List Line), lw a.reverse = lw a
  | [] => rfl
  | c :: a => by simp only [List.reverse_cons, lw_append, lw, lw_reverse a]; omega

theorem lw_drop_le (a : List Line) (k : Nat) : lw (a.drop k) ≤ lw a := by
  have := lw_append (a.take k) (a.drop k)
  rw [List.take_append_drop] at this; omega

theorem length_le_lw : ∀ (a : List Line), AllNlEnd a → a.length ≤ lw a
  | [], _ => Nat.le_refl _
  | l :: a, h => by
    have h1 := sw_pos_of_nlEnd l.s (h l (by simp))
    have h2 := length_le_lw a (fun x hx => h x (List.mem_cons_of_mem _ hx))
    simp only [List.length_cons, lw]; omega

def rw' (fw : FW) : Nat := lw (fw.lines.drop fw.pos)

theorem rw_peek (fw : FW) (l : Line) (hp : fw.peek = some l) : rw' fw = sw l.s + rw' fw.next := by
  unfold rw'
  rw [drop_peek fw l hp]
  rfl

theorem rw_le (fw : FW) : rw' fw ≤ lw fw.lines := lw_drop_le _ _

theorem rw_mono (a b : FW) (hs : Same a b) (hp : a.pos ≤ b.pos) : rw' b ≤ rw' a := by
  unfold rw'
  rw [hs.1]
  have : b.pos = a.pos + (b.pos - a.pos) := by omega
  rw [this, ← List.drop_drop]
  exact lw_drop_le _ _

theorem sw_expandtabs_le : ∀ (s : Str) (col : Nat), sw (expandtabsAux s col) ≤ sw s
  | [], _ => by simp [expandtabsAux]
  | c :: rest, col => by
    simp only [expandtabsAux]
    split
    · rename_i hc; subst hc
      have := sw_expandtabs_le rest (col + (4 - col % 4))
      have h4 : cw '\t' = 4 := by decide
      simp only [sw_append, sw_replicate_sp, sw, h4]; omega
    · split
      · have := sw_expandtabs_le rest 0; simp only [sw]; omega
      · have := sw_expandtabs_le rest (col + 1); simp only [sw]; omega

/-- the scan of `convert_leading_tabs` over a string that holds a character other than tab and space stops inside the
    string, and the columns it has counted weigh what it has passed -/
theorem clt_go_spec : ∀ (t : Str) (j c : Nat), (∃ x ∈ t, x ≠ '\t' ∧ x ≠ ' ') →
    (convertLeadingTabs.go t j c).2.1 + sw (t.drop ((convertLeadingTabs.go t j c).1 - j)) = c + sw t ∧
    j ≤ (convertLeadingTabs.go t j c).1 ∧ (convertLeadingTabs.go t j c).1 < j + t.length
  | [], _, _, h => by obtain ⟨x, hx, _⟩ := h; cases hx
  | y :: rest, j, c, h => by
    have tail : y = '\t' ∨ y = ' ' → ∃ x ∈ rest, x ≠ '\t' ∧ x ≠ ' ' := fun hy => by
      obtain ⟨x, hx, h1, h2⟩ := h
      rcases List.mem_cons.mp hx with rfl | hx
      · exact (hy.elim h1 h2).elim
      · exact ⟨x, hx, h1, h2⟩
    -- one more blank passed: `w` columns counted for a character of weight `w`
    have step : ∀ w, cw y = w → (∃ x ∈ rest, x ≠ '\t' ∧ x ≠ ' ') →
        (convertLeadingTabs.go rest (j + 1) (c + w)).2.1 + sw ((y :: rest).drop ((convertLeadingTabs.go rest (j + 1) (c + w)).1 - j)) =
          c + sw (y :: rest) ∧ j ≤ (convertLeadingTabs.go rest (j + 1) (c + w)).1 ∧
        (convertLeadingTabs.go rest (j + 1) (c + w)).1 < j + (y :: rest).length := fun w hw hex => by
      obtain ⟨h1, h2, h3⟩ := clt_go_spec rest (j + 1) (c + w) hex
      refine ⟨?_, by omega, by simp only [List.length_cons]; omega⟩
      have e : (convertLeadingTabs.go rest (j + 1) (c + w)).1 - j = ((convertLeadingTabs.go rest (j + 1) (c + w)).1 - (j + 1)) + 1 := by
        omega
      rw [e, List.drop_succ_cons]
      simp only [sw]; omega
    simp only [convertLeadingTabs.go]
    split
    · rename_i hy
      exact step 4 (by rw [hy]; rfl) (tail (.inl hy))
    · split
      · rename_i hy
        exact step 1 (by rw [hy]; rfl) (tail (.inr hy))
      · simp

/-! ### What `Quote.read` and `ListItem.read` hand to the nested tokenizer

  `Cut k s t`: `t` ends with a non-empty end `u` of the line `s`; what stands before `u` in `t` holds no newline and
  weighs at least `k` less than what stood before `u` in `s`.  Every piece a reader makes of a complete line is such a
  cut, hence "complete lines again" (`Cut.nlEnd`) and "lighter" (`Cut.sw_le`) are two lemmas about `Cut`.
  `Reads` (below, with the reader loops) says of the buffer a loop returns that it is made of such pieces. -/

def Cut (k : Nat) (s t : Str) : Prop :=
  ∃ mid u, u <:+ s ∧ u ≠ [] ∧ t = mid ++ u ∧ '\n' ∉ mid ∧ sw mid + sw u + k ≤ sw s

theorem Cut.nlEnd {k : Nat} {s t : Str} (h : Cut k s t) (hs : NlEnd s) : NlEnd t := by
  obtain ⟨mid, u, hu, hne, rfl, hm, _⟩ := h
  exact nlEnd_prepend _ _ hm (nlEnd_suffix _ _ hs hu hne)

theorem Cut.sw_le {k : Nat} {s t : Str} (h : Cut k s t) : sw t + k ≤ sw s := by
  obtain ⟨mid, u, _, _, rfl, _, hw⟩ := h
  simp only [sw_append]; omega

theorem Cut.of_suffix {s t : Str} (h : t <:+ s) (hne : t ≠ []) : Cut 0 s t :=
  ⟨[], t, h, hne, rfl, by simp, by have := sw_suffix_le _ _ h; simp only [sw]; omega⟩

theorem Cut.suffix {k : Nat} {s t t' : Str} (h : Cut k s t) (ht : t' <:+ t) (hne : t' ≠ []) : Cut k s t' := by
  obtain ⟨mid, u, hu, hune, rfl, hm, hw⟩ := h
  obtain ⟨p, hp⟩ := ht
  rcases List.append_eq_append_iff.mp hp with ⟨a, rfl, rfl⟩ | ⟨c, rfl, rfl⟩
  · exact ⟨a, u, hu, hune, rfl, fun e => hm (List.mem_append_right _ e), by
      simp only [sw_append] at hw; omega⟩
  · exact ⟨[], t', (List.suffix_append c t').trans hu, hne, rfl, by simp, by
      simp only [sw_append, sw] at *; omega⟩

theorem Cut.tail {k : Nat} {s t t' : Str} {c : Char} (h : Cut k s t) (ht : c :: t' <:+ t) (hne : t' ≠ []) : Cut (k + 1) s t' := by
  obtain ⟨mid, u, hu, hune, e, hm, hw⟩ := h.suffix ht (by simp)
  have hc := cw_pos c
  cases mid with
  | nil =>
    cases e
    exact ⟨[], t', (List.suffix_cons c t').trans hu, hne, rfl, by simp, by simp only [sw] at *; omega⟩
  | cons d m =>
    cases e
    exact ⟨m, u, hu, hune, rfl, fun e => hm (List.mem_cons_of_mem _ e), by simp only [sw] at *; omega⟩

/-! ### `Quote.read`: the marker and what `convert_leading_tabs` does to the line -/

/-- `convert_leading_tabs` on a line that begins with neither a space nor a tab (as after `lstrip`) -/
theorem convertLeadingTabs_cut {s s0 t : Str} (hs : NlEnd s) (h0 : s0 <:+ s) (hhead : ∀ c r, s0 = c :: r → c ≠ ' ' ∧ c ≠ '\t')
    (h : convertLeadingTabs s0 = .ok t) : Cut 0 s t ∧ t.head? = s0.head? := by
  have hne := convertLeadingTabs_ne _ _ h
  have hn0 := nlEnd_suffix _ _ hs h0 hne
  have hw0 := sw_suffix_le _ _ h0
  -- a line whose first character is no blank is returned as `replace` left it
  have keep : ∀ c r, replaceFirst ['>', '\t'] [' ', ' ', ' '] s0 = c :: r → c ≠ ' ' → c ≠ '\t' → t = c :: r := by
    intro c r e h1 h2
    simp only [convertLeadingTabs, e, List.isEmpty_cons, Bool.false_eq_true, if_false, convertLeadingTabs.go, if_neg h2, if_neg h1,
      if_true, Res.ok.injEq] at h
    exact h.symm
  rcases replaceFirst_spec ['>', '\t'] [' ', ' ', ' '] s0 with e | ⟨a, b, e0, e⟩
  · match s0, hne, hhead, e, keep with
    | c :: r, _, hhead, e, keep =>
      rw [keep c r e (hhead c r rfl).1 (hhead c r rfl).2]
      exact ⟨Cut.of_suffix h0 (by simp), rfl⟩
  · simp only [List.append_assoc, List.cons_append, List.nil_append] at e0 e
    have hb : b ≠ [] := by
      intro eb
      have := nlEnd_getLast _ hn0
      rw [e0, eb] at this; simp at this
    have hab := nlEnd_append (a := a ++ ['>', '\t']) (b := b) (by simpa [e0] using hn0) hb
    have hbs : b <:+ s := (show b <:+ s0 from ⟨a ++ ['>', '\t'], by simp [e0]⟩).trans h0
    have h4 : cw '\t' = 4 := by decide
    cases a with
    | cons c a' =>
      rw [keep c (a' ++ ' ' :: ' ' :: ' ' :: b) e (hhead c _ e0).1 (hhead c _ e0).2]
      refine ⟨⟨c :: a' ++ [' ', ' ', ' '], b, hbs, hb, by simp, ?_, ?_⟩, by rw [e0]; rfl⟩
      · intro hm
        rcases List.mem_append.mp hm with hm | hm
        · exact hab.2 (List.mem_append_left _ hm)
        · revert hm; decide
      · rw [e0] at hw0
        simp only [List.cons_append, sw_append, sw, h4, show cw ' ' = 1 from rfl, show cw '>' = 1 from rfl] at hw0 ⊢
        omega
    | nil =>
      have hex : ∃ x ∈ b, x ≠ '\t' ∧ x ≠ ' ' := by
        obtain ⟨body, hbb, _⟩ := hab.1
        exact ⟨'\n', by rw [hbb]; simp, by decide, by decide⟩
      obtain ⟨hsp, hge, hlt⟩ := clt_go_spec b 3 3 hex
      simp only [List.nil_append] at e e0
      simp only [convertLeadingTabs, e, List.isEmpty_cons, Bool.false_eq_true, if_false, convertLeadingTabs.go,
        show (' ' : Char) = '\t' ↔ False from by decide, if_true] at h
      generalize convertLeadingTabs.go b 3 3 = g at h hsp hge hlt
      obtain ⟨i, cnt, fl⟩ := g
      simp only at h hsp hge hlt
      rw [if_neg (by omega)] at h
      cases h
      have hd : List.drop i (' ' :: ' ' :: ' ' :: b) = b.drop (i - 3) := by
        obtain ⟨m, rfl⟩ : ∃ m, i = m + 3 := ⟨i - 3, by omega⟩
        simp
      refine ⟨⟨'>' :: List.replicate cnt ' ', b.drop (i - 3), (List.drop_suffix _ _).trans hbs, ?_, by simp [hd], ?_, ?_⟩,
        by rw [e0]; rfl⟩
      · intro ed; have := List.drop_eq_nil_iff.mp ed; omega
      · simp only [List.mem_cons, List.mem_replicate]
        rintro (ec | ⟨_, ec⟩) <;> exact absurd ec (by decide)
      · rw [e0] at hw0
        simp only [sw, sw_replicate_sp, h4, show cw '>' = 1 from rfl] at hw0 ⊢
        omega

theorem convertLeadingTabs_head {s r t : Str} (hs : NlEnd s) (h0 : '>' :: r <:+ s) (h : convertLeadingTabs ('>' :: r) = .ok t) :
    ∃ r', t = '>' :: r' := by
  have := (convertLeadingTabs_cut hs h0 (fun c r' e => by cases e; decide) h).2
  match t, this with
  | _ :: r', e => cases e; exact ⟨r', rfl⟩

theorem drop_marker_ne {t : Str} {c1 : Char} (ht : NlEnd t) (h1 : t[1]? = some c1) : t.drop (if c1 = ' ' then 2 else 1) ≠ [] := by
  match t, h1 with
  | c0 :: d :: r, h1 =>
    cases Option.some.inj h1
    by_cases hc : c1 = ' '
    · subst hc
      have := nlEnd_getLast _ ht
      intro e
      simp only [if_true, List.drop_succ_cons, List.drop_zero] at e
      subst e; simp at this
    · simp [hc]

/-! ### `ListItem.read`: the content behind the marker, and a continuation line -/

/-- the remainder `parse_marker` returns is, unless blank, a complete line -/
def MarkerOk (m : Nat × Nat × Str × Str) : Prop := isBlank m.2.2.2 = false → NlEnd m.2.2.2

theorem parseMarker_cut {line : Str} {m : Nat × Nat × Str × Str} (h : parseMarker line = some m) (hb : isBlank m.2.2.2 = false) :
    Cut 1 line m.2.2.2 := by
  unfold parseMarker at h
  split at h
  · cases h
  · rename_i im hi
    obtain ⟨hd, hg2⟩ := listItem_decomp line im hi
    have hline : sw line = sw (im.g1 ++ im.g2 ++ im.g3) + sw im.rest := by
      conv => lhs; rw [hd]
      simp only [sw_append]
    have hpos : 1 ≤ sw (im.g1 ++ im.g2 ++ im.g3) := by
      have := length_le_sw (im.g1 ++ im.g2 ++ im.g3)
      have : 1 ≤ im.g2.length := List.length_pos_iff.mpr hg2
      simp only [List.length_append] at *; omega
    have hex : (expandtabs (im.g1 ++ im.g2 ++ im.g3)).length ≤ sw (im.g1 ++ im.g2 ++ im.g3) := by
      have h1 := length_le_sw (expandtabs (im.g1 ++ im.g2 ++ im.g3))
      have h2 := sw_expandtabs_le (im.g1 ++ im.g2 ++ im.g3) 0
      unfold expandtabs at *; omega
    have hsuf : im.rest <:+ line := ⟨im.g1 ++ im.g2 ++ im.g3, hd.symm⟩
    simp only at h
    split at h
    · cases h
      refine ⟨List.replicate _ ' ', im.rest, hsuf, ?_, rfl, by simp [List.mem_replicate], by simp only [sw_replicate_sp]; omega⟩
      intro e
      simp only [e, List.append_nil, isBlank_replicate_sp] at hb; cases hb
    · cases h
      exact ⟨[], im.rest, hsuf, fun e => by simp [e, isBlank] at hb, rfl, by simp, by simp only [sw]; omega⟩

theorem parseMarker_ok (line : Str) (m) (hl : NlEnd line) (h : parseMarker line = some m) : MarkerOk m :=
  fun hb => (parseMarker_cut h hb).nlEnd hl

theorem MarkerAt.ok {fw : FW} {nm : Option (Nat × Nat × Str × Str)} (h : MarkerAt fw nm) (hl : AllNlEnd fw.lines) :
    ∀ m, nm = some m → MarkerOk m := fun m hm =>
  let ⟨l, hp, hpm⟩ := h m hm
  parseMarker_ok l.s m (hl l (peek_mem fw l hp)) hpm

theorem continuation_split {line g1 g2 : Str} (hl : NlEnd line) (h : continuation line = some (g1, g2)) :
    line = g1 ++ g2 ∧ g2 ≠ [] ∧ ∀ x ∈ g1, (x == ' ' || x == '\t') = true := by
  have hall := span_all (fun c => c == ' ' || c == '\t') line
  have hsp := span_append (fun c => c == ' ' || c == '\t') line
  have tl_nil : ∀ (a tl : Str), line = a ++ '\n' :: tl → tl = [] := by
    intro a tl e
    cases tl with
    | nil => rfl
    | cons x y => exact absurd rfl (nlEnd_tail '\n' (x :: y) (nlEnd_append (e ▸ hl) (by simp)).1 (by simp)).2
  unfold continuation at h
  simp only at h
  generalize span (fun c => c == ' ' || c == '\t') line = sp at h hsp hall
  obtain ⟨a, r⟩ := sp
  simp only at h hsp hall
  split at h
  · rename_i tl
    cases h
    cases tl_nil g1 tl hsp.symm
    exact ⟨hsp.symm, by simp, hall⟩
  · rename_i c rest _
    split at h
    · cases h
    · have hb := span_append (· != '\n') rest
      generalize span (· != '\n') rest = sb at h hb
      obtain ⟨body, r2⟩ := sb
      simp only at h hb
      split at h
      · rename_i tl2
        cases h
        subst hb
        cases tl_nil (g1 ++ c :: body) tl2 (by rw [← hsp]; simp)
        exact ⟨by rw [← hsp]; simp, by simp, hall⟩
      · cases h
  · cases h

theorem parseContinuation_cut {line cont : Str} {p : Nat} (hl : NlEnd line) (h : parseContinuation line p = some cont) :
    Cut 0 line cont := by
  unfold parseContinuation at h
  split at h
  · cases h
  · rename_i g1 g2 hc
    obtain ⟨hsplit, hne, hall⟩ := continuation_split hl hc
    have hsuf : g2 <:+ line := ⟨g1, hsplit.symm⟩
    split at h
    · cases h
      rename_i hg; rw [← beq_iff_eq.mp hg]
      exact Cut.of_suffix hsuf hne
    · simp only at h
      split at h
      · cases h
        have hno : '\n' ∉ expandtabs g1 :=
          expandtabs_no_nl _ _ fun e => by have := hall _ e; revert this; decide
        refine ⟨_, g2, hsuf, hne, rfl, fun e => hno (List.mem_of_mem_drop e), ?_⟩
        have h1 := sw_drop_le (expandtabs g1) p
        have h2 := sw_expandtabs_le g1 0
        rw [hsplit, sw_append]; unfold expandtabs at *; omega
      · cases h

/-! ### The reader loops -/

section Readers

/-- `new`, in reading order, stands line by line (related by `R`) over the first lines of `ls` -/
def Over (R : Line → Line → Prop) : List Line → List Line → Prop
  | _, [] => True
  | [], _ :: _ => False
  | l :: ls, p :: ps => R l p ∧ Over R ls ps

theorem Over.mono {R R' : Line → Line → Prop} (h : ∀ l p, R l p → R' l p) : ∀ {ls new : List Line}, Over R ls new → Over R' ls new
  | _, [], _ => by simp [Over]
  | _ :: _, _ :: _, ⟨hp, ho⟩ => ⟨h _ _ hp, ho.mono h⟩

theorem Over.all {R : Line → Line → Prop} {P P' : Line → Prop} (h : ∀ l p, R l p → P l → P' p) :
    ∀ {ls new : List Line}, Over R ls new → (∀ l ∈ ls, P l) → ∀ p ∈ new, P' p
  | _, [], _, _ => fun _ hm => nomatch hm
  | l :: _, _ :: _, ⟨hp, ho⟩, hl => List.forall_mem_cons.mpr
    ⟨h _ _ hp (hl l (List.mem_cons_self ..)), ho.all h fun x hx => hl x (List.mem_cons_of_mem _ hx)⟩

/-- the buffer a reader loop returns, newest line first like the `buf` it was given: one piece (related by `R`) for each
    of the first lines from the cursor on, pushed on `buf`, less `k` of the lines pushed last -/
def Reads (R : Line → Line → Prop) (fw : FW) (buf out : List Line) (fw' : FW) : Prop :=
  Same fw fw' ∧ ∃ new k, out = (new.reverse ++ buf).drop k ∧ Over R (fw.lines.drop fw.pos) new

variable {R : Line → Line → Prop}

theorem Reads.stop {fw fw' : FW} (h : Same fw fw') (buf : List Line) (k : Nat) : Reads R fw buf (buf.drop k) fw' :=
  ⟨h, [], k, rfl, by simp [Over]⟩

theorem Reads.step {fw fw' : FW} {buf out : List Line} {l p : Line} (hp : fw.peek = some l)
    (hr : Reads R fw.next (p :: buf) out fw') (h : R l p) : Reads R fw buf out fw' := by
  obtain ⟨hs, new, k, rfl, ho⟩ := hr
  refine ⟨(same_next fw).trans hs, p :: new, k, by simp, ?_⟩
  rw [drop_peek fw l hp]
  exact ⟨h, ho⟩

theorem Reads.mono {R' : Line → Line → Prop} (h : ∀ l p, R l p → R' l p) {fw fw' : FW} {buf out : List Line} :
    Reads R fw buf out fw' → Reads R' fw buf out fw'
  | ⟨hs, new, k, e, ho⟩ => ⟨hs, new, k, e, ho.mono h⟩

theorem Reads.all {P : Line → Prop} {fw fw' : FW} {buf out : List Line} (h : Reads R fw buf out fw')
    (hR : ∀ l p, R l p → P l → P p) (hl : ∀ l ∈ fw.lines, P l) (hb : ∀ l ∈ buf, P l) : ∀ l ∈ out, P l := by
  obtain ⟨_, new, k, rfl, ho⟩ := h
  have hn := ho.all hR fun l hm => hl l (List.mem_of_mem_drop hm)
  intro x hx
  rcases List.mem_append.mp (List.mem_of_mem_drop hx) with h1 | h1
  · exact hn x (List.mem_reverse.mp h1)
  · exact hb x h1

def Piece (k : Nat) (l p : Line) : Prop := p.origin = l.origin ∧ (NlEnd l.s → Cut k l.s p.s)

theorem Piece.refl (l : Line) : Piece 0 l l := ⟨rfl, fun h => Cut.of_suffix (List.suffix_refl _) (nlEnd_ne_nil _ h)⟩

theorem Reads.nlEnd {fw fw' : FW} {buf out : List Line} (h : Reads (Piece 0) fw buf out fw') (hl : AllNlEnd fw.lines) (hb : AllNlEnd buf) :
    AllNlEnd out :=
  h.all (P := fun l => NlEnd l.s) (fun _ _ hp hn => (hp.2 hn).nlEnd hn) hl hb

theorem Over.lw_le : ∀ {ls new : List Line}, Over (Piece 0) ls new → (∀ l ∈ ls, NlEnd l.s) → lw new ≤ lw ls
  | _, [], _, _ => Nat.zero_le _
  | l :: _, _ :: _, ⟨hp, ho⟩, hl => by
    have := (hp.2 (hl l (List.mem_cons_self ..))).sw_le
    have := ho.lw_le fun x hx => hl x (List.mem_cons_of_mem _ hx)
    simp only [lw]; omega

theorem Reads.lw_le {fw fw' : FW} {buf out : List Line} (h : Reads (Piece 0) fw buf out fw') (hl : AllNlEnd fw.lines) :
    lw out ≤ lw buf + rw' fw := by
  obtain ⟨_, new, k, rfl, ho⟩ := h
  have := ho.lw_le fun l hm => hl l (List.mem_of_mem_drop hm)
  have := lw_drop_le (new.reverse ++ buf) k
  simp only [lw_append, lw_reverse, rw'] at *; omega

/-- the buffer of a nested call: the first line lost its marker (`Piece 1`), so the buffer is complete lines and weighs less
    than the outer one — what `gasBound` of BlockTotal descends on -/
theorem Reads.first {fw fw' : FW} {l0 p0 : Line} {out : List Line} (hp : fw.peek = some l0) (h0 : Piece 1 l0 p0)
    (hr : Reads (Piece 0) fw.next [p0] out fw') (hl : AllNlEnd fw.lines) : AllNlEnd out ∧ lw out + 1 ≤ lw fw.lines := by
  have hn := hl l0 (peek_mem fw l0 hp)
  have hc := h0.2 hn
  refine ⟨hr.nlEnd hl (allNlEnd_cons (hc.nlEnd hn) allNlEnd_nil), ?_⟩
  have := hr.lw_le hl
  have := hc.sw_le
  have := rw_peek fw l0 hp
  have := rw_le fw
  simp only [lw] at *; omega

theorem Over.origins : ∀ {ls new : List Line} {s : Nat}, Over (Piece 0) ls new → OriginsFrom s ls → OriginsFrom s new
  | _, [], _, _, _ => trivial
  | _ :: _, _ :: _, _, ⟨hp, ho⟩, h => ⟨hp.1.trans h.1, ho.origins h.2⟩

/-- `hb`, `hpos`: the buffer started at `base`, the cursor stands where the buffer ends -/
theorem Reads.origins {fw fw' : FW} {buf out : List Line} {base : Nat} (h : Reads (Piece 0) fw buf out fw') (hok : fw.Ok)
    (hb : OriginsFrom base buf.reverse) (hpos : base + buf.length = fw.start + fw.pos) : OriginsFrom base out.reverse := by
  obtain ⟨_, new, k, rfl, ho⟩ := h
  have := ho.origins (originsFrom_drop _ _ fw.pos hok)
  rw [List.reverse_drop, List.reverse_append, List.reverse_reverse]
  exact originsFrom_take _ _ _ (originsFrom_append _ _ _ hb (by rw [List.length_reverse, hpos]; exact this))

/-- one round of `Quote.read`'s loop: the line stays whole (a lazy continuation) or loses its marker -/
def QPiece (l p : Line) : Prop :=
  p = l ∨ ∃ t c1, convertLeadingTabs (lstrip l.s) = .ok t ∧ t[1]? = some c1 ∧
    p = { s := t.drop (if c1 = ' ' then 2 else 1), origin := l.origin }

theorem quoteLoop_reads (cfg : Cfg) : ∀ (fuel : Nat) (fw : FW) (buf : List Line) (fl : QFlags) (r),
    quoteLoop cfg fuel fw buf fl = .ok r → Reads QPiece fw buf r.1 r.2
  | 0, _, _, _, _, h => by simp [quoteLoop] at h
  | fuel + 1, fw, buf, fl, r, h => by
    rcases quoteLoop_ok h with rfl | ⟨l, hp, _, ⟨t, c1, hcv, h1, h'⟩ | h'⟩
    · exact Reads.stop (Same.refl fw) buf 0
    · exact Reads.step hp (quoteLoop_reads cfg fuel _ _ _ r h') (.inr ⟨t, c1, hcv, h1, rfl⟩)
    · exact Reads.step hp (quoteLoop_reads cfg fuel _ _ _ r h') (.inl rfl)

theorem QPiece.piece {l p : Line} : QPiece l p → Piece 0 l p
  | .inl e => e ▸ Piece.refl l
  | .inr ⟨_, _, hcv, h1, e⟩ => e ▸ ⟨rfl, fun hn =>
    have hc := (convertLeadingTabs_cut hn (Strip.lstrip_suffix _) (lstrip_head_ne_sp_tab _) hcv).1
    hc.suffix (List.drop_suffix _ _) (drop_marker_ne (hc.nlEnd hn) h1)⟩

theorem quoteLines_reads {cfg : Cfg} {fw : FW} {l0 : Line} {r : List Line × Nat × FW} (h : quoteLines cfg fw l0 = .ok r) :
    ∃ p0 out, r.1 = out.reverse ∧ Reads QPiece fw.next [p0] out r.2.2 ∧ Piece 1 l0 p0 := by
  obtain ⟨t, a, after, buf, fw2, hcv, hso, heq, rfl⟩ := quoteLines_ok h
  refine ⟨_, buf, rfl, quoteLoop_reads cfg _ _ _ _ _ heq, rfl, fun hn => ?_⟩
  have hc := (convertLeadingTabs_cut hn (Strip.lstrip_suffix _) (lstrip_head_ne_sp_tab _) hcv).1
  have h1 : NlEnd ('>' :: after) :=
    nlEnd_suffix _ _ (hc.nlEnd hn) ⟨a, (splitOnce_spec '>' t a after hso).symm⟩ (by simp)
  have hne : after ≠ [] := fun e => by subst e; exact absurd (nlEnd_singleton h1) (by decide)
  have h2 := dropSp_nl after (nlEnd_tail '>' after h1 hne).1
  refine (hc.tail (c := '>') ⟨a, (splitOnce_spec '>' t a after hso).symm⟩ hne).suffix ?_ (nlEnd_ne_nil _ h2)
  split
  · exact List.suffix_cons _ _
  · exact List.suffix_refl _

/-- one round of `ListItem.read`'s loop: the line stays whole (a lazy continuation) or loses its indentation -/
def IPiece (prepend : Nat) (l p : Line) : Prop :=
  p = l ∨ ∃ cont, parseContinuation l.s prepend = some cont ∧ p = { s := cont, origin := l.origin }

theorem itemLoop_reads (cfg : Cfg) (prepend : Nat) : ∀ (fuel : Nat) (fw : FW) (buf : List Line) (nl : Nat) (r),
    itemLoop cfg prepend fuel fw buf nl = .ok r → Reads (IPiece prepend) fw buf r.1 r.2.1
  | 0, _, _, _, _, h => by simp [itemLoop] at h
  | fuel + 1, fw, buf, nl, r, h => by
    rcases itemLoop_ok h with rfl | ⟨l, hp, ⟨cont, hcont, h'⟩ | ⟨m, _, rfl⟩ | ⟨_, h'⟩⟩
    · obtain ⟨k, hk⟩ := dropTrailing_buf fw buf nl
      exact hk ▸ Reads.stop (dropTrailing_same fw buf nl) buf k
    · exact Reads.step hp (itemLoop_reads cfg prepend fuel _ _ _ r h') (.inr ⟨cont, hcont, rfl⟩)
    · exact Reads.stop (Same.refl fw) buf 0
    · exact Reads.step hp (itemLoop_reads cfg prepend fuel _ _ _ r h') (.inl rfl)

theorem IPiece.piece {prepend : Nat} {l p : Line} : IPiece prepend l p → Piece 0 l p
  | .inl e => e ▸ Piece.refl l
  | .inr ⟨_, hcont, e⟩ => e ▸ ⟨rfl, fun hn => parseContinuation_cut hn hcont⟩

end Readers

/-! ### What the inductions over the gas use of this: complete lines, less weight, consecutive origins -/

theorem quoteLines_nl (cfg : Cfg) (fw : FW) (l0 : Line) (r) (h : quoteLines cfg fw l0 = .ok r)
    (hl : AllNlEnd fw.lines) (hp : fw.peek = some l0) : AllNlEnd r.1 := by
  obtain ⟨p0, out, e, hr, h0⟩ := quoteLines_reads h
  intro x hx
  exact ((hr.mono fun _ _ => QPiece.piece).first hp h0 hl).1 x (List.mem_reverse.mp (e ▸ hx))

theorem quoteLines_lw (cfg : Cfg) (fw : FW) (l0 : Line) (r) (h : quoteLines cfg fw l0 = .ok r)
    (hl : AllNlEnd fw.lines) (hp : fw.peek = some l0) : lw r.1 + 1 ≤ lw fw.lines := by
  obtain ⟨p0, out, e, hr, h0⟩ := quoteLines_reads h
  rw [e, lw_reverse]; exact ((hr.mono fun _ _ => QPiece.piece).first hp h0 hl).2

theorem quoteLines_origins (cfg : Cfg) (fw : FW) (l0 : Line) (r) (h : quoteLines cfg fw l0 = .ok r)
    (hok : fw.Ok) (hp : fw.peek = some l0) : Same fw r.2.2 ∧ OriginsFrom r.2.1 r.1 := by
  have hln : r.2.1 = fw.start + fw.pos := by
    obtain ⟨_, _, _, _, _, _, _, _, rfl⟩ := quoteLines_ok h; simp [FW.lineNumber, FW.next]
  obtain ⟨p0, out, e, hr, h0⟩ := quoteLines_reads h
  refine ⟨(same_next fw).trans hr.1, ?_⟩
  rw [e, hln]
  exact (hr.mono fun _ _ => QPiece.piece).origins (FW.Ok.of_same (same_next fw) hok)
    ⟨h0.1.trans (peek_origin fw l0 hok hp), trivial⟩ rfl

theorem itemLines_nl (cfg : Cfg) (fw : FW) (prev) (il : ItemLines) (h : itemLines cfg fw prev = .ok il)
    (hl : AllNlEnd fw.lines) (hprev : ∀ m, prev = some m → MarkerOk m) :
    match il with
    | .empty _ _ _ _ _ next _ => ∀ m, next = some m → MarkerOk m
    | .lines buf _ _ _ _ _ _ next _ => AllNlEnd buf ∧ ∀ m, next = some m → MarkerOk m := by
  have hnext : ∀ m, il.next = some m → MarkerOk m :=
    (itemLines_next_marker cfg fw prev il h).ok (by rw [(itemLines_fwd cfg fw prev il h).1.1]; exact hl)
  obtain ⟨l0, ind, pre0, ld, content, hp, hmk, hcase⟩ := itemLines_ok h
  have hsk : (skipBlanks (fw.remaining + 1) fw.next 1).1.lines = fw.lines := skipBlanks_lines _ _ _
  rcases hcase with ⟨_, _, rfl⟩ | ⟨_, _, buf, fw3, next, heq, rfl⟩ | ⟨hnb, buf, fw3, next, heq, rfl⟩
  · exact hnext
  · have := ((itemLoop_reads cfg _ _ _ _ _ _ heq).mono fun _ _ => IPiece.piece).nlEnd (by rw [hsk]; exact hl) allNlEnd_nil
    exact ⟨fun x hx => this x (List.mem_reverse.mp hx), hnext⟩
  · have hmok : MarkerOk (ind, pre0, ld, content) := by
      cases prev with
      | some m => cases hmk; exact hprev _ rfl
      | none => exact parseMarker_ok l0.s _ (hl l0 (peek_mem fw l0 hp)) hmk
    have := ((itemLoop_reads cfg _ _ _ _ _ _ heq).mono fun _ _ => IPiece.piece).nlEnd hl (allNlEnd_cons (hmok hnb) allNlEnd_nil)
    exact ⟨fun x hx => this x (List.mem_reverse.mp hx), hnext⟩

theorem itemLines_lw (cfg : Cfg) (fw : FW) (prev) (il : ItemLines) (h : itemLines cfg fw prev = .ok il)
    (hl : AllNlEnd fw.lines) (hprev : MarkerAt fw prev) : lw il.buf + 1 ≤ lw fw.lines := by
  have hle := rw_le fw
  obtain ⟨l0, ind, pre0, ld, content, hp, hmk, hcase⟩ := itemLines_ok h
  have hrw := rw_peek fw l0 hp
  have hpos := sw_pos_of_nlEnd _ (hl l0 (peek_mem fw l0 hp))
  rcases hcase with ⟨_, _, rfl⟩ | ⟨_, _, buf, fw3, next, heq, rfl⟩ | ⟨hnb, buf, fw3, next, heq, rfl⟩
  · simp only [ItemLines.buf, lw]; omega
  · have hsk := skipBlanks_inv (fw.remaining + 1) fw.next 1
    have hmono := rw_mono fw.next _ hsk.1 hsk.2.1
    have := ((itemLoop_reads cfg _ _ _ _ _ _ heq).mono fun _ _ => IPiece.piece).lw_le (by rw [hsk.1.1]; exact hl)
    simp only [ItemLines.buf, lw_reverse, lw] at *; omega
  · have hmk' : parseMarker l0.s = some (ind, pre0, ld, content) := by
      cases prev with
      | some m =>
        cases hmk
        obtain ⟨l, hl1, hl2⟩ := hprev _ rfl
        rw [hp] at hl1; cases hl1; exact hl2
      | none => exact hmk
    have := (Reads.first (p0 := { s := content, origin := l0.origin }) hp ⟨rfl, fun _ => parseMarker_cut hmk' hnb⟩
      ((itemLoop_reads cfg _ _ _ _ _ _ heq).mono fun _ _ => IPiece.piece) hl).2
    simpa only [ItemLines.buf, lw_reverse] using this

theorem itemLines_origins (cfg : Cfg) (fw : FW) (prev) (il : ItemLines) (h : itemLines cfg fw prev = .ok il) (hok : fw.Ok) :
    match il with
    | .empty _ _ _ ln og _ fw' => Same fw fw' ∧ ln = og
    | .lines buf cstart _ _ _ ln og _ fw' => Same fw fw' ∧ ln = og ∧ OriginsFrom cstart buf := by
  have hfwd := (itemLines_fwd cfg fw prev il h).1
  obtain ⟨l0, _, _, _, _, hp, _, hcase⟩ := itemLines_ok h
  have ho := peek_origin fw l0 hok hp
  have hln : fw.next.lineNumber = fw.start + fw.pos := by simp [FW.lineNumber, FW.next]
  have hsk := skipBlanks_inv (fw.remaining + 1) fw.next 1
  rcases hcase with ⟨_, _, rfl⟩ | ⟨_, hk, buf, fw3, next, heq, rfl⟩ | ⟨_, buf, fw3, next, heq, rfl⟩
  · exact ⟨hfwd, by rw [hln, ho]⟩
  · refine ⟨hfwd, by rw [hln, ho], ?_⟩
    exact ((itemLoop_reads cfg _ _ _ _ _ _ heq).mono fun _ _ => IPiece.piece).origins
      (FW.Ok.of_same ((same_next fw).trans hsk.1) hok) trivial (by
        have hnp : fw.next.pos = fw.pos + 1 := rfl
        have h1 := hsk.2.1; have h2 := hsk.2.2; have h3 := hsk.1.2
        simp only [hln, List.length_nil]; rw [h3]; show _ = fw.next.start + _; show _ = fw.start + _; omega)
  · refine ⟨hfwd, by rw [hln, ho], ?_⟩
    exact ((itemLoop_reads cfg _ _ _ _ _ _ heq).mono fun _ _ => IPiece.piece).origins (FW.Ok.of_same (same_next fw) hok)
      ⟨ho.trans hln.symm, trivial⟩ (by rw [hln]; rfl)

/-! ### `Footnote.read` hands every line back when no definition matches -/

theorem footnoteLines_text (fuel : Nat) (fw : FW) (buf : List Str) (hl : AllNlEnd fw.lines) :
    ∃ new : List Str, (footnoteLines fuel fw buf).1.reverse = buf.reverse ++ new ∧
      (footnoteLines fuel fw buf).2.pos = fw.pos + new.length ∧ ∀ x ∈ new, NlEnd x := by
  obtain ⟨taken, rest, hd, h1, h2, -⟩ := loop_taken (fun _ _ _ => footnoteStep_push) fuel fw buf
  rw [footnoteLines_eq]
  refine ⟨taken.map (·.s), by simp [h1], by simpa using h2, fun x hx => ?_⟩
  obtain ⟨l, hm, rfl⟩ := List.mem_map.mp hx
  exact hl l (List.mem_of_mem_drop (hd ▸ List.mem_append_left _ hm))

/-- the text `Footnote.read` joins holds as many newlines as lines were consumed: `string.count('\n')` is the right
    number of lines to hand back -/
theorem footnoteLines_count (fuel : Nat) (fw : FW) (hl : AllNlEnd fw.lines) :
    count '\n' (footnoteLines fuel fw []).1.reverse.flatten + fw.pos = (footnoteLines fuel fw []).2.pos := by
  obtain ⟨new, h1, h2, h3⟩ := footnoteLines_text fuel fw [] hl
  rw [h1, h2, List.reverse_nil, List.nil_append, count_flatten_nl new h3]
  omega

theorem footnoteRefs_len (s : Str) : ∀ (fuel off : Nat) (acc : List FnMatch) (ms) (back),
    footnoteRefs s fuel off acc = .ok (ms, back) → acc.length ≤ ms.length
  | 0, _, _, _, _, h => by simp [footnoteRefs] at h
  | fuel + 1, off, acc, ms, back, h => by
    simp only [footnoteRefs] at h
    split at h
    · split at h
      · cases h
      · cases h; simp
      · have := footnoteRefs_len s fuel _ _ _ _ h
        simp only [List.length_cons] at this; omega
    · cases h; simp

theorem nlEnd_len (s : Str) (h : NlEnd s) (hb : isBlank s = false) : 2 ≤ s.length := by
  obtain ⟨body, hs, _⟩ := h
  subst hs
  cases body with
  | nil => simp [isBlank] at hb; exact absurd pyIsSpace_nl (by simp [hb])
  | cons x xs => simp

/-- entered on a line that is not blank, the text holds that line -/
theorem footnoteLines_first {fw : FW} {l : Line} (hl : AllNlEnd fw.lines) (hp : fw.peek = some l) (hnb : isBlank l.s = false) :
    1 ≤ count '\n' (footnoteLines (fw.remaining + 1) fw []).1.reverse.flatten ∧
      2 ≤ (footnoteLines (fw.remaining + 1) fw []).1.reverse.flatten.length := by
  obtain ⟨new, h1, -, -⟩ := footnoteLines_text fw.remaining fw.next [l.s] hl
  have hn := hl l (peek_mem fw l hp)
  have := nlEnd_len l.s hn hnb
  simp only [footnoteLines, hp, hnb, Bool.not_false, if_true, h1, List.reverse_singleton, List.singleton_append,
    List.flatten_cons, count_append, List.length_append, nlEnd_count _ hn]
  omega

theorem footnote_restores_pos (fw : FW) (ms) (fwf : FW) (l : Line) (hf : readFootnote fw = .ok (ms, fwf)) (hms : ms.isEmpty = true)
    (hl : AllNlEnd fw.lines) (hp : fw.peek = some l) (hnb : isBlank l.s = false) : fwf.pos = fw.pos := by
  have hcount := footnoteLines_count (fw.remaining + 1) fw hl
  have hlen := (footnoteLines_first hl hp hnb).2
  unfold readFootnote at hf
  simp only at hf
  split at hf
  · cases hf
  · rename_i ms' back hrefs
    cases hf
    rw [footnoteRefs] at hrefs
    split at hrefs
    · split at hrefs
      · cases hrefs
      · -- no definition at offset 0: every newline of the text is handed back
        cases hrefs
        simp only [List.drop_zero]
        omega
      · have := footnoteRefs_len _ _ _ _ _ _ hrefs
        simp only [List.length_cons, List.length_nil] at this
        cases ms with
        | nil => simp at this
        | cons x xs => simp at hms
    · omega

/-- `Footnote.read` returning no definition leaves the cursor where it was (every line of the buffer
    ends with its only newline, so `string.count('\n')` is the number of lines consumed) -/
theorem footnote_restores (fw : FW) (ms) (fwf : FW) (l : Line) (hf : readFootnote fw = .ok (ms, fwf)) (hms : ms.isEmpty = true)
    (hl : AllNlEnd fw.lines) (hp : fw.peek = some l) (hnb : isBlank l.s = false) : fwf.peek = some l := by
  unfold FW.peek at hp ⊢
  rw [(readFootnote_same fw ms fwf hf).1, footnote_restores_pos fw ms fwf l hf hms hl hp hnb]
  exact hp

theorem startsWith_lstrip_nb (s : Str) (h : startsWith ['['] (lstrip s) = true) : isBlank s = false := by
  cases hb : isBlank s with
  | false => rfl
  | true => rw [Strip.isBlank_lstrip s hb] at h; simp [startsWith] at h

theorem handedBack_eq {fw fwf : FW} {l : Line} {ms : List FnMatch} (hsw : startsWith ['['] (lstrip l.s) = true)
    (hf : readFootnote fw = .ok (ms, fwf)) (hms : ms.isEmpty = true) (hl : AllNlEnd fw.lines) (hp : fw.peek = some l) :
    fwf = fw ∧ ms = [] := by
  have hs := readFootnote_same fw ms fwf hf
  have hpos := footnote_restores_pos fw ms fwf l hf hms hl hp (startsWith_lstrip_nb _ hsw)
  obtain ⟨a, b, c⟩ := fw
  obtain ⟨a', b', c'⟩ := fwf
  cases hs.1; cases hs.2; cases hpos
  exact ⟨rfl, by simpa using hms⟩

/-- The types after a `Footnote`/`LinkReferenceDefinitionBlock` that found no definition are tried with the cursor and
    the state the types before it saw. -/
theorem handedBack_later {cfg : Cfg} {gas : Nat} {fw fwf : FW} {st : St} {l : Line} {ts : List BTok} {ms : List FnMatch}
    {r : Res (Option (Entry × FW × St))} (hsw : startsWith ['['] (lstrip l.s) = true) (hf : readFootnote fw = .ok (ms, fwf))
    (hms : ms.isEmpty = true) (hl : AllNlEnd fw.lines) (hp : fw.peek = some l)
    (h : tryTypes cfg gas fwf { st with defs := st.defs ++ ms } l ts = r) : tryTypes cfg gas fw st l ts = r := by
  obtain ⟨rfl, rfl⟩ := handedBack_eq hsw hf hms hl hp
  rw [List.append_nil] at h
  exact h

/-! ### One round of `List.read`, of the dispatcher and of its loop

  Backward, from a result to how it arose, the four mutually recursive functions are taken apart in this section only (an
  induction still unfolds them at gas 0 and `tokenizeBlock` in its `tok_…` lemma); forward they are computed in Decline.lean,
  and the statements that relate two runs (`mv_all` of Locality, `all_m` of BlockTotal) unfold both sides.  `readList_succ` is `List.read` one
  round at a time (`readItem` is the nested call of `ListItem.read`, `lastTight` the correction `List.read` makes to its
  last item when it stops); `readList_ok`, `tryTypes_some` (through the inductive `TrySome`, one constructor per kind of
  `Entry`; a type that passes the line on comes with the reason, `Declines` of Decline.lean, so that what a round returned can
  be computed again, forward, on another cursor or with other gas: `try_m` of BlockTotal, `extTry_step` of Locality) and
  `tokLoop_ok` say what a round that returns has done, the `_err` twins (`tryTypes_err` through `TryErr`, one
  constructor per way to fail) how a round fails; both rules come from one walk through `tryTypes`, `tryTypes_round`.  An invariant of
  the block phase is then four lemmas `list_…`, `try_…`, `tokLoop_…`, `tok_…` with one `rcases` each and an induction on the
  gas: `all_ok` below, BlockState.lean, BlockFrom.lean, `all_e` of BlockTotal. -/

theorem otherMarkerType_some {ld : Option Str} {nm : Option (Nat × Nat × Str × Str)} (h : otherMarkerType ld nm = true) :
    ∃ d m, ld = some d ∧ nm = some m ∧ sameMarkerType d m.2.2.1 = false := by
  unfold otherMarkerType at h
  split at h
  · rename_i d m
    exact ⟨d, m, rfl, rfl, by simpa using h⟩
  · cases h

theorem otherMarkerType_none_left (nm : Option (Nat × Nat × Str × Str)) : otherMarkerType none nm = false := by
  unfold otherMarkerType; rfl

theorem otherMarkerType_none_right (ld : Option Str) : otherMarkerType ld none = false := by
  unfold otherMarkerType; cases ld <;> rfl

/-- What `List.read` does to its items (newest first) when it stops: the last item read stays loose only if it has more
    than one child ("Only consider the last list item loose if there's more than one element"). -/
def lastTight : List Item → List Item
  | .mk inner loose i p l n g :: rest => Item.mk inner (decide (inner.length > 1) && loose) i p l n g :: rest
  | [] => []

/-- `ListItem.read` once the lines are collected: the nested `tokenize_block`; the item and the state after it -/
def readItem (cfg : Cfg) (gas : Nat) (st : St) : ItemLines → Res (Item × St)
  | .empty ind pre ldr ln og _ _ => .ok (.mk [] true ind pre ldr ln og, st)
  | .lines buf cstart ind pre ldr ln og _ _ =>
    match tokenizeBlock cfg gas buf cstart st with
    | .err e => .err e
    | .ok (b, st') => .ok (.mk b.entries b.loose ind pre ldr ln og, st')

theorem readList_succ (cfg : Cfg) (gas : Nat) (fw : FW) (st : St) (leader : Option Str) (nm) (acc : List Item) :
    readList cfg (gas + 1) fw st leader nm acc =
      if otherMarkerType leader nm then .ok ((lastTight acc).reverse, fw, st) else
      match itemLines cfg fw nm with
      | .err e => .err e
      | .ok il =>
        match readItem cfg gas st il with
        | .err e => .err e
        | .ok (item, st') =>
          match il.next with
          | none => .ok ((lastTight (item :: acc)).reverse, il.cursor, st')
          | some _ => readList cfg gas il.cursor st' (some (leader.getD il.itemLeader)) il.next (item :: acc) := by
  simp only [readList]
  split
  · cases acc with
    | nil => rfl
    | cons x xs => cases x; rfl
  · cases itemLines cfg fw nm with
    | err e => rfl
    | ok il =>
      cases il with
      | empty ind p ldr ln og next fw' =>
        cases leader <;> cases next <;> rfl
      | lines buf cs ind p ldr ln og next fw' =>
        simp only [readItem]
        cases tokenizeBlock cfg gas buf cs st with
        | err e => rfl
        | ok r => cases leader <;> cases next <;> rfl

theorem readItem_ok {cfg : Cfg} {gas : Nat} {st : St} {il : ItemLines} {item : Item} {st' : St}
    (h : readItem cfg gas st il = .ok (item, st')) :
    (∃ ind pre ldr ln og next fw', il = .empty ind pre ldr ln og next fw' ∧ item = .mk [] true ind pre ldr ln og ∧ st' = st) ∨
    (∃ buf cstart ind pre ldr ln og next fw' b, il = .lines buf cstart ind pre ldr ln og next fw' ∧
      tokenizeBlock cfg gas buf cstart st = .ok (b, st') ∧ item = .mk b.entries b.loose ind pre ldr ln og) := by
  cases il with
  | empty ind pre ldr ln og nx fwx =>
    cases h
    exact .inl ⟨_, _, _, _, _, _, _, rfl, rfl, rfl⟩
  | lines buf cstart ind pre ldr ln og nx fwx =>
    simp only [readItem] at h
    cases hb : tokenizeBlock cfg gas buf cstart st with
    | err e => rw [hb] at h; cases h
    | ok r =>
      rw [hb] at h
      cases h
      exact .inr ⟨_, _, _, _, _, _, _, _, _, r.1, rfl, hb, rfl⟩

theorem readItem_err {cfg : Cfg} {gas : Nat} {st : St} {il : ItemLines} {e : Err} (h : readItem cfg gas st il = .err e) :
    ∃ buf cstart ind pre ldr ln og next fw', il = .lines buf cstart ind pre ldr ln og next fw' ∧
      tokenizeBlock cfg gas buf cstart st = .err e := by
  cases il with
  | empty => cases h
  | lines buf cstart ind pre ldr ln og nx fwx =>
    simp only [readItem] at h
    cases hb : tokenizeBlock cfg gas buf cstart st with
    | err e' => rw [hb] at h; cases h; exact ⟨_, _, _, _, _, _, _, _, _, rfl, hb⟩
    | ok r => rw [hb] at h; cases h

theorem readList_ok {cfg : Cfg} {gas : Nat} {fw : FW} {st : St} {ld : Option Str} {nm : Option (Nat × Nat × Str × Str)}
    {acc : List Item} {r : List Item × FW × St} (h : readList cfg (gas + 1) fw st ld nm acc = .ok r) :
    (otherMarkerType ld nm = true ∧ r = ((lastTight acc).reverse, fw, st)) ∨
    ∃ il item st', itemLines cfg fw nm = .ok il ∧ readItem cfg gas st il = .ok (item, st') ∧
      ((il.next = none ∧ r = ((lastTight (item :: acc)).reverse, il.fw, st')) ∨
       ((∃ m, il.next = some m) ∧
        readList cfg gas il.fw st' (some (ld.getD il.itemLeader)) il.next (item :: acc) = .ok r)) := by
  rw [readList_succ] at h
  by_cases hom : otherMarkerType ld nm = true
  · rw [if_pos hom] at h
    cases h
    exact .inl ⟨hom, rfl⟩
  rw [if_neg hom] at h
  cases hil : itemLines cfg fw nm with
  | err e => rw [hil] at h; cases h
  | ok il =>
    cases hi : readItem cfg gas st il with
    | err e => simp only [hil, hi] at h; cases h
    | ok x =>
      simp only [hil, hi, itemLines_cursor_fw] at h
      refine .inr ⟨il, x.1, x.2, rfl, hi, ?_⟩
      cases hn : il.next with
      | none => simp only [hn] at h; cases h; exact .inl ⟨rfl, rfl⟩
      | some m => simp only [hn] at h; exact .inr ⟨⟨m, rfl⟩, h⟩

theorem readList_err {cfg : Cfg} {gas : Nat} {fw : FW} {st : St} {ld : Option Str} {nm : Option (Nat × Nat × Str × Str)}
    {acc : List Item} {e : Err} (h : readList cfg (gas + 1) fw st ld nm acc = .err e) :
    itemLines cfg fw nm = .err e ∨ ∃ il, itemLines cfg fw nm = .ok il ∧
      (readItem cfg gas st il = .err e ∨ ∃ item st' m, readItem cfg gas st il = .ok (item, st') ∧ il.next = some m ∧
        readList cfg gas il.fw st' (some (ld.getD il.itemLeader)) il.next (item :: acc) = .err e) := by
  rw [readList_succ] at h
  by_cases hom : otherMarkerType ld nm = true
  · rw [if_pos hom] at h; cases h
  rw [if_neg hom] at h
  cases hil : itemLines cfg fw nm with
  | err e' => rw [hil] at h; cases h; exact .inl rfl
  | ok il =>
    refine .inr ⟨il, rfl, ?_⟩
    cases hi : readItem cfg gas st il with
    | err e' => simp only [hil, hi] at h; cases h; exact .inl rfl
    | ok x =>
      simp only [hil, hi, itemLines_cursor_fw] at h
      cases hn : il.next with
      | none => simp only [hn] at h; cases h
      | some m => simp only [hn] at h; exact .inr ⟨x.1, x.2, m, rfl, rfl, h⟩

/-- How `tryTypes`, with a first type `t` and `gas + 1`, comes to return `r` (a token, a cursor and a state, or nothing).
    The first type declines (`Declines`) and the later ones return `r` (`later`); or it is a definition type (`IsDef`)
    whose `read` has run, found no definition and handed its lines back, and the later ones return `r` from there
    (`handedBack`); or the first type accepts the line: one constructor per kind of `Entry`, with what its `start` answered and
    what its `read` returned.  Each constructor holds the hypotheses of one forward lemma of Decline.lean
    (`tryTypes_decline`, `tryTypes_handedBack`, `tryTypes_hit_*`), which gives the same round back. -/
inductive TrySome (cfg : Cfg) (gas : Nat) (fw : FW) (st : St) (l : Line) (ts : List BTok) : BTok → Option (Entry × FW × St) → Prop
  | later {t} (r) : Declines fw l.s t → tryTypes cfg gas fw st l ts = .ok r → TrySome cfg gas fw st l ts t r
  | handedBack {t} (ms fwf r) : IsDef t → startsWith ['['] (lstrip l.s) = true → readFootnote fw = .ok (ms, fwf) →
      ms.isEmpty = true → tryTypes cfg gas fwf { st with defs := st.defs ++ ms } l ts = .ok r →
      TrySome cfg gas fw st l ts t r
  | htmlBlock (rule ec) : htmlBlockStart l.s = .ok (some (rule, ec)) →
      TrySome cfg gas fw st l ts .htmlBlock (some (.htmlBlock (readHtmlBlock fw ec).1 (fw.start + fw.pos) l.origin, (readHtmlBlock fw ec).2, st))
  | blockCode : blockCodeStart l.s = true →
      TrySome cfg gas fw st l ts .blockCode (some (.blockCode (readBlockCode fw).1 (fw.start + fw.pos) l.origin, (readBlockCode fw).2, st))
  | heading (lvl c cl fw') : readHeading fw l.s = some (lvl, c, cl, fw') →
      TrySome cfg gas fw st l ts .heading (some (.heading lvl c cl (fw.start + fw.pos) l.origin, fw', st))
  | quote (qls qstart fw' b stb) : quoteStart l.s = true → quoteLines cfg fw l = .ok (qls, qstart, fw') →
      tokenizeBlock cfg gas qls qstart { st with setext := false } = .ok (b, stb) →
      TrySome cfg gas fw st l ts .quote (some (.quote b.entries b.loose (fw.start + fw.pos) l.origin, fw', { stb with setext := true }))
  | codeFence (m) : codeFenceStart l.s = some m →
      TrySome cfg gas fw st l ts .codeFence (some (.codeFence (readCodeFence fw m).1 m.prepend m.leader m.info m.lang (fw.start + fw.pos) l.origin, (readCodeFence fw m).2, st))
  | thematicBreak : thematicBreak l.s = true →
      TrySome cfg gas fw st l ts .thematicBreak (some (.thematicBreak l.s (fw.start + fw.pos) l.origin, fw.next, st))
  | list (items fw' st') : listStart l.s = true → readList cfg gas fw st none none [] = .ok (items, fw', st') →
      TrySome cfg gas fw st l ts .list (some (.list items (fw.start + fw.pos) l.origin, fw', st'))
  | table (b sl fw') : l.s.contains '|' = true → readTable fw = some (b, sl, fw') →
      TrySome cfg gas fw st l ts .table (some (.table b sl (fw.start + fw.pos) l.origin, fw', st))
  | footnote (ms fw') : startsWith ['['] (lstrip l.s) = true → readFootnote fw = .ok (ms, fw') → ms.isEmpty = false →
      TrySome cfg gas fw st l ts .footnote (some (.footnote ms (fw.start + fw.pos) l.origin, fw', { st with defs := st.defs ++ ms }))
  | linkRefDefs (ms fw') : startsWith ['['] (lstrip l.s) = true → readFootnote fw = .ok (ms, fw') → ms.isEmpty = false →
      TrySome cfg gas fw st l ts .linkRefDefBlock (some (.linkRefDefs ms (fw.start + fw.pos) l.origin, fw', { st with defs := st.defs ++ ms }))
  | setext (b fw') : isBlank l.s = false → readParagraph cfg st.setext fw l.s = .ok (b, true, fw') →
      TrySome cfg gas fw st l ts .paragraph (some (.setext b (fw.start + fw.pos) l.origin, fw', st))
  | paragraph (b fw') : isBlank l.s = false → readParagraph cfg st.setext fw l.s = .ok (b, false, fw') →
      TrySome cfg gas fw st l ts .paragraph (some (.paragraph b (fw.start + fw.pos) l.origin, fw', st))
  | blankLine : blankLine l.s = true → TrySome cfg gas fw st l ts .blankLine (some (.blankLine (fw.start + fw.pos) l.origin, fw.next, st))

/-- How `tryTypes`, with a first type and `gas + 1`, comes to fail with `e`: in a later type (at once, or after
    `Footnote.read` found no definition and handed its lines back), or in the `start` or `read` of the first type, or in
    the nested `tokenize_block`. -/
inductive TryErr (cfg : Cfg) (gas : Nat) (fw : FW) (st : St) (l : Line) (ts : List BTok) (e : Err) : Prop
  | later (h : tryTypes cfg gas fw st l ts = .err e)
  | handedBack (ms : List FnMatch) (fwf : FW) (hsw : startsWith ['['] (lstrip l.s) = true) (hf : readFootnote fw = .ok (ms, fwf))
      (hms : ms.isEmpty = true) (h : tryTypes cfg gas fwf { st with defs := st.defs ++ ms } l ts = .err e)
  | htmlStart (he : htmlBlockStart l.s = .err e)
  | quoteRead (hq : quoteStart l.s = true) (he : quoteLines cfg fw l = .err e)
  | quoteNested (qls : List Line) (qstart : Nat) (fw' : FW) (hql : quoteLines cfg fw l = .ok (qls, qstart, fw'))
      (he : tokenizeBlock cfg gas qls qstart { st with setext := false } = .err e)
  | listRead (hls : listStart l.s = true) (he : readList cfg gas fw st none none [] = .err e)
  | footnoteRead (hsw : startsWith ['['] (lstrip l.s) = true) (he : readFootnote fw = .err e)
  | paragraphRead (he : readParagraph cfg st.setext fw l.s = .err e)

section
variable {cfg : Cfg} {gas : Nat} {fw : FW} {st : St} {l : Line} {t : BTok} {ts : List BTok}

/-- both rules about one result of the dispatcher: ONE walk through `tryTypes` (`tryTypes_round`) proves them -/
def TryRound (cfg : Cfg) (gas : Nat) (fw : FW) (st : St) (l : Line) (ts : List BTok) (t : BTok)
    (r : Res (Option (Entry × FW × St))) : Prop :=
  (∀ x, r = .ok x → TrySome cfg gas fw st l ts t x) ∧ ∀ e, r = .err e → TryErr cfg gas fw st l ts e

theorem TryRound.ok {x : Option (Entry × FW × St)} (h : TrySome cfg gas fw st l ts t x) : TryRound cfg gas fw st l ts t (.ok x) :=
  ⟨fun _ e => by cases e; exact h, nofun⟩

theorem TryRound.err {e : Err} (h : TryErr cfg gas fw st l ts e) : TryRound cfg gas fw st l ts t (.err e) :=
  ⟨nofun, fun _ he => by cases he; exact h⟩

theorem TryRound.later (hd : Declines fw l.s t) : TryRound cfg gas fw st l ts t (tryTypes cfg gas fw st l ts) :=
  ⟨fun x h => .later x hd h, fun _ h => .later h⟩

theorem TryRound.handedBack {ms : List FnMatch} {fwf : FW} (ht : IsDef t) (hsw : startsWith ['['] (lstrip l.s) = true)
    (hf : readFootnote fw = .ok (ms, fwf)) (hms : ms.isEmpty = true) :
    TryRound cfg gas fw st l ts t (tryTypes cfg gas fwf { st with defs := st.defs ++ ms } l ts) :=
  ⟨fun x h => .handedBack ms fwf x ht hsw hf hms h, fun _ h => .handedBack ms fwf hsw hf hms h⟩

theorem tryTypes_round : TryRound cfg gas fw st l ts t (tryTypes cfg (gas + 1) fw st l (t :: ts)) := by
  unfold tryTypes
  cases t <;> simp only
  · -- htmlBlock
    split
    · rename_i he; exact .err (.htmlStart he)
    · rename_i hst; exact .later hst
    · rename_i rule ec hst; exact .ok (.htmlBlock rule ec hst)
  · -- blockCode
    split
    · rename_i hst; exact .ok (.blockCode hst)
    · rename_i hst; exact .later (by simpa [Declines] using hst)
  · -- heading
    split
    · rename_i lvl c cl fwh hh; exact .ok (.heading lvl c cl _ hh)
    · rename_i hh; exact .later (readHeading_none hh)
  · -- quote
    split
    · rename_i hqs
      split
      · rename_i he; exact .err (.quoteRead hqs he)
      · rename_i qls qstart fwq hq
        split
        · rename_i he; exact .err (.quoteNested qls qstart fwq hq he)
        · rename_i b stb hb; exact .ok (.quote qls qstart _ b stb hqs hq hb)
    · rename_i hqs; exact .later (by simpa [Declines] using hqs)
  · -- codeFence
    split
    · rename_i m hm; exact .ok (.codeFence m hm)
    · rename_i hm; exact .later hm
  · -- thematicBreak
    split
    · rename_i hst; exact .ok (.thematicBreak hst)
    · rename_i hst; exact .later (by simpa [Declines] using hst)
  · -- list
    split
    · rename_i hls
      split
      · rename_i he; exact .err (.listRead hls he)
      · rename_i items fwl stl hrl; exact .ok (.list items _ _ hls hrl)
    · rename_i hls; exact .later (by simpa [Declines] using hls)
  · -- table
    split
    · rename_i hbar
      split
      · rename_i b sl fwt ht; exact .ok (.table b sl _ hbar ht)
      · rename_i ht; exact .later (.inr ht)
    · rename_i hbar; exact .later (.inl (by simpa using hbar))
  · -- footnote
    split
    · rename_i hsw
      split
      · rename_i he; exact .err (.footnoteRead hsw he)
      · rename_i ms fwf hf
        split
        · rename_i hms; exact .handedBack (.inl rfl) hsw hf hms
        · rename_i hms; exact .ok (.footnote ms _ hsw hf (by simpa using hms))
    · rename_i hsw; exact .later (by simpa [Declines] using hsw)
  · -- paragraph
    split
    · rename_i hnb
      split
      · rename_i he; exact .err (.paragraphRead he)
      · rename_i b fwp hpp; exact .ok (.setext b _ (by simpa using hnb) hpp)
      · rename_i b fwp hpp; exact .ok (.paragraph b _ (by simpa using hnb) hpp)
    · rename_i hnb; exact .later (by simpa [Declines] using hnb)
  · -- blankLine
    split
    · rename_i hst; exact .ok (.blankLine hst)
    · rename_i hst; exact .later (by simpa [Declines] using hst)
  · -- linkRefDefBlock
    split
    · rename_i hsw
      split
      · rename_i he; exact .err (.footnoteRead hsw he)
      · rename_i ms fwf hf
        split
        · rename_i hms; exact .handedBack (.inr rfl) hsw hf hms
        · rename_i hms; exact .ok (.linkRefDefs ms _ hsw hf (by simpa using hms))
    · rename_i hsw; exact .later (by simpa [Declines] using hsw)

theorem tryTypes_some {r : Option (Entry × FW × St)} (h : tryTypes cfg (gas + 1) fw st l (t :: ts) = .ok r) :
    TrySome cfg gas fw st l ts t r :=
  tryTypes_round.1 r h

theorem tryTypes_err {e : Err} (h : tryTypes cfg (gas + 1) fw st l (t :: ts) = .err e) : TryErr cfg gas fw st l ts e :=
  tryTypes_round.2 e h

end

theorem tokLoop_ok {cfg : Cfg} {gas : Nat} {fw : FW} {st : St} {acc : List Entry} {loose : Bool} {b : Buf} {st' : St}
    (h : tokLoop cfg (gas + 1) fw st acc loose = .ok (b, st')) :
    (fw.peek = none ∧ b = { entries := acc.reverse, loose := loose } ∧ st' = st) ∨ ∃ l, fw.peek = some l ∧
      ((∃ e fw2 st2, tryTypes cfg gas fw st l cfg.types = .ok (some (e, fw2, st2)) ∧
          tokLoop cfg gas fw2 st2 (e :: acc) loose = .ok (b, st')) ∨
        (tryTypes cfg gas fw st l cfg.types = .ok none ∧ tokLoop cfg gas fw.next st acc true = .ok (b, st'))) := by
  simp only [tokLoop] at h
  cases hp : fw.peek with
  | none => rw [hp] at h; cases h; exact .inl ⟨rfl, rfl, rfl⟩
  | some l =>
    simp only [hp] at h
    refine .inr ⟨l, rfl, ?_⟩
    cases ht : tryTypes cfg gas fw st l cfg.types with
    | err e => rw [ht] at h; cases h
    | ok o =>
      rw [ht] at h
      cases o with
      | none => exact .inr ⟨rfl, h⟩
      | some x => exact .inl ⟨x.1, x.2.1, x.2.2, rfl, h⟩

theorem tokLoop_err {cfg : Cfg} {gas : Nat} {fw : FW} {st : St} {acc : List Entry} {loose : Bool} {e : Err}
    (h : tokLoop cfg (gas + 1) fw st acc loose = .err e) :
    ∃ l, fw.peek = some l ∧ (tryTypes cfg gas fw st l cfg.types = .err e ∨
      (∃ en fw' st', tryTypes cfg gas fw st l cfg.types = .ok (some (en, fw', st')) ∧
          tokLoop cfg gas fw' st' (en :: acc) loose = .err e) ∨
      (tryTypes cfg gas fw st l cfg.types = .ok none ∧ tokLoop cfg gas fw.next st acc true = .err e)) := by
  simp only [tokLoop] at h
  cases hp : fw.peek with
  | none => rw [hp] at h; cases h
  | some l =>
    simp only [hp] at h
    refine ⟨l, rfl, ?_⟩
    cases ht : tryTypes cfg gas fw st l cfg.types with
    | err e' => rw [ht] at h; cases h; exact .inl rfl
    | ok o =>
      rw [ht] at h
      cases o with
      | none => exact .inr (.inr ⟨rfl, h⟩)
      | some x => exact .inr (.inl ⟨x.1, x.2.1, x.2.2, rfl, h⟩)

/-! ### Reported line number = origin of the line the token was found on -/

mutual
/-- the entry and everything nested in it report the line they start on -/
def EntryOk : Entry → Prop
  | .blockCode _ ln og => ln = og
  | .heading _ _ _ ln og => ln = og
  | .quote inner _ ln og => ln = og ∧ EntriesOk inner
  | .codeFence _ _ _ _ _ ln og => ln = og
  | .thematicBreak _ ln og => ln = og
  | .list items ln og => ln = og ∧ ItemsOk items
  | .table _ startLine ln og => ln = og ∧ startLine = ln
  | .footnote _ ln og => ln = og
  | .linkRefDefs _ ln og => ln = og
  | .paragraph _ ln og => ln = og
  | .setext _ ln og => ln = og
  | .htmlBlock _ ln og => ln = og
  | .blankLine ln og => ln = og
def EntriesOk : List Entry → Prop
  | [] => True
  | e :: es => EntryOk e ∧ EntriesOk es
def ItemOk : Item → Prop
  | .mk inner _ _ _ _ ln og => ln = og ∧ EntriesOk inner
def ItemsOk : List Item → Prop
  | [] => True
  | i :: is => ItemOk i ∧ ItemsOk is
end

/-- a property `Q` of lists with `Q []` and `Q (x :: xs) ↔ P x ∧ Q xs` (the shape of `EntriesOk`, `ItemsOk`
    and the like) says that `P` holds of every member, so it is kept by `reverse` -/
theorem reverse_of_cons_iff {α : Type} {P : α → Prop} {Q : List α → Prop} (hnil : Q [])
    (hcons : ∀ x xs, Q (x :: xs) ↔ P x ∧ Q xs) (a : List α) (h : Q a) : Q a.reverse := by
  have hall : ∀ l, Q l ↔ ∀ x ∈ l, P x := by
    intro l
    induction l with
    | nil => simp [hnil]
    | cons x xs ih => rw [hcons, ih]; simp
  rw [hall] at h ⊢
  exact fun x hx => h x (List.mem_reverse.mp hx)

theorem entriesOk_reverse : ∀ (a : List Entry), EntriesOk a → EntriesOk a.reverse :=
  reverse_of_cons_iff trivial (fun _ _ => Iff.rfl)

theorem itemsOk_reverse : ∀ (a : List Item), ItemsOk a → ItemsOk a.reverse :=
  reverse_of_cons_iff trivial (fun _ _ => Iff.rfl)

theorem itemsOk_lastTight : ∀ (items : List Item), ItemsOk items → ItemsOk (lastTight items)
  | [], h => h
  | .mk .. :: _, h => h

def TokOk (cfg : Cfg) (fuel : Nat) : Prop :=
  ∀ (lines : List Line) (start : Nat) (st : St) (b : Buf) (st' : St),
    tokenizeBlock cfg fuel lines start st = .ok (b, st') → OriginsFrom start lines → AllNlEnd lines → EntriesOk b.entries

def ListOk (cfg : Cfg) (gas : Nat) : Prop :=
  ∀ (fw : FW) (st : St) (ld) (nm) (acc : List Item) (r),
    readList cfg gas fw st ld nm acc = .ok r → fw.Ok → ItemsOk acc → AllNlEnd fw.lines → (∀ m, nm = some m → MarkerOk m) →
    Same fw r.2.1 ∧ ItemsOk r.1

-- `fw0` is always `fw`: a type that passes the line on leaves the cursor where it is (`handedBack_later`), so `try_step`
-- calls its hypothesis at the same `fw`, and `tokLoop_step` starts it at `fw0 = fw`.
def TryOk (cfg : Cfg) (gas : Nat) : Prop :=
  ∀ (fw0 : FW) (l : Line) (ts : List BTok) (fw : FW) (st : St) (e : Entry) (fw' : FW) (st' : St),
    fw0.Ok → AllNlEnd fw0.lines →
    tryTypes cfg gas fw st l ts = .ok (some (e, fw', st')) → Same fw0 fw → fw.peek = some l → Same fw0 fw' ∧ EntryOk e

def LoopOk (cfg : Cfg) (gas : Nat) : Prop :=
  ∀ (fw : FW) (st : St) (acc : List Entry) (loose : Bool) (b) (st'),
    tokLoop cfg gas fw st acc loose = .ok (b, st') → fw.Ok → AllNlEnd fw.lines → EntriesOk acc → EntriesOk b.entries

theorem list_step (cfg : Cfg) (fuel : Nat) (hT : TokOk cfg fuel) (hL : ListOk cfg fuel) : ListOk cfg (fuel + 1) := by
  intro fw st ld nm acc r h hok hacc hl hnm
  rcases readList_ok h with ⟨_, rfl⟩ | ⟨il, item, st', hil, hit, hr⟩
  · exact ⟨Same.refl fw, itemsOk_reverse _ (itemsOk_lastTight _ hacc)⟩
  have hio := itemLines_origins cfg fw nm il hil hok
  have hnl := itemLines_nl cfg fw nm il hil hl hnm
  have hk : Same fw il.fw ∧ ItemOk item ∧ (∀ m, il.next = some m → MarkerOk m) := by
    rcases readItem_ok hit with ⟨_, _, _, _, _, _, _, rfl, rfl, _⟩ | ⟨_, _, _, _, _, _, _, _, _, b, rfl, hb, rfl⟩
    · exact ⟨hio.1, ⟨hio.2, trivial⟩, hnl⟩
    · exact ⟨hio.1, ⟨hio.2.1, hT _ _ _ _ _ hb hio.2.2 hnl.1⟩, hnl.2⟩
  have hacc' : ItemsOk (item :: acc) := ⟨hk.2.1, hacc⟩
  rcases hr with ⟨_, rfl⟩ | ⟨_, h⟩
  · exact ⟨hk.1, itemsOk_reverse _ (itemsOk_lastTight _ hacc')⟩
  · have hl' : AllNlEnd il.fw.lines := by rw [hk.1.1]; exact hl
    have := hL il.fw st' _ _ _ r h (FW.Ok.of_same hk.1 hok) hacc' hl' hk.2.2
    exact ⟨hk.1.trans this.1, this.2⟩

theorem try_step (cfg : Cfg) (fuel : Nat) (hT : TokOk cfg fuel) (hL : ListOk cfg fuel) (hY : TryOk cfg fuel) : TryOk cfg (fuel + 1) := by
  intro fw0 l ts fw st e fw' st' hok0 hl0 h hs hp
  cases ts with
  | nil => simp [tryTypes] at h
  | cons t ts =>
    have hok : fw.Ok := FW.Ok.of_same hs hok0
    have ho : fw.start + fw.pos = l.origin := (peek_origin fw l hok hp).symm
    have hl : AllNlEnd fw.lines := by rw [hs.1]; exact hl0
    rcases tryTypes_some h with ⟨_, _, h⟩ | ⟨ms, fwf, _, _, hsw, hf, hms, h⟩ | ⟨_, ec, _⟩ | _ | ⟨_, _, _, _, hh⟩ |
      ⟨qls, qstart, _, b, stb, _, hq, hb⟩ | ⟨m, _⟩ | _ | ⟨items, _, _, _, hrl⟩ | ⟨b, sl, _, _, ht⟩ |
      ⟨ms, _, _, hf, _⟩ | ⟨ms, _, _, hf, _⟩ | ⟨b, _, _, hpp⟩ | ⟨b, _, _, hpp⟩ | _
    · exact hY fw0 l ts fw st e fw' st' hok0 hl0 h hs hp
    · exact hY fw0 l ts fw st e fw' st' hok0 hl0 (handedBack_later hsw hf hms hl hp h) hs hp
    · exact ⟨hs.trans (readHtmlBlock_same fw ec), ho⟩
    · exact ⟨hs.trans (readBlockCode_same fw), ho⟩
    · exact ⟨hs.trans (readHeading_same fw l.s _ hh), ho⟩
    · have hql := quoteLines_origins cfg fw l _ hq hok hp
      exact ⟨hs.trans hql.1, ho, hT _ _ _ _ _ hb hql.2 (quoteLines_nl cfg fw l _ hq hl hp)⟩
    · exact ⟨hs.trans (readCodeFence_same fw m), ho⟩
    · exact ⟨hs.trans (same_next fw), ho⟩
    · have := hL fw st none none [] _ hrl hok trivial hl (fun m hm => by cases hm)
      exact ⟨hs.trans this.1, ho, this.2⟩
    · have := readTable_same fw _ ht
      exact ⟨hs.trans this.1, ho, this.2⟩
    · exact ⟨hs.trans (readFootnote_same fw ms _ hf), ho⟩
    · exact ⟨hs.trans (readFootnote_same fw ms _ hf), ho⟩
    · exact ⟨hs.trans (readParagraph_same cfg _ fw l.s _ hpp), ho⟩
    · exact ⟨hs.trans (readParagraph_same cfg _ fw l.s _ hpp), ho⟩
    · exact ⟨hs.trans (same_next fw), ho⟩

theorem tokLoop_step (cfg : Cfg) (fuel : Nat) (hY : TryOk cfg fuel) (hP : LoopOk cfg fuel) : LoopOk cfg (fuel + 1) := by
  intro fw st acc loose b st' h hok hl hacc
  rcases tokLoop_ok h with ⟨_, rfl, rfl⟩ | ⟨l, hp, ⟨e, fw2, st2, ht, h⟩ | ⟨_, h⟩⟩
  · exact entriesOk_reverse acc hacc
  · have := hY fw l cfg.types fw st e fw2 st2 hok hl ht (Same.refl fw) hp
    exact hP fw2 st2 _ loose b st' h (FW.Ok.of_same this.1 hok) (by rw [this.1.1]; exact hl) ⟨this.2, hacc⟩
  · exact hP fw.next st acc true b st' h (FW.Ok.of_same (same_next fw) hok) hl hacc

theorem tok_step (cfg : Cfg) (fuel : Nat) (hP : LoopOk cfg fuel) : TokOk cfg (fuel + 1) := by
  intro lines start st b st' h ho hl
  simp only [tokenizeBlock] at h
  exact hP _ _ _ _ _ _ h ho hl trivial

/-- **tokenize_block**, at every nesting depth: given lines whose ghost origins are
    `start, start+1, …`, every token produced (recursively) reports the origin of its first line. -/
theorem all_ok (cfg : Cfg) : ∀ (gas : Nat), TokOk cfg gas ∧ LoopOk cfg gas ∧ TryOk cfg gas ∧ ListOk cfg gas
  | 0 => by
    refine ⟨?_, ?_, ?_, ?_⟩
    · intro lines start st b st' h; simp [tokenizeBlock] at h
    · intro fw st acc loose b st' h; simp [tokLoop] at h
    · intro fw0 l ts fw st e fw' st' _ _ h; simp [tryTypes] at h
    · intro fw st ld nm acc r h; simp [readList] at h
  | gas + 1 => by
    obtain ⟨hT, hP, hY, hL⟩ := all_ok cfg gas
    exact ⟨tok_step cfg gas hP, tokLoop_step cfg gas hY hP, try_step cfg gas hT hL hY, list_step cfg gas hT hL⟩

theorem tokenizeBlock_ok (cfg : Cfg) (gas : Nat) : TokOk cfg gas := (all_ok cfg gas).1

theorem originsFrom_zipIdx : ∀ (ls : List Str) (k : Nat),
    OriginsFrom (k + 1) ((ls.zipIdx k).map (fun (s, i) => ({ s := s, origin := i + 1 } : Line)))
  | [], _ => trivial
  | x :: xs, k => by
    simp only [List.zipIdx_cons, List.map_cons, OriginsFrom]
    exact ⟨trivial, originsFrom_zipIdx xs (k + 1)⟩

/-! ### Table rows -/

theorem readTable_rows (fw : FW) (b : List Str) (sl : Nat) (fw' : FW) (h : readTable fw = some (b, sl, fw')) (hok : fw.Ok) :
    ∀ (k : Nat) (s : Str), b[k]? = some s → ∃ l, fw.lines[fw.pos + k]? = some l ∧ l.s = s ∧ l.origin = sl + k := by
  have hsl := (readTable_same fw _ h).2
  simp only at hsl
  obtain ⟨l0, hp, rfl, _⟩ := readTable_ok h
  obtain ⟨taken, rest, hd, h1, -, -⟩ := loop_taken (fun _ _ _ => tableStep_push) (fw.remaining + 1) fw.next [l0.s]
  have hb : (tableLoop (fw.remaining + 1) fw.next [l0.s]).1.reverse = (l0 :: taken).map (·.s) := by
    rw [tableLoop_eq, h1]; simp
  have hlines : fw.lines.drop fw.pos = (l0 :: taken) ++ rest := (drop_peek fw l0 hp).trans (congrArg (l0 :: ·) hd)
  intro k s hk
  rw [hb, List.getElem?_map] at hk
  obtain ⟨l, hl, rfl⟩ := Option.map_eq_some_iff.mp hk
  have hl' : fw.lines[fw.pos + k]? = some l := by
    rw [← List.getElem?_drop, hlines, List.getElem?_append_left (List.getElem?_eq_some_iff.mp hl).1]
    exact hl
  exact ⟨l, hl', rfl, by rw [originsFrom_get fw.lines fw.start (fw.pos + k) l hok hl', hsl]; omega⟩

end Mistletoe.Block
