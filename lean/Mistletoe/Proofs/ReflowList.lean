/-
  C10 (reflow), prose inside LIST ITEMS — the Markdown renderer WITH a line limit (`max_line_length = L`) on documents
  made of paragraphs of plain words and lists (bullet / ordered, padding 1…4, tight / loose, nested to any depth) whose
  items are made of such paragraphs and lists again.

  Fragment: a tree `PT` — `.para g` (`g`: lines of `plainWord`s, as in Proofs/Reflow.lean) or `.list ordered start mk pad
  loose items` — mapped by `PT.mb` into the tree `MdRound.MB` of the C09 list round trip, so writer (`wrs`), block phase
  (`tokenize_nodes`), token constructors (`mkBlocks_ents`) and the line shape of the renderer (`outs_lines`,
  `prefixLines_indentDoc`) are those of Proofs/MdRoundLists(2).lean.  The fragment predicate `oksP` asks nothing of the
  LINES: that the written lines are in the normal form `MB.oks` of C09 (item lines `itemDocOk`, marker + first line no
  thematic break, a paragraph behind a list is no marker line) is PROVED (`oks_mbs`, through the line shape `Good`) —
  this is what makes the fragment closed under re-filling (`oks_reflows`): after re-filling ANY word of a paragraph
  may stand first on a continuation line of an item, and `plainWord` (first character `plainStart`) is what keeps such
  a line from being read as a marker, a thematic break, a heading, … inside the item (`line_good`, `normalPara_of_plain`).

  The mechanism of the property: `render_list_item` hands `max(max_line_length - prepend, 1)` to its children
  (`childBudget`), so a paragraph whose enclosing items have prefixes of total width `w` is filled with the budget
  `bud L w = max (L − w) 1` (`childBudget_bud`: the budgets compose in closed form; the clamp keeps wrapping on).

  The clauses: (1) `reflowLQ_render` (from `renderBlocks_wrapL`), the output is the text of the tree `reflows L 0 ts` —
  item structure unchanged, every paragraph `reflowG (bud L w) g`; (2) `reflowLQ_line_bound`, every output line is "\n"
  or prefix (width `w`) ++ body ++ "\n" (`Cover`), and a body longer than its budget, or a line longer than `L`, has a
  body that is one single word; (3) `reflowL_same_words`, `reflowLQ_meaning`, same structure and same words per paragraph
  (`norms`, `parasS`), and the HTML of the two token trees agrees after "\n" ↦ " " (`SoftEq`, `softEqs_blks`);
  (4) `reflowLQ_idempotent` (`reflows_idem`).  They are proved with `k` nested block quotes AROUND the document
  (`textLQ k`, budget `bud (qBudget L k) w = max (L − 2k − w) 1`); the document itself is `k = 0`.
  Under `Config.markdown`: clause (3), `C10_list_reflow_quoted_meaning_partial`, and the instances `k = 0` of (3) and (4),
  `C10_list_reflow_meaning_partial`, `C10_list_reflow_idempotent_partial`, stand here; clause (4) at depth `k`
  (`C10_list_reflow_quoted_idempotent_partial`, from `reflowLQ_idempotent`) and clauses (1), (2) and the words of (3)
  (`C10_list_reflow_quoted_partial`, at `k = 0` `C10_list_reflow_partial`) in Props/C10_Lists.lean.  Nothing in (1)–(4)
  is false on the model: clamping does not break idempotence (the output has the same item structure, hence
  the same prefix widths and budgets), and a re-filled line cannot change the structure (`plainWord`).  Not covered:
  block quotes INSIDE items; blocks of an item written WITHOUT an empty line between them (e.g. a nested list
  directly behind the paragraph: not the normal form `wrs` of C09 — the kernel evaluation at the end shows the model
  agreeing with the real code on such a text); the HTML comparison under the HTML renderer's own token list.
-/
import Mistletoe.Proofs.MdRoundLists2
import Mistletoe.Proofs.ReflowQuote
import Mistletoe.Proofs.Lit
namespace Mistletoe.ReflowList
open Mistletoe Mistletoe.Py Mistletoe.Scan Mistletoe.Wrap Mistletoe.Markdown Mistletoe.InertInline Mistletoe.MdRound
open Mistletoe.Reflow
open Mistletoe.Block
open Mistletoe.Props.C10 (joinWords)
open Mistletoe.Props.C14 (inertLine markdownTypes)
open Mistletoe.Props.C04 (indentDoc itemDocOk)
open Mistletoe.ComposeL (leaderOf markerOk leaderOk_of_marker sepS stopLineB)

/-- a block of the fragment: a paragraph of plain words given as lines of words (as in `Proofs/Reflow.lean`), or a
    list as in `MdRound.MB` whose items are made of blocks of the fragment again -/
inductive PT where
  | para (g : List (List Str))
  | list (ordered : Bool) (start : Nat) (mk : Char) (pad : Nat) (loose : Bool) (items : List (List PT))

mutual
def PT.mb : PT → MB
  | .para g => .leaf (.para (paraLines g))
  | .list o n mk pad loose items => .list o n mk pad loose (mbItems items)
def mbs : List PT → List MB
  | [] => []
  | t :: rest => t.mb :: mbs rest
def mbItems : List (List PT) → List (List MB)
  | [] => []
  | it :: rest => mbs it :: mbItems rest
end

def isListP : PT → Bool
  | .list .. => true
  | _ => false

def otherTypeP : PT → PT → Bool
  | .list o _ mk _ _ _, .list o' _ mk' _ _ _ => o != o' || mk != mk'
  | _, _ => false

/-- two consecutive siblings: behind a list comes a paragraph, or a list of another marker type -/
def sepOkP (t t' : PT) : Bool := !isListP t || !isListP t' || otherTypeP t t'

mutual
/-- **the fragment** (decidable): every paragraph is a `plainPara`; a list has padding 1…4 (1 under
    `normalize_whitespace=True`), at least one item, every item at least one block of the fragment, markers `-`, `+`,
    `*`, or a number below 10⁹ and `.` or `)`.  Nothing is asked of the LINES (unlike `MB.ok`): that they are in the
    normal form of C09 is proved (`oks_mbs`) — which is what makes the fragment closed under re-filling. -/
def PT.ok (nw : Bool) : PT → Bool
  | .para g => plainPara g
  | .list o n mk pad _ items =>
    decide (1 ≤ pad) && decide (pad ≤ 4) && (!nw || pad == 1) && !items.isEmpty && okItemsP nw o mk n items
def oksP (nw : Bool) : List PT → Bool
  | [] => true
  | t :: rest => t.ok nw && oksP nw rest && (match rest with | [] => true | t' :: _ => sepOkP t t')
def okItemsP (nw : Bool) (o : Bool) (mk : Char) (n : Nat) : List (List PT) → Bool
  | [] => true
  | it :: rest => !it.isEmpty && oksP nw it && markerOk o n mk && okItemsP nw o mk (n + 1) rest
end

theorem mbs_cons (t : PT) (r : List PT) : mbs (t :: r) = t.mb :: mbs r := by simp [mbs]
theorem mbItems_cons (it : List PT) (r : List (List PT)) : mbItems (it :: r) = mbs it :: mbItems r := by simp [mbItems]
theorem mbItems_nil : mbItems [] = [] := by simp [mbItems]

theorem isListM_mb (t : PT) : isListM t.mb = isListP t := by
  cases t <;> simp [PT.mb, isListM, isListP]

theorem oksP_cons (nw : Bool) (t : PT) (rest : List PT) (h : oksP nw (t :: rest) = true) :
    t.ok nw = true ∧ oksP nw rest = true ∧ ∀ t' r, rest = t' :: r → sepOkP t t' = true := by
  simp only [oksP, Bool.and_eq_true] at h
  refine ⟨h.1.1, h.1.2, ?_⟩
  rintro t' r rfl
  exact h.2

theorem oksP_cons2 (nw : Bool) (t t' : PT) (r : List PT) :
    oksP nw (t :: t' :: r) = (t.ok nw && oksP nw (t' :: r) && sepOkP t t') := by
  rw [oksP]

theorem okItemsP_cons (nw o : Bool) (mk : Char) (n : Nat) (it : List PT) (rest : List (List PT))
    (h : okItemsP nw o mk n (it :: rest) = true) :
    it ≠ [] ∧ oksP nw it = true ∧ markerOk o n mk = true ∧ okItemsP nw o mk (n + 1) rest = true := by
  simp only [okItemsP, Bool.and_eq_true, Bool.not_eq_eq_eq_not, Bool.not_true, List.isEmpty_eq_false_iff] at h
  obtain ⟨⟨⟨a, b⟩, c⟩, d⟩ := h
  exact ⟨a, b, c, d⟩

structure ListOkP (nw o : Bool) (n : Nat) (mk : Char) (pad : Nat) (items : List (List PT)) : Prop where
  p1 : 1 ≤ pad
  p4 : pad ≤ 4
  pnw : nw = true → pad = 1
  ne : items ≠ []
  its : okItemsP nw o mk n items = true

theorem ok_list_iff (nw o : Bool) (n : Nat) (mk : Char) (pad : Nat) (loose : Bool) (items : List (List PT)) :
    (PT.list o n mk pad loose items).ok nw = true ↔ ListOkP nw o n mk pad items := by
  simp only [PT.ok, Bool.and_eq_true, decide_eq_true_eq, Bool.not_eq_eq_eq_not, Bool.not_true, List.isEmpty_eq_false_iff,
    Bool.or_eq_true, beq_iff_eq]
  constructor
  · rintro ⟨⟨⟨⟨a, b⟩, c⟩, d⟩, e⟩
    exact ⟨a, b, fun hn => c.resolve_left (by rw [hn]; decide), d, e⟩
  · rintro ⟨a, b, c, d, e⟩
    refine ⟨⟨⟨⟨a, b⟩, ?_⟩, d⟩, e⟩
    cases nw with
    | false => exact Or.inl rfl
    | true => exact Or.inr (c rfl)

theorem listOkP_of (nw o : Bool) (n : Nat) (mk : Char) (pad : Nat) (loose : Bool) (items : List (List PT))
    (h : (PT.list o n mk pad loose items).ok nw = true) : ListOkP nw o n mk pad items :=
  (ok_list_iff nw o n mk pad loose items).mp h

/-! ### The lines of the fragment are in the normal form of C09 -/

def Line0 (s : Str) : Prop := ∃ c body, s = c :: body ++ ['\n'] ∧ pyIsSpace c = false ∧ '\n' ∉ body

/-- the line holds a character that is neither whitespace nor one of `-`, `_`, `*` (so it is no thematic break) -/
def WordCh (s : Str) : Prop := ∃ x ∈ s, x ≠ '-' ∧ x ≠ '_' ∧ x ≠ '*' ∧ pyIsSpace x = false

/-- the lines of a block or of siblings: the first is flush, every other one is "\n" or has a non-whitespace
    character behind its spaces, the last one is not "\n" (what `itemDocOk` asks), and the first is no thematic break
    whatever marker is put before it -/
def Good (ls : List Str) : Prop :=
  ∃ s0 ss, ls = s0 :: ss ∧ Line0 s0 ∧ WordCh s0 ∧ (∀ s ∈ ss, s = ['\n'] ∨ ContLine s) ∧ ss.getLast? ≠ some ['\n']

theorem line0_cont (s : Str) (h : Line0 s) : ContLine s := by
  obtain ⟨c, body, rfl, hc, hb⟩ := h
  exact ⟨0, c, body, by simp, hc, hb⟩

theorem contLineB_of_cont (s : Str) (h : ContLine s) : contLineB s = true := by
  obtain ⟨n, c, body, rfl, hc, hb⟩ := h
  have hsp : c ≠ ' ' := by intro e; subst e; exact absurd hc (by decide)
  have e : List.replicate n ' ' ++ c :: body ++ ['\n'] = List.replicate n ' ' ++ c :: (body ++ ['\n']) := by simp
  unfold contLineB
  rw [e, countLeading_rep n c _ hsp, List.drop_left' (by simp)]
  simp only [hc, Bool.not_false, Bool.true_and, List.getLast?_concat, List.dropLast_concat, beq_self_eq_true]
  simpa using hb

theorem good_itemDocOk (ls : List Str) (h : Good ls) : itemDocOk ls = true := by
  obtain ⟨s0, ss, rfl, ⟨c, body, rfl, hc, _⟩, _, hall, hlast⟩ := h
  simp only [itemDocOk, List.cons_append, hc, Bool.not_false, Bool.true_and, Bool.and_eq_true, List.all_eq_true,
    Bool.or_eq_true, beq_iff_eq, bne_iff_ne, ne_eq]
  refine ⟨?_, hlast⟩
  intro s hs
  rcases hall s hs with h | h
  · exact Or.inl h
  · exact Or.inr (contLineB_of_cont s h)

theorem line0_ne_nl (s : Str) (h : Line0 s) : s ≠ ['\n'] := contLine_ne_nl s (line0_cont s h)

theorem sepS_nl (b : Bool) : ∀ s ∈ sepS b, s = ['\n'] := by
  cases b <;> simp [sepS]

/-- `M`: the "\n" lines between siblings or items (none between the items of a tight list) -/
theorem good_append_sep (A M B : List Str) (hM : ∀ s ∈ M, s = ['\n']) (hA : Good A) (hB : Good B) :
    Good (A ++ (M ++ B)) := by
  obtain ⟨a0, as, rfl, ha0, hw, hall, _⟩ := hA
  obtain ⟨b0, bs, rfl, hb0, _, hallB, hlastB⟩ := hB
  refine ⟨a0, as ++ (M ++ b0 :: bs), by simp, ha0, hw, ?_, ?_⟩
  · intro s hs
    simp only [List.mem_append, List.mem_cons] at hs
    rcases hs with hs | hs | rfl | hs
    · exact hall s hs
    · exact Or.inl (hM s hs)
    · exact Or.inr (line0_cont _ hb0)
    · exact hallB s hs
  · rw [List.getLast?_append, List.getLast?_append, List.getLast?_cons]
    cases hl : bs.getLast? with
    | none => simpa using line0_ne_nl _ hb0
    | some x => rw [hl] at hlastB; simpa using hlastB

theorem contLine_indent (W : Nat) (s : Str) (h : ContLine s) : ContLine (List.replicate W ' ' ++ s) := by
  obtain ⟨n, c, body, rfl, hc, hb⟩ := h
  refine ⟨W + n, c, body, ?_, hc, hb⟩
  simp only [List.append_assoc, List.cons_append]
  rw [← List.append_assoc, List.replicate_append_replicate]

theorem good_indent (m : Str) (hm : ListLeader m) (pad : Nat) (ls : List Str) (h : Good ls) : Good (indentDoc m pad ls) := by
  obtain ⟨s0, ss, rfl, ⟨c0, body, rfl, hc0, hb⟩, ⟨x, hx, hx'⟩, hall, hlast⟩ := h
  obtain ⟨c, m', rfl, hc⟩ := hm.lead
  have hnl : '\n' ∉ m' := fun hmem => hm.noNl (List.mem_cons_of_mem _ hmem)
  have hc0nl : c0 ≠ '\n' := by intro e; subst e; exact absurd hc0 (by decide)
  have hxm : x ∈ (c :: m') ++ List.replicate pad ' ' ++ (c0 :: body ++ ['\n']) := List.mem_append_right _ hx
  refine ⟨_, _, rfl, ⟨c, m' ++ List.replicate pad ' ' ++ c0 :: body, by simp, hc.nsp, ?_⟩, ⟨x, hxm, hx'⟩, ?_, ?_⟩
  · simp only [List.mem_append, List.mem_cons, List.mem_replicate, not_or]
    refine ⟨⟨hnl, ?_⟩, Ne.symm hc0nl, hb⟩
    rintro ⟨_, e⟩; revert e; decide
  · intro s hs
    obtain ⟨y, hy, rfl⟩ := List.mem_map.mp hs
    by_cases e : y = ['\n']
    · simp [e]
    · simp only [e, if_false]
      rcases hall y hy with h | h
      · exact absurd h e
      · exact Or.inr (contLine_indent _ y h)
  · rw [List.getLast?_map]
    cases hl : ss.getLast? with
    | none => simp
    | some y =>
      rw [hl] at hlast
      have e : y ≠ ['\n'] := fun e => hlast (by rw [e])
      simp only [Option.map_some, e, if_false, ne_eq, Option.some.injEq]
      intro e2
      have hk : (c :: m').length + pad = (m'.length + pad) + 1 := by simp only [List.length_cons]; omega
      rw [hk] at e2
      simp [List.replicate_succ] at e2

/-- marker + first line is no thematic break: the line holds a character that is neither the marker nor whitespace -/
theorem tb_false (m : Str) (hm : ListLeader m) (pad : Nat) (s0 : Str) (h : WordCh s0) :
    Scan.thematicBreak (m ++ List.replicate pad ' ' ++ s0) = false := by
  obtain ⟨x, hx, h1, h2, h3, h4⟩ := h
  obtain ⟨c, m', rfl, hc⟩ := hm.lead
  rw [List.append_assoc, List.cons_append]
  by_cases hcc : c = '-' ∨ c = '_' ∨ c = '*'
  · unfold Scan.thematicBreak
    rw [lead_upTo3 hc]
    simp only
    have hxc : x ≠ c := by
      rintro rfl
      rcases hcc with e | e | e
      · exact h1 e
      · exact h2 e
      · exact h3 e
    have hall : (c :: (m' ++ (List.replicate pad ' ' ++ s0))).all (fun d => d == c || ws d) = false := by
      rw [List.all_eq_false]
      exact ⟨x, by simp [hx], by simp [hxc, Scan.ws, h4]⟩
    rw [hall]
    simp
  · exact thematicBreak_rep 0 c _ (by omega) hc.n_sp (fun e => hcc (Or.inl e)) (fun e => hcc (Or.inr (Or.inl e)))
      (fun e => hcc (Or.inr (Or.inr e)))

theorem line_good (ws : List Str) (h : plainWords ws = true) :
    Line0 (lineOf ws) ∧ WordCh (lineOf ws) ∧ stopLineB (lineOf ws) = true := by
  obtain ⟨hne, hw⟩ := plainWords_facts ws h
  have f := lineFacts ws h
  cases ws with
  | nil => exact absurd rfl hne
  | cons w ws' =>
    have fw := hw w (by simp)
    cases hwc : w with
    | nil => exact absurd hwc fw.ne
    | cons c r =>
      obtain ⟨r', hj⟩ := joinWords_head w ws' c r hwc
      have pc := plainChar_of c (fw.start c r hwc)
      have hnl : '\n' ∉ r' := fun hm => joinWords_nonl _ h (by rw [hj]; exact List.mem_cons_of_mem _ hm)
      have hli : Scan.listItem (lineOf (w :: ws')) = none := by
        have hi := f.inert
        simp only [inertLine, Bool.and_eq_true, Option.isNone_iff_eq_none] at hi
        exact hi.1.1.1.1.2
      subst hwc
      refine ⟨⟨c, r', by simp [lineOf, hj], pc.nsp, hnl⟩, ⟨c, by simp [lineOf, hj], pc.n_dash, pc.n_us, pc.n_star, pc.nsp⟩, ?_⟩
      simp only [stopLineB, parseMarker_none _ hli, Option.isNone_none, Bool.and_true]
      simp [lineOf, hj, pc.nsp]

theorem good_para (g : List (List Str)) (h : plainPara g = true) : Good (paraLines g) := by
  obtain ⟨hne, hg⟩ := plainPara_facts g h
  cases g with
  | nil => exact absurd rfl hne
  | cons ws g' =>
    have h0 := line_good ws (hg ws (by simp))
    refine ⟨lineOf ws, paraLines g', rfl, h0.1, h0.2.1, ?_, ?_⟩
    · intro s hs
      obtain ⟨ws', hws', rfl⟩ := List.mem_map.mp hs
      exact Or.inr (line0_cont _ (line_good ws' (hg ws' (List.mem_cons_of_mem _ hws'))).1)
    · cases hl : (paraLines g').getLast? with
      | none => simp
      | some y =>
        have hy : y ∈ paraLines g' := List.mem_of_getLast? hl
        obtain ⟨ws', hws', rfl⟩ := List.mem_map.mp hy
        have := line0_ne_nl _ (line_good ws' (hg ws' (List.mem_cons_of_mem _ hws'))).1
        simpa using this

theorem sepS_false : sepS false = [] := rfl

theorem mbItems_ne (items : List (List PT)) (h : items ≠ []) : mbItems items ≠ [] := by
  cases items with
  | nil => exact absurd rfl h
  | cons a b => simp [mbItems]

theorem mbs_ne (ts : List PT) (h : ts ≠ []) : mbs ts ≠ [] := by
  cases ts with
  | nil => exact absurd rfl h
  | cons a b => simp [mbs]

/-- behind a list of the fragment: a list of another type, or a paragraph, whose first line is a `stopLineB` -/
theorem sepOkM_mb (nw : Bool) (t t' : PT) (hok : t'.ok nw = true) (h : sepOkP t t' = true) : sepOkM t.mb t'.mb = true := by
  cases t with
  | para g => simp [sepOkM, PT.mb, isListM]
  | list o n mk pad loose items =>
    cases t' with
    | para g' =>
      obtain ⟨hne, hg⟩ := plainPara_facts g' hok
      cases g' with
      | nil => exact absurd rfl hne
      | cons ws g'' =>
        simp [sepOkM, PT.mb, isListM, wr, Blk.lines, paraLines, (line_good ws (hg ws (by simp))).2.2]
    | list o' n' mk' pad' loose' items' =>
      simpa [sepOkM, PT.mb, isListM, otherTypeB, sepOkP, isListP, otherTypeP] using h

mutual
/-- **the fragment lies in the normal form of C09** (`MB.ok`), and its lines have the shape `Good` -/
theorem ok_mb (nw : Bool) : ∀ (t : PT), t.ok nw = true → t.mb.ok nw = true ∧ Good (wr false t.mb)
  | .para g, hp => by
    refine ⟨by simp only [PT.mb, MB.ok]; exact normalPara_of_plain g hp, ?_⟩
    simpa [PT.mb, wr, Blk.lines] using good_para g hp
  | .list o n mk pad loose items, h => by
    have hl := listOkP_of nw o n mk pad loose items h
    have hi := okItems_mb nw o mk pad loose n items hl.its
    constructor
    · simp only [PT.mb, MB.ok, Bool.and_eq_true, decide_eq_true_eq, Bool.not_eq_eq_eq_not, Bool.not_true,
        List.isEmpty_eq_false_iff, Bool.or_eq_true, beq_iff_eq]
      refine ⟨⟨⟨⟨hl.p1, hl.p4⟩, ?_⟩, mbItems_ne items hl.ne⟩, hi.1⟩
      cases nw with
      | false => exact Or.inl rfl
      | true => exact Or.inr (hl.pnw rfl)
    · simpa [PT.mb, wr] using hi.2 hl.ne
theorem oks_mbs (nw : Bool) : ∀ (ts : List PT), oksP nw ts = true →
    MB.oks nw (mbs ts) = true ∧ (ts ≠ [] → Good (wrs (mbs ts)))
  | [], _ => ⟨by simp [mbs, MB.oks], fun h => absurd rfl h⟩
  | t :: rest, h => by
    obtain ⟨ht, hr, hsep⟩ := oksP_cons nw t rest h
    have h1 := ok_mb nw t ht
    have ih := oks_mbs nw rest hr
    refine ⟨?_, fun _ => ?_⟩
    · cases rest with
      | nil => simp [mbs, MB.oks, h1.1]
      | cons t' r =>
        have ih1 := ih.1
        simp only [mbs_cons] at ih1 ⊢
        simp only [MB.oks, Bool.and_eq_true] at ih1 ⊢
        exact ⟨⟨h1.1, ih1⟩, sepOkM_mb nw t t' (oksP_cons nw t' r hr).1 (hsep t' r rfl)⟩
    · rw [mbs_cons, wrs_cons_text nw _ _ h1.1]
      cases rest with
      | nil => simpa [mbs, wrs, sepS] using h1.2
      | cons t' r => exact good_append_sep _ _ _ (sepS_nl _) h1.2 (ih.2 (by simp))
theorem okItems_mb (nw o : Bool) (mk : Char) (pad : Nat) (loose : Bool) : ∀ (n : Nat) (items : List (List PT)),
    okItemsP nw o mk n items = true →
    MB.okItems nw o mk pad n (mbItems items) = true ∧ (items ≠ [] → Good (wrItems false o mk pad loose n (mbItems items)))
  | _, [], _ => ⟨by simp [mbItems, MB.okItems], fun h => absurd rfl h⟩
  | n, it :: rest, h => by
    obtain ⟨hne, hit, hmk, hrest⟩ := okItemsP_cons nw o mk n it rest h
    have h1 := oks_mbs nw it hit
    have ih := okItems_mb nw o mk pad loose (n + 1) rest hrest
    have hg := h1.2 hne
    have hm := listLeader_of o _ (leaderOk_of_marker o n mk hmk)
    obtain ⟨s0, ss, hw, _, hwc, _⟩ := h1.2 hne
    have hgi := good_indent _ hm pad _ hg
    constructor
    · rw [mbItems_cons]
      simp only [MB.okItems, Bool.and_eq_true, Bool.not_eq_eq_eq_not, Bool.not_true, List.isEmpty_eq_false_iff]
      refine ⟨⟨⟨⟨⟨mbs_ne it hne, h1.1⟩, hmk⟩, good_itemDocOk _ hg⟩, ?_⟩, ih.1⟩
      rw [hw]
      exact tb_false _ hm pad s0 hwc
    · intro _
      rw [mbItems_cons]
      cases rest with
      | nil =>
        rw [mbItems_nil, wrItems_single, sepS_false, List.append_nil]
        exact hgi
      | cons it' r =>
        have ihg := ih.2 (by simp)
        rw [mbItems_cons] at ihg ⊢
        rw [wrItems_cons2]
        exact good_append_sep _ _ _ (sepS_nl loose) hgi ihg
end

/-! ### Re-filling the tree -/

/-- **the fill budget** of a paragraph whose container prefixes (marker + padding of the enclosing items) have total
    width `w`, for `max_line_length = L`: `max (L − w) 1` -/
def bud (L w : Nat) : Nat := max (L - w) 1

/-- the same as the `int` the model computes -/
def budI (L w : Nat) : Int := max ((L : Int) - (w : Int)) 1

theorem budI_ne (L w : Nat) : budI L w ≠ 0 := by simp only [budI]; omega
theorem budI_toNat (L w : Nat) : (budI L w).toNat = bud L w := by simp only [budI, bud]; omega
theorem budI_zero (L : Nat) (hL : 1 ≤ L) : budI L 0 = (L : Int) := by simp only [budI]; omega

/-- **`render_list_item` shrinks the budget by its prefix width, never below 1** (`childBudget`), iterated: the
    budgets compose to `max (L − total width) 1` -/
theorem childBudget_bud (L w p : Nat) : childBudget (some (budI L w)) p = some (budI L (w + p)) := by
  have h := budI_ne L w
  simp only [childBudget, h, if_false]
  simp only [budI]
  congr 1
  omega

mutual
/-- the tree after rendering with `max_line_length = L`: every paragraph re-filled with the budget of its position
    (`w` = total prefix width of the enclosing items); markers, numbering, padding, looseness unchanged -/
def PT.reflow (L : Nat) (w : Nat) : PT → PT
  | .para g => .para (reflowG (bud L w) g)
  | .list o n mk pad loose items => .list o n mk pad loose (reflowItems L w o mk pad n items)
def reflows (L : Nat) (w : Nat) : List PT → List PT
  | [] => []
  | t :: rest => t.reflow L w :: reflows L w rest
def reflowItems (L : Nat) (w : Nat) (o : Bool) (mk : Char) (pad : Nat) (n : Nat) : List (List PT) → List (List PT)
  | [] => []
  | it :: rest => reflows L (w + ((leaderOf o n mk).length + pad)) it :: reflowItems L w o mk pad (n + 1) rest
end

theorem reflows_cons (L w : Nat) (t : PT) (r : List PT) : reflows L w (t :: r) = t.reflow L w :: reflows L w r := by
  simp [reflows]
theorem reflows_nil (L w : Nat) : reflows L w [] = [] := by simp [reflows]
theorem reflowItems_cons (L w : Nat) (o : Bool) (mk : Char) (pad n : Nat) (it : List PT) (r : List (List PT)) :
    reflowItems L w o mk pad n (it :: r) =
      reflows L (w + ((leaderOf o n mk).length + pad)) it :: reflowItems L w o mk pad (n + 1) r := by
  simp [reflowItems]
theorem reflowItems_nil (L w : Nat) (o : Bool) (mk : Char) (pad n : Nat) : reflowItems L w o mk pad n [] = [] := by
  simp [reflowItems]

theorem isListP_reflow (L w : Nat) (t : PT) : isListP (t.reflow L w) = isListP t := by
  cases t <;> simp [PT.reflow, isListP]

theorem sepOkP_reflow (L w : Nat) (t t' : PT) : sepOkP (t.reflow L w) (t'.reflow L w) = sepOkP t t' := by
  cases t <;> cases t' <;> simp [PT.reflow, sepOkP, isListP, otherTypeP]

theorem reflows_ne (L w : Nat) (ts : List PT) (h : ts ≠ []) : reflows L w ts ≠ [] := by
  cases ts with
  | nil => exact absurd rfl h
  | cons a b => simp [reflows]

theorem reflowItems_ne (L w : Nat) (o : Bool) (mk : Char) (pad n : Nat) (items : List (List PT)) (h : items ≠ []) :
    reflowItems L w o mk pad n items ≠ [] := by
  cases items with
  | nil => exact absurd rfl h
  | cons a b => simp [reflowItems]

mutual
theorem ok_reflow (nw : Bool) (L : Nat) : ∀ (t : PT) (w : Nat), t.ok nw = true → (t.reflow L w).ok nw = true
  | .para g, w, hp => by
    simpa [PT.reflow, PT.ok] using (reflowFacts (bud L w) g hp).plain
  | .list o n mk pad loose items, w, h => by
    have hl := listOkP_of nw o n mk pad loose items h
    exact (ok_list_iff ..).mpr
      ⟨hl.p1, hl.p4, hl.pnw, reflowItems_ne L w o mk pad n items hl.ne, okItems_reflow nw L o mk pad n items w hl.its⟩
theorem oks_reflows (nw : Bool) (L : Nat) : ∀ (ts : List PT) (w : Nat), oksP nw ts = true → oksP nw (reflows L w ts) = true
  | [], _, _ => by simp [reflows, oksP]
  | [t], w, h => by
    have h1 := ok_reflow nw L t w (oksP_cons nw t [] h).1
    simp [reflows, oksP, h1]
  | t :: t' :: r, w, h => by
    obtain ⟨ht, hr, hsep⟩ := oksP_cons nw t (t' :: r) h
    have h1 := ok_reflow nw L t w ht
    have ih := oks_reflows nw L (t' :: r) w hr
    simp only [reflows_cons] at ih ⊢
    rw [oksP_cons2, h1, ih, sepOkP_reflow, hsep t' r rfl]
    rfl
theorem okItems_reflow (nw : Bool) (L : Nat) (o : Bool) (mk : Char) (pad : Nat) : ∀ (n : Nat) (items : List (List PT)) (w : Nat),
    okItemsP nw o mk n items = true → okItemsP nw o mk n (reflowItems L w o mk pad n items) = true
  | _, [], _, _ => by simp [reflowItems, okItemsP]
  | n, it :: rest, w, h => by
    obtain ⟨hne, hit, hmk, hrest⟩ := okItemsP_cons nw o mk n it rest h
    have h1 := oks_reflows nw L it (w + ((leaderOf o n mk).length + pad)) hit
    have ih := okItems_reflow nw L o mk pad (n + 1) rest w hrest
    rw [reflowItems_cons]
    simp only [okItemsP, Bool.and_eq_true, Bool.not_eq_eq_eq_not, Bool.not_true, List.isEmpty_eq_false_iff]
    exact ⟨⟨⟨reflows_ne _ _ it hne, h1⟩, hmk⟩, ih⟩
end

/-! ### The renderer with a line limit on the tree -/

theorem adj_reflow (L w : Nat) (t t' : PT) : adj (t.reflow L w).mb (t'.reflow L w).mb = adj t.mb t'.mb := by
  simp [adj, isListM_mb, isListP_reflow]

theorem trailOf_reflows (L w : Nat) (t : PT) (rest : List PT) :
    trailOf (t.reflow L w).mb (mbs (reflows L w rest)) = trailOf t.mb (mbs rest) := by
  cases rest <;> simp [reflows, mbs, adj_reflow]

theorem gapOf_reflows (L w : Nat) (t : PT) (rest : List PT) :
    gapOf (t.reflow L w).mb (mbs (reflows L w rest)) = gapOf t.mb (mbs rest) := by
  cases rest <;> simp [reflows, mbs, adj_reflow]

theorem reflows_isEmpty (L w : Nat) (ts : List PT) : (mbs (reflows L w ts)).isEmpty = ts.isEmpty := by
  cases ts <;> simp [reflows, mbs]

theorem reflowItems_isEmpty (L w : Nat) (o : Bool) (mk : Char) (pad n : Nat) (items : List (List PT)) :
    (mbItems (reflowItems L w o mk pad n items)).isEmpty = (mbItems items).isEmpty := by
  cases items <;> simp [mbItems, reflowItems]

theorem outs_reflows_ne (nw : Bool) (L w : Nat) (it : List PT) (hit : oksP nw it = true) (hne : it ≠ []) :
    outs (mbs (reflows L w it)) ≠ [] := by
  have h1 := oks_mbs nw (reflows L w it) (oks_reflows nw L it w hit)
  exact outs_ne nw _ h1.1 (good_itemDocOk _ (h1.2 (reflows_ne L w it hne)))

mutual
theorem renderBlock_wrapL (o : Opts) (L : Nat) : ∀ (t : PT) (tr : Bool) (k w : Nat), t.ok o.normalizeWhitespace = true →
    renderBlock o (some (budI L w)) (blk tr k t.mb) = .ok (outB tr (t.reflow L w).mb)
  | .para g, tr, k, w, hp => by
    have hg := (plainPara_facts g hp).2
    have f := reflowFacts (bud L w) g hp
    have hg' := (plainPara_facts _ f.plain).2
    simp only [PT.mb, PT.reflow, blk, itemBlock, outB, itemOut, renderBlock, paraLines_strip g hg,
      paraLines_strip _ hg', spanToLines_wrap g hg (budI L w) (budI_ne L w), budI_toNat, f.lines]
  | .list ord s mk pad loose items, tr, k, w, h => by
    have hl := listOkP_of _ ord s mk pad loose items h
    simp only [PT.mb, PT.reflow, blk, outB, renderBlock]
    exact renderBlocks_itemsL o L tr ord mk pad loose hl.pnw s k w items hl.its
theorem renderBlocks_wrapL (o : Opts) (L : Nat) : ∀ (ts : List PT) (k w : Nat), oksP o.normalizeWhitespace ts = true →
    renderBlocks o (some (budI L w)) (blks k (mbs ts)) = .ok (outs (mbs (reflows L w ts)))
  | [], _, _, _ => by simp [mbs, reflows, blks, outs, renderBlocks]
  | t :: rest, k, w, h => by
    obtain ⟨h1, h2, _⟩ := oksP_cons _ t rest h
    rw [reflows_cons, mbs_cons, mbs_cons, blks_cons, outs_cons, trailOf_reflows, gapOf_reflows]
    exact renderBlocks_cons o _ _ _ _ _ (renderBlock_wrapL o L t _ k w h1)
      (renderBlocks_append o _ _ _ _ _ (renderBlocks_blankB o _ _ _) (renderBlocks_wrapL o L rest _ w h2))
theorem renderBlocks_itemsL (o : Opts) (L : Nat) (tr ord : Bool) (mk : Char) (pad : Nat) (loose : Bool)
    (hnw : o.normalizeWhitespace = true → pad = 1) :
    ∀ (s k w : Nat) (items : List (List PT)), okItemsP o.normalizeWhitespace ord mk s items = true →
      renderBlocks o (some (budI L w)) (blkItems tr ord mk pad loose s k (mbItems items)) =
        .ok (outItems tr ord mk pad loose s (mbItems (reflowItems L w ord mk pad s items)))
  | _, _, _, [], _ => by simp [mbItems, reflowItems, blkItems, outItems, renderBlocks]
  | s, k, w, it :: rest, h => by
    obtain ⟨hne, hit, _, hrest⟩ := okItemsP_cons _ ord mk s it rest h
    have hk := renderBlocks_append o _ _ _ _ _
      (renderBlocks_wrapL o L it k (w + ((leaderOf ord s mk).length + pad)) hit)
      (renderBlocks_blankB o (some (budI L (w + ((leaderOf ord s mk).length + pad))))
        ((loose && !(mbItems rest).isEmpty) || (tr && (mbItems rest).isEmpty)) (k + (wrs (mbs it)).length))
    have hne' : outs (mbs (reflows L (w + ((leaderOf ord s mk).length + pad)) it)) ++
        sepOut ((loose && !(mbItems rest).isEmpty) || (tr && (mbItems rest).isEmpty)) ≠ [] := by
      intro e
      exact outs_reflows_ne _ L _ it hit hne (List.append_eq_nil_iff.mp e).1
    have h1 := renderBlock_listItem o (some (budI L w)) (leaderOf ord s mk) pad hnw _ _ hne' (by rw [childBudget_bud]; exact hk) k
    have h2 := renderBlocks_itemsL o L tr ord mk pad loose hnw (s + 1) (k + (wrs (mbs it)).length + (sepS loose).length) w rest hrest
    rw [mbItems_cons, reflowItems_cons, mbItems_cons]
    simp only [blkItems, outItems, renderBlocks, h1, h2, reflowItems_isEmpty]
end

/-- the document as a `str`: the lines `MdRound.wrs` writes (blocks separated by single empty lines, items behind
    marker + padding and content-offset spaces) -/
abbrev textL (ts : List PT) : Str := (wrs (mbs ts)).flatten

mutual
theorem need_reflow (L : Nat) : ∀ (t : PT) (w : Nat), needM (t.reflow L w).mb = needM t.mb
  | .para g, w => by simp [PT.reflow, PT.mb, needM]
  | .list o n mk pad loose items, w => by
    simp only [PT.reflow, PT.mb, needM, needItems_reflow L o mk pad n items w]
theorem needs_reflows (L : Nat) : ∀ (ts : List PT) (w : Nat), needsM (mbs (reflows L w ts)) = needsM (mbs ts)
  | [], _ => by simp [reflows]
  | t :: r, w => by
    rw [reflows_cons, mbs_cons, mbs_cons, needsM_cons, needsM_cons, need_reflow L t w, needs_reflows L r w]
theorem needItems_reflow (L : Nat) (o : Bool) (mk : Char) (pad : Nat) : ∀ (n : Nat) (items : List (List PT)) (w : Nat),
    needItemsM (mbItems (reflowItems L w o mk pad n items)) = needItemsM (mbItems items)
  | _, [], _ => by simp [reflowItems]
  | n, it :: r, w => by
    rw [reflowItems_cons, mbItems_cons, mbItems_cons, needItemsM_cons, needItemsM_cons, needs_reflows L it _,
      needItems_reflow L o mk pad (n + 1) r w]
end

/-! ### (3) same structure, same words -/

mutual
/-- the tree with every paragraph written on ONE line (all its words in order): what is invariant under re-filling -/
def PT.norm : PT → PT
  | .para g => .para [g.flatten]
  | .list o n mk pad loose items => .list o n mk pad loose (normItems items)
def norms : List PT → List PT
  | [] => []
  | t :: rest => t.norm :: norms rest
def normItems : List (List PT) → List (List PT)
  | [] => []
  | it :: rest => norms it :: normItems rest
end

mutual
theorem norm_reflow (nw : Bool) (L : Nat) : ∀ (t : PT) (w : Nat), t.ok nw = true → (t.reflow L w).norm = t.norm
  | .para g, w, hp => by
    simp only [PT.reflow, PT.norm, (reflowFacts (bud L w) g hp).words]
  | .list o n mk pad loose items, w, h => by
    have hl := listOkP_of nw o n mk pad loose items h
    simp only [PT.reflow, PT.norm, normItems_reflow nw L o mk pad n items w hl.its]
theorem norms_reflows (nw : Bool) (L : Nat) : ∀ (ts : List PT) (w : Nat), oksP nw ts = true →
    norms (reflows L w ts) = norms ts
  | [], _, _ => by simp [reflows]
  | t :: r, w, h => by
    obtain ⟨ht, hr, _⟩ := oksP_cons nw t r h
    rw [reflows_cons]
    simp only [norms, norm_reflow nw L t w ht, norms_reflows nw L r w hr]
theorem normItems_reflow (nw : Bool) (L : Nat) (o : Bool) (mk : Char) (pad : Nat) : ∀ (n : Nat) (items : List (List PT)) (w : Nat),
    okItemsP nw o mk n items = true → normItems (reflowItems L w o mk pad n items) = normItems items
  | _, [], _, _ => by simp [reflowItems]
  | n, it :: r, w, h => by
    obtain ⟨_, hit, _, hrest⟩ := okItemsP_cons nw o mk n it r h
    rw [reflowItems_cons]
    simp only [normItems, norms_reflows nw L it _ hit, normItems_reflow nw L o mk pad (n + 1) r w hrest]
end

mutual
theorem reflow_idem (nw : Bool) (L : Nat) : ∀ (t : PT) (w : Nat), t.ok nw = true → (t.reflow L w).reflow L w = t.reflow L w
  | .para g, w, hp => by
    simp only [PT.reflow, reflowG_idem (bud L w) g hp]
  | .list o n mk pad loose items, w, h => by
    have hl := listOkP_of nw o n mk pad loose items h
    simp only [PT.reflow, reflowItems_idem nw L o mk pad n items w hl.its]
theorem reflows_idem (nw : Bool) (L : Nat) : ∀ (ts : List PT) (w : Nat), oksP nw ts = true →
    reflows L w (reflows L w ts) = reflows L w ts
  | [], _, _ => by simp [reflows]
  | t :: r, w, h => by
    obtain ⟨ht, hr, _⟩ := oksP_cons nw t r h
    rw [reflows_cons, reflows_cons, reflow_idem nw L t w ht, reflows_idem nw L r w hr]
theorem reflowItems_idem (nw : Bool) (L : Nat) (o : Bool) (mk : Char) (pad : Nat) : ∀ (n : Nat) (items : List (List PT)) (w : Nat),
    okItemsP nw o mk n items = true →
    reflowItems L w o mk pad n (reflowItems L w o mk pad n items) = reflowItems L w o mk pad n items
  | _, [], _, _ => by simp [reflowItems]
  | n, it :: r, w, h => by
    obtain ⟨_, hit, _, hrest⟩ := okItemsP_cons nw o mk n it r h
    rw [reflowItems_cons, reflowItems_cons, reflows_idem nw L it _ hit, reflowItems_idem nw L o mk pad (n + 1) r w hrest]
end

/-! ### (2) the lines of the output, and the limit after the container prefix -/

mutual
/-- the paragraphs of the tree, each with the total width of the prefixes of the items around it (`w`: the width
    around the tree itself) -/
def PT.paras (w : Nat) : PT → List (Nat × List (List Str))
  | .para g => [(w, g)]
  | .list o n mk pad _ items => parasItems w o mk pad n items
def parasS (w : Nat) : List PT → List (Nat × List (List Str))
  | [] => []
  | t :: rest => t.paras w ++ parasS w rest
def parasItems (w : Nat) (o : Bool) (mk : Char) (pad : Nat) (n : Nat) : List (List PT) → List (Nat × List (List Str))
  | [] => []
  | it :: rest => parasS (w + ((leaderOf o n mk).length + pad)) it ++ parasItems w o mk pad (n + 1) rest
end

theorem parasS_cons (w : Nat) (t : PT) (r : List PT) : parasS w (t :: r) = t.paras w ++ parasS w r := by simp [parasS]
theorem parasItems_cons (w : Nat) (o : Bool) (mk : Char) (pad n : Nat) (it : List PT) (r : List (List PT)) :
    parasItems w o mk pad n (it :: r) = parasS (w + ((leaderOf o n mk).length + pad)) it ++ parasItems w o mk pad (n + 1) r := by
  simp [parasItems]

def refillAt (L : Nat) (p : Nat × List (List Str)) : Nat × List (List Str) := (p.1, reflowG (bud L p.1) p.2)

mutual
theorem paras_reflow (L : Nat) : ∀ (t : PT) (w : Nat), (t.reflow L w).paras w = (t.paras w).map (refillAt L)
  | .para g, w => by simp [PT.reflow, PT.paras, refillAt]
  | .list o n mk pad loose items, w => by
    simp only [PT.reflow, PT.paras, parasItems_reflow L o mk pad n items w]
theorem parasS_reflows (L : Nat) : ∀ (ts : List PT) (w : Nat), parasS w (reflows L w ts) = (parasS w ts).map (refillAt L)
  | [], _ => by simp [reflows, parasS]
  | t :: r, w => by
    rw [reflows_cons, parasS_cons, parasS_cons, List.map_append, paras_reflow L t w, parasS_reflows L r w]
theorem parasItems_reflow (L : Nat) (o : Bool) (mk : Char) (pad : Nat) : ∀ (n : Nat) (items : List (List PT)) (w : Nat),
    parasItems w o mk pad n (reflowItems L w o mk pad n items) = (parasItems w o mk pad n items).map (refillAt L)
  | _, [], _ => by simp [reflowItems, parasItems]
  | n, it :: r, w => by
    rw [reflowItems_cons, parasItems_cons, parasItems_cons, List.map_append, parasS_reflows L it _,
      parasItems_reflow L o mk pad (n + 1) r w]
end

mutual
theorem paras_plain (nw : Bool) : ∀ (t : PT) (w : Nat), t.ok nw = true → ∀ p ∈ t.paras w, plainPara p.2 = true
  | .para g, w, hp => by
    intro p hm
    simp only [PT.paras, List.mem_singleton] at hm
    rw [hm]; exact hp
  | .list o n mk pad loose items, w, h => by
    have hl := listOkP_of nw o n mk pad loose items h
    simp only [PT.paras]
    exact parasItems_plain nw o mk pad n items w hl.its
theorem parasS_plain (nw : Bool) : ∀ (ts : List PT) (w : Nat), oksP nw ts = true → ∀ p ∈ parasS w ts, plainPara p.2 = true
  | [], _, _ => by simp [parasS]
  | t :: r, w, h => by
    obtain ⟨ht, hr, _⟩ := oksP_cons nw t r h
    intro p hm
    rw [parasS_cons] at hm
    rcases List.mem_append.mp hm with hm | hm
    · exact paras_plain nw t w ht p hm
    · exact parasS_plain nw r w hr p hm
theorem parasItems_plain (nw : Bool) (o : Bool) (mk : Char) (pad : Nat) : ∀ (n : Nat) (items : List (List PT)) (w : Nat),
    okItemsP nw o mk n items = true → ∀ p ∈ parasItems w o mk pad n items, plainPara p.2 = true
  | _, [], _, _ => by simp [parasItems]
  | n, it :: r, w, h => by
    obtain ⟨_, hit, _, hrest⟩ := okItemsP_cons nw o mk n it r h
    intro p hm
    rw [parasItems_cons] at hm
    rcases List.mem_append.mp hm with hm | hm
    · exact parasS_plain nw it _ hit p hm
    · exact parasItems_plain nw o mk pad (n + 1) r w hrest p hm
end

/-- a character of a container prefix: a space, or a character of a list marker -/
def preChar (c : Char) : Bool := c == ' ' || "-+*.)0123456789".toList.contains c

theorem leader_preChar (o : Bool) (n : Nat) (mk : Char) (h : markerOk o n mk = true) :
    ∀ c ∈ leaderOf o n mk, preChar c = true := by
  have hl := leaderOk_of_marker o n mk h
  cases o with
  | false =>
    simp only [markerOk, Bool.false_eq_true, if_false, Bool.or_eq_true, beq_iff_eq] at h
    rcases h with (rfl | rfl) | rfl <;> simp only [leaderOf, Bool.false_eq_true, if_false] <;> decide
  | true =>
    obtain ⟨d, e, hd, he, _, _, hdig⟩ := leaderOk_ordered _ hl
    have hdp : ∀ x ∈ asciiDigits, preChar x = true := by decide
    intro c hc
    rw [hd] at hc
    rcases List.mem_append.mp hc with hc | hc
    · exact hdp c (hdig c hc)
    · simp only [List.mem_singleton] at hc
      subst hc
      rcases he with rfl | rfl <;> decide

theorem spaces_preChar (k : Nat) : ∀ c ∈ List.replicate k ' ', preChar c = true := by
  intro c hc
  rw [(List.mem_replicate.mp hc).2]
  decide

/-- every line of `ls` is "\n", or `prefix ++ body ++ "\n"` where the body is a line of a paragraph of `P` and the
    prefix has the width recorded for that paragraph (`w` of it already accounted for outside `ls`) -/
def Cover (w : Nat) (P : List (Nat × List (List Str))) (ls : List Str) : Prop :=
  ∀ l ∈ ls, l = ['\n'] ∨ ∃ p ∈ P, ∃ pre body, l = pre ++ body ++ ['\n'] ∧ w + pre.length = p.1 ∧
    (∀ c ∈ pre, preChar c = true) ∧ body ∈ p.2.map joinWords

theorem cover_mono (w : Nat) (P P' : List (Nat × List (List Str))) (ls : List Str) (hP : ∀ p ∈ P, p ∈ P')
    (h : Cover w P ls) : Cover w P' ls := by
  intro l hl
  rcases h l hl with h | ⟨p, hp, pre, body, e1, e2, e3, e4⟩
  · exact Or.inl h
  · exact Or.inr ⟨p, hP p hp, pre, body, e1, e2, e3, e4⟩

theorem cover_append (w : Nat) (P Q : List (Nat × List (List Str))) (A B : List Str)
    (hA : Cover w P A) (hB : Cover w Q B) : Cover w (P ++ Q) (A ++ B) := by
  intro l hl
  rcases List.mem_append.mp hl with hl | hl
  · exact cover_mono w P _ A (fun p hp => List.mem_append_left _ hp) hA l hl
  · exact cover_mono w Q _ B (fun p hp => List.mem_append_right _ hp) hB l hl

theorem cover_sep (w : Nat) (P : List (Nat × List (List Str))) (b : Bool) : Cover w P (sepS b) :=
  fun l hl => Or.inl (sepS_nl b l hl)

theorem cover_indent (w : Nat) (P : List (Nat × List (List Str))) (m : Str) (hm : ∀ c ∈ m, preChar c = true)
    (pad : Nat) (ls : List Str)
    (h0 : ls.head? ≠ some ['\n']) (h : Cover (w + (m.length + pad)) P ls) : Cover w P (indentDoc m pad ls) := by
  cases ls with
  | nil => intro l hl; simp [indentDoc] at hl
  | cons s0 ss =>
    intro l hl
    simp only [indentDoc, List.mem_cons, List.mem_map] at hl
    rcases hl with rfl | ⟨y, hy, rfl⟩
    · rcases h s0 (by simp) with h1 | ⟨p, hp, pre, body, e1, e2, e3, e4⟩
      · exact absurd (by rw [h1]; rfl) h0
      · refine Or.inr ⟨p, hp, m ++ List.replicate pad ' ' ++ pre, body, by rw [e1]; simp, ?_, ?_, e4⟩
        · simp only [List.length_append, List.length_replicate]; omega
        · intro c hc
          rcases List.mem_append.mp hc with hc | hc
          · rcases List.mem_append.mp hc with hc | hc
            · exact hm c hc
            · exact spaces_preChar pad c hc
          · exact e3 c hc
    · by_cases e : y = ['\n']
      · simp [e]
      · simp only [e, if_false]
        rcases h y (List.mem_cons_of_mem _ hy) with h1 | ⟨p, hp, pre, body, e1, e2, e3, e4⟩
        · exact absurd h1 e
        · refine Or.inr ⟨p, hp, List.replicate (m.length + pad) ' ' ++ pre, body, by rw [e1]; simp, ?_, ?_, e4⟩
          · simp only [List.length_append, List.length_replicate]; omega
          · intro c hc
            rcases List.mem_append.mp hc with hc | hc
            · exact spaces_preChar _ c hc
            · exact e3 c hc

theorem good_head_ne (ls : List Str) (h : Good ls) : ls.head? ≠ some ['\n'] := by
  obtain ⟨s0, ss, rfl, h0, _⟩ := h
  simpa using line0_ne_nl s0 h0

mutual
theorem cover_wr (nw : Bool) : ∀ (t : PT) (tr : Bool) (w : Nat), t.ok nw = true → Cover w (t.paras w) (wr tr t.mb)
  | .para g, tr, w, _ => by
    intro l hl
    simp only [PT.mb, wr, Blk.lines, paraLines, List.mem_map] at hl
    obtain ⟨ws, hws, rfl⟩ := hl
    exact Or.inr ⟨(w, g), by simp [PT.paras], [], joinWords ws, by simp [lineOf], by simp, by simp, List.mem_map_of_mem hws⟩
  | .list o n mk pad loose items, tr, w, h => by
    have hl := listOkP_of nw o n mk pad loose items h
    simp only [PT.mb, wr, PT.paras]
    exact cover_items nw tr o mk pad loose n items w hl.its
theorem cover_wrs (nw : Bool) : ∀ (ts : List PT) (w : Nat), oksP nw ts = true → Cover w (parasS w ts) (wrs (mbs ts))
  | [], _, _ => by intro l hl; simp [mbs, wrs] at hl
  | t :: rest, w, h => by
    obtain ⟨ht, hr, _⟩ := oksP_cons nw t rest h
    rw [mbs_cons, parasS_cons, wrs_cons]
    exact cover_append w _ _ _ _ (cover_wr nw t _ w ht) (cover_append w [] _ _ _ (cover_sep w _ _) (cover_wrs nw rest w hr))
theorem cover_items (nw : Bool) (tr o : Bool) (mk : Char) (pad : Nat) (loose : Bool) : ∀ (n : Nat) (items : List (List PT)) (w : Nat),
    okItemsP nw o mk n items = true → Cover w (parasItems w o mk pad n items) (wrItems tr o mk pad loose n (mbItems items))
  | _, [], _, _ => by intro l hl; simp [mbItems, wrItems] at hl
  | n, it :: rest, w, h => by
    obtain ⟨hne, hit, hmk, hrest⟩ := okItemsP_cons nw o mk n it rest h
    rw [mbItems_cons, parasItems_cons, wrItems_cons]
    exact cover_append w _ _ _ _
      (cover_indent w _ _ (leader_preChar o n mk hmk) pad _ (good_head_ne _ ((oks_mbs nw it hit).2 hne)) (cover_wrs nw it _ hit))
      (cover_append w [] _ _ _ (cover_sep w _ _) (cover_items nw tr o mk pad loose (n + 1) rest w hrest))
end

/-- **(3) same words.**  The re-filled tree is again in the fragment; it has the same lists, items, markers, numbering,
    padding and looseness, and every paragraph has exactly the same word sequence (`norms`: the tree with every
    paragraph on one line is unchanged); paragraph by paragraph, in document order and with the prefix width of its
    position: the new lines are the lines the fill loop makes of all its words with the budget of that position. -/
theorem reflowL_same_words (nw : Bool) (L : Nat) (ts : List PT) (hok : oksP nw ts = true) :
    oksP nw (reflows L 0 ts) = true ∧ norms (reflows L 0 ts) = norms ts ∧
    parasS 0 (reflows L 0 ts) = (parasS 0 ts).map (refillAt L) ∧
    ∀ p ∈ parasS 0 ts, plainPara p.2 = true ∧ plainPara (reflowG (bud L p.1) p.2) = true ∧
      (reflowG (bud L p.1) p.2).flatten = p.2.flatten ∧
      fill (bud L p.1) p.2.flatten = (reflowG (bud L p.1) p.2).map joinWords := by
  refine ⟨oks_reflows nw L ts 0 hok, norms_reflows nw L ts 0 hok, parasS_reflows L ts 0, ?_⟩
  intro p hp
  have hpl := parasS_plain nw ts 0 hok p hp
  have f := reflowFacts (bud L p.1) p.2 hpl
  exact ⟨hpl, f.plain, f.words, f.lines⟩

/-! ### (3) meaning: the HTML of the two trees up to the position of the soft line breaks -/

/-- two block tokens with the same HTML once every "\n" is replaced by a space (`nlToSp`), whether `<p>` tags are
    suppressed or not, and alike as to being a `Paragraph` -/
def SoftEq (b b' : Mistletoe.Block) : Prop :=
  (∀ (q : Html.Quotes) (s : Bool),
    nlToSp (Html.flat (Html.renderBlock q s b)) = nlToSp (Html.flat (Html.renderBlock q s b'))) ∧
  Html.isParagraph b = Html.isParagraph b'

inductive SoftEqs : List Mistletoe.Block → List Mistletoe.Block → Prop
  | nil : SoftEqs [] []
  | cons {b b' : Mistletoe.Block} {bs bs' : List Mistletoe.Block} : SoftEq b b' → SoftEqs bs bs' → SoftEqs (b :: bs) (b' :: bs')

theorem softEqs_append : ∀ (A A' B B' : List Mistletoe.Block), SoftEqs A A' → SoftEqs B B' → SoftEqs (A ++ B) (A' ++ B')
  | _, _, _, _, .nil, hB => hB
  | _, _, B, B', .cons h1 h2, hB => .cons h1 (softEqs_append _ _ B B' h2 hB)

theorem softEqs_sep (q : Html.Quotes) (s : Bool) : ∀ (ks ks' : List Mistletoe.Block), SoftEqs ks ks' →
    nlToSp (Html.flat (Html.renderSep q s ks)) = nlToSp (Html.flat (Html.renderSep q s ks'))
  | _, _, .nil => rfl
  | _, _, .cons h1 .nil => by simp only [Html.renderSep]; exact h1.1 q s
  | _, _, .cons h1 (.cons h2 h3) => by
    simp only [Html.renderSep, Pipeline.flat_append, nlToSp_append, h1.1 q s, softEqs_sep q s _ _ (.cons h2 h3)]

theorem softEqs_last : ∀ (ks ks' : List Mistletoe.Block), SoftEqs ks ks' →
    ks.getLast?.map Html.isParagraph = ks'.getLast?.map Html.isParagraph
  | _, _, .nil => rfl
  | _, _, .cons h1 .nil => by simpa using h1.2
  | _, _, .cons _ (.cons h2 h3) => by
    rw [List.getLast?_cons_cons, List.getLast?_cons_cons]
    exact softEqs_last _ _ (.cons h2 h3)

/-- `render_list_item` depends on its children only -/
theorem softEq_item (l l' : Str) (i i' p p' : Nat) (lo lo' : Bool) (n n' : Nat) (ks ks' : List Mistletoe.Block)
    (h : SoftEqs ks ks') : SoftEq (.listItem l i p lo ks n) (.listItem l' i' p' lo' ks' n') := by
  refine ⟨?_, rfl⟩
  intro q s
  have hlast := softEqs_last ks ks' h
  have hsep := softEqs_sep q s ks ks' h
  cases h with
  | nil => rfl
  | @cons b b' bs bs' h1 h2 =>
    simp only [Html.renderBlock, Pipeline.flat_append, nlToSp_append, hsep, h1.2]
    cases hk : (b :: bs).getLast? with
    | none => simp at hk
    | some a =>
      cases hk' : (b' :: bs').getLast? with
      | none => simp at hk'
      | some a' =>
        rw [hk, hk'] at hlast
        simp only [Option.map_some, Option.some.injEq] at hlast
        simp only [hlast]

theorem softEq_list (loose : Bool) (start : Option Nat) (n n' : Nat) (ks ks' : List Mistletoe.Block)
    (h : SoftEqs ks ks') : SoftEq (.list loose start ks n) (.list loose start ks' n') := by
  refine ⟨?_, rfl⟩
  intro q s
  simp only [Html.renderBlock, Pipeline.flat_append, nlToSp_append, softEqs_sep q (!loose) ks ks' h]

theorem softEqs_afterEach (q : Html.Quotes) (s : Bool) : ∀ (ks ks' : List Mistletoe.Block), SoftEqs ks ks' →
    nlToSp (Html.flat (Html.renderAfterEach q s ks)) = nlToSp (Html.flat (Html.renderAfterEach q s ks'))
  | _, _, .nil => rfl
  | _, _, .cons h1 h2 => by
    simp only [Html.renderAfterEach, Pipeline.flat_append, nlToSp_append, h1.1 q s, softEqs_afterEach q s _ _ h2]

theorem softEq_quote (n n' : Nat) (ks ks' : List Mistletoe.Block) (h : SoftEqs ks ks') :
    SoftEq (.quote ks n) (.quote ks' n') := by
  refine ⟨?_, rfl⟩
  intro q s
  simp only [Html.renderBlock, Pipeline.flat_append, nlToSp_append, softEqs_afterEach q false ks ks' h]

theorem softEqs_qBlocks (ln : Nat) (B B' : List Mistletoe.Block) (h : SoftEqs B B') :
    ∀ k, SoftEqs (qBlocks ln B k) (qBlocks ln B' k)
  | 0 => h
  | k + 1 => .cons (softEq_quote ln ln _ _ (softEqs_qBlocks ln B B' h k)) .nil

theorem softEq_blank (n n' : Nat) : SoftEq (.blankLine n) (.blankLine n') := ⟨fun _ _ => rfl, rfl⟩

theorem softEqs_blankB (b : Bool) (n n' : Nat) : SoftEqs (blankB b n) (blankB b n') := by
  cases b
  · exact .nil
  · exact .cons (softEq_blank n n') .nil

theorem softEq_para (g g' : List (List Str)) (hg : plainPara g = true) (hg' : plainPara g' = true)
    (hw : g'.flatten = g.flatten) (n n' : Nat) :
    SoftEq (.paragraph (proseInlines (g.map joinWords)) n) (.paragraph (proseInlines (g'.map joinWords)) n') := by
  refine ⟨?_, rfl⟩
  intro q s
  obtain ⟨hne, hl⟩ := plainPara_facts g hg
  obtain ⟨hne', hl'⟩ := plainPara_facts g' hg'
  have key : nlToSp (Html.flat (Html.renderInlines q (proseInlines (g.map joinWords)))) =
      nlToSp (Html.flat (Html.renderInlines q (proseInlines (g'.map joinWords)))) := by
    rw [flat_prose, flat_prose, nlToSp_escape, nlToSp_escape, nlToSp_paraText g hne hl, nlToSp_paraText g' hne' hl', hw]
  cases s with
  | true => simp only [Html.renderBlock, if_true]; exact key
  | false => simp only [Html.renderBlock, Bool.false_eq_true, if_false, Pipeline.flat_append, nlToSp_append, key]

mutual
theorem softEq_blk (nw : Bool) (L : Nat) : ∀ (t : PT) (tr : Bool) (n n' w : Nat), t.ok nw = true →
    SoftEq (blk tr n t.mb) (blk tr n' (t.reflow L w).mb)
  | .para g, tr, n, n', w, hp => by
    have f := reflowFacts (bud L w) g hp
    simp only [PT.mb, PT.reflow, blk, itemBlock, paraLines_strip g (plainPara_facts g hp).2,
      paraLines_strip _ (plainPara_facts _ f.plain).2]
    exact softEq_para g _ hp f.plain f.words n n'
  | .list o s mk pad loose items, tr, n, n', w, h => by
    have hl := listOkP_of nw o s mk pad loose items h
    simp only [PT.mb, PT.reflow, blk]
    exact softEq_list _ _ n n' _ _ (softEqs_items nw L tr o mk pad loose s items n n' w hl.its)
theorem softEqs_blks (nw : Bool) (L : Nat) : ∀ (ts : List PT) (n n' w : Nat), oksP nw ts = true →
    SoftEqs (blks n (mbs ts)) (blks n' (mbs (reflows L w ts)))
  | [], _, _, _, _ => by simp only [mbs, reflows, blks]; exact .nil
  | t :: rest, n, n', w, h => by
    obtain ⟨ht, hr, _⟩ := oksP_cons nw t rest h
    rw [reflows_cons, mbs_cons, mbs_cons, blks_cons, blks_cons, trailOf_reflows, gapOf_reflows]
    exact .cons (softEq_blk nw L t _ n n' w ht)
      (softEqs_append _ _ _ _ (softEqs_blankB _ _ _) (softEqs_blks nw L rest _ _ w hr))
theorem softEqs_items (nw : Bool) (L : Nat) (tr o : Bool) (mk : Char) (pad : Nat) (loose : Bool) :
    ∀ (s : Nat) (items : List (List PT)) (n n' w : Nat), okItemsP nw o mk s items = true →
    SoftEqs (blkItems tr o mk pad loose s n (mbItems items))
      (blkItems tr o mk pad loose s n' (mbItems (reflowItems L w o mk pad s items)))
  | _, [], _, _, _, _ => by simp only [mbItems, reflowItems, blkItems]; exact .nil
  | s, it :: rest, n, n', w, h => by
    obtain ⟨_, hit, _, hrest⟩ := okItemsP_cons nw o mk s it rest h
    have hk := softEqs_append _ _ _ _
      (softEqs_blks nw L it n n' (w + ((leaderOf o s mk).length + pad)) hit)
      (softEqs_blankB ((loose && !(mbItems rest).isEmpty) || (tr && (mbItems rest).isEmpty))
        (n + (wrs (mbs it)).length) (n' + (wrs (mbs (reflows L (w + ((leaderOf o s mk).length + pad)) it))).length))
    have ih := softEqs_items nw L tr o mk pad loose (s + 1) rest (n + (wrs (mbs it)).length + (sepS loose).length)
      (n' + (wrs (mbs (reflows L (w + ((leaderOf o s mk).length + pad)) it))).length + (sepS loose).length) w hrest
    rw [mbItems_cons, reflowItems_cons, mbItems_cons]
    simp only [blkItems, reflowItems_isEmpty]
    exact .cons (softEq_item _ _ _ _ _ _ _ _ _ _ _ _ hk) ih
end

theorem nlToSp_isEmpty (s : Str) : (nlToSp s).isEmpty = s.isEmpty := by cases s <;> rfl

theorem softEqs_render (o : Html.Opts) (ks ks' : List Mistletoe.Block) (h : SoftEqs ks ks') (fn fn' : Footnotes.Table) :
    nlToSp (Html.render o { kids := ks, footnotes := fn }) = nlToSp (Html.render o { kids := ks', footnotes := fn' }) := by
  have hsep := softEqs_sep o.q false ks ks' h
  have hE : (Html.flat (Html.renderSep o.q false ks)).isEmpty = (Html.flat (Html.renderSep o.q false ks')).isEmpty := by
    rw [← nlToSp_isEmpty, hsep, nlToSp_isEmpty]
  cases h with
  | nil => rfl
  | cons h1 h2 =>
    simp only [Html.render, Html.renderDoc]
    rw [hE]
    split
    · rfl
    · simp only [Pipeline.flat_append, nlToSp_append, hsep]

/-! ### `k` block quotes around the document -/

open Mistletoe.ReflowQuote (qBudget qBud_toNat qPre qPre_length qStrs_eq_map renderBlocks_qBlocks_wrap)

/-- the text inside `k` nested block quotes: every line behind `k` markers "> "; `textLQ 0` unfolds to `textL` -/
abbrev textLQ (k : Nat) (ts : List PT) : Str := (qStrs k (wrs (mbs ts))).flatten

theorem wrs_notab (nw : Bool) (ts : List PT) (hok : oksP nw ts = true) : ∀ l ∈ wrs (mbs ts), '\t' ∉ l := by
  intro l hl
  rcases cover_wrs nw ts 0 hok l hl with h | ⟨p, hp, pre, body, e1, _, e3, e4⟩
  · rw [h]; decide
  · have hpl := parasS_plain nw ts 0 hok p hp
    obtain ⟨ws, hws, rfl⟩ := List.mem_map.mp e4
    have hnt := Mistletoe.ReflowQuote.lineOf_notab ws ((plainPara_facts p.2 hpl).2 ws hws)
    rw [e1]
    intro hm
    rcases List.mem_append.mp hm with hm | hm
    · rcases List.mem_append.mp hm with hm | hm
      · exact absurd (e3 _ hm) (by decide)
      · exact hnt (by simp [lineOf, hm])
    · simp at hm

/-- `Document(text)` inside `k` quotes (from `C09_lists_quoted_exact_partial`) -/
theorem parse_listQ (cfg : Document.Cfg) (hty : cfg.block.types = markdownTypes)
    (ht : ∀ t ∈ cfg.span, inertClass t = true) (hc : cfg.span.count .lineBreak = 1)
    (nw : Bool) (ts : List PT) (hne : ts ≠ []) (hok : oksP nw ts = true) (k : Nat) (gas : Nat) :
    ∃ d, Document.parse cfg (gas + (needsM (mbs ts) + 1) + k * 8) (textLQ k ts) = .ok d ∧
      d.kids = qBlocks 1 (blks 1 (mbs ts)) k := by
  have hm := (oks_mbs nw ts hok).1
  obtain ⟨d, h1, h2, _⟩ := Mistletoe.Props.C09.C09_lists_quoted_exact_partial cfg hty ht hc
    { maxLineLength := none, normalizeWhitespace := nw } rfl (mbs ts) (mbs_ne ts hne) hm (wrs_notab nw ts hok) k gas
  refine ⟨d, ?_, h2⟩
  rw [textLQ, parse_lines cfg _ _ (qStrs_oneLine k _ (wrs_oneLine nw _ hm))]
  exact h1

/-- **(1) the renderer with a line limit re-fills every paragraph with the budget of its position and leaves the item
    structure alone**: the output is the text of the tree `reflows _ 0 ts` — same lists, markers, numbering, padding,
    looseness; the lines of an item behind marker + padding (first) and `prepend` spaces (others); every paragraph
    `reflowG (bud _ w) g` where `w` is the sum of the `prepend`s of the enclosing items.  Inside `k` quotes: the quotes
    take `2k` off the limit first (`qBudget L k = max (L − 2k) 1`), the lists then go on from there: the output is
    the text, at the same quote depth, of the tree re-filled for the limit `qBudget L k` -/
theorem reflowLQ_render (cfg : Document.Cfg) (hty : cfg.block.types = markdownTypes)
    (ht : ∀ t ∈ cfg.span, inertClass t = true) (hc : cfg.span.count .lineBreak = 1)
    (o : Opts) (L : Nat) (hL : 1 ≤ L) (ho : o.maxLineLength = some (L : Int))
    (ts : List PT) (hne : ts ≠ []) (hok : oksP o.normalizeWhitespace ts = true) (k : Nat) (gas : Nat) :
    ∃ d, Document.parse cfg (gas + (needsM (mbs ts) + 1) + k * 8) (textLQ k ts) = .ok d ∧
      d.kids = qBlocks 1 (blks 1 (mbs ts)) k ∧
      renderRes o d = .ok (textLQ k (reflows (qBudget L k) 0 ts)) := by
  obtain ⟨d, h1, h2⟩ := parse_listQ cfg hty ht hc _ ts hne hok k gas
  refine ⟨d, h1, h2, ?_⟩
  have hr := renderBlocks_qBlocks_wrap o 1 (blks 1 (mbs ts)) (fun m => outs (mbs (reflows m.toNat 0 ts)))
    (1 ≤ ·) (fun m hm => ⟨by omega, by omega⟩) (fun m hm => by
      have := renderBlocks_wrapL o m.toNat ts 1 0 hok
      rw [budI_zero m.toNat (by omega), Int.toNat_of_nonneg (by omega)] at this
      exact this) k (L : Int) (by omega)
  simp only [renderRes, ho, h2, hr, qBud_toNat L k hL]
  rw [joinLines_eq, qStrs_nl, outs_lines _ _ (oks_mbs _ _ (oks_reflows _ (qBudget L k) ts 0 hok)).1]

/-- **(2) the lines of the output text**, inside `k ≥ 0` quotes: every line of the rendered document is `"> " * k`, then "\n"
    (between blocks, between the items of a loose list) or `prefix ++ body ++ "\n"`, where the body is a line the fill loop
    made of the words of ONE paragraph `g` of the document with the budget of its position,
    `bud (qBudget L k) w = max (L − 2k − w) 1`, and the prefix — marker + padding of the enclosing items, or as many spaces:
    only spaces and marker characters (`preChar`) — has exactly the width `w`; and if the body is longer than its budget, or
    the line (without "\n") longer than `L`, the body is one single word of `g`: no whitespace, so no breakable space after
    the container prefix (when the budget is clamped to 1 every line holds exactly one word) -/
theorem reflowLQ_line_bound (nw : Bool) (L k : Nat) (ts : List PT) (hok : oksP nw ts = true) :
    ∀ l ∈ qStrs k (wrs (mbs (reflows (qBudget L k) 0 ts))), l = qPre k ++ ['\n'] ∨
      ∃ p ∈ parasS 0 ts, ∃ pre body, l = qPre k ++ (pre ++ body ++ ['\n']) ∧
        pre.length = p.1 ∧ (∀ c ∈ pre, preChar c = true) ∧ body ∈ fill (bud (qBudget L k) p.1) p.2.flatten ∧
        ((bud (qBudget L k) p.1 < body.length ∨ L < (qPre k ++ pre ++ body).length) →
          body ∈ p.2.flatten ∧ ∀ c ∈ body, pyIsSpace c = false) := by
  intro l hl
  rw [qStrs_eq_map] at hl
  obtain ⟨x, hx, rfl⟩ := List.mem_map.mp hl
  have hc := cover_wrs nw _ 0 (oks_reflows nw (qBudget L k) ts 0 hok) x hx
  rw [parasS_reflows] at hc
  rcases hc with h | ⟨p', hp', pre, body, e1, e2, e3, e4⟩
  · exact Or.inl (by rw [h])
  · obtain ⟨p, hp, rfl⟩ := List.mem_map.mp hp'
    have hpl := parasS_plain nw ts 0 hok p hp
    simp only [refillAt, Nat.zero_add] at e2 e4
    rw [← (reflowFacts (bud (qBudget L k) p.1) p.2 hpl).lines] at e4
    refine Or.inr ⟨p, hp, pre, body, by rw [e1], e2, e3, e4, fun hlong => fill_single _ p.2 hpl body e4 ?_⟩
    -- a line longer than `L` has a body longer than the budget, or the budget is the clamp
    simp only [List.length_append, qPre_length, e2, bud, qBudget] at hlong ⊢
    omega

/-- **(3) same meaning.**  Original text and re-filled text both parse (Markdown token list) to the token trees of
    C09 (`blks`, inside `k` quotes) of `ts` and of `reflows B 0 ts`; the re-filled tree is in the fragment, has the same
    item structure and the same word sequence in every paragraph (`norms`); and the HTML the `HtmlRenderer` methods
    produce from the two trees (every quote option) is equal once every "\n" is replaced by a space — the trees differ
    only in where the soft line breaks are. -/
theorem reflowLQ_meaning (cfg : Document.Cfg) (hty : cfg.block.types = markdownTypes)
    (ht : ∀ t ∈ cfg.span, inertClass t = true) (hc : cfg.span.count .lineBreak = 1)
    (nw : Bool) (B : Nat) (ts : List PT) (hne : ts ≠ []) (hok : oksP nw ts = true) (k : Nat) (gas : Nat) :
    oksP nw (reflows B 0 ts) = true ∧ norms (reflows B 0 ts) = norms ts ∧
    ∃ d d', Document.parse cfg (gas + (needsM (mbs ts) + 1) + k * 8) (textLQ k ts) = .ok d ∧
      Document.parse cfg (gas + (needsM (mbs ts) + 1) + k * 8) (textLQ k (reflows B 0 ts)) = .ok d' ∧
      d.kids = qBlocks 1 (blks 1 (mbs ts)) k ∧ d'.kids = qBlocks 1 (blks 1 (mbs (reflows B 0 ts))) k ∧
      ∀ o : Html.Opts, nlToSp (Html.render o d') = nlToSp (Html.render o d) := by
  have hok' := oks_reflows nw B ts 0 hok
  obtain ⟨d, h1, h2⟩ := parse_listQ cfg hty ht hc nw ts hne hok k gas
  obtain ⟨d', h3, h4⟩ := parse_listQ cfg hty ht hc nw (reflows B 0 ts) (reflows_ne B 0 ts hne) hok' k gas
  rw [needs_reflows] at h3
  refine ⟨hok', norms_reflows nw B ts 0 hok, d, d', h1, h3, h2, h4, ?_⟩
  intro o
  have := softEqs_render o _ _ (softEqs_qBlocks 1 _ _ (softEqs_blks nw B ts 1 1 0 hok) k) d.footnotes d'.footnotes
  rw [← h2, ← h4] at this
  exact this.symm

/-- **(4) reflowing the output again with the same limit changes nothing**: the output is the text of a tree of the
    fragment with the same item structure, so every paragraph has the same prefix width and hence the same budget —
    also where the budget is clamped to 1; its words are the same sequence; the fill loop is a function of the word
    sequence. -/
theorem reflowLQ_idempotent (cfg : Document.Cfg) (hty : cfg.block.types = markdownTypes)
    (ht : ∀ t ∈ cfg.span, inertClass t = true) (hc : cfg.span.count .lineBreak = 1)
    (o : Opts) (L : Nat) (hL : 1 ≤ L) (ho : o.maxLineLength = some (L : Int))
    (ts : List PT) (hne : ts ≠ []) (hok : oksP o.normalizeWhitespace ts = true) (k : Nat) (gas : Nat) :
    ∃ d, Document.parse cfg (gas + (needsM (mbs ts) + 1) + k * 8) (textLQ k ts) = .ok d ∧
      ∃ d', Document.parse cfg (gas + (needsM (mbs ts) + 1) + k * 8) (render o d) = .ok d' ∧
        renderRes o d' = renderRes o d ∧ render o d' = render o d := by
  obtain ⟨d, h1, _, h2⟩ := reflowLQ_render cfg hty ht hc o L hL ho ts hne hok k gas
  obtain ⟨d', h3, _, h4⟩ := reflowLQ_render cfg hty ht hc o L hL ho (reflows (qBudget L k) 0 ts)
    (reflows_ne _ 0 ts hne) (oks_reflows _ _ ts 0 hok) k gas
  rw [needs_reflows] at h3
  rw [reflows_idem _ _ ts 0 hok] at h4
  exact idempotent_of_renders cfg _ o _ _ d d' h1 h2 h3 h4

/-- **C10 inside list items: the re-filled text means the same** (clause 3), at quote depth `k`.  With `render o d` the
    output of `MarkdownRenderer(max_line_length=L)`: the output parses again, to the C09 token tree of
    `reflows (qBudget L k) 0 ts`, which is in the fragment, has the same lists/items/markers and the same word sequence in
    every paragraph (`norms`); and the HTML that `HtmlRenderer`'s render methods (every quote option) produce from the two
    token trees is equal once every "\n" is replaced by a space (`nlToSp`) — the same document up to the position of
    the soft line breaks.  (The HTML is taken of the trees parsed under the MARKDOWN renderer's token list: the
    block phase of lists is only available for that list, `MdRoundLists`.) -/
theorem C10_list_reflow_quoted_meaning_partial (cfg : Document.Cfg) (hcfg : Config.markdown = some cfg)
    (o : Opts) (L : Nat) (hL : 1 ≤ L) (ho : o.maxLineLength = some (L : Int))
    (ts : List PT) (hne : ts ≠ []) (hok : oksP o.normalizeWhitespace ts = true) (k : Nat) (gas : Nat) :
    ∃ d d', Document.parse cfg (gas + (needsM (mbs ts) + 1) + k * 8) (textLQ k ts) = .ok d ∧
      Document.parse cfg (gas + (needsM (mbs ts) + 1) + k * 8) (render o d) = .ok d' ∧
      d.kids = qBlocks 1 (blks 1 (mbs ts)) k ∧ d'.kids = qBlocks 1 (blks 1 (mbs (reflows (qBudget L k) 0 ts))) k ∧
      oksP o.normalizeWhitespace (reflows (qBudget L k) 0 ts) = true ∧ norms (reflows (qBudget L k) 0 ts) = norms ts ∧
      ∀ hopts : Html.Opts, nlToSp (Html.render hopts d') = nlToSp (Html.render hopts d) := by
  obtain ⟨hty, ht, hc⟩ := markdown_cfg cfg hcfg
  obtain ⟨d0, g1, _, g3⟩ := reflowLQ_render cfg hty ht hc o L hL ho ts hne hok k gas
  obtain ⟨m1, m2, d, d', h1, h2, h3, h4, h5⟩ := reflowLQ_meaning cfg hty ht hc _ (qBudget L k) ts hne hok k gas
  have e : d0 = d := by rw [g1] at h1; cases h1; rfl
  subst e
  refine ⟨d0, d', h1, ?_, h3, h4, m1, m2, h5⟩
  simp only [render, g3]
  exact h2

/-- clause 3 at top level: `k = 0` -/
theorem C10_list_reflow_meaning_partial (cfg : Document.Cfg) (hcfg : Config.markdown = some cfg)
    (o : Opts) (L : Nat) (hL : 1 ≤ L) (ho : o.maxLineLength = some (L : Int))
    (ts : List PT) (hne : ts ≠ []) (hok : oksP o.normalizeWhitespace ts = true) (gas : Nat) :
    ∃ d d', Document.parse cfg (gas + (needsM (mbs ts) + 1)) (textL ts) = .ok d ∧
      Document.parse cfg (gas + (needsM (mbs ts) + 1)) (render o d) = .ok d' ∧
      d.kids = blks 1 (mbs ts) ∧ d'.kids = blks 1 (mbs (reflows L 0 ts)) ∧
      oksP o.normalizeWhitespace (reflows L 0 ts) = true ∧ norms (reflows L 0 ts) = norms ts ∧
      ∀ hopts : Html.Opts, nlToSp (Html.render hopts d') = nlToSp (Html.render hopts d) := by
  have h := C10_list_reflow_quoted_meaning_partial cfg hcfg o L hL ho ts hne hok 0 gas
  rw [ReflowQuote.qBudget_zero L hL] at h
  exact h

/-- clause 4 at top level: `k = 0` -/
theorem C10_list_reflow_idempotent_partial (cfg : Document.Cfg) (hcfg : Config.markdown = some cfg)
    (o : Opts) (L : Nat) (hL : 1 ≤ L) (ho : o.maxLineLength = some (L : Int))
    (ts : List PT) (hne : ts ≠ []) (hok : oksP o.normalizeWhitespace ts = true) (gas : Nat) :
    ∃ d, Document.parse cfg (gas + (needsM (mbs ts) + 1)) (textL ts) = .ok d ∧
      ∃ d', Document.parse cfg (gas + (needsM (mbs ts) + 1)) (render o d) = .ok d' ∧
        renderRes o d' = renderRes o d ∧ render o d' = render o d := by
  obtain ⟨hty, ht, hc⟩ := markdown_cfg cfg hcfg
  exact reflowLQ_idempotent cfg hty ht hc o L hL ho ts hne hok 0 gas

/-! ### Non-vacuity -/

/-- "- one two three four five six\n- seven eight nine\n\n  1. ten eleven twelve thirteen\n" -/
def exDoc : List PT :=
  [.list false 0 '-' 1 false
    [[.para [[W "one", W "two", W "three", W "four", W "five", W "six"]]],
     [.para [[W "seven", W "eight", W "nine"]],
      .list true 1 '.' 1 false [[.para [[W "ten", W "eleven", W "twelve", W "thirteen"]]]]]]]

def exText : Str := W "- one two three four five six\n- seven eight nine\n\n  1. ten eleven twelve thirteen\n"
def exOut : Str :=
  W "- one two\n  three four\n  five six\n- seven\n  eight nine\n\n  1. ten\n     eleven\n     twelve\n     thirteen\n"

attribute [local lit] W
attribute [lit] exText exOut

theorem exDoc_ok : oksP false exDoc = true ∧ oksP true exDoc = true ∧ exDoc ≠ [] := by decide +kernel

theorem exDoc_text : textL exDoc = exText := by decide_lit
theorem exDoc_need : needsM (mbs exDoc) = 127 := by decide +kernel

example : textL exDoc = exText := exDoc_text
example : needsM (mbs exDoc) = 127 := exDoc_need

/-- the paragraphs with their prefix widths, and their budgets for L = 12: 10, 10, 7 -/
example : (parasS 0 exDoc).map (·.1) = [2, 2, 5] ∧ (parasS 0 exDoc).map (fun p => bud 12 p.1) = [10, 10, 7] := by
  decide +kernel

theorem exDoc_out : textL (reflows 12 0 exDoc) = exOut := by decide_lit

example : textL (reflows 12 0 exDoc) = exOut := exDoc_out

open Mistletoe.Props.C09 (mdCfg) in
/-- evaluating parser and renderer in the kernel on that text gives the same answer as the theorem (applied to it in
    Props/C10_Lists.lean) and as the real code -/
example : (Document.parse mdCfg 128 exText).bind (fun d => renderRes { maxLineLength := some 12 } d) = .ok exOut := by
  decide_lit

open Mistletoe.Props.C09 (mdCfg) in
/-- idempotence in the kernel: the output is reproduced -/
example : (Document.parse mdCfg 128 exOut).bind (fun d => renderRes { maxLineLength := some 12 } d) = .ok exOut := by
  decide_lit

/-- idempotence and meaning: the theorems apply -/
example : ∃ cfg d, Config.markdown = some cfg ∧ Document.parse cfg (needsM (mbs exDoc) + 1) (textL exDoc) = .ok d ∧
    ∃ d', Document.parse cfg (needsM (mbs exDoc) + 1) (render { maxLineLength := some 12 } d) = .ok d' ∧
      render { maxLineLength := some 12 } d' = render { maxLineLength := some 12 } d ∧
      ∀ hopts : Html.Opts, nlToSp (Html.render hopts d') = nlToSp (Html.render hopts d) := by
  obtain ⟨cfg, hcfg⟩ := Mistletoe.ReflowQuote.markdown_cfg_exists
  obtain ⟨d, h1, d', h2, _, h4⟩ := C10_list_reflow_idempotent_partial cfg hcfg { maxLineLength := some 12 } 12 (by omega) rfl
    exDoc exDoc_ok.2.2 exDoc_ok.1 0
  obtain ⟨d0, d0', g1, g2, _, _, _, _, g7⟩ := C10_list_reflow_meaning_partial cfg hcfg { maxLineLength := some 12 } 12
    (by omega) rfl exDoc exDoc_ok.2.2 exDoc_ok.1 0
  have e : d0 = d := by rw [g1] at h1; cases h1; rfl
  subst e
  have e' : d0' = d' := by rw [g2] at h2; cases h2; rfl
  subst e'
  exact ⟨cfg, d0, hcfg, by simpa using h1, d0', by simpa using h2, h4, g7⟩

open Mistletoe.Props.C09 (mdCfg) in
/-- the same lists with the nested list directly behind the paragraph, WITHOUT the empty line: not
    in the normal form of C09 (`wrs` separates blocks by empty lines), hence outside the fragment; the model evaluated
    in the kernel gives what the real code gives -/
example : (Document.parse mdCfg 128 (W "- one two three four five six\n- seven eight nine\n  1. ten eleven twelve thirteen\n")).bind
    (fun d => renderRes { maxLineLength := some 12 } d) =
      .ok (W "- one two\n  three four\n  five six\n- seven\n  eight nine\n  1. ten\n     eleven\n     twelve\n     thirteen\n") := by
  decide_lit

/-- loose ordered list with padding 2 whose markers change width ("9)" → "10)"), clamped budgets (L = 5: prefix
    widths 4 and 5, budgets 1 and 1) -/
def exDoc2 : List PT :=
  [.para [[W "intro", W "text"]],
   .list true 9 ')' 2 true [[.para [[W "a", W "b", W "c"]]], [.para [[W "d", W "e"]], .para [[W "f", W "g"]]]]]

theorem exDoc2_ok : oksP false exDoc2 = true ∧ exDoc2 ≠ [] := by decide +kernel
example : oksP true exDoc2 = false := by decide +kernel
example : textL exDoc2 = W "intro text\n\n9)  a b c\n\n10)  d e\n\n     f g\n" := by decide_lit
example : textL (reflows 5 0 exDoc2) = W "intro\ntext\n\n9)  a\n    b\n    c\n\n10)  d\n     e\n\n     f\n     g\n" := by
  decide_lit
example : textL (reflows 7 0 exDoc2) = W "intro\ntext\n\n9)  a b\n    c\n\n10)  d\n     e\n\n     f\n     g\n" := by
  decide_lit

open Mistletoe.Props.C09 (mdCfg) in
example : (Document.parse mdCfg 200 (W "intro text\n\n9)  a b c\n\n10)  d e\n\n     f g\n")).bind
    (fun d => renderRes { maxLineLength := some 7 } d) =
      .ok (W "intro\ntext\n\n9)  a b\n    c\n\n10)  d\n     e\n\n     f\n     g\n") := by decide_lit

/-- the predicate is not trivially true -/
example : oksP false [.list false 0 '-' 1 false [[.para [[W "1.", W "x"]]]]] = false ∧
    oksP false [.list false 0 '-' 5 false [[.para [[W "x"]]]]] = false ∧
    oksP false [.list false 0 '-' 1 false [[.para [[W "x"]]]], .list false 0 '-' 1 false [[.para [[W "y"]]]]] = false ∧
    oksP false [.list false 0 '-' 1 false []] = false := by decide +kernel

/-- inside one block quote, L = 14: the quote takes 2, the items go on from 12 -/
example : textLQ 1 exDoc =
    W "> - one two three four five six\n> - seven eight nine\n> \n>   1. ten eleven twelve thirteen\n" := by decide_lit
example : Mistletoe.ReflowQuote.qBudget 14 1 = 12 := by decide
example : textLQ 1 (reflows 12 0 exDoc) =
    W "> - one two\n>   three four\n>   five six\n> - seven\n>   eight nine\n> \n>   1. ten\n>      eleven\n>      twelve\n>      thirteen\n" := by
  decide_lit

open Mistletoe.Props.C09 (mdCfg) in
example : (Document.parse mdCfg 136 (W "> - one two three four five six\n> - seven eight nine\n> \n>   1. ten eleven twelve thirteen\n")).bind
    (fun d => renderRes { maxLineLength := some 14 } d) =
      .ok (W "> - one two\n>   three four\n>   five six\n> - seven\n>   eight nine\n> \n>   1. ten\n>      eleven\n>      twelve\n>      thirteen\n") := by
  decide_lit

end Mistletoe.ReflowList
