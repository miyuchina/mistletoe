/-
  Where the entries of a parse buffer come from: `tokenize_block` makes an entry of a class only when it tries
  that class, it tries the classes of the block-token list only, and what is in the entry is what the reader of
  that class returned.  `EntryFrom ts` records, at every nesting depth:
  * for the three classes some renderer has no render function for (HtmlBlock, BlankLine, LinkReferenceDefinitionBlock): that
    the class is in `ts`;
  * for the entries the block token constructors take apart (heading, table, paragraph, setext heading): the call of the
    reader that returned their content;
  * for definitions: that there is one.  A `.footnote` entry (class Footnote) records no more than `ms ≠ []`; a `.linkRefDefs`
    entry (class LinkReferenceDefinitionBlock, which the Markdown renderer puts in Footnote's place) also its class and the
    call of `readFootnote`: only this entry is written out again, and MdTotal reads off the call that each of its
    definitions can be (`readFootnote_fnOk`);
  * for a list: that it has an item; for an item: that its leader is a marker `listMarker` returned.
  `blockPhase_from` is the single induction over the gas of `tokenizeBlock` / `tokLoop` / `tryTypes` / `readList`
  for properties that ask nothing of the lines; a property of entries given constructor by constructor
  (no HtmlBlock entry, every leader a list marker, what the constructors rely on, what a renderer can render)
  follows from `EntryFrom` by recursion on the entry.
-/
import Mistletoe.Proofs.Block
namespace Mistletoe.Block
open Mistletoe Mistletoe.Scan

mutual
def EntryFrom (ts : List BTok) : Entry → Prop
  | .blockCode _ _ _ => True
  | .heading lvl c cl _ _ => ∃ fw line fw', readHeading fw line = some (lvl, c, cl, fw')
  | .quote inner _ _ _ => EntriesFrom ts inner
  | .codeFence _ _ _ _ _ _ _ => True
  | .thematicBreak _ _ _ => True
  | .list items _ _ => items ≠ [] ∧ ItemsFrom ts items
  | .table b sl _ _ => ∃ fw fw', readTable fw = some (b, sl, fw')
  | .footnote ms _ _ => ms ≠ []
  | .linkRefDefs ms _ _ => .linkRefDefBlock ∈ ts ∧ ms ≠ [] ∧ ∃ fw fw', readFootnote fw = .ok (ms, fw')
  | .paragraph b _ _ => ∃ cfg so fw line fw', readParagraph cfg so fw line = .ok (b, false, fw')
  | .setext b _ _ => ∃ cfg so fw line fw', readParagraph cfg so fw line = .ok (b, true, fw')
  | .htmlBlock _ _ _ => .htmlBlock ∈ ts
  | .blankLine _ _ => .blankLine ∈ ts
def EntriesFrom (ts : List BTok) : List Entry → Prop
  | [] => True
  | e :: es => EntryFrom ts e ∧ EntriesFrom ts es
def ItemFrom (ts : List BTok) : Item → Prop
  | .mk inner _ _ _ ld _ _ => (∃ r r1, listMarker r = some (ld, r1)) ∧ EntriesFrom ts inner
def ItemsFrom (ts : List BTok) : List Item → Prop
  | [] => True
  | i :: is => ItemFrom ts i ∧ ItemsFrom ts is
end

theorem entriesFrom_reverse {ts : List BTok} {es : List Entry} (h : EntriesFrom ts es) : EntriesFrom ts es.reverse :=
  reverse_of_cons_iff trivial (fun _ _ => Iff.rfl) es h

theorem itemsFrom_reverse {ts : List BTok} {is : List Item} (h : ItemsFrom ts is) : ItemsFrom ts is.reverse :=
  reverse_of_cons_iff trivial (fun _ _ => Iff.rfl) is h

theorem listItem_marker (line : Str) (im : ItemMatch) (h : Scan.listItem line = some im) :
    ∃ r r1, listMarker r = some (im.g2, r1) := by
  unfold Scan.listItem at h
  split at h
  · cases h
  · split at h
    · cases h
    · rename_i mk r1 hm
      split at h
      · cases h; exact ⟨_, r1, hm⟩
      · simp only at h
        split at h
        · cases h
        · cases h; exact ⟨_, r1, hm⟩

theorem parseMarker_marker (line : Str) (m) (h : parseMarker line = some m) : ∃ r r1, listMarker r = some (m.2.2.1, r1) := by
  unfold parseMarker at h
  split at h
  · cases h
  · rename_i im hi
    have := listItem_marker line im hi
    simp only at h
    split at h <;> (cases h; exact this)

/-- the leader `ListItem.read` records is the marker of the line it starts on, parsed now or handed on as the
    next marker by the item before -/
theorem itemLines_marker (cfg : Cfg) (fw : FW) (prev) (il : ItemLines) (h : itemLines cfg fw prev = .ok il)
    (hprev : MarkerAt fw prev) : ∃ r r1, listMarker r = some (il.itemLeader, r1) := by
  obtain ⟨l0, ind, pre0, ld, content, _, hmk, hcase⟩ := itemLines_ok h
  have hld : ∃ r r1, listMarker r = some (ld, r1) := by
    cases prev with
    | some m =>
      obtain ⟨l, _, hl⟩ := hprev m rfl
      simp only [Option.some.injEq] at hmk; subst hmk
      exact parseMarker_marker l.s _ hl
    | none => exact parseMarker_marker l0.s _ hmk
  rcases hcase with ⟨_, _, rfl⟩ | ⟨_, _, _, _, _, _, rfl⟩ | ⟨_, _, _, _, _, rfl⟩
  · exact hld
  · exact hld
  · exact hld

def TokFrom (cfg : Cfg) (gas : Nat) : Prop :=
  ∀ (lines : List Line) (start : Nat) (st : St) (b : Buf) (st' : St),
    tokenizeBlock cfg gas lines start st = .ok (b, st') → EntriesFrom cfg.types b.entries

def LoopFrom (cfg : Cfg) (gas : Nat) : Prop :=
  ∀ (fw : FW) (st : St) (acc : List Entry) (loose : Bool) (b) (st'),
    tokLoop cfg gas fw st acc loose = .ok (b, st') → EntriesFrom cfg.types acc → EntriesFrom cfg.types b.entries

def TryFrom (cfg : Cfg) (gas : Nat) : Prop :=
  ∀ (fw : FW) (st : St) (l : Line) (ts : List BTok) (e : Entry) (fw' : FW) (st' : St),
    tryTypes cfg gas fw st l ts = .ok (some (e, fw', st')) → (∀ t ∈ ts, t ∈ cfg.types) → EntryFrom cfg.types e

def ListFrom (cfg : Cfg) (gas : Nat) : Prop :=
  ∀ (fw : FW) (st : St) (ld) (nm) (acc : List Item) (r),
    readList cfg gas fw st ld nm acc = .ok r → MarkerAt fw nm →
    ItemsFrom cfg.types acc → (ld ≠ none → acc ≠ []) → r.1 ≠ [] ∧ ItemsFrom cfg.types r.1

theorem itemsFrom_lastTight {ts : List BTok} : ∀ {items : List Item}, ItemsFrom ts items → ItemsFrom ts (lastTight items)
  | [], h => h
  | .mk .. :: _, h => h

theorem lastTight_ne_nil : ∀ {items : List Item}, items ≠ [] → lastTight items ≠ []
  | [], h => h
  | .mk .. :: _, _ => List.cons_ne_nil _ _

theorem list_from (cfg : Cfg) (gas : Nat) (hT : TokFrom cfg gas) (hL : ListFrom cfg gas) : ListFrom cfg (gas + 1) := by
  intro fw st ld nm acc r h hmk hacc hld
  -- the last item's looseness is recomputed and the items are put in order
  have hstop : ∀ {items : List Item}, ItemsFrom cfg.types items → items ≠ [] →
      (lastTight items).reverse ≠ [] ∧ ItemsFrom cfg.types (lastTight items).reverse :=
    fun hi hne => ⟨mt List.reverse_eq_nil_iff.1 (lastTight_ne_nil hne), itemsFrom_reverse (itemsFrom_lastTight hi)⟩
  rcases readList_ok h with ⟨hom, rfl⟩ | ⟨il, item, st', hil, hit, hr⟩
  · -- a next marker of another type ends the list: only inside a list, where an item has been read
    obtain ⟨d, _, hd, _, _⟩ := otherMarkerType_some hom
    exact hstop hacc (hld (by rw [hd]; simp))
  have hlead := itemLines_marker cfg fw nm il hil hmk
  have hitem : ItemFrom cfg.types item := by
    rcases readItem_ok hit with ⟨_, _, _, _, _, _, _, rfl, rfl, _⟩ | ⟨_, _, _, _, _, _, _, _, _, b, rfl, hb, rfl⟩
    · exact ⟨hlead, trivial⟩
    · exact ⟨hlead, hT _ _ _ _ _ hb⟩
  have hacc' : ItemsFrom cfg.types (item :: acc) := ⟨hitem, hacc⟩
  rcases hr with ⟨_, rfl⟩ | ⟨_, h⟩
  · exact hstop hacc' (List.cons_ne_nil _ _)
  · exact hL _ st' _ _ _ r h (itemLines_next_marker cfg fw nm il hil) hacc' (fun _ => List.cons_ne_nil _ _)

theorem try_from (cfg : Cfg) (gas : Nat) (hT : TokFrom cfg gas) (hL : ListFrom cfg gas) (hY : TryFrom cfg gas) :
    TryFrom cfg (gas + 1) := by
  intro fw st l ts e fw' st' h hts
  cases ts with
  | nil => simp [tryTypes] at h
  | cons t ts =>
    have ht : t ∈ cfg.types := hts t (List.mem_cons_self ..)
    have ih := fun fw2 st2 (h2 : tryTypes cfg gas fw2 st2 l ts = .ok (some (e, fw', st'))) =>
      hY fw2 st2 l ts e fw' st' h2 (fun t' ht' => hts t' (List.mem_cons_of_mem _ ht'))
    rcases tryTypes_some h with ⟨_, _, h⟩ | ⟨_, _, _, _, _, _, _, h⟩ | _ | _ | ⟨_, _, _, _, hh⟩ |
      ⟨_, _, _, b, stb, _, _, hb⟩ | _ | _ | ⟨items, _, _, _, hrl⟩ | ⟨_, _, _, _, htb⟩ |
      ⟨ms, _, _, _, hms⟩ | ⟨ms, _, _, hf, hms⟩ | ⟨_, _, _, hpp⟩ | ⟨_, _, _, hpp⟩ | _
    · exact ih fw st h
    · exact ih _ _ h
    · exact ht
    · trivial
    · exact ⟨_, _, _, hh⟩
    · exact hT _ _ _ _ _ hb
    · trivial
    · trivial
    · exact hL fw st none none [] _ hrl (.none fw) trivial (fun hn => absurd rfl hn)
    · exact ⟨_, _, htb⟩
    · show ms ≠ []
      simpa using hms
    · exact ⟨ht, by simpa using hms, _, _, hf⟩
    · exact ⟨_, _, _, _, _, hpp⟩
    · exact ⟨_, _, _, _, _, hpp⟩
    · exact ht

theorem tokLoop_from (cfg : Cfg) (gas : Nat) (hY : TryFrom cfg gas) (hP : LoopFrom cfg gas) : LoopFrom cfg (gas + 1) := by
  intro fw st acc loose b st' h hacc
  rcases tokLoop_ok h with ⟨_, rfl, rfl⟩ | ⟨l, _, ⟨e, fw2, st2, ht, h⟩ | ⟨_, h⟩⟩
  · exact entriesFrom_reverse hacc
  · exact hP fw2 st2 _ loose b st' h ⟨hY fw st l cfg.types e fw2 st2 ht (fun _ h => h), hacc⟩
  · exact hP fw.next st acc true b st' h hacc

theorem tok_from (cfg : Cfg) (gas : Nat) (hP : LoopFrom cfg gas) : TokFrom cfg (gas + 1) := by
  intro lines start st b st' h
  simp only [tokenizeBlock] at h
  exact hP _ _ _ _ _ _ h trivial

theorem all_from (cfg : Cfg) : ∀ (gas : Nat), TokFrom cfg gas ∧ LoopFrom cfg gas ∧ TryFrom cfg gas ∧ ListFrom cfg gas
  | 0 => by
    refine ⟨?_, ?_, ?_, ?_⟩
    · intro lines start st b st' h; simp [tokenizeBlock] at h
    · intro fw st acc loose b st' h; simp [tokLoop] at h
    · intro fw st l ts e fw' st' h; simp [tryTypes] at h
    · intro fw st ld nm acc r h; simp [readList] at h
  | gas + 1 => by
    obtain ⟨hT, hP, hY, hL⟩ := all_from cfg gas
    exact ⟨tok_from cfg gas hP, tokLoop_from cfg gas hY hP, try_from cfg gas hT hL hY, list_from cfg gas hT hL⟩

/-- **every entry of the buffer the block phase returns, at every nesting depth, is of a class of the block-token
    list** (as far as `EntryFrom` records classes) **and holds what the reader of its class returned**, for every
    list of lines (complete or not) and every gas -/
theorem blockPhase_from (cfg : Cfg) (gas : Nat) (lines : List Str) (b : Buf) (st : St)
    (h : blockPhase cfg gas lines = .ok (b, st)) : EntriesFrom cfg.types b.entries :=
  (all_from cfg gas).1 _ 1 {} b st h

end Mistletoe.Block
