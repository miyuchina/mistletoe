/-
  `str.lstrip()`, `str.rstrip()`, `str.strip()` (Model/Py.lean): what they leave of a text, by its first and last
  characters.
-/
import Mistletoe.Model.Py
namespace Mistletoe.Strip
open Mistletoe Mistletoe.Py

theorem lstrip_head : ∀ (s : Str) (c : Char) (r : Str), lstrip s = c :: r → pyIsSpace c = false
  | [], _, _, h => by simp [lstrip] at h
  | d :: s, c, r, h => by
    simp only [lstrip] at h
    split at h
    · exact lstrip_head s c r h
    · rename_i hd
      simp only [List.cons.injEq] at h
      rw [← h.1]; simpa using hd

theorem lstrip_of_head (c : Char) (r : Str) (h : pyIsSpace c = false) : lstrip (c :: r) = c :: r := by
  simp [lstrip, h]

theorem lstrip_idem (s : Str) : lstrip (lstrip s) = lstrip s := by
  cases h : lstrip s with
  | nil => rfl
  | cons c r => exact lstrip_of_head c r (lstrip_head s c r h)

theorem isBlank_of_lstrip_nil : ∀ (s : Str), lstrip s = [] → isBlank s = true
  | [], _ => rfl
  | c :: s, h => by
    simp only [lstrip] at h
    split at h
    · rename_i hc
      have := isBlank_of_lstrip_nil s h
      simp only [isBlank, List.all_cons, Bool.and_eq_true] at this ⊢
      exact ⟨hc, this⟩
    · cases h

theorem isBlank_lstrip : ∀ (s : Str), isBlank s = true → lstrip s = []
  | [], _ => rfl
  | c :: rest, h => by
    simp only [isBlank, List.all_cons, Bool.and_eq_true] at h
    simp only [lstrip, h.1, if_true]
    exact isBlank_lstrip rest h.2

theorem lstrip_ne_nil (s : Str) (h : isBlank s = false) : lstrip s ≠ [] :=
  fun e => by rw [isBlank_of_lstrip_nil s e] at h; cases h

theorem lstrip_suffix : ∀ (s : Str), lstrip s <:+ s
  | [] => List.suffix_refl _
  | c :: rest => by
    simp only [lstrip]
    split
    · exact (lstrip_suffix rest).trans (List.suffix_cons c rest)
    · exact List.suffix_refl _

theorem lstrip_append_nonblank : ∀ (s t : Str), isBlank s = false → lstrip (s ++ t) = lstrip s ++ t
  | [], _, h => by simp [isBlank] at h
  | c :: s, t, h => by
    simp only [List.cons_append, lstrip]
    split
    · rename_i hc
      apply lstrip_append_nonblank s t
      simp only [isBlank, List.all_cons, hc, Bool.true_and] at h
      exact h
    · rfl

theorem rstrip_prefix (s : Str) : rstrip s <+: s := by
  unfold rstrip
  have h := List.reverse_prefix.mpr (lstrip_suffix s.reverse)
  rwa [List.reverse_reverse] at h

theorem strip_infix (s : Str) : strip s <:+: s :=
  (rstrip_prefix _).isInfix.trans (lstrip_suffix s).isInfix

theorem rstrip_of_last (x : Str) (h : ∀ c, x.getLast? = some c → pyIsSpace c = false) : rstrip x = x := by
  unfold rstrip
  cases hx : x.reverse with
  | nil => simp [lstrip, List.reverse_eq_nil_iff.mp hx]
  | cons d r =>
    have : x.getLast? = some d := by
      rw [← List.head?_reverse, hx]; rfl
    rw [lstrip_of_head d r (h d this), ← hx, List.reverse_reverse]

theorem rstrip_snoc_nl (x : Str) : rstrip (x ++ ['\n']) = rstrip x := by
  unfold rstrip
  simp [lstrip, show pyIsSpace '\n' = true by decide]

theorem strip_ends (x : Str) (hh : ∀ c, x.head? = some c → pyIsSpace c = false)
    (hl : ∀ c, x.getLast? = some c → pyIsSpace c = false) : strip x = x := by
  cases x with
  | nil => rfl
  | cons c r =>
    unfold strip
    rw [lstrip_of_head c r (hh c rfl)]
    exact rstrip_of_last _ hl

theorem strip_id (s : Str) (h : ∀ c ∈ s, pyIsSpace c = false) : strip s = s :=
  strip_ends s (fun c hc => h c (List.mem_of_head? hc)) (fun c hc => h c (List.mem_of_getLast? hc))

theorem strip_snoc_nl (s : Str) (hb : isBlank s = false) : strip (s ++ ['\n']) = strip s := by
  unfold strip
  rw [lstrip_append_nonblank s _ hb, rstrip_snoc_nl]

theorem strip_line (c : Char) (r : Str) (hc : pyIsSpace c = false)
    (hl : ∀ d, (c :: r).getLast? = some d → pyIsSpace d = false) : strip ((c :: r) ++ ['\n']) = c :: r := by
  rw [strip, List.cons_append, lstrip_of_head c _ hc, ← List.cons_append, rstrip_snoc_nl, rstrip_of_last _ hl]

theorem strip_ne_nil (s : Str) (h : isBlank s = false) : strip s ≠ [] := by
  intro e
  have e' : (lstrip (lstrip s).reverse).reverse = [] := e
  have h1 := isBlank_of_lstrip_nil _ (List.reverse_eq_nil_iff.mp e')
  have h2 : isBlank (lstrip s) = true := by
    simp only [isBlank, List.all_reverse] at h1 ⊢
    exact h1
  cases hl : lstrip s with
  | nil => rw [isBlank_of_lstrip_nil s hl] at h; cases h
  | cons c r =>
    have := lstrip_head s c r hl
    rw [hl] at h2
    simp [isBlank, this] at h2

end Mistletoe.Strip
