/-
  The dispatcher of `tokenize_block`, computed forward: on one line (`tryTypes`), for one round of the
  `while line is not None` loop (`tokLoop`), for several rounds (`Step`).

  One line.  `for token_type in token_types: if token_type.start(line): …` either hands the line to the type at the head of
  the list or goes on with the rest of the list, cursor and state unchanged.  `Declines fw s t` says that `t` does the
  second; `tryTypes_decline` / `tryTypes_skip` drop such types from the front of ANY list of types, and a `tryTypes_hit_*`
  lemma says what the type that does start returns (one per type; for `List`, whose `read` may raise, when it returns:
  what it does on shaped lines is `tokLoop_list` in `Proofs/Wrap.lean`), `tryTypes_handedBack` what happens when a
  definition type starts and finds no definition.  Block.lean's `tryTypes_some` is the way back: every round that returns
  is one of these.  Everything said elsewhere about "what the dispatcher does on a line of this shape" is: which types
  decline (a fact about the line, mostly about its first character: `opens`, `declines_first` in `Proofs/Inert.lean`), one
  skip, one hit.
-/
import Mistletoe.Model.Block
namespace Mistletoe.Block
open Mistletoe Mistletoe.Py Mistletoe.Scan

/-- `t.start(line)` answers no and leaves cursor and state alone.  `Table.start` only looks for a `|`, but a `Table.read`
    that returns `None` restores the cursor, which comes to the same; for `Footnote` only the `[` test counts: after a
    `read` that finds no definition the dispatcher goes on from where `read` left the cursor. -/
def Declines (fw : FW) (s : Str) : BTok → Prop
  | .htmlBlock => htmlBlockStart s = .ok none
  | .blockCode => blockCodeStart s = false
  | .heading => Scan.heading s = none
  | .quote => quoteStart s = false
  | .codeFence => codeFenceStart s = none
  | .thematicBreak => Scan.thematicBreak s = false
  | .list => listStart s = false
  | .table => s.contains '|' = false ∨ readTable fw = none
  | .footnote => startsWith ['['] (lstrip s) = false
  | .linkRefDefBlock => startsWith ['['] (lstrip s) = false
  | .paragraph => isBlank s = true
  | .blankLine => Scan.blankLine s = false

section
variable {cfg : Cfg} {g : Nat} {fw : FW} {st : St} {l : Line}

theorem tryTypes_decline {t : BTok} (h : Declines fw l.s t) (ts : List BTok) :
    tryTypes cfg (g + 1) fw st l (t :: ts) = tryTypes cfg g fw st l ts := by
  cases t <;> simp only [Declines] at h
  case table => rcases h with h | h <;> simp only [tryTypes, h, Bool.false_eq_true, if_false, ite_self]
  all_goals simp only [tryTypes, readHeading, h, Bool.false_eq_true, if_false, Bool.not_true]

theorem tryTypes_skip : ∀ (pre : List BTok), (∀ t ∈ pre, Declines fw l.s t) → ∀ (g : Nat) (ts : List BTok),
    tryTypes cfg (g + pre.length) fw st l (pre ++ ts) = tryTypes cfg g fw st l ts
  | [], _, _, _ => rfl
  | t :: pre, h, g, ts =>
    (tryTypes_decline (h t (List.mem_cons_self ..)) (pre ++ ts)).trans
      (tryTypes_skip pre (fun x hx => h x (List.mem_cons_of_mem _ hx)) g ts)

/-- for a front that is written out: `declines_cons h₁ (declines_cons h₂ declines_nil)` -/
theorem declines_nil {s : Str} : ∀ t ∈ ([] : List BTok), Declines fw s t := nofun

theorem declines_cons {s : Str} {t : BTok} {ts : List BTok} (h : Declines fw s t) (hs : ∀ x ∈ ts, Declines fw s x) :
    ∀ x ∈ t :: ts, Declines fw s x :=
  List.forall_mem_cons.mpr ⟨h, hs⟩

/-- the line is left to the loop (Python's "unmatched newline") -/
theorem tryTypes_all_decline {ts : List BTok} (h : ∀ t ∈ ts, Declines fw l.s t) {gas : Nat} (hg : ts.length < gas) :
    tryTypes cfg gas fw st l ts = .ok none := by
  obtain ⟨g, rfl⟩ : ∃ g, gas = g + 1 + ts.length := ⟨gas - 1 - ts.length, by omega⟩
  have := tryTypes_skip (cfg := cfg) (st := st) ts h (g + 1) []
  rwa [List.append_nil] at this

/-! ### The type that starts

  For the type at the head of any list, what it returns when it starts: one lemma per type (`Footnote` and
  `LinkReferenceDefinitionBlock` share `tryTypes_hit_def`, and `tryTypes_handedBack` when `read` finds no definition;
  `Paragraph` has two, by what `read` returns; `List` under the hypothesis that its `read` returns). -/

variable {ts : List BTok}

theorem tryTypes_hit_htmlBlock {rule : Nat} {ec : Option Str} (h : htmlBlockStart l.s = .ok (some (rule, ec))) :
    tryTypes cfg (g + 1) fw st l (.htmlBlock :: ts) =
      .ok (some (.htmlBlock (readHtmlBlock fw ec).1 (fw.start + fw.pos) l.origin, (readHtmlBlock fw ec).2, st)) := by
  simp only [tryTypes, h]

theorem tryTypes_hit_blockCode (h : blockCodeStart l.s = true) :
    tryTypes cfg (g + 1) fw st l (.blockCode :: ts) =
      .ok (some (.blockCode (readBlockCode fw).1 (fw.start + fw.pos) l.origin, (readBlockCode fw).2, st)) := by
  simp only [tryTypes, h, if_true]

theorem readHeading_none {s : Str} (h : readHeading fw s = none) : Scan.heading s = none := by
  unfold readHeading at h
  split at h
  · assumption
  · cases h

/-- `Heading.read`: what `Heading.start` matched, the content less a closing sequence that is all of it, the cursor behind
    the line -/
theorem readHeading_ok {s : Str} {lv : Nat} {c cl : Str} {fw' : FW} (h : readHeading fw s = some (lv, c, cl, fw')) :
    ∃ m, Scan.heading s = some m ∧ lv = m.level ∧
      c = (if !(strip (m.g2.getD [])).isEmpty && (strip (m.g2.getD [])).all (· == '#') then [] else strip (m.g2.getD [])) ∧
      fw' = fw.next := by
  unfold readHeading at h
  split at h
  · cases h
  · rename_i m hm
    cases h
    exact ⟨m, hm, rfl, rfl, rfl⟩

theorem tryTypes_hit_heading {lv : Nat} {c cl : Str} {fw' : FW} (h : readHeading fw l.s = some (lv, c, cl, fw')) :
    tryTypes cfg (g + 1) fw st l (.heading :: ts) = .ok (some (.heading lv c cl (fw.start + fw.pos) l.origin, fw', st)) := by
  simp only [tryTypes, h]

/-- what `Quote.read` returns for a given result of the nested `tokenize_block` -/
def quoteResult (ln og : Nat) (fw' : FW) : Res (Buf × St) → Res (Option (Entry × FW × St))
  | .err e => .err e
  | .ok (b, st') => .ok (some (.quote b.entries b.loose ln og, fw', { st' with setext := true }))

/-- `Quote.read`: the nested `tokenize_block` runs on the gas that is left, with `Paragraph.parse_setext` off -/
theorem tryTypes_hit_quote {qls : List Line} {qstart : Nat} {fw' : FW} (h : quoteStart l.s = true)
    (hq : quoteLines cfg fw l = .ok (qls, qstart, fw')) :
    tryTypes cfg (g + 1) fw st l (.quote :: ts) =
      quoteResult (fw.start + fw.pos) l.origin fw' (tokenizeBlock cfg g qls qstart { st with setext := false }) := by
  simp only [tryTypes, h, hq, if_true]
  cases tokenizeBlock cfg g qls qstart { st with setext := false } with
  | err e => rfl
  | ok r => rfl

theorem tryTypes_hit_codeFence {m : FenceMatch} (h : codeFenceStart l.s = some m) :
    tryTypes cfg (g + 1) fw st l (.codeFence :: ts) =
      .ok (some (.codeFence (readCodeFence fw m).1 m.prepend m.leader m.info m.lang (fw.start + fw.pos) l.origin,
        (readCodeFence fw m).2, st)) := by
  simp only [tryTypes, h]

theorem tryTypes_hit_thematicBreak (h : Scan.thematicBreak l.s = true) :
    tryTypes cfg (g + 1) fw st l (.thematicBreak :: ts) =
      .ok (some (.thematicBreak l.s (fw.start + fw.pos) l.origin, fw.next, st)) := by
  simp only [tryTypes, h, if_true]

/-- `List.read`, when it returns (it may raise: what it does on shaped lines is `tokLoop_list` in `Proofs/Wrap.lean`) -/
theorem tryTypes_hit_list {items : List Item} {fw' : FW} {st' : St} (h : listStart l.s = true)
    (hr : readList cfg g fw st none none [] = .ok (items, fw', st')) :
    tryTypes cfg (g + 1) fw st l (.list :: ts) = .ok (some (.list items (fw.start + fw.pos) l.origin, fw', st')) := by
  simp only [tryTypes, h, hr, if_true]

theorem tryTypes_hit_table {b : List Str} {sl : Nat} {fw' : FW} (h : l.s.contains '|' = true)
    (hr : readTable fw = some (b, sl, fw')) :
    tryTypes cfg (g + 1) fw st l (.table :: ts) = .ok (some (.table b sl (fw.start + fw.pos) l.origin, fw', st)) := by
  simp only [tryTypes, h, hr, if_true]

/-- `Footnote` or the Markdown renderer's `LinkReferenceDefinitionBlock` -/
def IsDef (t : BTok) : Prop := t = .footnote ∨ t = .linkRefDefBlock

def defEntry (t : BTok) (ms : List FnMatch) (ln og : Nat) : Entry :=
  if t = .linkRefDefBlock then .linkRefDefs ms ln og else .footnote ms ln og

theorem tryTypes_hit_def {t : BTok} (ht : IsDef t) {ms : List FnMatch} {fw' : FW}
    (h : startsWith ['['] (lstrip l.s) = true) (hr : readFootnote fw = .ok (ms, fw')) (he : ms.isEmpty = false) :
    tryTypes cfg (g + 1) fw st l (t :: ts) =
      .ok (some (defEntry t ms (fw.start + fw.pos) l.origin, fw', { st with defs := st.defs ++ ms })) := by
  rcases ht with rfl | rfl <;> simp [tryTypes, h, hr, he, defEntry]

theorem tryTypes_handedBack {t : BTok} (ht : IsDef t) {ms : List FnMatch} {fwf : FW} (h : startsWith ['['] (lstrip l.s) = true)
    (hr : readFootnote fw = .ok (ms, fwf)) (he : ms.isEmpty = true) :
    tryTypes cfg (g + 1) fw st l (t :: ts) = tryTypes cfg g fwf { st with defs := st.defs ++ ms } l ts := by
  rcases ht with rfl | rfl <;> simp only [tryTypes, h, hr, he, if_true]

theorem tryTypes_hit_paragraph {b : List Str} {fw' : FW} (h : isBlank l.s = false)
    (hr : readParagraph cfg st.setext fw l.s = .ok (b, false, fw')) :
    tryTypes cfg (g + 1) fw st l (.paragraph :: ts) = .ok (some (.paragraph b (fw.start + fw.pos) l.origin, fw', st)) := by
  simp only [tryTypes, h, hr, Bool.not_false, if_true]

theorem tryTypes_hit_setext {b : List Str} {fw' : FW} (h : isBlank l.s = false)
    (hr : readParagraph cfg st.setext fw l.s = .ok (b, true, fw')) :
    tryTypes cfg (g + 1) fw st l (.paragraph :: ts) = .ok (some (.setext b (fw.start + fw.pos) l.origin, fw', st)) := by
  simp only [tryTypes, h, hr, Bool.not_false, if_true]

theorem tryTypes_hit_blankLine (h : Scan.blankLine l.s = true) :
    tryTypes cfg (g + 1) fw st l (.blankLine :: ts) = .ok (some (.blankLine (fw.start + fw.pos) l.origin, fw.next, st)) := by
  simp only [tryTypes, h, if_true]

/-! ### Lists of types that are not written out

  `may` lists the types that need not decline.  The first of them in the list is the one asked; when its answer `r` does
  not depend on the gas left (all readers but `Quote` and `List`), any gas that reaches it will do. -/

theorem tryTypes_first_idx {may : BTok → Bool} (hd : ∀ t, may t = false → Declines fw l.s t) {x : BTok}
    {r : Res (Option (Entry × FW × St))} (hx : ∀ ts g, tryTypes cfg (g + 1) fw st l (x :: ts) = r) :
    ∀ {ts : List BTok} {gas : Nat}, ts.find? may = some x → ts.findIdx may < gas → tryTypes cfg gas fw st l ts = r
  | [], _, hf, _ => by cases hf
  | t :: ts, gas, hf, hg => by
    obtain ⟨g, rfl⟩ : ∃ g, gas = g + 1 := ⟨gas - 1, by omega⟩
    rw [List.find?_cons] at hf
    rw [List.findIdx_cons] at hg
    cases hm : may t <;> rw [hm] at hf hg
    · rw [tryTypes_decline (hd t hm)]
      exact tryTypes_first_idx hd hx hf (Nat.lt_of_succ_lt_succ hg)
    · cases hf; exact hx ts g

theorem tryTypes_first {may : BTok → Bool} (hd : ∀ t, may t = false → Declines fw l.s t) {x : BTok}
    {r : Res (Option (Entry × FW × St))} (hx : ∀ ts g, tryTypes cfg (g + 1) fw st l (x :: ts) = r)
    {ts : List BTok} {gas : Nat} (hf : ts.find? may = some x) (hg : ts.length ≤ gas) :
    tryTypes cfg gas fw st l ts = r :=
  tryTypes_first_idx hd hx hf
    (Nat.lt_of_lt_of_le (List.findIdx_lt_length_of_exists ⟨x, List.mem_of_find?_eq_some hf, List.find?_some hf⟩) hg)

theorem tryTypes_only {x : BTok} (hd : ∀ t, t ≠ x → Declines fw l.s t)
    {r : Res (Option (Entry × FW × St))} (hx : ∀ ts g, tryTypes cfg (g + 1) fw st l (x :: ts) = r)
    {ts : List BTok} {gas : Nat} (hm : x ∈ ts) (hg : ts.length ≤ gas) :
    tryTypes cfg gas fw st l ts = r := by
  obtain ⟨pre, post, rfl, hpre⟩ := List.eq_append_cons_of_mem hm
  obtain ⟨g, rfl⟩ : ∃ g, gas = g + 1 + pre.length := ⟨gas - 1 - pre.length, by simp at hg; omega⟩
  rw [tryTypes_skip pre (fun t ht => hd t (fun e => hpre (e ▸ ht))), hx]

/-! ### The cursor in a buffer written as `pre ++ l :: rest` -/

theorem peek_at (pre : List Line) (l : Line) (rest : List Line) (start : Nat) :
    FW.peek ⟨pre ++ l :: rest, pre.length, start⟩ = some l := by simp [FW.peek]

theorem peek_end (pre : List Line) (start : Nat) : FW.peek ⟨pre, pre.length, start⟩ = none := by simp [FW.peek]

theorem FW.next_at (pre : List Line) (l : Line) (rest : List Line) (start : Nat) :
    FW.next ⟨pre ++ l :: rest, pre.length, start⟩ = ⟨(pre ++ [l]) ++ rest, (pre ++ [l]).length, start⟩ := by
  simp [FW.next]

theorem tokLoop_some {gas : Nat} {e : Entry} {fw' : FW} {st' : St} (hp : fw.peek = some l)
    (ht : tryTypes cfg gas fw st l cfg.types = .ok (some (e, fw', st'))) (acc : List Entry) (loose : Bool) :
    tokLoop cfg (gas + 1) fw st acc loose = tokLoop cfg gas fw' st' (e :: acc) loose := by
  simp only [tokLoop, hp, ht]

theorem tokLoop_none {gas : Nat} (hp : fw.peek = some l) (ht : tryTypes cfg gas fw st l cfg.types = .ok none)
    (acc : List Entry) (loose : Bool) : tokLoop cfg (gas + 1) fw st acc loose = tokLoop cfg gas fw.next st acc true := by
  simp only [tokLoop, hp, ht]

theorem tokLoop_first_idx {may : BTok → Bool} (hp : fw.peek = some l) (hd : ∀ t, may t = false → Declines fw l.s t) {x : BTok}
    {e : Entry} {fw' : FW} {st' : St} (hx : ∀ ts g, tryTypes cfg (g + 1) fw st l (x :: ts) = .ok (some (e, fw', st')))
    (hf : cfg.types.find? may = some x) (hg : cfg.types.findIdx may < g) (acc : List Entry) (loose : Bool) :
    tokLoop cfg (g + 1) fw st acc loose = tokLoop cfg g fw' st' (e :: acc) loose :=
  tokLoop_some hp (tryTypes_first_idx hd hx hf hg) acc loose

theorem tokLoop_first {may : BTok → Bool} (hp : fw.peek = some l) (hd : ∀ t, may t = false → Declines fw l.s t) {x : BTok}
    {e : Entry} {fw' : FW} {st' : St} (hx : ∀ ts g, tryTypes cfg (g + 1) fw st l (x :: ts) = .ok (some (e, fw', st')))
    (hf : cfg.types.find? may = some x) (hg : cfg.types.length ≤ g) (acc : List Entry) (loose : Bool) :
    tokLoop cfg (g + 1) fw st acc loose = tokLoop cfg g fw' st' (e :: acc) loose :=
  tokLoop_some hp (tryTypes_first hd hx hf hg) acc loose

theorem tokLoop_end (cfg : Cfg) (gas : Nat) (pre : List Line) (start : Nat) (st : St) (acc : List Entry) (loose : Bool) :
    tokLoop cfg (gas + 1) ⟨pre, pre.length, start⟩ st acc loose = .ok ({ entries := acc.reverse, loose := loose }, st) := by
  simp only [tokLoop, peek_end]

/-- `g + 3`: one unit is `tokenizeBlock`'s own, one the round on `l` (the dispatcher runs on `g + 1`), one the round that
    finds the end -/
theorem tokenize_single (cfg : Cfg) (l : Line) (start : Nat) (st st' : St) (g : Nat) (e : Entry)
    (h : tryTypes cfg (g + 1) ⟨[l], 0, start⟩ st l cfg.types = .ok (some (e, FW.next ⟨[l], 0, start⟩, st'))) :
    tokenizeBlock cfg (g + 3) [l] start st = .ok ({ entries := [e], loose := false }, st') := by
  simp only [tokenizeBlock, tokLoop, FW.peek, List.getElem?_cons_zero, h, FW.next]
  rfl

end

/-! ### Rounds of the loop over a stretch of lines, wherever it stands in the buffer

  `Step cfg need P ls es k st st' lo`: with the cursor on the first line of `ls`, `P` true of the lines behind `ls`, and the
  parser in state `st`, `k` rounds of the loop pass exactly `ls`, push the entries `es ln` (`ln`: the number of the first line
  of `ls`), leave the state `st'` and mark the buffer loose if `lo`, whenever at least `need` gas is left afterwards.  One
  block of a document is a `Step` with `k = 1` and `lo = false` (`Step.one`; the "\n" line, which sets `lo`, is `Step.nl` of
  Inert); steps compose (`Step.append`: the one place where the buffer is
  re-bracketed and the gas added up), and a `Step` up to the end of the buffer is a result (`Step.tokLoop`). -/

section Steps
variable {cfg : Cfg}

def Step (cfg : Cfg) (need : Nat) (P : List Line → Prop) (ls : List Line) (es : Nat → List Entry) (k : Nat)
    (st st' : St) (lo : Bool) : Prop :=
  ∀ (pre post : List Line) (start g : Nat) (acc : List Entry) (loose : Bool), P post → need ≤ g →
    tokLoop cfg (g + k) ⟨pre ++ (ls ++ post), pre.length, start⟩ st acc loose =
      tokLoop cfg g ⟨(pre ++ ls) ++ post, (pre ++ ls).length, start⟩ st' ((es (start + pre.length)).reverse ++ acc)
        (loose || lo)

theorem Step.one {need : Nat} {P : List Line → Prop} {ls : List Line} {e : Nat → Entry} {st st' : St}
    (h : ∀ (pre post : List Line) (start g : Nat) (acc : List Entry) (loose : Bool), P post → need ≤ g →
      tokLoop cfg (g + 1) ⟨pre ++ (ls ++ post), pre.length, start⟩ st acc loose =
        tokLoop cfg g ⟨(pre ++ ls) ++ post, (pre ++ ls).length, start⟩ st' (e (start + pre.length) :: acc) loose) :
    Step cfg need P ls (fun ln => [e ln]) 1 st st' false := by
  intro pre post start g acc loose hp hg
  simpa using h pre post start g acc loose hp hg

/-- `hP`: `P₁` must hold of what the second step leaves behind the first -/
theorem Step.append {n₁ n₂ k₁ k₂ : Nat} {P₁ P₂ : List Line → Prop} {ls₁ ls₂ : List Line} {es₁ es₂ : Nat → List Entry}
    {st st₁ st₂ : St} {lo₁ lo₂ : Bool} (h₁ : Step cfg n₁ P₁ ls₁ es₁ k₁ st st₁ lo₁) (h₂ : Step cfg n₂ P₂ ls₂ es₂ k₂ st₁ st₂ lo₂)
    (hP : ∀ post, P₂ post → P₁ (ls₂ ++ post)) (hn : n₁ ≤ n₂ + k₂) :
    Step cfg n₂ P₂ (ls₁ ++ ls₂) (fun ln => es₁ ln ++ es₂ (ln + ls₁.length)) (k₁ + k₂) st st₂ (lo₁ || lo₂) := by
  intro pre post start g acc loose hp hg
  have e₁ := h₁ pre (ls₂ ++ post) start (g + k₂) acc loose (hP post hp) (by omega)
  have e₂ := h₂ (pre ++ ls₁) post start g ((es₁ (start + pre.length)).reverse ++ acc) (loose || lo₁) hp hg
  rw [List.append_assoc ls₁, ← Nat.add_assoc, Nat.add_right_comm, e₁, e₂]
  simp only [List.append_assoc, List.length_append, List.reverse_append, Nat.add_assoc, Bool.or_assoc]

theorem Step.tokLoop {need k : Nat} {P : List Line → Prop} {ls : List Line} {es : Nat → List Entry} {st st' : St} {lo : Bool}
    (h : Step cfg need P ls es k st st' lo) (hP : P []) (pre : List Line) (start g : Nat) (hg : need ≤ g + 1)
    (acc : List Entry) (loose : Bool) :
    tokLoop cfg (g + 1 + k) ⟨pre ++ ls, pre.length, start⟩ st acc loose =
      .ok ({ entries := acc.reverse ++ es (start + pre.length), loose := loose || lo }, st') := by
  have e := h pre [] start (g + 1) acc loose hP hg
  simp only [List.append_nil] at e
  rw [e, tokLoop_end]
  simp

theorem Step.congr {need k k' : Nat} {P : List Line → Prop} {ls ls' : List Line} {es es' : Nat → List Entry} {st st' : St}
    {lo lo' : Bool} (h : Step cfg need P ls es k st st' lo) (hl : ls' = ls) (he : ∀ ln, es' ln = es ln) (hk : k' = k)
    (hlo : lo' = lo) : Step cfg need P ls' es' k' st st' lo' := by
  subst hl hlo hk
  intro pre post start g acc loose hp hg
  rw [he]; exact h pre post start g acc loose hp hg

theorem Step.mono {need need' k : Nat} {P P' : List Line → Prop} {ls : List Line} {es : Nat → List Entry} {st st' : St} {lo : Bool}
    (h : Step cfg need P ls es k st st' lo) (hn : need ≤ need') (hP : ∀ post, P' post → P post) :
    Step cfg need' P' ls es k st st' lo :=
  fun pre post start g acc loose hp hg => h pre post start g acc loose (hP post hp) (Nat.le_trans hn hg)

end Steps

end Mistletoe.Block
