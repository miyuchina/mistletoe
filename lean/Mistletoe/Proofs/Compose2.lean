/-
  C03 for the tree `Compose.T` (`Proofs/Compose.lean`), the block phase and what rests on it: the induction over `T` (per
  constructor a lemma of `Proofs/ComposeGen.lean`) and `Document(text)`; at the end `headLine_atx`, the plain spelling of a heading
  (the one lemma of the `T` files that needs `Proofs/MdRoundBlocks.lean`).

  `T` has closed nodes only, and its gas function `needs` does not pay for a final "\n" line behind the last node.
  Hence the claim for its siblings is `SibsF` with the bound `needs ts + 13` when there is such a line and `needs ts` when there
  is none, and the statements about `T` are the case without.
-/
import Mistletoe.Proofs.ComposeGen
import Mistletoe.Proofs.MdRoundBlocks
namespace Mistletoe.Compose
open Mistletoe Mistletoe.Py Mistletoe.Scan
open Mistletoe.Block
open Mistletoe.Props.C14 (numbered)
open Mistletoe.InertInline (inertClass)
open Mistletoe.ComposeG (Closed SibsF sibs_single_closed sibs_cons_closed closed_quoteF closed_para closed_heading closed_hr)
open Mistletoe.ComposeC (sxOk_false)
open Mistletoe.ComposeL (sepS)
open Mistletoe.Html

mutual
theorem closed_T (ti : Bool) : ∀ (t : T), t.ok = true → Closed ti (write t) (fun m => entryOf m t) (need t) (isQuote t) false
  | .para ls, h => closed_para ls (paraOk_of ls h)
  | .heading lv t line, h => closed_heading lv t line (headOk_of lv t line h).head
  | .hr line, h => closed_hr line (hrOk_of line h).1
  | .quote bare kids, h =>
    have hq := quoteOk_of bare kids h
    have hw := writes_lineOk kids hq.2.1
    closed_quoteF bare (nodes_T ti kids hq.2.1 hq.1) (hw.2 hq.1) hw.1 hq.2.2
theorem nodes_T (ti : Bool) : ∀ (ts : List T), T.oks ts = true → ts ≠ [] →
    SibsF ti (writes ts) (fun m => entriesOf m ts) (decide (1 < ts.length)) (fun tail => needs ts + if tail then 13 else 0)
      (ts.any isQuote) false
  | [], _, hne => absurd rfl hne
  | t :: rest, h, _ => by
    obtain ⟨h1, h2⟩ := oks_cons t rest h
    have hW := (write_lineOk t h1).1
    cases rest with
    | nil => simpa [writes, needs, entriesOf] using sibs_single_closed (closed_T ti t h1) (closed_entryOf · t) hW
    | cons t' r =>
      have := sibs_cons_closed (closed_T ti t h1) (closed_entryOf · t) hW (nodes_T ti (t' :: r) h2 (by simp)) (writes_lineOk _ h2).1
        (fun j m => shift_entriesOf j m _)
      simpa [writes_cons2, needs_cons2, entriesOf, Nat.add_assoc, Nat.add_comm 11, Nat.add_left_comm] using this
end

theorem node_tokenize (ti : Bool) : ∀ (t : T), t.ok = true → ∀ (k : Nat) (st : St) (g : Nat),
    tokenizeBlock (dcfg ti) (need t + g) (numbered k (write t)) (k + 1) st =
      .ok ({ entries := [entryOf (k + 1) t], loose := false }, after st (isQuote t)) :=
  fun t h k st g => closed_T ti t h k st (need t + g) (Nat.le_add_right _ _) (sxOk_false _)

theorem nodes_tokenize (ti : Bool) : ∀ (ts : List T), T.oks ts = true → ts ≠ [] → ∀ (k : Nat) (st : St) (g : Nat),
    tokenizeBlock (dcfg ti) (needs ts + g) (numbered k (writes ts)) (k + 1) st =
      .ok ({ entries := entriesOf (k + 1) ts, loose := decide (1 < ts.length) }, after st (ts.any isQuote)) :=
  fun ts h hne k st g => by
    simpa [sepS] using nodes_T ti ts h hne false k st (needs ts + g) (by simp) (sxOk_false _)

theorem blockPhase_writes (ti : Bool) (ts : List T) (h : T.oks ts = true) (hne : ts ≠ []) (g : Nat) :
    blockPhase (dcfg ti) (needs ts + g) (writes ts) =
      .ok ({ entries := entriesOf 1 ts, loose := decide (1 < ts.length) }, {}) := by
  rw [Props.C14.blockPhase_numbered]
  have := nodes_tokenize ti ts h hne 0 {} g
  simp only [Nat.zero_add] at this
  rw [this]
  simp [after]

theorem parseLines_writes (cfg : Document.Cfg) (ti : Bool) (hb : cfg.block = dcfg ti)
    (ht : ∀ t ∈ cfg.span, inertClass t = true) (hc : cfg.span.count .lineBreak = 1)
    (ts : List T) (h : T.oks ts = true) (hne : ts ≠ []) (g : Nat) :
    Document.parseLines cfg (needs ts + g) (writes ts) = .ok { kids := blocksOf 1 ts, footnotes := [] } :=
  Pipeline.parseLines_of_phase (hb ▸ blockPhase_writes ti ts h hne g) (mkBlocks_entriesOf cfg _ ht hc ts h 1)

theorem parse_writes (cfg : Document.Cfg) (ti : Bool) (hb : cfg.block = dcfg ti)
    (ht : ∀ t ∈ cfg.span, inertClass t = true) (hc : cfg.span.count .lineBreak = 1)
    (ts : List T) (h : T.oks ts = true) (hne : ts ≠ []) (g : Nat) :
    Document.parse cfg (needs ts + g) (writes ts).flatten = .ok { kids := blocksOf 1 ts, footnotes := [] } := by
  rw [InertInline.parse_lines cfg _ (writes ts) (fun l hl => lineOk_oneLine ((writes_lineOk ts h).1 l hl))]
  exact parseLines_writes cfg ti hb ht hc ts h hne g

/-- the plain spelling `# text` is a heading line for the dispatcher (`MdRound.readHeading_line`, Proofs/MdRoundBlocks.lean) -/
theorem headLine_atx (lv : Nat) (t : Str) (h1 : 1 ≤ lv) (h6 : lv ≤ 6) (hh : '#' ∉ t) (hn : '\n' ∉ t)
    (hs : strip t = t) (hne : t ≠ []) : headLine lv t (atx lv t) = true ∧ closingOf (atx lv t) = [] := by
  have hr : readHeading { lines := [], pos := 0, start := 0 } (hashes lv ++ ' ' :: t ++ ['\n']) = _ :=
    MdRound.readHeading_line _ lv t h1 h6 hh hn hs hne
  rw [readHeading_content] at hr
  have hc : headContent (atx lv t) = some (lv, t, []) := by
    obtain ⟨⟨a, b, c⟩, hx, he⟩ := Option.map_eq_some_iff.mp hr
    simp only [Prod.mk.injEq] at he
    obtain ⟨rfl, rfl, rfl, _⟩ := he
    exact hx
  obtain ⟨m, rfl⟩ : ∃ m, lv = m + 1 := ⟨lv - 1, by omega⟩
  have hl : atx (m + 1) t = '#' :: (hashes m ++ ' ' :: t ++ ['\n']) := by
    simp [atx, hashes, List.replicate_succ]
  refine ⟨?_, by simp [closingOf, hc]⟩
  simp only [headLine, hc, beq_self_eq_true, Bool.and_self, Bool.true_and]
  have h1 : htmlBlockStart ('#' :: (hashes m ++ ' ' :: t ++ ['\n'])) = .ok none := htmlBlockStart_rep 0 '#' _ (by decide) (by decide)
  have h2 : blockCodeStart ('#' :: (hashes m ++ ' ' :: t ++ ['\n'])) = false :=
    blockCodeStart_rep 0 '#' _ (by decide) (by decide) (by decide)
  rw [hl, h1, h2]
  rfl

end Mistletoe.Compose
