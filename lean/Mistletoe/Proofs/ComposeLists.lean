/-
  C03 for the tree `ComposeL.T2`: paragraphs, ATX headings, thematic breaks, block quotes, and bullet and ordered LISTS —
  tight and loose, any number of items, items holding any blocks of the tree (nested lists and quotes included), lists
  inside quotes and quotes inside lists, to any depth.  A document written out from such a tree parses to that tree
  and renders to the HTML written directly from it (the theorems: `ComposeLists2.lean`).

  Here: the tree with its well-formedness, its written lines (`write2`, `writeItems`) and its entries, the decimal
  numerals of ordered markers, and what the readers do on WRITTEN items, stated for lines:
  * `ListItem.read` in context (`item_lines_last`, `item_lines_next`, instances of `Wrap.lean`'s `itemLines_read`): the item's
    lines end at the end of the buffer, at the marker line of the next item, or at a "\n" line that is
    followed by the end of the buffer or by a line that is no continuation and carries no marker;
  * one round of `List.read` on a written item and the dispatcher on a marker line (`readList_item_cons`,
    `tokLoop_list_step`, `otherMarkerType_leaders`): what these steps need of an item is its lines and their tokenisation.
    (These are generic in the token configuration although they live in `ComposeL`: MdRoundLists uses them under
    `markdownTypes`.)
  * the renderer's side common to all trees with lists: the looseness `List.__init__` computes (`looseOf`), the HTML of a list
    and of an item (`listHtml`, `flat_list`, `flat_listItem_*`).
  The paragraph, heading, thematic-break and quote leaves are `Proofs/Compose.lean`'s (C14, C04, C05).

  The claims about written blocks (closed / open nodes, siblings, items) and the lemmas that build them from each
  other are in `Proofs/ComposeGen.lean`, for all tree types; the induction over a tree is done once, for the largest tree
  (`ComposeT.T4`, `Proofs/ComposeTable.lean`), and the theorems about `T2` are read off it in `ComposeLists2.lean`.
-/
import Mistletoe.Proofs.Compose
import Mistletoe.Proofs.LocalityLists
namespace Mistletoe.Block
open Mistletoe Mistletoe.Py Mistletoe.Scan

/-! ### Marker lines -/

/-- checkable form of `ListLeader` for the markers the writer produces: a bullet, or one to nine ASCII digits and "." or ")" -/
def leaderOk (o : Bool) (m : Str) : Bool :=
  if o then
    (match m.getLast? with | some e => e == '.' || e == ')' | none => false)
      && decide (1 ≤ m.dropLast.length) && decide (m.dropLast.length ≤ 9) && m.dropLast.all (fun x => asciiDigits.contains x)
  else m == ['-'] || m == ['+'] || m == ['*']

theorem leaderOk_ordered (m : Str) (h : leaderOk true m = true) :
    ∃ d e, m = d ++ [e] ∧ (e = '.' ∨ e = ')') ∧ 1 ≤ d.length ∧ d.length ≤ 9 ∧ ∀ x ∈ d, x ∈ asciiDigits := by
  simp only [leaderOk, if_true, Bool.and_eq_true, decide_eq_true_eq, List.all_eq_true, List.contains_iff_mem] at h
  obtain ⟨⟨⟨h1, h2⟩, h3⟩, h4⟩ := h
  cases hg : m.getLast? with
  | none => rw [hg] at h1; cases h1
  | some e =>
    rw [hg] at h1
    obtain ⟨d, rfl⟩ := List.getLast?_eq_some_iff.mp hg
    simp only [List.dropLast_concat] at h2 h3 h4
    simp only [Bool.or_eq_true, beq_iff_eq] at h1
    exact ⟨d, e, rfl, h1, h2, h3, h4⟩

theorem listLeader_of (o : Bool) (m : Str) (h : leaderOk o m = true) : ListLeader m := by
  cases o with
  | false =>
    simp only [leaderOk, Bool.false_eq_true, if_false, Bool.or_eq_true, beq_iff_eq] at h
    rcases h with (rfl | rfl) | rfl
    · exact listLeader_bullet '-' (Or.inl rfl)
    · exact listLeader_bullet '+' (Or.inr (Or.inl rfl))
    · exact listLeader_bullet '*' (Or.inr (Or.inr rfl))
  | true =>
    obtain ⟨d, e, rfl, he, h1, h9, hd⟩ := leaderOk_ordered m h
    exact listLeader_ordered d e h1 h9 hd he

/-! ### Decimal numerals: `str(n)` and `int` -/

open Mistletoe.Html (natDigits natDigitsAux decDigit) in
section
theorem foldl_parse (s : Str) : ∀ (a : Nat), s.foldl (fun n c => n * 10 + digitVal c) a = a * 10 ^ s.length + parseNat s := by
  induction s with
  | nil => intro a; simp [parseNat]
  | cons c s ih =>
    intro a
    have h0 := ih (0 * 10 + digitVal c)
    have h1 := ih (a * 10 + digitVal c)
    simp only [parseNat, List.foldl_cons, List.length_cons] at h0 h1 ⊢
    rw [h1, h0, Nat.pow_succ, Nat.zero_mul, Nat.zero_add, Nat.add_mul, Nat.mul_assoc a 10, Nat.mul_comm 10 (10 ^ s.length)]
    omega

theorem parseNat_cons (c : Char) (s : Str) : parseNat (c :: s) = digitVal c * 10 ^ s.length + parseNat s := by
  have := foldl_parse s (0 * 10 + digitVal c)
  simp only [Nat.zero_mul, Nat.zero_add] at this
  simpa [parseNat] using this

theorem decDigit_facts : ∀ d, d < 10 → digitVal (decDigit d) = d ∧ decDigit d ∈ asciiDigits := by decide +kernel

theorem decDigit_mod (n : Nat) : digitVal (decDigit n) = n % 10 ∧ decDigit n ∈ asciiDigits := by
  have h := decDigit_facts (n % 10) (Nat.mod_lt _ (by decide))
  have e : decDigit n = decDigit (n % 10) := by simp [decDigit]
  rw [e]; exact h

theorem natDigitsAux_val : ∀ (fuel n : Nat) (acc : Str), n < 10 ^ (fuel + 1) →
    parseNat (natDigitsAux fuel n acc) = n * 10 ^ acc.length + parseNat acc
  | 0, n, acc, h => by
    have hn : n < 10 := by simpa using h
    simp only [natDigitsAux, parseNat_cons, (decDigit_mod n).1]
    rw [Nat.mod_eq_of_lt hn]
  | fuel + 1, n, acc, h => by
    simp only [natDigitsAux]
    split
    · rename_i hn
      simp only [parseNat_cons, (decDigit_mod n).1]
      rw [Nat.mod_eq_of_lt hn]
    · have h10 : n / 10 < 10 ^ (fuel + 1) := by
        rw [Nat.div_lt_iff_lt_mul (by decide)]
        rw [Nat.pow_succ] at h
        exact h
      rw [natDigitsAux_val fuel (n / 10) _ h10, parseNat_cons, (decDigit_mod n).1, List.length_cons, Nat.pow_succ]
      have := Nat.div_add_mod n 10
      have e : n / 10 * (10 ^ acc.length * 10) = (10 * (n / 10)) * 10 ^ acc.length := by
        rw [Nat.mul_comm (10 ^ acc.length) 10, ← Nat.mul_assoc, Nat.mul_comm (n / 10) 10]
      rw [e, ← Nat.add_assoc, ← Nat.add_mul, this]

theorem lt_pow_succ (n : Nat) : n < 10 ^ (n + 1) := by
  have := @Nat.lt_pow_self n 10 (by decide)
  have h2 : 10 ^ n ≤ 10 ^ (n + 1) := Nat.pow_le_pow_right (by decide) (by omega)
  omega

/-- `int(str(n)) == n` -/
theorem parseNat_natDigits (n : Nat) : parseNat (natDigits n) = n := by
  have := natDigitsAux_val n n [] (lt_pow_succ n)
  simpa [natDigits, parseNat] using this

theorem natDigitsAux_shape : ∀ (fuel n : Nat) (acc : Str) (k : Nat), n < 10 ^ (k + 1) →
    acc.length + 1 ≤ (natDigitsAux fuel n acc).length ∧ (natDigitsAux fuel n acc).length ≤ acc.length + (k + 1) ∧
    ∀ x ∈ natDigitsAux fuel n acc, x ∈ asciiDigits ∨ x ∈ acc
  | 0, n, acc, k, _ => by
    simp only [natDigitsAux, List.length_cons, List.mem_cons]
    refine ⟨by omega, by omega, ?_⟩
    rintro x (rfl | hx)
    · exact Or.inl (decDigit_mod n).2
    · exact Or.inr hx
  | fuel + 1, n, acc, k, h => by
    simp only [natDigitsAux]
    split
    · simp only [List.length_cons, List.mem_cons]
      refine ⟨by omega, by omega, ?_⟩
      rintro x (rfl | hx)
      · exact Or.inl (decDigit_mod n).2
      · exact Or.inr hx
    · rename_i hn
      obtain ⟨k', rfl⟩ : ∃ k', k = k' + 1 := by
        cases k with
        | zero => simp at h; omega
        | succ k' => exact ⟨k', rfl⟩
      have h10 : n / 10 < 10 ^ (k' + 1) := by
        rw [Nat.div_lt_iff_lt_mul (by decide)]
        rw [Nat.pow_succ] at h
        exact h
      obtain ⟨a, b, c⟩ := natDigitsAux_shape fuel (n / 10) (decDigit n :: acc) k' h10
      simp only [List.length_cons] at a b
      refine ⟨by omega, by omega, ?_⟩
      intro x hx
      rcases c x hx with h | h
      · exact Or.inl h
      · rcases List.mem_cons.mp h with rfl | h
        · exact Or.inl (decDigit_mod n).2
        · exact Or.inr h

theorem natDigits_shape (n : Nat) (h : n < 1000000000) :
    1 ≤ (natDigits n).length ∧ (natDigits n).length ≤ 9 ∧ ∀ x ∈ natDigits n, x ∈ asciiDigits := by
  obtain ⟨a, b, c⟩ := natDigitsAux_shape n n [] 8 (by simpa using h)
  simp only [List.length_nil, Nat.zero_add] at a b
  refine ⟨a, b, ?_⟩
  intro x hx
  rcases c x hx with h | h
  · exact h
  · simp at h

theorem natDigitsAux_ne_nil : ∀ (fuel n : Nat) (acc : Str), Html.natDigitsAux fuel n acc ≠ []
  | 0, _, _ => by simp [Html.natDigitsAux]
  | fuel + 1, n, acc => by
    unfold Html.natDigitsAux
    split
    · simp
    · exact natDigitsAux_ne_nil fuel _ _
end

end Mistletoe.Block

namespace Mistletoe.ComposeL
open Mistletoe Mistletoe.Py Mistletoe.Scan Mistletoe.Compose
open Mistletoe.Block
open Mistletoe.Props.C14 (defaultTypes inertLine numbered numbered_cons numbered_append numbered_length numbered_mem numbered_s)
open Mistletoe.InertInline (inertBody inertText proseLine oneLine proseInlines inertClass)
open Mistletoe.Props.C04 (indentDoc itemDocOk itemDocOk_spec)
open Mistletoe.Html (natDigits)

/-! ### The fragment with lists -/

/-- A tree of CommonMark constructs: `Compose.T` (paragraph, ATX heading, thematic break, block quote; see there) and
    * `list ordered start marker pad loose items`: a bullet list (`ordered = false`, `marker` one of `-`, `+`, `*`) or an
      ordered list (`ordered = true`: the items are numbered `start`, `start + 1`, …, each number followed by `marker`,
      "." or ")"); `pad` spaces (1 … 4) follow every marker; an item is the list of its blocks; `loose = true`: one
      "\n" line between consecutive items (`loose = false`: none). -/
inductive T2 where
  | para (lines : List Str)
  | heading (level : Nat) (text : Str) (line : Str)
  | hr (line : Str)
  | quote (bare : Bool) (kids : List T2)
  | list (ordered : Bool) (start : Nat) (marker : Char) (pad : Nat) (loose : Bool) (items : List (List T2))

def leaderOf (ordered : Bool) (n : Nat) (mk : Char) : Str := if ordered then natDigits n ++ [mk] else [mk]

def markerOk (o : Bool) (n : Nat) (mk : Char) : Bool :=
  if o then decide (n < 1000000000) && (mk == '.' || mk == ')') else (mk == '-' || mk == '+' || mk == '*')

theorem leaderOk_of_marker (o : Bool) (n : Nat) (mk : Char) (h : markerOk o n mk = true) : leaderOk o (leaderOf o n mk) = true := by
  cases o with
  | false =>
    simp only [markerOk, Bool.false_eq_true, if_false, Bool.or_eq_true, beq_iff_eq] at h
    rcases h with (rfl | rfl) | rfl <;> rfl
  | true =>
    simp only [markerOk, if_true, Bool.and_eq_true, decide_eq_true_eq] at h
    obtain ⟨a, b, c⟩ := natDigits_shape n h.1
    simp only [leaderOk, leaderOf, if_true, List.getLast?_concat, List.dropLast_concat, Bool.and_eq_true, decide_eq_true_eq,
      List.all_eq_true, List.contains_iff_mem]
    exact ⟨⟨⟨h.2, a⟩, b⟩, c⟩

def sepS (b : Bool) : List Str := if b then [['\n']] else []

mutual
def write2 : T2 → List Str
  | .para ls => ls
  | .heading _ _ line => [line]
  | .hr line => [line]
  | .quote bare kids => (writes2 kids).map (if bare then qbare else qsp)
  | .list o n mk pad loose items => writeItems o mk pad loose n items
/-- siblings, separated by exactly one "\n" line -/
def writes2 : List T2 → List Str
  | [] => []
  | t :: rest =>
    match rest with
    | [] => write2 t
    | _ :: _ => write2 t ++ ['\n'] :: writes2 rest
/-- the items of a list: the lines of the item's blocks, the first behind the marker and `pad` spaces, the others behind
    as many spaces as that is wide ("\n" lines stay "\n"); in a loose list one "\n" line between consecutive items -/
def writeItems (o : Bool) (mk : Char) (pad : Nat) (loose : Bool) (n : Nat) : List (List T2) → List Str
  | [] => []
  | it :: rest =>
    match rest with
    | [] => indentDoc (leaderOf o n mk) pad (writes2 it)
    | _ :: _ => indentDoc (leaderOf o n mk) pad (writes2 it) ++ (sepS loose ++ writeItems o mk pad loose (n + 1) rest)
end

def isList : T2 → Bool
  | .list .. => true
  | _ => false

/-- a line that may follow the "\n" line after a list: it begins with a character that is not whitespace (so it does
    not continue the last item) and carries no list marker (two lists in a row are excluded) -/
def stopLineB (s : Str) : Bool :=
  (match s with | c :: _ => !pyIsSpace c | [] => false) && (parseMarker s).isNone

def sepOk (t t' : T2) : Bool := !isList t || (!isList t' && stopLineB ((write2 t').headD []))

open Mistletoe.Document (joinNl) in
mutual
/-- well-formedness (decidable).  Paragraph, heading, thematic break, quote: as `Compose.T.ok`.  List:
    * 1 ≤ pad ≤ 4; at least one item; every item has at least one block, all well-formed;
    * every marker is a bullet `-`, `+`, `*`, or a number of at most nine digits (< 10⁹) and `.` or `)` (`markerOk`);
    * the lines of an item (`itemDocOk`): the first begins with a character that is not whitespace; every other line is
      "\n" or has a non-whitespace character after its spaces (`ContLine`); marker + first line is not a thematic break
      (`* * *`, `- - -`);
    * `loose` is the looseness the specification assigns: a loose list has two or more items or an item with two or
      more blocks; the items of a tight list have one block each.
    Siblings (`T2.oks`): a list is not followed by a list, and the block that follows a list begins with a
    non-whitespace character and carries no list marker (`sepOk`). -/
def T2.ok : T2 → Bool
  | .para ls => !ls.isEmpty && ls.all (fun l => inertLine l && proseLine l && oneLine l && !l.contains '\t')
      && inertBody (joinNl (ls.map strip))
  | .heading lv t line => !t.isEmpty && inertText t && headLine lv t line && oneLine line && !line.contains '\t'
  | .hr line => hrLine line && oneLine line && !line.contains '\t'
  | .quote bare kids => !kids.isEmpty && T2.oks kids && (!bare || (writes2 kids).all (fun s => s.head? != some ' '))
  | .list o n mk pad loose items =>
    decide (1 ≤ pad) && decide (pad ≤ 4) && !items.isEmpty && T2.okItems o mk pad n items
      && (if loose then decide (2 ≤ items.length) || items.any (fun it => decide (1 < it.length))
          else items.all (fun it => it.length == 1))
def T2.oks : List T2 → Bool
  | [] => true
  | t :: rest => t.ok && T2.oks rest && (match rest with | [] => true | t' :: _ => sepOk t t')
def T2.okItems (o : Bool) (mk : Char) (pad : Nat) (n : Nat) : List (List T2) → Bool
  | [] => true
  | it :: rest => !it.isEmpty && T2.oks it && markerOk o n mk && itemDocOk (writes2 it)
      && !Scan.thematicBreak (leaderOf o n mk ++ List.replicate pad ' ' ++ (writes2 it).headD [])
      && T2.okItems o mk pad (n + 1) rest
end

mutual
def entry2 (n : Nat) : T2 → Entry
  | .para ls => .paragraph ls n n
  | .heading lv t line => .heading lv t (closingOf line) n n
  | .hr line => .thematicBreak line n n
  | .quote _ kids => .quote (entries2 n kids) (decide (1 < kids.length)) n n
  | .list o s mk pad loose items => .list (items2 o mk pad loose s n items) n n
def entries2 (n : Nat) : List T2 → List Entry
  | [] => []
  | t :: rest => entry2 n t :: entries2 (n + (write2 t).length + 1) rest
/-- the items: content = the entries of the item's blocks; loose = a "\n" line follows inside the list, or the item has
    more than one block; indentation 0; content offset = marker width + pad; the marker; the line of the marker -/
def items2 (o : Bool) (mk : Char) (pad : Nat) (loose : Bool) (s : Nat) (n : Nat) : List (List T2) → List Item
  | [] => []
  | it :: rest =>
    .mk (entries2 n it) ((loose && !rest.isEmpty) || decide (1 < it.length)) 0 ((leaderOf o s mk).length + pad) (leaderOf o s mk) n n
      :: items2 o mk pad loose (s + 1) (n + (writes2 it).length + (sepS loose).length) rest
end

mutual
/-- a quote occurs among the blocks (at any depth of list nesting): `Quote.read` switches `Paragraph.parse_setext` back on -/
def touch : T2 → Bool
  | .quote _ _ => true
  | .list _ _ _ _ _ items => touchItems items
  | _ => false
def touches : List T2 → Bool
  | [] => false
  | t :: rest => touch t || touches rest
def touchItems : List (List T2) → Bool
  | [] => false
  | it :: rest => touches it || touchItems rest
end

mutual
/-- 14 per sibling, 12 for an open node, 1 per item, the leaves as in `Compose.need`; see *The gas* in the head of
    Proofs/ComposeGen.lean -/
def need2 : T2 → Nat
  | .para _ => 14
  | .heading _ _ _ => 14
  | .hr _ => 14
  | .quote _ kids => needs2 kids + 6
  | .list _ _ _ _ _ items => needItems items + 12
def needs2 : List T2 → Nat
  | [] => 0
  | t :: rest => need2 t + needs2 rest + 14
def needItems : List (List T2) → Nat
  | [] => 0
  | it :: rest => needs2 it + needItems rest + 1
end


/-! ### `ListItem.read` on a written item -/

/-- what the readers need of a `stopLineB` line (`stopLine_of`) -/
structure StopLine (s : Str) : Prop where
  cont : ∀ W, 1 ≤ W → parseContinuation s W = none
  mark : parseMarker s = none
  nl : NlEnd s

theorem stopLine_of_nlEnd (s : Str) (h : stopLineB s = true) (hl : NlEnd s) : StopLine s := by
  simp only [stopLineB, Bool.and_eq_true, Option.isNone_iff_eq_none] at h
  obtain ⟨h1, h2⟩ := h
  refine ⟨?_, h2, hl⟩
  intro W hW
  cases s with
  | nil => simp at h1
  | cons c r =>
    simp only [Bool.not_eq_eq_eq_not, Bool.not_true] at h1
    exact parseContinuation_short 0 W c r hW (by rintro rfl; revert h1; decide) (by rintro rfl; revert h1; decide)
      (by rintro rfl; revert h1; decide)

theorem stopLine_of (s : Str) (h : stopLineB s = true) (hl : LineOk s) : StopLine s :=
  stopLine_of_nlEnd s h (lineOk_nlEnd hl)

/-- what may follow the lines of a list in its buffer -/
def PostOk (post : List Line) : Prop :=
  post = [] ∨ ∃ nlL rest, post = nlL :: rest ∧ nlL.s = ['\n'] ∧ ∀ s, rest.head? = some s → StopLine s.s

theorem postOk_nil : PostOk [] := Or.inl rfl
theorem postOk_nl (nlL : Line) (h : nlL.s = ['\n']) : PostOk [nlL] := Or.inr ⟨nlL, [], rfl, h, by simp⟩
theorem postOk_stop (nlL l : Line) (rest : List Line) (h : nlL.s = ['\n']) (hl : StopLine l.s) : PostOk (nlL :: l :: rest) :=
  Or.inr ⟨nlL, l :: rest, rfl, h, by intro s hs; simp only [List.head?_cons, Option.some.injEq] at hs; subst hs; exact hl⟩

theorem numbered_indentDoc (m : Str) (pad : Nat) (c0 : Str) (cs : List Str) (k : Nat) :
    numbered k (indentDoc m pad (c0 :: cs)) =
      markLine m pad { s := c0, origin := k + 1 } :: (numbered (k + 1) cs).map (indentLine (m.length + pad)) := by
  simp only [indentDoc, numbered_cons, Props.C04.numbered_map_indent]
  rfl

theorem numbered_sep_true (k : Nat) : numbered k (sepS true) = [{ s := ['\n'], origin := k + 1 }] := rfl
theorem numbered_sep_false (k : Nat) : numbered k (sepS false) = [] := rfl

theorem item_written (m : Str) (hm : ListLeader m) (pad : Nat) (h1 : 1 ≤ pad) (h4 : pad ≤ 4)
    (c0 : Str) (cs : List Str) (hdoc : itemDocOk (c0 :: cs) = true) (k : Nat)
    (prev : Option (Nat × Nat × Str × Str)) (hprev : prev = none ∨ prev = some (0, m.length + pad, m, c0)) :
    (prev = some (0, m.length + pad, m, c0) ∨
      (prev = none ∧ parseMarker (markLine m pad { s := c0, origin := k + 1 }).s = some (0, m.length + pad, m, c0))) ∧
    isBlank c0 = false ∧
    IndentedAll (m.length + pad) ((numbered (k + 1) cs).map (indentLine (m.length + pad))) (numbered (k + 1) cs) ∧
    trailNl 0 (numbered (k + 1) cs) = 0 := by
  obtain ⟨⟨ch, r0, rfl, hch⟩, hcont, hlast⟩ := itemDocOk_spec c0 cs hdoc
  refine ⟨?_, by simp [isBlank, hch], indentedAll_map _ _ (fun l hl => hcont _ (numbered_mem (k + 1) cs l hl)),
    trailNl_zero _ 0 (fun l hl hs => hlast (hs ▸ Props.C14.numbered_getLast (k + 1) cs l hl)) (fun _ => rfl)⟩
  rcases hprev with h | h
  · exact Or.inr ⟨h, parseMarker_first m hm pad h1 h4 ch r0 hch⟩
  · exact Or.inl h

theorem item_lines_last (cfg : Cfg) (m : Str) (hm : ListLeader m) (pad : Nat) (h1 : 1 ≤ pad) (h4 : pad ≤ 4)
    (c0 : Str) (cs : List Str) (hdoc : itemDocOk (c0 :: cs) = true)
    (pre post : List Line) (start k : Nat) (hk : start + pre.length = k + 1) (hpost : PostOk post)
    (prev : Option (Nat × Nat × Str × Str)) (hprev : prev = none ∨ prev = some (0, m.length + pad, m, c0)) :
    itemLines cfg ⟨pre ++ numbered k (indentDoc m pad (c0 :: cs)) ++ post, pre.length, start⟩ prev =
      .ok (.lines (numbered k (c0 :: cs)) (k + 1) 0 (m.length + pad) m (k + 1) (k + 1) none
        ⟨pre ++ numbered k (indentDoc m pad (c0 :: cs)) ++ post, pre.length + (cs.length + 1), start⟩) := by
  obtain ⟨hmk, hnb, hind, htr⟩ := item_written m hm pad h1 h4 c0 cs hdoc k prev hprev
  rw [numbered_indentDoc, numbered_cons]
  have key := fun blanks post hnl he => itemLines_read cfg 0 (m.length + pad) m c0 (markLine m pad { s := c0, origin := k + 1 })
    ((numbered (k + 1) cs).map (indentLine (m.length + pad))) (numbered (k + 1) cs) blanks blanks post pre start prev hmk hnb
    (indentedAllSp_of _ hind) htr (indentedAllSp_nl _ blanks hnl) hnl none he
  rcases hpost with rfl | ⟨nlL, rest, rfl, hnl, hstop⟩
  · have := key [] [] (fun _ h => nomatch h) (.eof 0)
    simp only [List.append_nil, List.length_map, numbered_length, List.length_nil, Option.isSome_none, Bool.false_eq_true,
      if_false] at this ⊢
    rw [this, hk]
    rfl
  · have := key [nlL] rest (by simpa using hnl) (by
      cases rest with
      | nil => exact .eof 1
      | cons s post' =>
        have hs := hstop s rfl
        exact .stop s post' 1 (by omega) (hs.cont _ (by omega)) hs.mark hs.nl)
    simp only [List.length_map, numbered_length, List.append_assoc, List.cons_append, List.nil_append, List.length_singleton,
      Option.isSome_none, Bool.false_eq_true, if_false, List.append_nil] at this ⊢
    rw [this, hk]
    rfl

theorem item_lines_next (cfg : Cfg) (m : Str) (hm : ListLeader m) (pad : Nat) (h1 : 1 ≤ pad) (h4 : pad ≤ 4)
    (c0 : Str) (cs : List Str) (hdoc : itemDocOk (c0 :: cs) = true) (sep : Bool)
    (pre post' : List Line) (l' : Line) (start k : Nat) (hk : start + pre.length = k + 1)
    (mm : Nat × Nat × Str × Str) (hnc : parseContinuation l'.s (m.length + pad) = none) (hpm' : parseMarker l'.s = some mm)
    (hne : NoEarly l'.s)
    (prev : Option (Nat × Nat × Str × Str)) (hprev : prev = none ∨ prev = some (0, m.length + pad, m, c0)) :
    itemLines cfg ⟨pre ++ numbered k (indentDoc m pad (c0 :: cs) ++ sepS sep) ++ l' :: post', pre.length, start⟩ prev =
      .ok (.lines (numbered k (c0 :: cs ++ sepS sep)) (k + 1) 0 (m.length + pad) m (k + 1) (k + 1) (some mm)
        ⟨pre ++ numbered k (indentDoc m pad (c0 :: cs) ++ sepS sep) ++ l' :: post', pre.length + (cs.length + 1 + (sepS sep).length), start⟩) := by
  obtain ⟨hmk, hnb, hind, htr⟩ := item_written m hm pad h1 h4 c0 cs hdoc k prev hprev
  have hlen : (indentDoc m pad (c0 :: cs)).length = cs.length + 1 := by simp [indentDoc]
  have hsep : ∀ l ∈ numbered (k + (cs.length + 1)) (sepS sep), l.s = ['\n'] := by cases sep <;> simp [sepS, numbered]
  have := itemLines_read cfg 0 (m.length + pad) m c0 (markLine m pad { s := c0, origin := k + 1 })
    ((numbered (k + 1) cs).map (indentLine (m.length + pad))) (numbered (k + 1) cs) _ _ (l' :: post') pre start prev hmk hnb
    (indentedAllSp_of _ hind) htr (indentedAllSp_nl _ _ hsep) hsep (some mm) (.marker l' post' _ mm hnc hpm' hne)
  rw [numbered_append, hlen, numbered_indentDoc]
  have e2 : numbered k (c0 :: (cs ++ sepS sep)) =
      { s := c0, origin := k + 1 } :: (numbered (k + 1) cs ++ numbered (k + (cs.length + 1)) (sepS sep)) := by
    rw [numbered_cons, numbered_append]
    have : k + 1 + cs.length = k + (cs.length + 1) := by omega
    rw [this]
  simp only [List.length_map, numbered_length, List.append_assoc, List.cons_append, Option.isSome_some, if_true] at this ⊢
  rw [this, hk, e2, Nat.add_assoc]
  rfl

/-! ### The lines of a written item are complete lines -/

theorem leader_chars (o : Bool) (m : Str) (h : leaderOk o m = true) : ∀ c ∈ m, isLineSep c = false ∧ c ≠ '\t' := by
  cases o with
  | false =>
    simp only [leaderOk, Bool.false_eq_true, if_false, Bool.or_eq_true, beq_iff_eq] at h
    rcases h with (rfl | rfl) | rfl <;> decide
  | true =>
    obtain ⟨d, e, rfl, he, _, _, hd⟩ := leaderOk_ordered m h
    have hdig : ∀ x ∈ asciiDigits, isLineSep x = false ∧ x ≠ '\t' := by decide
    intro c hc
    rcases List.mem_append.mp hc with hc | hc
    · exact hdig c (hd c hc)
    · simp only [List.mem_singleton] at hc
      subst hc
      rcases he with rfl | rfl <;> decide

theorem spaces_chars (k : Nat) : ∀ c ∈ List.replicate k ' ', isLineSep c = false ∧ c ≠ '\t' := by
  intro c hc
  rw [(List.mem_replicate.mp hc).2]
  decide

theorem indentDoc_lineOk (o : Bool) (m : Str) (hm : leaderOk o m = true) (pad : Nat) (ls : List Str) (h : ∀ s ∈ ls, LineOk s) :
    ∀ s ∈ indentDoc m pad ls, LineOk s := by
  cases ls with
  | nil => simp [indentDoc]
  | cons c0 cs =>
    intro s hs
    simp only [indentDoc, List.mem_cons, List.mem_map] at hs
    rcases hs with rfl | ⟨x, hx, rfl⟩
    · rw [List.append_assoc]
      refine lineOk_append _ _ (leader_chars o m hm) (lineOk_append _ _ (spaces_chars pad) (h c0 (by simp)))
    · split
      · exact h x (List.mem_cons_of_mem _ hx)
      · exact lineOk_append _ _ (spaces_chars _) (h x (List.mem_cons_of_mem _ hx))

theorem itemDocOk_ne (ls : List Str) (h : itemDocOk ls = true) : ls ≠ [] := by
  rintro rfl; simp [itemDocOk] at h

theorem lineOk_sepS (b : Bool) : ∀ s ∈ sepS b, LineOk s := by
  cases b with
  | false => simp [sepS]
  | true => simp only [sepS, if_true, List.mem_singleton]; rintro s rfl; exact lineOk_nl

theorem writeItems_single (o : Bool) (mk : Char) (pad : Nat) (loose : Bool) (n : Nat) (it : List T2) :
    writeItems o mk pad loose n [it] = indentDoc (leaderOf o n mk) pad (writes2 it) := by simp [writeItems]

theorem writeItems_cons2 (o : Bool) (mk : Char) (pad : Nat) (loose : Bool) (n : Nat) (it it' : List T2) (r : List (List T2)) :
    writeItems o mk pad loose n (it :: it' :: r) =
      indentDoc (leaderOf o n mk) pad (writes2 it) ++ (sepS loose ++ writeItems o mk pad loose (n + 1) (it' :: r)) := by
  simp [writeItems]

theorem writes2_cons2 (t t' : T2) (r : List T2) : writes2 (t :: t' :: r) = write2 t ++ ['\n'] :: writes2 (t' :: r) := by
  simp [writes2]

theorem writes2_single (t : T2) : writes2 [t] = write2 t := by simp [writes2]

/-! ### The claim for `List.read` -/

def firstLine (items : List (List T2)) : Str :=
  match items with
  | it :: _ => (writes2 it).headD []
  | [] => []

/-- `List.read` entered on the first item (no leader, no marker yet), or re-entered on a later item (the first item's
    marker as leader, the marker of this item handed on by the previous `ListItem.read`) -/
def LdNm (o : Bool) (mk : Char) (pad n : Nat) (items : List (List T2)) (ld : Option Str) (nm : Option (Nat × Nat × Str × Str)) : Prop :=
  (ld = none ∧ nm = none) ∨
  (∃ n0, ld = some (leaderOf o n0 mk) ∧ leaderOk o (leaderOf o n0 mk) = true ∧
    nm = some (0, (leaderOf o n mk).length + pad, leaderOf o n mk, firstLine items))

def ItemsClaim (ti : Bool) (o : Bool) (mk : Char) (pad : Nat) (loose : Bool) (n : Nat) (items : List (List T2)) : Prop :=
  ∀ (pre post : List Line) (start k : Nat) (st : St) (gas : Nat) (acc : List Item) ld nm,
    start + pre.length = k + 1 → needItems items ≤ gas → PostOk post → LdNm o mk pad n items ld nm →
    readList (dcfg ti) gas ⟨pre ++ numbered k (writeItems o mk pad loose n items) ++ post, pre.length, start⟩ st ld nm acc =
      .ok (acc.reverse ++ items2 o mk pad loose n (k + 1) items,
           ⟨pre ++ numbered k (writeItems o mk pad loose n items) ++ post,
            pre.length + (writeItems o mk pad loose n items).length, start⟩,
           after st (touchItems items))

theorem digits_of_leaderOk (n : Nat) (mk : Char) (h : leaderOk true (leaderOf true n mk) = true) :
    1 ≤ (natDigits n).length ∧ ∀ x ∈ natDigits n, x ∈ asciiDigits := by
  obtain ⟨d, e, hd, _, h1, _, hdig⟩ := leaderOk_ordered _ h
  simp only [leaderOf, if_true] at hd
  obtain rfl : natDigits n = d := (List.append_inj' hd (by simp)).1
  exact ⟨h1, hdig⟩

/-- the start number `List.__init__` reads off the marker of the first item -/
theorem start_of_leader (o : Bool) (s : Nat) (mk : Char) (h : leaderOk o (leaderOf o s mk) = true) :
    (if (leaderOf o s mk).length != 1 then some (parseNat (leaderOf o s mk).dropLast) else none) = if o then some s else none := by
  cases o with
  | false => simp [leaderOf]
  | true =>
    have h1 := (digits_of_leaderOk s mk h).1
    have hne : ((natDigits s ++ [mk]).length != 1) = true := by
      simp only [List.length_append, List.length_singleton, bne_iff_ne, ne_eq]; omega
    simp only [leaderOf, if_true, hne, List.dropLast_concat, parseNat_natDigits]

/-- two markers the writer puts before the items of one list are of the same type for `List.same_marker_type` -/
theorem otherMarkerType_leaders (o : Bool) (mk : Char) (n0 n a b : Nat) (s : Str) (h0 : leaderOk o (leaderOf o n0 mk) = true)
    (hok : leaderOk o (leaderOf o n mk) = true) :
    otherMarkerType (some (leaderOf o n0 mk)) (some (a, b, leaderOf o n mk, s)) = false := by
  simp only [otherMarkerType, Bool.not_eq_eq_eq_not, Bool.not_false]
  cases o with
  | false => simp [leaderOf, sameMarkerType]
  | true =>
    obtain ⟨h1, hdig⟩ := digits_of_leaderOk n0 mk h0
    obtain ⟨h1', hdig'⟩ := digits_of_leaderOk n mk hok
    have hl : ((natDigits n0 ++ [mk]).length == 1) = false := by
      simp only [List.length_append, List.length_singleton, beq_eq_false_iff_ne, ne_eq]; omega
    simp only [leaderOf, if_true, sameMarkerType, hl, Bool.false_eq_true, if_false, List.dropLast_concat, List.getLast?_concat,
      Bool.and_eq_true, List.all_eq_true, Bool.not_eq_eq_eq_not, Bool.not_true, List.isEmpty_eq_false_iff, beq_self_eq_true, and_true]
    refine ⟨⟨⟨?_, ?_⟩, ?_⟩, ?_⟩
    · intro x hx; exact (asciiDigit_facts x (hdig x hx)).1
    · intro x hx; exact (asciiDigit_facts x (hdig' x hx)).1
    · intro e; rw [e] at h1; simp at h1
    · intro e; rw [e] at h1'; simp at h1'

/-- `l'`: the marker line of the next item; the nested `tokenize_block` is the one given (`htok`), and the loop goes on at
    `l'` with the marker read off it handed on -/
theorem readList_item_next (cfg : Cfg) (o : Bool) (mk : Char) (pad : Nat) (h1 : 1 ≤ pad) (h4 : pad ≤ 4) (n : Nat)
    (hlead : leaderOk o (leaderOf o n mk) = true) (hlead' : leaderOk o (leaderOf o (n + 1) mk) = true)
    (c0 : Str) (cs : List Str) (hdoc : itemDocOk (c0 :: cs) = true) (loose : Bool)
    (ch' : Char) (r0' : Str) (hch' : pyIsSpace ch' = false) (l' : Line)
    (hl' : l'.s = leaderOf o (n + 1) mk ++ List.replicate pad ' ' ++ ch' :: r0') (htb' : Scan.thematicBreak l'.s = false)
    (pre post' : List Line) (start k : Nat) (hk : start + pre.length = k + 1) (st : St) (g : Nat) (acc : List Item)
    (ld : Option Str) (nm : Option (Nat × Nat × Str × Str)) (hom : otherMarkerType ld nm = false)
    (hprev : nm = none ∨ nm = some (0, (leaderOf o n mk).length + pad, leaderOf o n mk, c0)) (b : Buf) (st' : St)
    (htok : tokenizeBlock cfg g (numbered k (c0 :: cs ++ sepS loose)) (k + 1) st = .ok (b, st')) :
    readList cfg (g + 1)
        ⟨pre ++ numbered k (indentDoc (leaderOf o n mk) pad (c0 :: cs) ++ sepS loose) ++ l' :: post', pre.length, start⟩ st ld nm acc =
      readList cfg g
        ⟨pre ++ numbered k (indentDoc (leaderOf o n mk) pad (c0 :: cs) ++ sepS loose) ++ l' :: post',
          (pre ++ numbered k (indentDoc (leaderOf o n mk) pad (c0 :: cs) ++ sepS loose)).length, start⟩ st'
        (some (ld.getD (leaderOf o n mk))) (some (0, (leaderOf o (n + 1) mk).length + pad, leaderOf o (n + 1) mk, ch' :: r0'))
        (Item.mk b.entries b.loose 0 ((leaderOf o n mk).length + pad) (leaderOf o n mk) (k + 1) (k + 1) :: acc) := by
  have hm := listLeader_of o _ hlead
  have hm' := listLeader_of o _ hlead'
  obtain ⟨c, m'', hmc, hc⟩ := hm'.lead
  have hl's : l'.s = c :: (m'' ++ List.replicate pad ' ' ++ ch' :: r0') := by rw [hl', hmc]; simp
  have hnc : parseContinuation l'.s ((leaderOf o n mk).length + pad) = none := by
    rw [hl's]
    exact parseContinuation_short 0 _ c _ (by omega) hc.n_sp hc.n_tab (by rintro rfl; exact absurd hc.nsp (by decide))
  have hpm' : parseMarker l'.s = some (0, (leaderOf o (n + 1) mk).length + pad, leaderOf o (n + 1) mk, ch' :: r0') := by
    rw [hl']; exact parseMarker_first _ hm' pad h1 h4 ch' r0' hch'
  have hil := item_lines_next cfg _ hm pad h1 h4 c0 cs hdoc loose pre post' l' start k hk _ hnc hpm'
    (noEarly_lead hl's hc htb') nm hprev
  have hpos : pre.length + (cs.length + 1 + (sepS loose).length) =
      (pre ++ numbered k (indentDoc (leaderOf o n mk) pad (c0 :: cs) ++ sepS loose)).length := by
    simp [indentDoc, numbered_length]; omega
  rw [readList_round hom hil, htok, hpos]

/-- `W'`: the lines of the items behind this one; `hR`: what `List.read` returns on them -/
theorem readList_item_cons (cfg : Cfg) (o : Bool) (mk : Char) (pad : Nat) (h1 : 1 ≤ pad) (h4 : pad ≤ 4) (n : Nat)
    (hlead : leaderOk o (leaderOf o n mk) = true) (hlead' : leaderOk o (leaderOf o (n + 1) mk) = true)
    (c0 : Str) (cs : List Str) (hdoc : itemDocOk (c0 :: cs) = true) (loose : Bool)
    (ch' : Char) (r0' : Str) (hch' : pyIsSpace ch' = false)
    (htb' : Scan.thematicBreak (leaderOf o (n + 1) mk ++ List.replicate pad ' ' ++ ch' :: r0') = false)
    (tl W' W : List Str) (hW' : W' = (leaderOf o (n + 1) mk ++ List.replicate pad ' ' ++ ch' :: r0') :: tl)
    (hW : W = indentDoc (leaderOf o n mk) pad (c0 :: cs) ++ (sepS loose ++ W'))
    (pre post : List Line) (start k : Nat) (hk : start + pre.length = k + 1) (st : St) (g : Nat) (acc : List Item)
    (ld : Option Str) (nm : Option (Nat × Nat × Str × Str)) (hom : otherMarkerType ld nm = false)
    (hprev : nm = none ∨ nm = some (0, (leaderOf o n mk).length + pad, leaderOf o n mk, c0)) (b : Buf) (st' : St)
    (htok : tokenizeBlock cfg g (numbered k (c0 :: cs ++ sepS loose)) (k + 1) st = .ok (b, st'))
    (R : List Item) (st'' : St)
    (hR : ∀ (pre2 : List Line) (acc' : List Item), start + pre2.length = k + (cs.length + 1 + (sepS loose).length) + 1 →
      readList cfg g ⟨pre2 ++ numbered (k + (cs.length + 1 + (sepS loose).length)) W' ++ post, pre2.length, start⟩ st'
          (some (ld.getD (leaderOf o n mk))) (some (0, (leaderOf o (n + 1) mk).length + pad, leaderOf o (n + 1) mk, ch' :: r0')) acc' =
        .ok (acc'.reverse ++ R,
          ⟨pre2 ++ numbered (k + (cs.length + 1 + (sepS loose).length)) W' ++ post, pre2.length + W'.length, start⟩, st'')) :
    readList cfg (g + 1) ⟨pre ++ numbered k W ++ post, pre.length, start⟩ st ld nm acc =
      .ok (acc.reverse ++ Item.mk b.entries b.loose 0 ((leaderOf o n mk).length + pad) (leaderOf o n mk) (k + 1) (k + 1) :: R,
        ⟨pre ++ numbered k W ++ post, pre.length + W.length, start⟩, st'') := by
  have hlen : (indentDoc (leaderOf o n mk) pad (c0 :: cs) ++ sepS loose).length = cs.length + 1 + (sepS loose).length := by
    simp [indentDoc]; omega
  have hsplit : numbered k W = numbered k (indentDoc (leaderOf o n mk) pad (c0 :: cs) ++ sepS loose) ++
      numbered (k + (cs.length + 1 + (sepS loose).length)) W' := by
    rw [hW, ← List.append_assoc, numbered_append, hlen]
  have hWlen : W.length = cs.length + 1 + (sepS loose).length + W'.length := by
    rw [hW, ← List.append_assoc, List.length_append, hlen]
  rw [hsplit, hWlen]
  have h := hR (pre ++ numbered k (indentDoc (leaderOf o n mk) pad (c0 :: cs) ++ sepS loose))
    (Item.mk b.entries b.loose 0 ((leaderOf o n mk).length + pad) (leaderOf o n mk) (k + 1) (k + 1) :: acc)
    (by rw [List.length_append, numbered_length, hlen]; omega)
  obtain ⟨ml, hml⟩ : ∃ ml, ml = leaderOf o (n + 1) mk ++ List.replicate pad ' ' ++ ch' :: r0' := ⟨_, rfl⟩
  rw [← hml] at hW' htb'
  rw [hW', numbered_cons] at h ⊢
  simp only [List.append_assoc, List.cons_append] at h ⊢
  rw [← List.append_assoc pre, readList_item_next cfg o mk pad h1 h4 n hlead hlead' c0 cs hdoc loose ch' r0' hch' ⟨ml, _⟩ hml htb' pre _
    start k hk st g acc ld nm hom hprev _ _ htok, List.append_assoc pre, h]
  simp only [List.reverse_cons, List.append_assoc, List.singleton_append, List.length_append, numbered_length, hlen,
    List.length_cons, Nat.add_assoc]

theorem dcfg_noBlank (ti : Bool) : BTok.blankLine ∉ (dcfg ti).types := by
  show BTok.blankLine ∉ defaultTypes
  decide

theorem dcfg_len (ti : Bool) : (dcfg ti).types.length = 10 := rfl

theorem tokLoop_list_step (ti : Bool) (m : Str) (hm : ListLeader m) (pad : Nat) (h1 : 1 ≤ pad) (c0 : Str) (og : Nat)
    (htb : Scan.thematicBreak (m ++ List.replicate pad ' ' ++ c0) = false) (rest : List Line) (start : Nat) (st : St)
    (g : Nat) {items : List Item} {fw' : FW} {st' : St}
    (hrl : readList (dcfg ti) g ⟨{ s := m ++ List.replicate pad ' ' ++ c0, origin := og } :: rest, 0, start⟩ st none none [] =
      .ok (items, fw', st')) (acc : List Entry) (lo : Bool) :
    tokLoop (dcfg ti) (g + 8) ⟨{ s := m ++ List.replicate pad ' ' ++ c0, origin := og } :: rest, 0, start⟩ st acc lo =
      tokLoop (dcfg ti) (g + 7) fw' st' (.list items start og :: acc) lo := by
  obtain ⟨c, m', hmc, hc⟩ := hm.lead
  have hls : m ++ List.replicate pad ' ' ++ c0 = c :: (m' ++ List.replicate pad ' ' ++ c0) := by rw [hmc]; simp
  have := tokLoop_list (cfg := dcfg ti) (pre := [.htmlBlock, .blockCode, .heading, .quote, .codeFence, .thematicBreak])
    (post := [.table, .footnote, .paragraph]) rfl (by decide) (by decide) (by decide)
    (fw := ⟨{ s := m ++ List.replicate pad ' ' ++ c0, origin := og } :: rest, 0, start⟩) rfl (noEarly_lead hls hc htb)
    (listStart_first _ hm pad h1 _) g st acc lo
  rwa [hrl] at this

/-! ### What every tree with lists shares on the renderer's side -/

open Mistletoe.Html Mistletoe.Escape
open Mistletoe.Pipeline (flat_append)

/-- the looseness `List.__init__` computes from the items: it depends on the number of items and of the nodes in each only -/
def looseOf {α : Type} (loose : Bool) : List (List α) → Bool
  | [] => false
  | it :: rest => ((loose && !rest.isEmpty) || decide (1 < it.length)) || looseOf loose rest

theorem looseOf_false {α : Type} : ∀ (items : List (List α)), items.all (fun it => it.length == 1) = true → looseOf false items = false
  | [], _ => rfl
  | it :: rest, h => by
    simp only [List.all_cons, Bool.and_eq_true, beq_iff_eq] at h
    simp only [looseOf, Bool.false_and, Bool.false_or, h.1, looseOf_false rest h.2]
    decide

theorem looseOf_eq {α : Type} (loose : Bool) (items : List (List α))
    (h : (if loose then decide (2 ≤ items.length) || items.any (fun it => decide (1 < it.length))
          else items.all (fun it => it.length == 1)) = true) : looseOf loose items = loose := by
  cases loose with
  | false => exact looseOf_false items (by simpa using h)
  | true =>
    simp only [if_true, Bool.or_eq_true, decide_eq_true_eq, List.any_eq_true] at h
    cases items with
    | nil =>
      rcases h with h | ⟨x, hx, _⟩
      · simp at h
      · simp at hx
    | cons it rest =>
      cases rest with
      | cons it' r => simp [looseOf]
      | nil =>
        rcases h with h | ⟨x, hx, hx2⟩
        · simp at h
        · simp only [List.mem_singleton] at hx
          subst hx
          simp [looseOf, hx2]

/-- `<ul>` or `<ol>` (with `start="n"` unless n = 1), newline, the items separated by newlines, newline, the closing tag -/
def listHtml (o : Bool) (st : Nat) (inner : Str) : Str :=
  (if o then "<ol".toList ++ (if st != 1 then " start=\"".toList ++ natDigits st ++ "\"".toList else []) ++ ">".toList
   else "<ul>".toList) ++ '\n' :: inner ++ '\n' :: (if o then "</ol>".toList else "</ul>".toList)

theorem flat_list (q : Quotes) (s : Bool) (o : Bool) (st : Nat) (loose : Bool) (its : List Mistletoe.Block) (n : Nat) :
    flat (renderBlock q s (.list loose (if o then some st else none) its n)) =
      listHtml o st (flat (renderSep q (!loose) its)) := by
  cases o with
  | false => simp [renderBlock, flat, flatEv, flatAttrs, listHtml, nl]
  | true =>
    by_cases h1 : st = 1
    · subst h1; simp [renderBlock, flat, flatEv, flatAttrs, listHtml, nl]
    · have : (st != 1) = true := by simpa using h1
      simp [renderBlock, flat, flatEv, flatAttrs, listHtml, nl, this]

theorem flat_li_open : flat [Ev.otag "li".toList []] = "<li>".toList := by decide +kernel
theorem flat_li_close : flat [Ev.ctag "li".toList] = "</li>".toList := by decide +kernel
theorem flat_li_empty : flat [Ev.otag "li".toList [], Ev.ctag "li".toList] = "<li></li>".toList := by decide +kernel
theorem flat_if_nl (c : Bool) : flat (if c = true then [] else [nl]) = if c = true then [] else ['\n'] := by
  cases c <;> rfl

theorem flat_listItem_nil (q : Quotes) (s : Bool) (n : Nat) (ld : Str) (ind pre : Nat) (lo : Bool) :
    flat (renderBlock q s (.listItem ld ind pre lo [] n)) = "<li></li>".toList := by
  simp only [renderBlock]
  exact flat_li_empty

theorem flat_listItem_cons (q : Quotes) (s : Bool) (n : Nat) (ld : Str) (ind pre : Nat) (lo : Bool) (b : Mistletoe.Block) (bs : List Mistletoe.Block) :
    flat (renderBlock q s (.listItem ld ind pre lo (b :: bs) n)) =
     "<li>".toList ++ (if (s && isParagraph b) = true then [] else ['\n']) ++ flat (renderSep q s (b :: bs)) ++
      (if (s && ((b :: bs).getLast?.map isParagraph).getD false) = true then [] else ['\n']) ++ "</li>".toList := by
  simp only [renderBlock, flat_append, flat_li_open, flat_li_close, flat_if_nl]
  generalize (b :: bs).getLast? = x
  cases x <;> rfl

theorem listHtml_ne (o : Bool) (st : Nat) (x : Str) : listHtml o st x ≠ [] := by
  unfold listHtml
  exact List.append_ne_nil_of_right_ne_nil _ (List.cons_ne_nil _ _)

end Mistletoe.ComposeL
