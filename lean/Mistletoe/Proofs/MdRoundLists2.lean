/-
  C09 (Markdown round trip) for trees with LISTS (`MB`, `Proofs/MdRoundLists.lean`), from the parse buffer on: the block-token
  constructors on the parse buffer (`mkBlocks_ents`), the Markdown renderer on the resulting tree (`renderBlocks_blks`), the text
  (`outs_lines`: what the renderer writes is, line for line, what was read), and the theorems

  * `C09_lists_exact_partial` — a document of the fragment `MB` (paragraphs, ATX headings, thematic breaks and
    LISTS — bullet or ordered, padding 1…4, tight or with one empty line between items, items of several blocks,
    nested to any depth, lists of different marker types in a row — separated by single empty lines) in normal form is
    reproduced byte for byte;
  * `C09_lists_quoted_exact_partial` — the same inside `k` nested block quotes;
  * `C09L.C09_lists_roundtrip_partial` (Props/C09_Lists.lean) — from a `str`, for the token lists of the working tree
    (`Config.markdown`): exact reproduction, idempotence, same meaning (same document / same HTML under every
    configuration).

  What the renderer does with a list item (`render_list_item`, `prefix_lines`): the item's lines come behind
  `leader + padding` (first line) and `prepend` spaces (other lines), and a line that is all whitespace after
  prefixing is written as the empty line — so the `BlankLine` tokens inside an item (between its blocks, and the
  one the parser puts at the end of an item that is followed by an empty line) come back as "\n".  With
  `normalize_whitespace=True` the padding is rewritten to one space; the normal form then asks for padding 1
  (`MB.ok true`).
  Facts about the Markdown renderer that do not know `MB` stand here as well (`renderBlocks_append`, `renderBlocks_cons`,
  `renderBlocks_blankB`); Proofs/ReflowList.lean uses them.
-/
import Mistletoe.Proofs.MdRoundLists
import Mistletoe.Props.C09
import Mistletoe.Proofs.Lit
namespace Mistletoe.MdRound
open Mistletoe Mistletoe.Py Mistletoe.Scan Mistletoe.Wrap Mistletoe.Markdown Mistletoe.InertInline
open Mistletoe.Block
open Mistletoe.Props.C14 (markdownTypes numbered numbered_cons numbered_append)
open Mistletoe.Props.C04 (indentDoc itemDocOk itemDocOk_spec)
open Mistletoe.ComposeL (leaderOf sepS leader_chars spaces_chars)
open Mistletoe.Document (mkBlock mkBlocks mkItems)

def blankB (b : Bool) (n : Nat) : List Mistletoe.Block := if b then [.blankLine n] else []

mutual
def blk (trail : Bool) (n : Nat) : MB → Mistletoe.Block
  | .leaf b => itemBlock n b
  | .list o s mk pad loose items => .list false (if o then some s else none) (blkItems trail o mk pad loose s n items) n
def blks (n : Nat) : List MB → List Mistletoe.Block
  | [] => []
  | t :: rest =>
    match rest with
    | [] => [blk false n t]
    | t' :: _ =>
      if adj t t' then blk true n t :: blks (n + (wr true t).length) rest
      else blk false n t :: .blankLine (n + (wr false t).length) :: blks (n + (wr false t).length + 1) rest
def blkItems (trail : Bool) (o : Bool) (mk : Char) (pad : Nat) (loose : Bool) (s : Nat) (n : Nat) : List (List MB) → List Mistletoe.Block
  | [] => []
  | it :: rest =>
    .listItem (leaderOf o s mk) 0 ((leaderOf o s mk).length + pad) false
        (blks n it ++ blankB ((loose && !rest.isEmpty) || (trail && rest.isEmpty)) (n + (wrs it).length)) n
      :: blkItems trail o mk pad loose (s + 1) (n + (wrs it).length + (sepS loose).length) rest
end

theorem blks_cons (n : Nat) (t : MB) (rest : List MB) :
    blks n (t :: rest) = blk (trailOf t rest) n t :: (blankB (gapOf t rest) (n + (wr (trailOf t rest) t).length) ++
      blks (n + (wr (trailOf t rest) t).length + (sepS (gapOf t rest)).length) rest) := by
  cases rest with
  | nil => simp [blks, blankB]
  | cons t' r => cases ha : adj t t' <;> simp [blks, sepS, blankB, ha]

theorem mkBlocks_append (cfg : Document.Cfg) (fn : Footnotes.Table) (E1 E2 : List Entry) (B1 B2 : List Mistletoe.Block)
    (h1 : mkBlocks cfg fn E1 = .ok B1) (h2 : mkBlocks cfg fn E2 = .ok B2) : mkBlocks cfg fn (E1 ++ E2) = .ok (B1 ++ B2) := by
  rw [DocLevel.mkBlocks_append, h1, h2]
  rfl

theorem mkBlocks_blankIf (cfg : Document.Cfg) (fn : Footnotes.Table) (b : Bool) (n : Nat) :
    mkBlocks cfg fn (blankIf b n) = .ok (blankB b n) := by
  cases b <;> simp [blankIf, blankB, mkBlocks, mkBlock]

theorem blkItems_notLoose (trail o : Bool) (mk : Char) (pad : Nat) (loose : Bool) : ∀ (items : List (List MB)) (s n : Nat),
    (blkItems trail o mk pad loose s n items).any Document.itemLooseB = false
  | [], _, _ => rfl
  | it :: rest, s, n => by
    simp only [blkItems, List.any_cons, blkItems_notLoose trail o mk pad loose rest, Bool.or_false, Document.itemLooseB]

mutual
theorem mkBlock_ent (cfg : Document.Cfg) (fn : Footnotes.Table)
    (ht : ∀ t ∈ cfg.span, inertClass t = true) (hc : cfg.span.count .lineBreak = 1) (nw : Bool) :
    ∀ (t : MB) (tr : Bool) (n : Nat), t.ok nw = true → mkBlock cfg fn (ent tr n t) = .ok (some (blk tr n t))
  | .leaf b, _, n, h => mkBlock_itemEntry cfg fn ht hc b h n n
  | .list o s mk pad loose items, tr, n, h => by
    have hl := listOkM_of nw o s mk pad loose items h
    have hi := mkItems_itms cfg fn ht hc nw tr o mk pad loose s n items hl.its
    cases items with
    | nil => exact absurd rfl hl.ne
    | cons it rest =>
      have hlead := (okItemsM_cons nw o mk pad s it rest hl.its).2.2.1
      simp only [ent, blk, itms] at hi ⊢
      rw [Document.mkBlock_list_of cfg fn _ _ _ _ _ _ _ _ _ n n hi, blkItems_notLoose, ComposeL.start_of_leader o s mk hlead]
theorem mkBlocks_ents (cfg : Document.Cfg) (fn : Footnotes.Table)
    (ht : ∀ t ∈ cfg.span, inertClass t = true) (hc : cfg.span.count .lineBreak = 1) (nw : Bool) :
    ∀ (ts : List MB) (n : Nat), MB.oks nw ts = true → mkBlocks cfg fn (ents n ts) = .ok (blks n ts)
  | [], _, _ => by simp [ents, blks, mkBlocks]
  | t :: rest, n, h => by
    obtain ⟨h1, h2, _⟩ := oksM_cons nw t rest h
    rw [ents_cons, blks_cons]
    exact mkBlocks_cons cfg fn _ _ _ _ (mkBlock_ent cfg fn ht hc nw t _ n h1)
      (mkBlocks_append cfg fn _ _ _ _ (mkBlocks_blankIf cfg fn _ _) (mkBlocks_ents cfg fn ht hc nw rest _ h2))
theorem mkItems_itms (cfg : Document.Cfg) (fn : Footnotes.Table)
    (ht : ∀ t ∈ cfg.span, inertClass t = true) (hc : cfg.span.count .lineBreak = 1) (nw : Bool)
    (tr o : Bool) (mk : Char) (pad : Nat) (loose : Bool) :
    ∀ (s n : Nat) (items : List (List MB)), MB.okItems nw o mk pad s items = true →
      mkItems cfg fn (itms tr o mk pad loose s n items) = .ok (blkItems tr o mk pad loose s n items)
  | _, _, [], _ => by simp [itms, blkItems, mkItems]
  | s, n, it :: rest, h => by
    obtain ⟨_, hit, _, _, _, hrest⟩ := okItemsM_cons nw o mk pad s it rest h
    have h1 := mkBlocks_append cfg fn _ _ _ _ (mkBlocks_ents cfg fn ht hc nw it n hit)
      (mkBlocks_blankIf cfg fn ((loose && !rest.isEmpty) || (tr && rest.isEmpty)) (n + (wrs it).length))
    have h2 := mkItems_itms cfg fn ht hc nw tr o mk pad loose (s + 1) (n + (wrs it).length + (sepS loose).length) rest hrest
    simp only [itms, blkItems, mkItems, h1, h2]
end

def sepOut (b : Bool) : List Str := if b then [[]] else []

mutual
def outB (trail : Bool) : MB → List Str
  | .leaf b => itemOut b
  | .list o n mk pad loose items => outItems trail o mk pad loose n items
def outs : List MB → List Str
  | [] => []
  | t :: rest =>
    match rest with
    | [] => outB false t
    | t' :: _ => if adj t t' then outB true t ++ outs rest else outB false t ++ [] :: outs rest
def outItems (trail : Bool) (o : Bool) (mk : Char) (pad : Nat) (loose : Bool) (n : Nat) : List (List MB) → List Str
  | [] => []
  | it :: rest =>
    prefixLines (outs it ++ sepOut ((loose && !rest.isEmpty) || (trail && rest.isEmpty))) (leaderOf o n mk ++ spaces pad)
        (some (spaces ((leaderOf o n mk).length + pad)))
      ++ outItems trail o mk pad loose (n + 1) rest
end

theorem outItems_cons (trail o : Bool) (mk : Char) (pad : Nat) (loose : Bool) (n : Nat) (it : List MB) (rest : List (List MB)) :
    outItems trail o mk pad loose n (it :: rest) =
      prefixLines (outs it ++ sepOut ((loose && !rest.isEmpty) || (trail && rest.isEmpty))) (leaderOf o n mk ++ spaces pad)
          (some (spaces ((leaderOf o n mk).length + pad)))
        ++ outItems trail o mk pad loose (n + 1) rest := by simp [outItems]
theorem outs_cons (t : MB) (rest : List MB) :
    outs (t :: rest) = outB (trailOf t rest) t ++ (sepOut (gapOf t rest) ++ outs rest) := by
  cases rest with
  | nil => simp [outs, sepOut]
  | cons t' r => cases ha : adj t t' <;> simp [outs, sepOut, ha]

theorem sepOut_lines (b : Bool) : (sepOut b).map (· ++ ['\n']) = sepS b := by cases b <;> rfl

/-! ### The text: `prefix_lines` against `indentDoc` -/

theorem contLine_ne_nl (s : Str) (h : ContLine s) : s ≠ ['\n'] := by
  obtain ⟨n, c, body, rfl, hc, _⟩ := h
  cases n with
  | zero =>
    intro e
    simp only [List.replicate_zero, List.nil_append, List.cons_append, List.cons.injEq] at e
    rw [e.1] at hc
    exact absurd hc (by decide)
  | succ k =>
    intro e
    simp [List.replicate_succ] at e

theorem not_all_space (p : Str) (c : Char) (hm : c ∈ p) (hc : pyIsSpace c = false) :
    (!p.isEmpty && p.all pyIsSpace) = false := by
  have : p.all pyIsSpace = false := by
    rw [List.all_eq_false]
    exact ⟨c, hm, by simp [hc]⟩
  simp [this]

theorem all_space_spaces (n : Nat) (h : 1 ≤ n) : (!(spaces n ++ ([] : Str)).isEmpty && (spaces n ++ []).all pyIsSpace) = true := by
  obtain ⟨k, rfl⟩ := Nat.exists_eq_add_of_le' h
  simp only [List.append_nil, spaces, List.replicate_succ, List.isEmpty_cons, Bool.not_false, Bool.true_and, List.all_cons,
    Bool.and_eq_true, List.all_eq_true]
  refine ⟨by decide, ?_⟩
  intro x hx
  rw [(List.mem_replicate.mp hx).2]; decide

/-- the lines behind the first one: `W` spaces before each, a line that is then all whitespace is written empty -/
theorem prefixAux_lines (W : Nat) (hW : 1 ≤ W) (sep : Bool) : ∀ (ls : List Str),
    (∀ l ∈ ls, l ++ ['\n'] = ['\n'] ∨ ContLine (l ++ ['\n'])) →
    (prefixLinesAux (spaces W) (ls ++ sepOut sep)).map (· ++ ['\n']) =
      (ls.map (· ++ ['\n'])).map (fun s => if s = ['\n'] then s else List.replicate W ' ' ++ s) ++ sepS sep
  | [], _ => by
    cases sep with
    | false => simp [sepOut, sepS, prefixLinesAux]
    | true =>
      simp only [sepOut, sepS, if_true, List.nil_append, prefixLinesAux, all_space_spaces W hW, List.map_cons, List.map_nil]
  | l :: ls, h => by
    have ih := prefixAux_lines W hW sep ls (fun x hx => h x (List.mem_cons_of_mem _ hx))
    simp only [List.cons_append, prefixLinesAux, List.map_cons, ih]
    congr 1
    rcases h l (by simp) with hl | hl
    · have : l = [] := by
        cases l with
        | nil => rfl
        | cons a b => simp at hl
      subst this
      simp only [all_space_spaces W hW, if_true, List.nil_append]
    · have hne := contLine_ne_nl _ hl
      obtain ⟨n, c, body, e, hc, _⟩ := hl
      have el : l = List.replicate n ' ' ++ c :: body := by
        have : l ++ ['\n'] = (List.replicate n ' ' ++ c :: body) ++ ['\n'] := by rw [e]
        exact List.append_cancel_right this
      have hm : c ∈ spaces W ++ l := by rw [el]; simp
      rw [not_all_space _ c hm hc]
      simp only [Bool.false_eq_true, if_false, hne, spaces, List.append_assoc]

theorem prefixLines_indentDoc (m : Str) (pad : Nat) (hpad : 1 ≤ pad) (ls : List Str) (c0 : Str) (cs : List Str)
    (h : ls.map (· ++ ['\n']) = c0 :: cs) (hdoc : itemDocOk (c0 :: cs) = true) (sep : Bool) :
    (prefixLines (ls ++ sepOut sep) (m ++ spaces pad) (some (spaces (m.length + pad)))).map (· ++ ['\n']) =
      indentDoc m pad (c0 :: cs) ++ sepS sep := by
  obtain ⟨⟨ch, r0, rfl, hch⟩, hcont, _⟩ := itemDocOk_spec c0 cs hdoc
  cases ls with
  | nil => simp at h
  | cons l0 ls' =>
    simp only [List.map_cons, List.cons.injEq] at h
    obtain ⟨h0, hcs⟩ := h
    have hl0 : ch ∈ l0 := by
      cases l0 with
      | nil =>
        simp only [List.nil_append, List.cons.injEq] at h0
        rw [← h0.1] at hch
        exact absurd hch (by decide)
      | cons a b =>
        simp only [List.cons_append, List.cons.injEq] at h0
        rw [h0.1]; simp
    have hfe : (spaces (m.length + pad)).isEmpty = false := by
      obtain ⟨p, rfl⟩ := Nat.exists_eq_add_of_le' hpad
      rfl
    have hfirst : (!(m ++ spaces pad ++ l0).isEmpty && (m ++ spaces pad ++ l0).all pyIsSpace) = false :=
      not_all_space _ ch (by simp [hl0]) hch
    have haux := prefixAux_lines (m.length + pad) (Nat.le_trans hpad (Nat.le_add_left _ _)) sep ls' (by
      intro l hl
      have : l ++ ['\n'] ∈ cs := by rw [← hcs]; exact List.mem_map_of_mem hl
      exact hcont _ this)
    simp only [List.cons_append, prefixLines, hfe, Bool.false_eq_true, if_false, hfirst, List.map_cons, haux, hcs, indentDoc]
    simp only [spaces, List.append_assoc, h0]

mutual
theorem outB_lines (nw : Bool) : ∀ (t : MB) (tr : Bool), t.ok nw = true → (outB tr t).map (· ++ ['\n']) = wr tr t
  | .leaf b, _, h => itemOut_lines b h
  | .list o n mk pad loose items, tr, h => by
    have hl := listOkM_of nw o n mk pad loose items h
    simp only [outB, wr]
    exact outItems_lines nw tr o mk pad loose hl.p1 n items hl.its
theorem outs_lines (nw : Bool) : ∀ (ts : List MB), MB.oks nw ts = true → (outs ts).map (· ++ ['\n']) = wrs ts
  | [], _ => by simp [outs, wrs]
  | t :: rest, h => by
    obtain ⟨h1, h2, _⟩ := oksM_cons nw t rest h
    rw [outs_cons, wrs_cons, List.map_append, List.map_append, outB_lines nw t _ h1, sepOut_lines, outs_lines nw rest h2]
theorem outItems_lines (nw : Bool) (tr o : Bool) (mk : Char) (pad : Nat) (loose : Bool) (h1 : 1 ≤ pad) :
    ∀ (n : Nat) (items : List (List MB)), MB.okItems nw o mk pad n items = true →
      (outItems tr o mk pad loose n items).map (· ++ ['\n']) = wrItems tr o mk pad loose n items
  | _, [], _ => by simp [outItems, wrItems]
  | n, it :: rest, h => by
    obtain ⟨_, hit, _, hdoc, _, hrest⟩ := okItemsM_cons nw o mk pad n it rest h
    obtain ⟨c0, cs, hw⟩ := wrs_cons_of_doc it hdoc
    have ih := outs_lines nw it hit
    rw [hw] at ih hdoc
    rw [wrItems_cons, outItems_cons, List.map_append, hw, prefixLines_indentDoc (leaderOf o n mk) pad h1 (outs it) c0 cs ih hdoc,
      outItems_lines nw tr o mk pad loose h1 (n + 1) rest hrest, List.append_assoc]
end

theorem outs_ne (nw : Bool) (it : List MB) (hit : MB.oks nw it = true) (hdoc : itemDocOk (wrs it) = true) : outs it ≠ [] := by
  intro e
  have := outs_lines nw it hit
  rw [e] at this
  exact Mistletoe.ComposeL.itemDocOk_ne _ hdoc this.symm

theorem renderBlocks_append (o : Opts) (ml : Option Int) : ∀ (A B : List Mistletoe.Block) (a b : List Str),
    renderBlocks o ml A = .ok a → renderBlocks o ml B = .ok b → renderBlocks o ml (A ++ B) = .ok (a ++ b)
  | [], _, _, _, h1, h2 => by
    simp only [renderBlocks, Res.ok.injEq] at h1
    subst h1
    simpa using h2
  | x :: A, B, a, b, h1, h2 => by
    simp only [List.cons_append, renderBlocks] at h1 ⊢
    cases hx : renderBlock o ml x with
    | err e => rw [hx] at h1; cases h1
    | ok xs =>
      rw [hx] at h1
      cases hA : renderBlocks o ml A with
      | err e => rw [hA] at h1; cases h1
      | ok as =>
        rw [hA] at h1
        simp only [Res.ok.injEq] at h1
        simp only [renderBlocks_append o ml A B as b hA h2]
        subst h1
        simp

theorem renderBlocks_cons (o : Opts) (ml : Option Int) (x : Mistletoe.Block) (A : List Mistletoe.Block) (xs as : List Str)
    (h1 : renderBlock o ml x = .ok xs) (h2 : renderBlocks o ml A = .ok as) :
    renderBlocks o ml (x :: A) = .ok (xs ++ as) := by
  simp only [renderBlocks, h1, h2]

theorem renderBlocks_blankB (o : Opts) (ml : Option Int) (b : Bool) (n : Nat) :
    renderBlocks o ml (blankB b n) = .ok (sepOut b) := by
  cases b <;> simp [blankB, sepOut, renderBlocks, renderBlock]

/-- `render_list_item` on an item of the fragment, under any budget `ml`: the children are rendered with the budget the item
    hands down (`childBudget`) and come behind `leader + padding` (first line) and `prepend` spaces (other lines)
    (`normalize_whitespace=True`: padding one space, which is the padding the normal form then has) -/
theorem renderBlock_listItem (o : Opts) (ml : Option Int) (m : Str) (pad : Nat) (hnw : o.normalizeWhitespace = true → pad = 1)
    (kids : List Mistletoe.Block) (ls : List Str) (hne : ls ≠ [])
    (h : renderBlocks o (childBudget ml (m.length + pad)) kids = .ok ls) (n : Nat) :
    renderBlock o ml (.listItem m 0 (m.length + pad) false kids n) =
      .ok (prefixLines ls (m ++ spaces pad) (some (spaces (m.length + pad)))) := by
  have hE := List.isEmpty_eq_false_iff.mpr hne
  cases hn : o.normalizeWhitespace with
  | false =>
    simp only [renderBlock, hn, Bool.false_eq_true, if_false, h, hE]
    simp [spaces]
  | true =>
    have hp := hnw hn
    subst hp
    simp only [renderBlock, hn, if_true, h, hE, Bool.false_eq_true, if_false]
    simp [spaces]

mutual
theorem renderBlock_blk (o : Opts) : ∀ (t : MB) (tr : Bool) (n : Nat), t.ok o.normalizeWhitespace = true →
    renderBlock o none (blk tr n t) = .ok (outB tr t)
  | .leaf b, _, n, h => renderBlock_itemBlock o b h n
  | .list ord s mk pad loose items, tr, n, h => by
    have hl := listOkM_of _ ord s mk pad loose items h
    simp only [blk, outB, renderBlock]
    exact renderBlocks_blkItems o tr ord mk pad loose hl.pnw s n items hl.its
theorem renderBlocks_blks (o : Opts) : ∀ (ts : List MB) (n : Nat), MB.oks o.normalizeWhitespace ts = true →
    renderBlocks o none (blks n ts) = .ok (outs ts)
  | [], _, _ => by simp [blks, outs, renderBlocks]
  | t :: rest, n, h => by
    obtain ⟨h1, h2, _⟩ := oksM_cons _ t rest h
    rw [blks_cons, outs_cons]
    exact renderBlocks_cons o none _ _ _ _ (renderBlock_blk o t _ n h1)
      (renderBlocks_append o none _ _ _ _ (renderBlocks_blankB o none _ _) (renderBlocks_blks o rest _ h2))
theorem renderBlocks_blkItems (o : Opts) (tr ord : Bool) (mk : Char) (pad : Nat) (loose : Bool)
    (hnw : o.normalizeWhitespace = true → pad = 1) :
    ∀ (s n : Nat) (items : List (List MB)), MB.okItems o.normalizeWhitespace ord mk pad s items = true →
      renderBlocks o none (blkItems tr ord mk pad loose s n items) = .ok (outItems tr ord mk pad loose s items)
  | _, _, [], _ => by simp [blkItems, outItems, renderBlocks]
  | s, n, it :: rest, h => by
    obtain ⟨_, hit, _, hdoc, _, hrest⟩ := okItemsM_cons _ ord mk pad s it rest h
    have hk := renderBlocks_append o none _ _ _ _ (renderBlocks_blks o it n hit)
      (renderBlocks_blankB o none ((loose && !rest.isEmpty) || (tr && rest.isEmpty)) (n + (wrs it).length))
    have hne : outs it ++ sepOut ((loose && !rest.isEmpty) || (tr && rest.isEmpty)) ≠ [] := by
      intro e
      exact outs_ne _ it hit hdoc (List.append_eq_nil_iff.mp e).1
    have h1 := renderBlock_listItem o none (leaderOf ord s mk) pad hnw _ _ hne hk n
    have h2 := renderBlocks_blkItems o tr ord mk pad loose hnw (s + 1) (n + (wrs it).length + (sepS loose).length) rest hrest
    simp only [blkItems, outItems, renderBlocks, h1, h2]
end

theorem oneLine_prepend (p s : Str) (hp : ∀ c ∈ p, isLineSep c = false) (h : oneLine s = true) : oneLine (p ++ s) = true := by
  obtain ⟨u, rfl, hu⟩ := oneLine_split s h
  rw [← List.append_assoc]
  exact oneLine_text _ (fun c hc => (List.mem_append.mp hc).elim (hp c) (hu c))

theorem indentDoc_oneLine (o : Bool) (m : Str) (hm : leaderOk o m = true) (pad : Nat) (ls : List Str)
    (h : ∀ s ∈ ls, oneLine s = true) : ∀ s ∈ indentDoc m pad ls, oneLine s = true := by
  cases ls with
  | nil => simp [indentDoc]
  | cons c0 cs =>
    intro s hs
    simp only [indentDoc, List.mem_cons, List.mem_map] at hs
    rcases hs with rfl | ⟨x, hx, rfl⟩
    · rw [List.append_assoc]
      exact oneLine_prepend _ _ (fun c hc => (leader_chars o m hm c hc).1)
        (oneLine_prepend _ _ (fun c hc => (spaces_chars pad c hc).1) (h c0 (by simp)))
    · split
      · exact h x (List.mem_cons_of_mem _ hx)
      · exact oneLine_prepend _ _ (fun c hc => (spaces_chars _ c hc).1) (h x (List.mem_cons_of_mem _ hx))

theorem sepS_oneLine (b : Bool) : ∀ l ∈ sepS b, oneLine l = true :=
  fun l hl => Mistletoe.Compose.lineOk_oneLine (Mistletoe.ComposeL.lineOk_sepS b l hl)

mutual
theorem wr_oneLine (nw : Bool) : ∀ (t : MB) (tr : Bool), t.ok nw = true → ∀ l ∈ wr tr t, oneLine l = true
  | .leaf b, _, h => blk_oneLine b h
  | .list o n mk pad loose items, tr, h => by
    have hl := listOkM_of nw o n mk pad loose items h
    simp only [wr]
    exact wrItems_oneLine nw tr o mk pad loose n items hl.its
theorem wrs_oneLine (nw : Bool) : ∀ (ts : List MB), MB.oks nw ts = true → ∀ l ∈ wrs ts, oneLine l = true
  | [], _ => by simp [wrs]
  | t :: rest, h => by
    obtain ⟨h1, h2, _⟩ := oksM_cons nw t rest h
    rw [wrs_cons]
    intro l hl
    rcases List.mem_append.mp hl with hl | hl
    · exact wr_oneLine nw t _ h1 l hl
    · rcases List.mem_append.mp hl with hl | hl
      · exact sepS_oneLine _ l hl
      · exact wrs_oneLine nw rest h2 l hl
theorem wrItems_oneLine (nw : Bool) (tr o : Bool) (mk : Char) (pad : Nat) (loose : Bool) :
    ∀ (n : Nat) (items : List (List MB)), MB.okItems nw o mk pad n items = true →
      ∀ l ∈ wrItems tr o mk pad loose n items, oneLine l = true
  | _, [], _ => by simp [wrItems]
  | n, it :: rest, h => by
    obtain ⟨_, hit, hlead, _, _, hrest⟩ := okItemsM_cons nw o mk pad n it rest h
    rw [wrItems_cons]
    intro l hl
    rcases List.mem_append.mp hl with hl | hl
    · exact indentDoc_oneLine o _ hlead pad _ (wrs_oneLine nw it hit) l hl
    · rcases List.mem_append.mp hl with hl | hl
      · exact sepS_oneLine _ l hl
      · exact wrItems_oneLine nw tr o mk pad loose (n + 1) rest hrest l hl
end

end Mistletoe.MdRound

namespace Mistletoe.Props.C09
open Mistletoe Mistletoe.Py Mistletoe.Block Mistletoe.Inline Mistletoe.InertInline Mistletoe.MdRound
open Mistletoe.Props.C14 (markdownTypes)

abbrev listDocLines (ts : List MB) : List Str := wrs ts

/-- **A document with lists in the renderer's normal form, inside `k` nested block quotes, is reproduced byte for byte.**
    `ts` (non-empty, `MB.oks o.normalize_whitespace`): prose paragraphs, ATX headings, thematic breaks (`Blk.ok`) and
    lists — bullet `-`/`+`/`*` or ordered `n.`/`n)` numbered consecutively, marker in column 0, 1…4 spaces of padding
    (exactly 1 under `normalize_whitespace=True`), items of one or more blocks of the fragment (nested lists included)
    separated by single empty lines and indented by the content offset, items separated by nothing or by one empty
    line — the blocks separated by single empty lines; behind a list comes a list of another marker type, or a block
    whose first line begins with a non-space character and carries no marker.  Every line carries `k` markers "> "
    (k = 0: no quote); the lines are tab-free; the block token types are the Markdown renderer's list, the span classes
    covered ones with `LineBreak` once.  Then `Document(lines)` succeeds, its children are `k` nested `Quote`s around the
    tokens `blks 1 ts` (`BlankLine` tokens between blocks and at the end of every item that is followed by an empty line —
    the empty line between two lists is at the end of the last item of the first; no item and no list is loose), and
    `MarkdownRenderer(normalize_whitespace=…).render` (no line limit) gives back the lines.
    `_partial`: the hypothesis `MB.oks` restricts the statement to this fragment. -/
theorem C09_lists_quoted_exact_partial (cfg : Document.Cfg) (hty : cfg.block.types = markdownTypes)
    (ht : ∀ t ∈ cfg.span, inertClass t = true) (hc : cfg.span.count .lineBreak = 1)
    (o : Markdown.Opts) (ho : o.maxLineLength = none)
    (ts : List MB) (hne : ts ≠ []) (hok : MB.oks o.normalizeWhitespace ts = true)
    (hnt : ∀ l ∈ wrs ts, '\t' ∉ l) (k : Nat) (gas : Nat) :
    ∃ d, Document.parseLines cfg (gas + (needsM ts + 1) + k * 8) (quoted k (wrs ts)) = .ok d ∧
      d.kids = qBlocks 1 (blks 1 ts) k ∧
      Markdown.renderRes o d = .ok (quoted k (wrs ts)).flatten ∧
      Markdown.render o d = (quoted k (wrs ts)).flatten := by
  have hne' : wrs ts ≠ [] := by
    cases ts with
    | nil => exact absurd rfl hne
    | cons t rest =>
      obtain ⟨ss, hs⟩ := wrs_head _ t rest (oksM_cons _ t rest hok).1 false
      rw [(List.append_nil _).symm.trans hs]
      exact List.cons_ne_nil _ _
  exact exact_markdown cfg hty _ _ hne' k (Or.inr hnt) _ (fun st _ => tokenize_nodes cfg.block hty _ ts hok hne gas st)
    _ (mkBlocks_ents cfg (Document.footnotesOf []) ht hc _ ts 1 hok) o ho _ (renderBlocks_blks o ts 1 hok) (outs_lines _ ts hok)

/-- **A document with lists in the renderer's normal form is reproduced byte for byte** (no block quote around it; no
    hypothesis on tabs), for either value of `normalize_whitespace` (the normal form `MB.oks` is taken at that value:
    padding 1 when it is on). -/
theorem C09_lists_exact_partial (cfg : Document.Cfg) (hty : cfg.block.types = markdownTypes)
    (ht : ∀ t ∈ cfg.span, inertClass t = true) (hc : cfg.span.count .lineBreak = 1)
    (o : Markdown.Opts) (ho : o.maxLineLength = none)
    (ts : List MB) (hne : ts ≠ []) (hok : MB.oks o.normalizeWhitespace ts = true) (gas : Nat) :
    ∃ d, Document.parseLines cfg (gas + (needsM ts + 1)) (wrs ts) = .ok d ∧
      d.kids = blks 1 ts ∧
      Markdown.renderRes o d = .ok (wrs ts).flatten ∧ Markdown.render o d = (wrs ts).flatten := by
  exact exact_of_phases cfg _ _ _ {} rfl (tokenize_nodes cfg.block hty _ ts hok hne gas {})
    _ (mkBlocks_ents cfg (Document.footnotesOf []) ht hc _ ts 1 hok) o ho _ (renderBlocks_blks o ts 1 hok) (outs_lines _ ts hok)

/-- without block quotes, from a `str`, no hypothesis on tabs -/
theorem C09_lists_exact_text_markdown (cfg : Document.Cfg) (hcfg : Config.markdown = some cfg)
    (o : Markdown.Opts) (ho : o.maxLineLength = none)
    (ts : List MB) (hne : ts ≠ []) (hok : MB.oks o.normalizeWhitespace ts = true) (gas : Nat) :
    ∃ d, Document.parse cfg (gas + (needsM ts + 1)) (wrs ts).flatten = .ok d ∧
      Markdown.renderRes o d = .ok (wrs ts).flatten ∧ Markdown.render o d = (wrs ts).flatten := by
  obtain ⟨hty, ht, hc⟩ := markdown_cfg cfg hcfg
  obtain ⟨d, h, _, h2, h3⟩ := C09_lists_exact_partial cfg hty ht hc o ho ts hne hok gas
  rw [← parse_lines cfg _ _ (wrs_oneLine _ ts hok)] at h
  exact ⟨d, h, h2, h3⟩

end Mistletoe.Props.C09

namespace Mistletoe.Props.C09
open Mistletoe Mistletoe.MdRound

/-- "# T\n\n- a\n- b c\n\nsep\n\n1. x\n2. y\n\npara\n" as a forest of the fragment -/
def listDoc1 : List MB :=
  [.leaf (.heading 1 (L "T")),
   .list false 0 '-' 1 false [[.leaf (.para [L "a\n"])], [.leaf (.para [L "b c\n"])]],
   .leaf (.para [L "sep\n"]),
   .list true 1 '.' 1 false [[.leaf (.para [L "x\n"])], [.leaf (.para [L "y\n"])]],
   .leaf (.para [L "para\n"])]

attribute [lit] L listDoc1

example : (wrs listDoc1).flatten = L "# T\n\n- a\n- b c\n\nsep\n\n1. x\n2. y\n\npara\n" := by decide_lit

theorem listDoc1_ok : MB.oks true listDoc1 = true ∧ MB.oks false listDoc1 = true ∧ listDoc1 ≠ [] := by decide +kernel

/-- the theorem applies to it (either value of `normalize_whitespace`) … -/
example : ∃ d, Document.parseLines mdCfg (needsM listDoc1 + 1) (wrs listDoc1) = .ok d ∧
    Markdown.renderRes {} d = .ok (wrs listDoc1).flatten := by
  obtain ⟨d, h1, _, h3, _⟩ := C09_lists_exact_partial mdCfg rfl mdCfg_ok.2.2.1 mdCfg_ok.2.2.2 {} rfl listDoc1 listDoc1_ok.2.2
    listDoc1_ok.2.1 0
  exact ⟨d, by simpa using h1, h3⟩

example : ∃ d, Document.parseLines mdCfg (needsM listDoc1 + 1) (wrs listDoc1) = .ok d ∧
    Markdown.renderRes { normalizeWhitespace := true } d = .ok (wrs listDoc1).flatten := by
  obtain ⟨d, h1, _, h3, _⟩ := C09_lists_exact_partial mdCfg rfl mdCfg_ok.2.2.1 mdCfg_ok.2.2.2 { normalizeWhitespace := true } rfl
    listDoc1 listDoc1_ok.2.2 listDoc1_ok.1 0
  exact ⟨d, by simpa using h1, h3⟩

/-- … and the kernel evaluation of parser and renderer on the text agrees -/
example : (Document.parse mdCfg 120 (L "# T\n\n- a\n- b c\n\nsep\n\n1. x\n2. y\n\npara\n")).bind (fun d => Markdown.renderRes {} d) =
    .ok (L "# T\n\n- a\n- b c\n\nsep\n\n1. x\n2. y\n\npara\n") := by decide_lit

/-- two lists in a row (different marker types): "# T\n\n- a\n- b c\n\n1. x\n2. y\n\npara\n".  The empty line between them
    belongs to the last item of the first list (`blks`: no `BlankLine` token between the two `List` tokens) -/
def listDoc3 : List MB :=
  [.leaf (.heading 1 (L "T")),
   .list false 0 '-' 1 false [[.leaf (.para [L "a\n"])], [.leaf (.para [L "b c\n"])]],
   .list true 1 '.' 1 false [[.leaf (.para [L "x\n"])], [.leaf (.para [L "y\n"])]],
   .leaf (.para [L "para\n"])]

attribute [lit] listDoc3

example : (wrs listDoc3).flatten = L "# T\n\n- a\n- b c\n\n1. x\n2. y\n\npara\n" := by decide_lit

theorem listDoc3_ok : MB.oks false listDoc3 = true ∧ listDoc3 ≠ [] := by decide +kernel

example : ∃ d, Document.parseLines mdCfg (needsM listDoc3 + 1) (wrs listDoc3) = .ok d ∧ d.kids = blks 1 listDoc3 ∧
    Markdown.renderRes {} d = .ok (wrs listDoc3).flatten := by
  obtain ⟨d, h1, h2, h3, _⟩ := C09_lists_exact_partial mdCfg rfl mdCfg_ok.2.2.1 mdCfg_ok.2.2.2 {} rfl listDoc3 listDoc3_ok.2
    listDoc3_ok.1 0
  exact ⟨d, by simpa using h1, h2, h3⟩

example : (Document.parse mdCfg 120 (L "# T\n\n- a\n- b c\n\n1. x\n2. y\n\npara\n")).bind (fun d => Markdown.renderRes {} d) =
    .ok (L "# T\n\n- a\n- b c\n\n1. x\n2. y\n\npara\n") := by decide_lit

/-- two lists of the SAME type in a row are not two lists (they are one loose list): outside `sepOkM` -/
example : MB.oks false [.list false 0 '-' 1 false [[.leaf (.para [L "a\n"])]], .list false 0 '-' 1 false [[.leaf (.para [L "b\n"])]]] = false := by
  decide +kernel

/-- loose list, items of several blocks, nested lists, padding 3 on an ordered list with ")" -/
def listDoc2 : List MB :=
  [.list false 0 '*' 1 true
     [[.leaf (.para [L "a\n", L "a2\n"]), .leaf (.para [L "b\n"])],
      [.leaf (.para [L "c\n"]),
       .list false 0 '-' 1 false [[.leaf (.para [L "d\n"])], [.leaf (.para [L "e\n"])]],
       .leaf (.heading 2 (L "f"))]],
   .leaf (.hr '_'),
   .list true 10 ')' 3 false
     [[.leaf (.para [L "x\n"]), .leaf (.hr '*')],
      [.list false 0 '+' 2 true [[.leaf (.para [L "y\n"])], [.leaf (.para [L "z\n"])]]]]]

def listText2 : Str :=
  L ("* a\n  a2\n\n  b\n\n* c\n\n  - d\n  - e\n\n  ## f\n\n___\n\n" ++
     "10)   x\n\n      ***\n11)   +  y\n\n      +  z\n")

attribute [lit] listDoc2 listText2

example : (wrs listDoc2).flatten = listText2 := by
  simp only [lit, String.toList_append]
  decide_lit

theorem listDoc2_ok : MB.oks false listDoc2 = true ∧ listDoc2 ≠ [] ∧ (∀ l ∈ wrs listDoc2, '\t' ∉ l) := by decide +kernel

/-- padding 3 is not the normal form under `normalize_whitespace=True` -/
example : MB.oks true listDoc2 = false := by decide +kernel

/-- the round-trip theorem applies, inside two block quotes … -/
example : ∃ d, Document.parseLines mdCfg (needsM listDoc2 + 1 + 2 * 8) (quoted 2 (wrs listDoc2)) = .ok d ∧
    Markdown.render {} d = (quoted 2 (wrs listDoc2)).flatten := by
  obtain ⟨d, h1, _, _, h3⟩ := C09_lists_quoted_exact_partial mdCfg rfl mdCfg_ok.2.2.1 mdCfg_ok.2.2.2 {} rfl listDoc2 listDoc2_ok.2.1
    listDoc2_ok.1 listDoc2_ok.2.2 2 0
  exact ⟨d, by simpa using h1, h3⟩

/-- … and the kernel evaluation agrees (without quotes, and inside one quote) -/
example : (Document.parse mdCfg 300 listText2).bind (fun d => Markdown.renderRes {} d) = .ok listText2 := by
  simp only [lit, String.toList_append]
  decide_lit

example : (Document.parse mdCfg 300 (quoted 1 (wrs listDoc2)).flatten).bind (fun d => Markdown.renderRes {} d) =
    .ok (quoted 1 (wrs listDoc2)).flatten := by decide +kernel

/-- lists of different types in a row inside an item, and at the end of an item that another item follows -/
def listDoc4 : List MB :=
  [.list false 0 '-' 1 false
     [[.leaf (.para [L "a\n"]),
       .list true 1 '.' 1 false [[.leaf (.para [L "x\n"])]],
       .list false 0 '+' 1 false [[.leaf (.para [L "y\n"])]],
       .list true 7 ')' 2 true [[.leaf (.para [L "p\n"])], [.leaf (.para [L "q\n"])]]],
      [.leaf (.para [L "b\n"])]],
   .list false 0 '*' 1 false [[.leaf (.hr '_')]]]

def listText4 : Str := L "- a\n\n  1. x\n\n  + y\n\n  7)  p\n\n  8)  q\n- b\n\n* ___\n"

attribute [lit] listDoc4 listText4

example : (wrs listDoc4).flatten = listText4 := by decide_lit

theorem listDoc4_ok : MB.oks false listDoc4 = true ∧ listDoc4 ≠ [] := by decide +kernel

example : ∃ d, Document.parseLines mdCfg (needsM listDoc4 + 1) (wrs listDoc4) = .ok d ∧
    Markdown.renderRes {} d = .ok (wrs listDoc4).flatten := by
  obtain ⟨d, h1, _, h3, _⟩ := C09_lists_exact_partial mdCfg rfl mdCfg_ok.2.2.1 mdCfg_ok.2.2.2 {} rfl listDoc4 listDoc4_ok.2
    listDoc4_ok.1 0
  exact ⟨d, by simpa using h1, h3⟩

example : (Document.parse mdCfg 300 listText4).bind (fun d => Markdown.renderRes {} d) = .ok listText4 := by decide_lit

/-- `normalize_whitespace=True` rewrites the padding: the text is NOT reproduced (which is why `MB.ok true` asks for
    padding 1); the meaning is unchanged -/
example : (Document.parse mdCfg 100 (L "-   a\n\n    b\n-   c\n")).bind (fun d => Markdown.renderRes { normalizeWhitespace := true } d) =
    .ok (L "- a\n\n  b\n- c\n") := by decide_lit

end Mistletoe.Props.C09
