/-
  C03 with fenced code blocks and setext headings (`Proofs/ComposeCode.lean`, `Proofs/ComposeEmbed.lean`): non-vacuity for
  setext headings.  A sample forest with setext headings at top level and inside list items is well-formed by kernel
  evaluation; the theorems apply to it; evaluating the model on the written text in the kernel gives the same HTML; the
  real `mistletoe.markdown` returns this string for this text.  Every underline of the specification's shape (up to
  3 + 6 + 3 characters) passes `ulOk`.  Then the recorded finding that keeps setext headings out of quotes.
-/
import Mistletoe.Proofs.ComposeEmbed
import Mistletoe.Proofs.Lit
namespace Mistletoe.ComposeC
open Mistletoe Mistletoe.Py Mistletoe.Scan Mistletoe.Compose
open Mistletoe.Block
open Mistletoe.Html

def L3 (s : String) : Str := s.toList

/-- setext headings: two text lines over `===`; one line over `---` (NOT a paragraph and a thematic break); inside the
    items of a loose bullet list (underline ` -  `, then a fenced block; underline indented by three spaces); a thematic
    break `---` behind the list; a quote; a tight ordered list whose only item is a heading -/
def sampleD : List T3 := [
  .setext 1 [L3 "Title line one\n", L3 "and two\n"] (L3 "===\n"),
  .para [L3 "text\n"],
  .setext 2 [L3 "Sub & heading\n"] (L3 "---\n"),
  .list false 0 '-' 1 true [
    [.setext 2 [L3 "in item\n"] (L3 " -  \n"), .fence 0 (L3 "```") [] [L3 "x\n"] (L3 "```\n")],
    [.setext 1 [L3 "second\n"] (L3 "   =====\n")]],
  .hr (L3 "---\n"),
  .quote false [.para [L3 "quoted\n"]],
  .list true 3 '.' 2 false [[.setext 2 [L3 "tight\n"] (L3 "--\n")]]]

attribute [lit] L3 sampleD

theorem sampleD_ok : T3.oks sampleD = true := by decide_lit

example : (writes3 sampleD).flatten =
    L3 "Title line one\nand two\n===\n\ntext\n\nSub & heading\n---\n\n- in item\n   -  \n\n  ```\n  x\n  ```\n\n- second\n     =====\n\n---\n\n> quoted\n\n3.  tight\n    --\n" := by
  decide_lit

/-- `mistletoe.markdown` returns this string for the text above -/
def htmlD : Str :=
  L3 "<h1>Title line one\nand two</h1>\n<p>text</p>\n<h2>Sub &amp; heading</h2>\n<ul>\n<li>\n<h2>in item</h2>\n<pre><code>x\n</code></pre>\n</li>\n<li>\n<h1>second</h1>\n</li>\n</ul>\n<hr />\n<blockquote>\n<p>quoted</p>\n</blockquote>\n<ol start=\"3\">\n<li>\n<h2>tight</h2>\n</li>\n</ol>\n"

attribute [lit] htmlD

example : htmlOf3 {} sampleD = htmlD ∧ needs3 sampleD = 325 := by decide_lit

/-- an instance of `C03_code_html_partial`, and the same fact by evaluation -/
example : Config.renderHtml {} 325 (writes3 sampleD).flatten = some htmlD := by
  rw [C03_code_html_partial {} sampleD sampleD_ok (by decide) 325 (by decide +kernel)]
  decide_lit
example : Config.renderHtml {} 325 (writes3 sampleD).flatten = some htmlD :=
  Config.renderHtml_of (by decide_lit)

/-- every underline of the specification's shape with at most 3 + 6 + 3 characters passes `ulOk` (192 lines): the facts
    about the scanners that `ulOk` lists hold for them -/
def ulAll : List (Nat × Str) :=
  [(1, '='), (2, '-')].flatMap (fun p => (List.range 4).flatMap (fun n => (List.range 6).flatMap (fun m => (List.range 4).map (fun t =>
    (p.1, sp n ++ List.replicate (m + 1) p.2 ++ sp t ++ ['\n'])))))
example : ulAll.length = 192 ∧ ulAll.all (fun p => ulOk p.1 p.2) = true := by
  refine ⟨?_, ?_⟩ <;> decide +kernel
/-- … and it rejects: four spaces, a mixed run, text behind the run, the wrong level, no run, a broken run -/
example : [ulOk 1 (L3 "    ===\n"), ulOk 1 (L3 "==-\n"), ulOk 2 (L3 "--- x\n"), ulOk 2 (L3 "===\n"), ulOk 1 (L3 "\n"), ulOk 2 (L3 "- -\n")] =
    List.replicate 6 false := by decide_lit

/-- **Why no setext heading inside a quote** (recorded finding): `Quote.read` parses its content with
    `Paragraph.parse_setext` off; text and underline come out as one paragraph (the real `mistletoe.markdown` returns the
    same string; the specification gives `<blockquote><h1>a</h1></blockquote>`).  `T3.ok` excludes it. -/
example : Config.renderHtml {} 100 (L3 "> a\n> ===\n") = some (L3 "<blockquote>\n<p>a\n===</p>\n</blockquote>\n") :=
  Config.renderHtml_of (by decide_lit)
example : T3.oks [.quote false [.setext 1 [L3 "a\n"] (L3 "===\n")]] = false ∧
    T3.oks [.quote false [.list false 0 '-' 1 false [[.setext 1 [L3 "a\n"] (L3 "===\n")]]]] = false ∧
    T3.oks [.list false 0 '-' 1 false [[.setext 1 [L3 "a\n"] (L3 "===\n")]]] = true := by
  refine ⟨?_, ?_, ?_⟩ <;> decide_lit


end Mistletoe.ComposeC
