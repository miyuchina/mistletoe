/-
  Lemmas for C14: `inertBody` as the special case of the widest condition (Proofs/InertWide.lean); the `Paragraph`
  constructor and the HTML renderer on prose lines whose joined text is `Silent` (Proofs/InertSilent.lean); sufficient
  conditions in plain words; the remaining token classes on one-line text; `Document(text)` for a `str`.
-/
import Mistletoe.Model.Html
import Mistletoe.Proofs.InertWide
import Mistletoe.Proofs.Strip
import Mistletoe.Proofs.Lines
import Mistletoe.Proofs.MapChars
import Mistletoe.Proofs.Pipeline
namespace Mistletoe.InertInline
open Mistletoe Mistletoe.Py Mistletoe.Scan Mistletoe.InlineScan Mistletoe.Core Mistletoe.Inline
open Mistletoe.Unescape Mistletoe.Document Mistletoe.Strip

/-! ## `inertBody` is the special case -/

theorem unescape_inert (s : Str) (h : ampOk s = true) : Unescape.unescape true s = s :=
  InertInline2.unescape_inert2 s (InertInline2.ampOk_ampOk2 s h)

theorem inertBody_silent (fn : Footnotes.Table) (s : Str) (h : inertBody s = true) : Silent fn s :=
  InertInline2.inertBody2_silent fn s (InertInline2.inertBody_inertBody2 s h)

theorem findAll_inert (s : Str) (types : List STok) (fn : Footnotes.Table) (ht : ∀ t ∈ types, inertClass t = true)
    (h : inertText s = true) : findAll s types fn = .ok [] :=
  ((inertBody_silent fn s (inertText_parts s h).1).inline types ht (inertText_parts s h).2).1

theorem tokenizeInner_inert (types : List STok) (fn : Footnotes.Table) (s : Str)
    (ht : ∀ t ∈ types, inertClass t = true) (h : inertText s = true) (hne : s ≠ []) :
    tokenizeInner types fn s = .ok [.rawText s] :=
  ((inertBody_silent fn s (inertText_parts s h).1).inline types ht (inertText_parts s h).2).2.2 hne

/-! ## the paragraph constructor and the HTML renderer -/

/-- the shape `Document.__init__` gives a paragraph line: after the indentation, the text (`strip l`,
    containing no newline) and one final "\n" — no trailing whitespace before it -/
def proseLine (l : Str) : Bool := lstrip l == strip l ++ ['\n'] && !(strip l).contains '\n'

structure ProseFacts (l : Str) : Prop where
  eq : lstrip l = strip l ++ ['\n']
  ne : strip l ≠ []
  nl : '\n' ∉ strip l
  hd : ∀ c r, strip l = c :: r → pyIsSpace c = false
  last : ∀ c, (strip l).getLast? = some c → pyIsSpace c = false

theorem proseLine_facts (l : Str) (h : proseLine l = true) : ProseFacts l := by
  simp only [proseLine, Bool.and_eq_true, beq_iff_eq, Bool.not_eq_eq_eq_not, Bool.not_true, List.contains_eq_mem,
    decide_eq_false_iff_not] at h
  obtain ⟨h1, h2⟩ := h
  have hne : strip l ≠ [] := by
    intro e
    rw [e] at h1
    have := lstrip_head l '\n' [] (by simpa using h1)
    revert this; decide
  refine ⟨h1, hne, h2, ?_, ?_⟩
  · intro c r e
    rw [e] at h1
    exact lstrip_head l c (r ++ ['\n']) (by simpa using h1)
  · intro c hc
    have e : strip l = (lstrip (lstrip l).reverse).reverse := rfl
    rw [e, List.getLast?_reverse] at hc
    cases hh : lstrip (lstrip l).reverse with
    | nil => rw [hh] at hc; simp at hc
    | cons d r =>
      rw [hh] at hc
      simp only [List.head?_cons, Option.some.injEq] at hc
      subst hc
      exact lstrip_head _ _ _ hh

theorem flatten_nl : ∀ (ts : List Str), ts ≠ [] → (ts.map (· ++ ['\n'])).flatten = joinNl ts ++ ['\n']
  | [], h => absurd rfl h
  | [t], _ => by simp [joinNl]
  | t :: t' :: rest, _ => by
    have ih := flatten_nl (t' :: rest) (by simp)
    rw [joinNl_cons2, List.map_cons, List.flatten_cons, ih]
    simp

theorem joinNl_getLast : ∀ (ts : List Str) (t : Str), ts.getLast? = some t → t ≠ [] → (joinNl ts).getLast? = t.getLast?
  | [], _, h, _ => by simp at h
  | [x], t, h, _ => by
    simp only [List.getLast?_singleton, Option.some.injEq] at h
    subst h; simp [joinNl]
  | x :: x' :: rest, t, h, hne => by
    rw [List.getLast?_cons_cons] at h
    have ih := joinNl_getLast (x' :: rest) t h hne
    rw [joinNl_cons2]
    have hj : joinNl (x' :: rest) ≠ [] := by
      intro e
      rw [e] at ih
      exact hne (List.getLast?_eq_none_iff.mp ih.symm)
    have : x ++ '\n' :: joinNl (x' :: rest) = (x ++ ['\n']) ++ joinNl (x' :: rest) := by simp
    rw [this, List.getLast?_append, ih]
    cases hh : t.getLast? with
    | none => exact absurd (List.getLast?_eq_none_iff.mp hh) hne
    | some d => rfl

/-- `Paragraph.__init__`'s `''.join(line.lstrip() for line in lines).strip()` on lines of that shape is
    the stripped lines joined by "\n" -/
theorem paragraph_content (ls : List Str) (hne : ls ≠ []) (h : ∀ l ∈ ls, proseLine l = true) :
    strip (ls.map lstrip).flatten = joinNl (ls.map strip) := by
  have e1 : ls.map lstrip = (ls.map strip).map (· ++ ['\n']) := by
    rw [List.map_map]
    apply List.map_congr_left
    intro l hl
    exact (proseLine_facts l (h l hl)).eq
  have hne' : ls.map strip ≠ [] := by simpa using hne
  rw [e1, flatten_nl _ hne']
  -- the first character is not whitespace
  obtain ⟨l0, rest, rfl⟩ : ∃ l0 rest, ls = l0 :: rest := by
    cases ls with
    | nil => exact absurd rfl hne
    | cons a b => exact ⟨a, b, rfl⟩
  have f0 := proseLine_facts l0 (h l0 (by simp))
  obtain ⟨c, r, hc⟩ : ∃ c r, strip l0 = c :: r := by
    cases hh : strip l0 with
    | nil => exact absurd hh f0.ne
    | cons a b => exact ⟨a, b, rfl⟩
  have hsp := f0.hd c r hc
  have hhead : ∃ r', joinNl ((l0 :: rest).map strip) = c :: r' := by
    cases rest with
    | nil => exact ⟨r, by simp [joinNl, hc]⟩
    | cons a b => exact ⟨_, by rw [List.map_cons, List.map_cons, joinNl_cons2, hc]; rfl⟩
  obtain ⟨r', hr'⟩ := hhead
  -- the last character is not whitespace
  obtain ⟨ll, hll⟩ : ∃ ll, (l0 :: rest).getLast? = some ll := by
    cases hh : (l0 :: rest).getLast? with
    | none => simp at hh
    | some x => exact ⟨x, rfl⟩
  have fl := proseLine_facts ll (h ll (List.mem_of_getLast? hll))
  have hlast : (joinNl ((l0 :: rest).map strip)).getLast? = (strip ll).getLast? :=
    joinNl_getLast _ _ (by rw [List.getLast?_map, hll]; rfl) fl.ne
  have hstrip : ∀ y, strip y = rstrip (lstrip y) := fun _ => rfl
  rw [hstrip (joinNl _ ++ ['\n'])]
  rw [hr', List.cons_append, lstrip_of_head c _ hsp, ← List.cons_append, ← hr']
  unfold rstrip
  have hnl : pyIsSpace '\n' = true := by decide
  rw [List.reverse_append, List.reverse_singleton, List.singleton_append, lstrip, if_pos hnl]
  exact rstrip_of_last _ (fun d hd => fl.last d (by rw [← hlast]; exact hd))

/-- **the inline tokens of prose lines whose joined text is silent** (the content of a `Paragraph` or `SetextHeading`):
    the stripped lines as `RawText` with soft `LineBreak`s between them -/
theorem Silent.inl {fn : Footnotes.Table} (cfg : Document.Cfg) (ls : List Str)
    (ht : ∀ t ∈ cfg.span, inertClass t = true) (hc : cfg.span.count .lineBreak = 1) (hne : ls ≠ [])
    (h : ∀ l ∈ ls, proseLine l = true) (hs : Silent fn (joinNl (ls.map strip))) :
    inl cfg fn (joinNl (ls.map strip)) = .ok (proseInlines (ls.map strip)) := by
  refine hs.lines cfg.span ht hc (by simpa using hne) fun t htm => ?_
  obtain ⟨l, hl, rfl⟩ := List.mem_map.mp htm
  have f := proseLine_facts l (h l hl)
  refine ⟨f.ne, f.nl, fun e => ?_⟩
  have := f.last ' ' e
  revert this; decide

theorem inl_prose (cfg : Document.Cfg) (fn : Footnotes.Table) (ls : List Str)
    (ht : ∀ t ∈ cfg.span, inertClass t = true) (hc : cfg.span.count .lineBreak = 1) (hne : ls ≠ [])
    (h : ∀ l ∈ ls, proseLine l = true) (hb : inertBody (joinNl (ls.map strip)) = true) :
    inl cfg fn (joinNl (ls.map strip)) = .ok (proseInlines (ls.map strip)) :=
  (inertBody_silent fn _ hb).inl cfg ls ht hc hne h

theorem Silent.mkBlock {fn : Footnotes.Table} (cfg : Document.Cfg) (ls : List Str) (ln o : Nat)
    (ht : ∀ t ∈ cfg.span, inertClass t = true) (hc : cfg.span.count .lineBreak = 1) (hne : ls ≠ [])
    (h : ∀ l ∈ ls, proseLine l = true) (hs : Silent fn (joinNl (ls.map strip))) :
    mkBlock cfg fn (.paragraph ls ln o) = .ok (some (.paragraph (proseInlines (ls.map strip)) ln)) := by
  simp only [Document.mkBlock, paragraph_content ls hne h, hs.inl cfg ls ht hc hne h]

open Mistletoe.Html Mistletoe.Escape

theorem renderInlines_append (q : Quotes) : ∀ (a b : List Inline),
    renderInlines q (a ++ b) = renderInlines q a ++ renderInlines q b
  | [], b => rfl
  | i :: a, b => by simp [renderInlines, renderInlines_append q a b]

theorem escape_nl (dq sq : Bool) : escapeHtmlText dq sq ['\n'] = ['\n'] := by
  cases dq <;> cases sq <;> decide

theorem flat_prose (q : Quotes) : ∀ (ts : List Str),
    flat (renderInlines q (proseInlines ts)) = escapeHtmlText q.dq q.sq (joinNl ts)
  | [] => by simp [proseInlines, renderInlines, flat, joinNl, escapeHtmlText, mapChars_nil]
  | [t] => by simp [proseInlines, renderInlines, renderInline, flat, flatEv, joinNl]
  | t :: t' :: rest => by
    have ih := flat_prose q (t' :: rest)
    rw [proseInlines_cons2, joinNl_cons2]
    have e : t ++ '\n' :: joinNl (t' :: rest) = t ++ (['\n'] ++ joinNl (t' :: rest)) := by simp
    rw [e, escapeHtmlText_append, escapeHtmlText_append, escape_nl]
    simp only [renderInlines, renderInline, if_true, Pipeline.flat_append, ih]
    simp [flat, flatEv, nl]

theorem render_prose (o : Opts) (ts : List Str) (ln : Nat) (fn : List (Str × Str × Str)) :
    render o { kids := [.paragraph (proseInlines ts) ln], footnotes := fn } =
      "<p>".toList ++ escapeHtmlText o.dq o.sq (joinNl ts) ++ "</p>\n".toList := by
  rw [Pipeline.render_one_paragraph, flat_prose]; rfl

theorem paragraph_content_one (l : Str) : strip ([l].map lstrip).flatten = strip l := by
  have : strip (lstrip l) = strip l := by
    show rstrip (lstrip (lstrip l)) = rstrip (lstrip l)
    rw [lstrip_idem]
  simpa using this

theorem inl_one_line (cfg : Document.Cfg) (fn : Footnotes.Table) (l : Str) :
    Document.inl cfg fn (strip ([l].map lstrip).flatten) = tokenizeInner cfg.span fn (strip l) := by
  unfold Document.inl
  rw [paragraph_content_one]

theorem mkBlocks_prose_line (cfg : Document.Cfg) (fn : Footnotes.Table) (l : Str) (ln o : Nat)
    (ht : ∀ t ∈ cfg.span, inertClass t = true) (hb : isBlank l = false) (h : inertText (strip l) = true) :
    Document.mkBlocks cfg fn [.paragraph [l] ln o] = .ok [.paragraph [.rawText (strip l)] ln] := by
  simp only [Document.mkBlocks, Document.mkBlock, inl_one_line,
    tokenizeInner_inert cfg.span fn _ ht h (strip_ne_nil l hb)]

theorem escape_plain (dq sq : Bool) (s : Str)
    (h : ∀ c ∈ s, c ≠ '&' ∧ c ≠ '<' ∧ c ≠ '>' ∧ c ≠ '"' ∧ c ≠ '\'') : escapeHtmlText dq sq s = s :=
  escapeHtmlText_id dq sq s (fun c hc =>
    have ⟨h1, h2, h3, h4, h5⟩ := h c hc
    escChar_id dq sq c h1 h2 h3 (fun e => absurd e h4) (fun e => absurd e h5))

/-! ## sufficient conditions in plain words -/

/-- characters with no inline meaning anywhere: everything except ``\ ` < & ~ [ * _`` and newline -/
def plainInline (c : Char) : Bool :=
  c != '\\' && c != '`' && c != '<' && c != '&' && c != '~' && c != '[' && c != '*' && c != '_' && c != '\n'

theorem plainInline_of (c : Char) (h : plainInline c = true) :
    c ≠ '\\' ∧ c ≠ '`' ∧ c ≠ '<' ∧ c ≠ '&' ∧ c ≠ '~' ∧ c ≠ '[' ∧ c ≠ '*' ∧ c ≠ '_' ∧ c ≠ '\n' := by
  simpa only [plainInline, Bool.and_eq_true, bne_iff_ne, ne_eq, and_assoc] using h

theorem ltOk_plain : ∀ (s : Str), (∀ c ∈ s, c ≠ '<') → ltOk s = true
  | [], _ => rfl
  | c :: s, h => by simp [ltOk, h c (by simp), ltOk_plain s (fun x hx => h x (List.mem_cons_of_mem _ hx))]

theorem ampOk_plain : ∀ (s : Str), (∀ c ∈ s, c ≠ '&') → ampOk s = true
  | [], _ => rfl
  | c :: s, h => by simp [ampOk, h c (by simp), ampOk_plain s (fun x hx => h x (List.mem_cons_of_mem _ hx))]

theorem tildeOk_plain : ∀ (s : Str), (∀ c ∈ s, c ≠ '~') → tildeOk s = true
  | [], _ => rfl
  | c :: s, h => by simp [tildeOk, h c (by simp), tildeOk_plain s (fun x hx => h x (List.mem_cons_of_mem _ hx))]

theorem bracketsOk_plain : ∀ (s : Str), (∀ c ∈ s, c ≠ '[') → bracketsOk s = true
  | [], _ => rfl
  | c :: s, h => by simp [bracketsOk, h c (by simp), bracketsOk_plain s (fun x hx => h x (List.mem_cons_of_mem _ hx))]

theorem emphOk_plain : ∀ (s : Str) (p : Char), (∀ c ∈ s, c ≠ '*' ∧ c ≠ '_') → emphOk p s = true
  | [], _, _ => rfl
  | c :: s, p, h => by
    simp [emphOk, (h c (by simp)).1, (h c (by simp)).2, emphOk_plain s c (fun x hx => h x (List.mem_cons_of_mem _ hx))]

-- in namespace `Reflow`: the newline-tolerant form that Proofs/Reflow.lean applies to joined paragraph text; it stands here
-- because it needs the `…_plain` lemmas above, and `inertText_of_plain` below is its no-newline case
theorem _root_.Mistletoe.Reflow.inertBody_of_plain (s : Str) (h : ∀ c ∈ s, c = '\n' ∨ plainInline c = true) : inertBody s = true := by
  have hp : ∀ c ∈ s, c ≠ '\\' ∧ c ≠ '`' ∧ c ≠ '<' ∧ c ≠ '&' ∧ c ≠ '~' ∧ c ≠ '[' ∧ c ≠ '*' ∧ c ≠ '_' := by
    intro c hc
    rcases h c hc with rfl | h
    · decide
    · obtain ⟨h1, h2, h3, h4, h5, h6, h7, h8, _⟩ := plainInline_of c h
      exact ⟨h1, h2, h3, h4, h5, h6, h7, h8⟩
  have hall : s.all okChar = true := by
    rw [List.all_eq_true]; intro c hc
    obtain ⟨h1, h2, _⟩ := hp c hc
    simp [okChar, h1, h2]
  simp [inertBody, hall, ltOk_plain s (fun c hc => (hp c hc).2.2.1),
    ampOk_plain s (fun c hc => (hp c hc).2.2.2.1), tildeOk_plain s (fun c hc => (hp c hc).2.2.2.2.1),
    bracketsOk_plain s (fun c hc => (hp c hc).2.2.2.2.2.1),
    emphOk_plain s ' ' (fun c hc => ⟨(hp c hc).2.2.2.2.2.2.1, (hp c hc).2.2.2.2.2.2.2⟩)]

/-- **text made only of such characters is inert** (letters, digits, spaces, non-ASCII text and
    ``. , ; : ( ) - + = | # > / ' " ^ $ % @ ? ! ] { }``) -/
theorem inertText_of_plain (s : Str) (h : ∀ c ∈ s, plainInline c = true) : inertText s = true := by
  have hnl : '\n' ∉ s := fun hm => (plainInline_of _ (h _ hm)).2.2.2.2.2.2.2.2 rfl
  simp [inertText, Reflow.inertBody_of_plain s fun c hc => Or.inr (h c hc), hnl]

/-- a run of `*` or `_` preceded by whitespace (or at the start of the text) cannot close emphasis -/
theorem canClose_after_space (d b a : Char) (h : uniWs b = true) : canClose d b a = false := by
  simp [canClose, rightFl, h]

/-- an intraword `_` run (neither neighbour is whitespace or punctuation) cannot close emphasis -/
theorem canClose_intraword (b a : Char) (hb1 : uniWs b = false) (hb2 : punct b = false)
    (ha1 : uniWs a = false) (ha2 : punct a = false) : canClose '_' b a = false := by
  simp [canClose, rightFl, leftFl, hb1, hb2, ha1, ha2]

/-! ## all modelled classes, `Math` and `GithubWiki` included -/

/-- no `[[` -/
def wikiOk : Str → Bool
  | [] => true
  | c :: rest => !(c == '[' && rest.head? == some '[') && wikiOk rest

/-- the special case "no `[[`" of `ContribSame2.wikiFindAux_noW` (the wiki pattern matches nowhere), proved on its own:
    neither file imports the other -/
theorem wikiFindAux_nil : ∀ (fuel pos : Nat) (s : Str), wikiOk s = true → wikiFindAux fuel pos s = []
  | 0, _, _, _ => by simp [wikiFindAux]
  | _ + 1, _, [], _ => by simp [wikiFindAux]
  | fuel + 1, pos, c :: rest, h => by
    simp only [wikiOk, Bool.and_eq_true, Bool.not_eq_eq_eq_not, Bool.not_true] at h
    have hw : wikiAt (c :: rest) = none := by
      unfold wikiAt
      have : startsWith ['[', '['] (c :: rest) = false := by
        cases rest with
        | nil => simp [startsWith, List.isPrefixOf]
        | cons d r =>
          have h1 := h.1
          simp only [List.head?_cons, Bool.and_eq_false_imp, beq_iff_eq] at h1
          simp only [startsWith, List.isPrefixOf_cons_cons, List.isPrefixOf_nil_left, Bool.and_true,
            Bool.and_eq_false_imp, beq_iff_eq]
          intro e; subst e
          have := h1 rfl
          cases hh : ('[' == d) with
          | false => rfl
          | true =>
            have e2 : d = '[' := (beq_iff_eq.mp hh).symm
            subst e2
            simp at this
      simp [this]
    simp only [wikiFindAux, hw]
    exact wikiFindAux_nil fuel (pos + 1) rest h.2

/-! ### the two XWiki macro classes on one-line text

  `XWikiBlockMacroStart.pattern` ends in `\s*\n`: without a newline in the text it cannot match.
  `XWikiBlockMacroEnd.pattern` is anchored by `^` (re.MULTILINE): without a newline it can match at
  position 0 only, where it needs `\s*\{\{/`. -/

open Mistletoe.InlineScanX

theorem wsNlAux_no_nl : ∀ (r : Str) (i : Nat) (last : Option Nat), '\n' ∉ r → wsNlAux r i last = last
  | [], _, _, _ => by simp [wsNlAux]
  | c :: rest, i, last, h => by
    have hc : c ≠ '\n' := fun e => h (by simp [e])
    have hr : '\n' ∉ rest := fun m => h (List.mem_cons_of_mem _ m)
    simp only [wsNlAux]
    split
    · rw [wsNlAux_no_nl rest (i + 1) _ hr]; simp [hc]
    · rfl

theorem startBody_no_nl : ∀ (r : Str) (i : Nat) (prev : Char), '\n' ∉ r → startBody r i prev = none
  | [], _, _, _ => by simp [startBody]
  | c :: rest, i, prev, h => by
    have hc : c ≠ '\n' := fun e => h (by simp [e])
    have hr : '\n' ∉ rest := fun m => h (List.mem_cons_of_mem _ m)
    have ih := startBody_no_nl rest (i + 1) c hr
    simp only [startBody]
    split
    · rename_i r heq
      split at heq
      · rename_i after
        have ha : '\n' ∉ after := fun m => hr (List.mem_cons_of_mem _ m)
        simp [wsNl, wsNlAux_no_nl after 0 none ha] at heq
      · cases heq
    · simp [hc, ih]

theorem xwikiStartAt_no_nl (prev : Option Char) (r : Str) (h : '\n' ∉ r) : xwikiStartAt prev r = none := by
  unfold xwikiStartAt
  split
  · rfl
  · split
    · rename_i body
      have hb : '\n' ∉ body := fun m => h (List.mem_cons_of_mem _ (List.mem_cons_of_mem _ m))
      cases hsp : Scan.span isWord body with
      | mk w r1 =>
        have hr1 : '\n' ∉ r1 := by
          intro m
          obtain ⟨e, _⟩ := span_eq isWord body w r1 hsp
          exact hb (by rw [e]; exact List.mem_append_right _ m)
        simp only
        split
        · rfl
        · rw [startBody_no_nl r1 _ _ hr1]
    · rfl

theorem findOne_xwikiStart (s : Str) (hn : '\n' ∉ s) : findOne s [] [] .xwikiMacroStart = [] := by
  simp only [findOne, List.map_eq_nil_iff]
  exact findIter_nil_notin _ '\n' xwikiStartAt_no_nl s hn

/-- the text does not begin with `\s*\{\{/` (the only place where `XWikiBlockMacroEnd` can fire on one-line text) -/
def xmacroOk (s : Str) : Bool :=
  match (Scan.span pyIsSpace s).2 with
  | '{' :: '{' :: '/' :: _ => false
  | _ => true

theorem xwikiEndAt_mid (c : Char) (r : Str) (h : c ≠ '\n') : xwikiEndAt (some c) r = none := by
  unfold xwikiEndAt
  simp [h]

theorem xwikiEndAt_head (s : Str) (h : xmacroOk s = true) : xwikiEndAt none s = none := by
  unfold xwikiEndAt
  unfold xmacroOk at h
  cases hsp : Scan.span pyIsSpace s with
  | mk ws r1 =>
    rw [hsp] at h
    simp only at h ⊢
    split
    · rename_i h0; simp at h0
    · split
      · simp at h
      · rfl

theorem findIterAux_xwikiEnd_mid : ∀ (fuel pos : Nat) (p : Char) (s : Str), p ≠ '\n' → '\n' ∉ s →
    findIterAux xwikiEndAt fuel pos (some p) s = []
  | 0, _, _, _, _, _ => by simp [findIterAux]
  | _ + 1, _, _, [], _, _ => by simp [findIterAux]
  | fuel + 1, pos, p, c :: rest, hp, h => by
    have hc : c ≠ '\n' := fun e => h (by simp [e])
    have hr : '\n' ∉ rest := fun m => h (List.mem_cons_of_mem _ m)
    simp only [findIterAux, xwikiEndAt_mid p (c :: rest) hp]
    exact findIterAux_xwikiEnd_mid fuel (pos + 1) c rest hc hr

theorem findOne_xwikiEnd (s : Str) (hn : '\n' ∉ s) (hx : xmacroOk s = true) : findOne s [] [] .xwikiMacroEnd = [] := by
  simp only [findOne, List.map_eq_nil_iff]
  unfold findIter
  cases s with
  | nil => simp [findIterAux]
  | cons c rest =>
    have hc : c ≠ '\n' := fun e => hn (by simp [e])
    have hr : '\n' ∉ rest := fun m => hn (List.mem_cons_of_mem _ m)
    simp only [List.length_cons, findIterAux, xwikiEndAt_head (c :: rest) hx]
    exact findIterAux_xwikiEnd_mid _ _ c rest hc hr

/-- with no `$`, no `[[` and no leading `{{/` in the text, `Math`, `GithubWiki` and the XWiki macro classes find
    nothing either: every class -/
theorem findAll_inert_all (s : Str) (types : List STok) (fn : Footnotes.Table)
    (h : inertText s = true) (hd : '$' ∉ s) (hw : wikiOk s = true) (hx : xmacroOk s = true) : findAll s types fn = .ok [] := by
  obtain ⟨hb, hn⟩ := inertText_parts s h
  have hs := inertBody_silent fn s hb
  refine findAll_nil s types fn hs.core (fun t _ => ?_)
  cases t with
  | math =>
    simp only [findOne, List.map_eq_nil_iff]
    exact findIter_nil_notin _ '$' mathAt_none s hd
  | githubWiki =>
    simp only [findOne, List.map_eq_nil_iff]
    exact wikiFindAux_nil _ _ s hw
  | lineBreak => exact findOne_lineBreak s hn
  | xwikiMacroStart => exact findOne_xwikiStart s hn
  | xwikiMacroEnd => exact findOne_xwikiEnd s hn hx
  | _ => exact hs.scan _ rfl (by decide)

/-- the hypothesis `xmacroOk` cannot be dropped: under a token list with `XWikiBlockMacroEnd` the inert text `{{/info}}`
    is one `XWikiBlockMacroEnd` token, in the model as in the code -/
example : inertText "{{/info}}".toList = true ∧ !"{{/info}}".toList.contains '$' ∧ wikiOk "{{/info}}".toList = true ∧
    (match tokenizeInner [.xwikiMacroEnd] [] "{{/info}}".toList with
     | .ok [.xwikiMacroEnd c] => c == "{{/info}}".toList
     | _ => false) = true := by decide +kernel

/-! ## `Document(text)` for a `str` made of "\n"-terminated lines -/

/-- a line as `str.splitlines(keepends=True)` returns it: ends in "\n", no other line boundary character -/
def oneLine (l : Str) : Bool := l.getLast? == some '\n' && l.dropLast.all (fun c => !isLineSep c)

theorem nlEnd_of_oneLine (l : Str) (h : oneLine l = true) : Block.NlEnd l := by
  simp only [oneLine, Bool.and_eq_true, beq_iff_eq, List.all_eq_true, Bool.not_eq_eq_eq_not,
    Bool.not_true] at h
  obtain ⟨body, rfl⟩ := List.getLast?_eq_some_iff.mp h.1
  refine ⟨body, rfl, ?_⟩
  intro hm
  have := h.2 '\n' (by simpa using hm)
  revert this; decide

theorem oneLine_text (u : Str) (h : ∀ c ∈ u, isLineSep c = false) : oneLine (u ++ ['\n']) = true := by
  simp only [oneLine, Bool.and_eq_true, beq_iff_eq, List.all_eq_true, Bool.not_eq_eq_eq_not, Bool.not_true]
  refine ⟨by rw [List.getLast?_append]; rfl, ?_⟩
  intro c hc
  rw [List.dropLast_concat] at hc
  exact h c hc

open Mistletoe.Lines

theorem splitlinesAux_cons (c : Char) (rest acc : Str) (h : c ≠ '\r') :
    splitlinesAux (c :: rest) acc =
      if isLineSep c then (c :: acc).reverse :: splitlinesAux rest [] else splitlinesAux rest (c :: acc) := by
  conv => lhs; rw [splitlinesAux.eq_def]
  simp [h]

theorem splitlines_line (more : Str) : ∀ (body acc : Str), (∀ c ∈ body, isLineSep c = false) →
    splitlinesAux (body ++ '\n' :: more) acc = (acc.reverse ++ body ++ ['\n']) :: splitlinesAux more []
  | [], acc, _ => by
    have h2 : isLineSep '\n' = true := by decide
    rw [List.nil_append, splitlinesAux_cons _ _ _ (by decide), h2]
    simp
  | c :: body, acc, h => by
    have hc := h c (by simp)
    have h1 : c ≠ '\r' := by intro e; subst e; revert hc; decide
    rw [List.cons_append, splitlinesAux_cons _ _ _ h1, hc]
    simp only [Bool.false_eq_true, if_false]
    rw [splitlines_line more body (c :: acc) (fun x hx => h x (List.mem_cons_of_mem _ hx))]
    simp

theorem normalize_lines : ∀ (ls : List Str), (∀ l ∈ ls, oneLine l = true) → normalize (.str ls.flatten) = ls
  | [], _ => by simp [normalize, pySplitlines, splitlinesAux]
  | l :: rest, h => by
    have ih := normalize_lines rest (fun x hx => h x (List.mem_cons_of_mem _ hx))
    have hl := h l (by simp)
    simp only [oneLine, Bool.and_eq_true, beq_iff_eq, List.all_eq_true, Bool.not_eq_eq_eq_not, Bool.not_true] at hl
    obtain ⟨body, rfl⟩ := List.getLast?_eq_some_iff.mp hl.1
    have hb : ∀ c ∈ body, isLineSep c = false := by simpa using hl.2
    simp only [normalize, pySplitlines] at ih ⊢
    rw [List.flatten_cons, List.append_assoc, List.singleton_append, splitlines_line _ _ [] hb]
    simp only [List.reverse_nil, List.nil_append, List.map_cons, ih]
    have : complete (body ++ ['\n']) = body ++ ['\n'] := by
      unfold complete
      rw [endsWithNl_snoc]; rfl
    rw [this]

theorem parse_lines (cfg : Document.Cfg) (gas : Nat) (ls : List Str) (h : ∀ l ∈ ls, oneLine l = true) :
    Document.parse cfg gas ls.flatten = Document.parseLines cfg gas ls := by
  unfold Document.parse
  rw [normalize_lines ls h]

end Mistletoe.InertInline

