/-
  C08 end to end: parser followed by the HTML renderer, for EVERY text.

  `Props/C08.lean` proves well-formedness of the HTML output for every token tree under the one
  hypothesis `levelsOks d.kids` (heading levels 1…6).  `Proofs/DocShape.lean` proves that every parsed
  document is well-shaped (`Doc.shapeOk`, which contains "heading level 1…6, setext level 1…2" at every
  depth).  Here the two are composed, so the hypothesis on the tree disappears: (a) `shapeOk_levelsOks`,
  (b) `C08_parsed_wellformed` for any configuration, (c) `C08_every_text` with termination.  (d) With raw-HTML
  processing disabled - any configuration whose lists contain neither `.htmlBlock` nor `.htmlSpan`, in particular
  `Config.htmlNoRaw`, the regenerated lists of `HtmlRenderer(process_html_tokens=False)` - the parsed document holds
  no such token (from the parser's range, Proofs/Range.lean) and the output consists solely of the renderer's own
  tags and escaped text: `C08_parsed_no_raw(_general)`, `C08_every_text_no_raw(_general)`.
  `supportedBlocks_noHtml` relates `Latex.supportedBlocks` (Model/Latex.lean) to `Pred.noHtmlBlocks`: a fact about the
  two tree predicates, which nothing below uses.
-/
import Mistletoe.Props.C08
import Mistletoe.Proofs.DocShape
import Mistletoe.Proofs.LatexTotal
import Mistletoe.Proofs.Lit

namespace Mistletoe.Config
open Mistletoe

/-- token lists while an `HtmlRenderer(process_html_tokens=False)` is active (regenerated from /repo):
    the default lists — neither HtmlBlock nor HtmlSpan is installed -/
def htmlNoRaw : Option Document.Cfg :=
  cfgOf Gen.RenderMaps.htmlNoHtmlBlockTokens Gen.RenderMaps.htmlNoHtmlSpanTokens

/-- `HtmlRenderer(process_html_tokens=False, **opts).render(Document(text))` -/
def renderHtmlNoRaw (opts : Html.Opts) (gas : Nat) (text : Str) : Option Str :=
  match htmlNoRaw with
  | none => none
  | some cfg =>
    match Document.parse cfg gas text with
    | .ok d => some (Html.render opts d)
    | .err _ => none

/-- the regenerated lists of `HtmlRenderer(process_html_tokens=False)`: HtmlRenderer's without HtmlBlock and HtmlSpan -/
theorem htmlNoRaw_eq : htmlNoRaw = some ⟨⟨htmlBlockList.erase .htmlBlock, true⟩, htmlSpanList.erase .htmlSpan⟩ :=
  cfgOf_htmlNoHtml

end Mistletoe.Config

namespace Mistletoe.HtmlEndToEnd
open Mistletoe Mistletoe.Html Mistletoe.Pred Mistletoe.Escape Mistletoe.Block Mistletoe.Lines

/-! ## (a) well-shaped ⇒ heading levels 1…6 -/

mutual
/-- `Block.shapeOk` (C12: ATX level 1…6, setext level 1 or 2, recursively) gives `levelsOk` (C08's
    hypothesis: both kinds of heading have level 1…6, inside quotes, lists, items, tables) -/
theorem shapeOk_levelsOk : ∀ (b : Mistletoe.Block), b.shapeOk = true → levelsOk b = true
  | .paragraph .., _ => rfl
  | .heading l _ _ _, h => by
    simp only [Block.shapeOk, Bool.and_eq_true, decide_eq_true_eq] at h
    simp [levelsOk, h.1, h.2]
  | .setextHeading l _ _ _, h => by
    simp only [Block.shapeOk, Bool.or_eq_true, beq_iff_eq] at h
    rcases h with rfl | rfl <;> simp [levelsOk]
  | .quote kids _, h => by
    simp only [Block.shapeOk, Bool.and_eq_true] at h
    exact shapeOkL_levelsOks kids h.2
  | .blockCode .., _ => rfl
  | .codeFence .., _ => rfl
  | .list _ _ items _, h => by
    simp only [Block.shapeOk, Bool.and_eq_true] at h
    exact shapeOkL_levelsOks items h.2
  | .listItem _ _ _ _ kids _, h => by
    simp only [Block.shapeOk, Bool.and_eq_true] at h
    exact shapeOkL_levelsOks kids h.2
  | .table _ header rows _, h => by
    simp only [Block.shapeOk, Bool.and_eq_true] at h
    simp only [levelsOk, Bool.and_eq_true]
    exact ⟨shapeOkL_levelsOks header h.1.2, shapeOkL_levelsOks rows h.2⟩
  | .tableRow .., _ => rfl
  | .tableCell .., _ => rfl
  | .thematicBreak .., _ => rfl
  | .htmlBlock .., _ => rfl
  | .blankLine _, _ => rfl
  | .linkRefDefBlock .., _ => rfl
theorem shapeOkL_levelsOks : ∀ (bs : List Mistletoe.Block), shapeOkL bs = true → levelsOks bs = true
  | [], _ => rfl
  | b :: bs, h => by
    simp only [shapeOkL, Bool.and_eq_true] at h
    simp only [levelsOks, Bool.and_eq_true]
    exact ⟨shapeOk_levelsOk b h.1, shapeOkL_levelsOks bs h.2⟩
end

/-- **(a)** a well-shaped document meets the hypothesis of C08 -/
theorem shapeOk_levelsOks (d : Doc) (h : d.shapeOk = true) : levelsOks d.kids = true := by
  simp only [Doc.shapeOk, Bool.and_eq_true] at h
  exact shapeOkL_levelsOks d.kids h.2

theorem parse_levelsOks (cfg : Document.Cfg) (gas : Nat) (t : Str) (d : Doc)
    (h : Document.parse cfg gas t = .ok d) : levelsOks d.kids = true :=
  shapeOk_levelsOks d (Props.C12.C12_parsed_shape_str cfg gas t d h)

/-! ## `Latex.supported…` implies `noHtml…` -/

mutual
/-- what Proofs/LatexTotal.lean proves of the inline phase (`Latex.supportedInline`: no HtmlSpan,
    GithubWiki, XWiki macro token, recursively; an image's children are not looked at) implies
    `noHtmlInline` (no HtmlSpan, recursively; an image's children are not looked at) -/
theorem supportedInline_noHtml : ∀ (i : Inline), Latex.supportedInline i = true → noHtmlInline i = true
  | .htmlSpan _, h => by cases h
  | .strong _ k, h => supportedInlines_noHtml k h
  | .emphasis _ k, h => supportedInlines_noHtml k h
  | .strikethrough k, h => supportedInlines_noHtml k h
  | .link _ _ _ _ _ k, h => supportedInlines_noHtml k h
  | .githubWiki _ k, h => by cases h
  | .rawText _, _ => rfl
  | .inlineCode .., _ => rfl
  | .image .., _ => rfl
  | .autoLink .., _ => rfl
  | .escapeSequence _, _ => rfl
  | .lineBreak .., _ => rfl
  | .math _, _ => rfl
  | .xwikiMacroStart _, _ => rfl
  | .xwikiMacroEnd _, _ => rfl
  | .linkRefDef .., _ => rfl
theorem supportedInlines_noHtml : ∀ (k : List Inline), Latex.supportedInlines k = true → noHtmlInlines k = true
  | [], _ => rfl
  | i :: is, h => by
    simp only [Latex.supportedInlines, Bool.and_eq_true] at h
    simp only [noHtmlInlines, Bool.and_eq_true]
    exact ⟨supportedInline_noHtml i h.1, supportedInlines_noHtml is h.2⟩
end

mutual
theorem supportedBlock_noHtml : ∀ (b : Mistletoe.Block), Latex.supportedBlock b = true → noHtmlBlock b = true
  | .htmlBlock .., h => by cases h
  | .paragraph k _, h => supportedInlines_noHtml k h
  | .heading _ _ k _, h => supportedInlines_noHtml k h
  | .setextHeading _ _ k _, h => supportedInlines_noHtml k h
  | .quote kids _, h => supportedBlocks_noHtml kids h
  | .list _ _ items _, h => supportedBlocks_noHtml items h
  | .listItem _ _ _ _ kids _, h => supportedBlocks_noHtml kids h
  | .table _ header rows _, h => by
    simp only [Latex.supportedBlock, Bool.and_eq_true] at h
    simp only [noHtmlBlock, Bool.and_eq_true]
    exact ⟨supportedBlocks_noHtml header h.1.2, supportedBlocks_noHtml rows h.2⟩
  | .tableRow _ cells _, h => supportedBlocks_noHtml cells h
  | .tableCell _ k _, h => supportedInlines_noHtml k h
  | .blockCode .., _ => rfl
  | .codeFence .., _ => rfl
  | .thematicBreak .., _ => rfl
  | .blankLine _, _ => rfl
  | .linkRefDefBlock .., _ => rfl
/-- the tree predicate Proofs/LatexTotal.lean proves of parsed documents implies C08's "no HtmlBlock / HtmlSpan token" -/
theorem supportedBlocks_noHtml : ∀ (bs : List Mistletoe.Block), Latex.supportedBlocks bs = true → noHtmlBlocks bs = true
  | [], _ => rfl
  | b :: bs, h => by
    simp only [Latex.supportedBlocks, Bool.and_eq_true] at h
    simp only [noHtmlBlocks, Bool.and_eq_true]
    exact ⟨supportedBlock_noHtml b h.1, supportedBlocks_noHtml bs h.2⟩
end

end Mistletoe.HtmlEndToEnd

namespace Mistletoe.NoRaw
open Mistletoe Mistletoe.Pred Mistletoe.Block Mistletoe.Inline Mistletoe.Range

/-! ## The general statement: no HtmlSpan class, no HtmlBlock class ⇒ no such token at any depth

  Only `HtmlSpan` is required absent from the span list and only `HtmlBlock` from the block list (BlankLine,
  LinkReferenceDefinitionBlock, GithubWiki, Math, the XWiki macro tokens may be installed). -/

section
variable {C : STok → Prop}

mutual
theorem noHtmlInline_of_in (hC : ¬ C .htmlSpan) :
    ∀ (i : Inline), InlineIn C i → noHtmlInline i = true
  | .rawText _, _ => rfl
  | .strong _ k, h => noHtmlInlines_of_in hC k h.2
  | .emphasis _ k, h => noHtmlInlines_of_in hC k h.2
  | .inlineCode .., _ => rfl
  | .strikethrough k, h => noHtmlInlines_of_in hC k h.2
  | .image .., _ => rfl
  | .link _ _ _ _ _ k, h => noHtmlInlines_of_in hC k h.2
  | .autoLink .., _ => rfl
  | .escapeSequence _, _ => rfl
  | .lineBreak .., _ => rfl
  | .htmlSpan _, h => (hC h).elim
  | .math _, _ => rfl
  | .githubWiki _ k, h => noHtmlInlines_of_in hC k h.2
  | .xwikiMacroStart _, _ => rfl
  | .xwikiMacroEnd _, _ => rfl
  | .linkRefDef .., _ => rfl
theorem noHtmlInlines_of_in (hC : ¬ C .htmlSpan) :
    ∀ (k : List Inline), InlinesIn C k → noHtmlInlines k = true
  | [], _ => rfl
  | i :: is, h => by
    simp only [noHtmlInlines, Bool.and_eq_true]
    exact ⟨noHtmlInline_of_in hC i h.1, noHtmlInlines_of_in hC is h.2⟩
end
end

section
variable {K : BTok → Prop} {I : List Inline → Prop}

mutual
theorem noHtmlBlock_of_in (hK : ¬ K .htmlBlock) (hI : ∀ k, I k → noHtmlInlines k = true) :
    ∀ (b : Mistletoe.Block), BlockIn K I b → noHtmlBlock b = true
  | .paragraph k _, h => hI k h
  | .heading _ _ k _, h => hI k h
  | .setextHeading _ _ k _, h => hI k h
  | .quote kids _, h => noHtmlBlocks_of_in hK hI kids h
  | .blockCode .., _ => rfl
  | .codeFence .., _ => rfl
  | .list _ _ items _, h => noHtmlBlocks_of_in hK hI items h
  | .listItem _ _ _ _ kids _, h => noHtmlBlocks_of_in hK hI kids h
  | .table _ header rows _, h => by
    simp only [noHtmlBlock, Bool.and_eq_true]
    exact ⟨noHtmlBlocks_of_in hK hI header (rowsIn_blocksIn h.2.2.1), noHtmlBlocks_of_in hK hI rows (rowsIn_blocksIn h.2.2.2)⟩
  | .tableRow _ cells _, h => noHtmlBlocks_of_in hK hI cells (cellsIn_blocksIn h)
  | .tableCell _ k _, h => hI k h.2
  | .thematicBreak .., _ => rfl
  | .htmlBlock .., h => (hK h).elim
  | .blankLine _, _ => rfl
  | .linkRefDefBlock .., _ => rfl
theorem noHtmlBlocks_of_in (hK : ¬ K .htmlBlock) (hI : ∀ k, I k → noHtmlInlines k = true) :
    ∀ (bs : List Mistletoe.Block), BlocksIn K I bs → noHtmlBlocks bs = true
  | [], _ => rfl
  | b :: bs, h => by
    simp only [noHtmlBlocks, Bool.and_eq_true]
    exact ⟨noHtmlBlock_of_in hK hI b h.1, noHtmlBlocks_of_in hK hI bs h.2⟩
end
end

/-- **every document parsed under token lists that contain neither HtmlBlock nor HtmlSpan holds no
    HtmlBlock and no HtmlSpan token, at any depth** — for every such configuration (whatever else is
    installed), every text and every gas -/
theorem parse_noHtml_general (cfg : Document.Cfg) (hhb : .htmlBlock ∉ cfg.block.types) (hsp : .htmlSpan ∉ cfg.span)
    (gas : Nat) (t : Str) (d : Doc) (h : Document.parse cfg gas t = .ok d) : noHtmlBlocks d.kids = true :=
  noHtmlBlocks_of_in hhb (fun _ => noHtmlInlines_of_in hsp _) _ (parse_in cfg gas t d h)

/-! The same, stage by stage: statements of their own, which nothing below uses. -/

theorem build_nohtml (s : Str) (found : List Found) (hf : ∀ f ∈ found, f.cls ≠ .htmlSpan) :
    ∀ (o : Span.Out), noHtmlInline (build s found o) = true :=
  fun o => noHtmlInline_of_in (C := (· ≠ .htmlSpan)) (fun h => h rfl) _ (build_in s found hf o)

mutual
/-- no HtmlBlock entry, at any nesting depth -/
def EntryNH : Entry → Prop
  | .blockCode _ _ _ => True
  | .heading _ _ _ _ _ => True
  | .quote inner _ _ _ => EntriesNH inner
  | .codeFence _ _ _ _ _ _ _ => True
  | .thematicBreak _ _ _ => True
  | .list items _ _ => ItemsNH items
  | .table _ _ _ _ => True
  | .footnote _ _ _ => True
  | .linkRefDefs _ _ _ => True
  | .paragraph _ _ _ => True
  | .setext _ _ _ => True
  | .htmlBlock _ _ _ => False
  | .blankLine _ _ => True
def EntriesNH : List Entry → Prop
  | [] => True
  | e :: es => EntryNH e ∧ EntriesNH es
def ItemNH : Item → Prop
  | .mk inner _ _ _ _ _ _ => EntriesNH inner
def ItemsNH : List Item → Prop
  | [] => True
  | i :: is => ItemNH i ∧ ItemsNH is
end

mutual
theorem entryNH_in : ∀ (e : Entry), EntryNH e → EntryIn (· ≠ .htmlBlock) e
  | .blockCode _ _ _, _ => trivial
  | .heading _ _ _ _ _, _ => trivial
  | .quote inner _ _ _, h => entriesNH_in inner h
  | .codeFence _ _ _ _ _ _ _, _ => trivial
  | .thematicBreak _ _ _, _ => trivial
  | .list items _ _, h => itemsNH_in items h
  | .table _ _ _ _, _ => trivial
  | .footnote _ _ _, _ => trivial
  | .linkRefDefs _ _ _, _ => nofun
  | .paragraph _ _ _, _ => trivial
  | .setext _ _ _, _ => trivial
  | .htmlBlock _ _ _, h => h.elim
  | .blankLine _ _, _ => nofun
theorem entriesNH_in : ∀ (es : List Entry), EntriesNH es → EntriesIn (· ≠ .htmlBlock) es
  | [], _ => trivial
  | e :: es, h => ⟨entryNH_in e h.1, entriesNH_in es h.2⟩
theorem itemsNH_in : ∀ (is : List Item), ItemsNH is → ItemsIn (· ≠ .htmlBlock) is
  | [], _ => trivial
  | .mk inner _ _ _ _ _ _ :: is, h => ⟨entriesNH_in inner h.1, itemsNH_in is h.2⟩
end

/-- the hypothesis on the inline phase -/
def InlNH (cfg : Document.Cfg) (fn : Footnotes.Table) : Prop :=
  ∀ (s : Str) (ks : List Inline), Document.inl cfg fn s = .ok ks → noHtmlInlines ks = true

theorem mkBlock_nh (cfg : Document.Cfg) (fn : Footnotes.Table) (hinl : InlNH cfg fn) :
    ∀ (e : Entry), EntryNH e → ∀ (b : Mistletoe.Block), Document.mkBlock cfg fn e = .ok (some b) → noHtmlBlock b = true :=
  fun e he b h => noHtmlBlock_of_in (fun h => h rfl) (fun _ h => h) b (mkBlock_in hinl e (entryNH_in e he) b h)

theorem mkItems_nh (cfg : Document.Cfg) (fn : Footnotes.Table) (hinl : InlNH cfg fn) :
    ∀ (is : List Item), ItemsNH is → ∀ (bs : List Mistletoe.Block), Document.mkItems cfg fn is = .ok bs →
      noHtmlBlocks bs = true :=
  fun is hi bs h => noHtmlBlocks_of_in (fun h => h rfl) (fun _ h => h) bs (mkItems_in hinl is (itemsNH_in is hi) bs h)

end Mistletoe.NoRaw

namespace Mistletoe.Props.C08
open Mistletoe Mistletoe.Block Mistletoe.HtmlEndToEnd

/-- the lists of `Config.htmlNoRaw` satisfy the hypotheses of the general theorems -/
theorem htmlNoRaw_no_html_classes (cfg : Document.Cfg) (hc : Config.htmlNoRaw = some cfg) :
    BTok.htmlBlock ∉ cfg.block.types ∧ Inline.STok.htmlSpan ∉ cfg.span := by
  cases Option.some.inj (hc.symm.trans Config.htmlNoRaw_eq)
  exact ⟨by decide, by decide⟩

end Mistletoe.Props.C08

namespace Mistletoe.Props.C08
open Mistletoe Mistletoe.Html Mistletoe.Pred Mistletoe.Escape Mistletoe.Block Mistletoe.Lines Mistletoe.HtmlEndToEnd

/-- **(b) Every parsed document renders to well-formed HTML** — for every configuration (token lists, flags),
    every gas, every text and every option set; no hypothesis on the tree.  The conclusion is that of
    `C08_with_raw`: the output string is the spelling of an event list that is properly nested, uses only the
    renderer's fixed tag vocabulary and attribute names, has attribute values without `"`, `<`, `>` and text
    with `<`, `>`, `&` only in escaped form; the only verbatim leaves are the contents of the document's
    HtmlBlock / HtmlSpan tokens, in order. -/
theorem C08_parsed_wellformed (o : Opts) (cfg : Document.Cfg) (gas : Nat) (t : Str) (d : Doc)
    (h : Document.parse cfg gas t = .ok d) :
    render o d = flat (renderDoc o.q d) ∧ WellFormed (renderDoc o.q d)
    ∧ rawsOf (renderDoc o.q d) = (if (renderDoc o.q d).isEmpty then [] else htmlOfL d.kids) :=
  C08_with_raw o d (parse_levelsOks cfg gas t d h)

/-- **(c) `HtmlRenderer(**opts).render(Document(text))`, for every text**: with the token lists the HTML
    renderer installs (regenerated from /repo) and enough gas the parse returns a document `d`, the rendering
    is `render o d`, and it is well-formed HTML (raw HTML leaves set aside). -/
theorem C08_every_text (o : Opts) (cfg : Document.Cfg) (hc : Config.html = some cfg) (gas : Nat) (t : Str)
    (hg : gasBound cfg.block (docBuf (normalize (.str t))) ≤ gas) :
    ∃ d, Document.parse cfg gas t = .ok d ∧ Config.renderHtml o gas t = some (render o d) ∧
      render o d = flat (renderDoc o.q d) ∧ WellFormed (renderDoc o.q d)
      ∧ rawsOf (renderDoc o.q d) = (if (renderDoc o.q d).isEmpty then [] else htmlOfL d.kids) := by
  obtain ⟨d, hd⟩ := Props.C01.C01_parse_terminates cfg gas t hg
  exact ⟨d, hd, Pipeline.renderHtml_of_parse hc o hd, C08_parsed_wellformed o cfg gas t d hd⟩

/-- **(d, general) raw-HTML processing disabled, any token lists**: for EVERY configuration whose block list
    does not contain `HtmlBlock` and whose span list does not contain `HtmlSpan` (whatever else is installed:
    `HtmlRenderer(process_html_tokens=False)`, also with extra tokens passed to the constructor), every parsed
    document has no such token at any depth and renders to the renderer's own tags and escaped text only. -/
theorem C08_parsed_no_raw_general (o : Opts) (cfg : Document.Cfg)
    (hhb : BTok.htmlBlock ∉ cfg.block.types) (hsp : Inline.STok.htmlSpan ∉ cfg.span)
    (gas : Nat) (t : Str) (d : Doc) (h : Document.parse cfg gas t = .ok d) :
    noHtmlBlocks d.kids = true ∧ WellFormed (renderDoc o.q d) ∧ ∀ e ∈ renderDoc o.q d, isRaw e = false := by
  have hn := NoRaw.parse_noHtml_general cfg hhb hsp gas t d h
  exact ⟨hn, C08_no_raw o d (parse_levelsOks cfg gas t d h) hn⟩

/-- the same with termination: for every text the parse returns and the output is tags and escaped text only -/
theorem C08_every_text_no_raw_general (o : Opts) (cfg : Document.Cfg)
    (hhb : BTok.htmlBlock ∉ cfg.block.types) (hsp : Inline.STok.htmlSpan ∉ cfg.span) (gas : Nat) (t : Str)
    (hg : gasBound cfg.block (docBuf (normalize (.str t))) ≤ gas) :
    ∃ d, Document.parse cfg gas t = .ok d ∧ render o d = flat (renderDoc o.q d) ∧
      WellFormed (renderDoc o.q d) ∧ ∀ e ∈ renderDoc o.q d, isRaw e = false := by
  obtain ⟨d, hd⟩ := Props.C01.C01_parse_terminates cfg gas t hg
  exact ⟨d, hd, rfl, (C08_parsed_no_raw_general o cfg hhb hsp gas t d hd).2⟩

/-- **(d) a document parsed with raw-HTML processing disabled** (the configuration
    `HtmlRenderer(process_html_tokens=False)` installs: the general theorem at its lists) has no HtmlBlock / HtmlSpan
    token, and its rendering consists solely of the renderer's own tags and escaped text: no verbatim leaf at all. -/
theorem C08_parsed_no_raw (o : Opts) (cfg : Document.Cfg) (hc : Config.htmlNoRaw = some cfg) (gas : Nat) (t : Str) (d : Doc)
    (h : Document.parse cfg gas t = .ok d) :
    noHtmlBlocks d.kids = true ∧ WellFormed (renderDoc o.q d) ∧ ∀ e ∈ renderDoc o.q d, isRaw e = false :=
  have hk := htmlNoRaw_no_html_classes cfg hc
  C08_parsed_no_raw_general o cfg hk.1 hk.2 gas t d h

/-- **(d) `HtmlRenderer(process_html_tokens=False, **opts).render(Document(text))`, for every text**: the
    parse returns, and the output is the spelling of a properly nested event list made only of tags of the
    fixed vocabulary (safe attribute values) and escaped text. -/
theorem C08_every_text_no_raw (o : Opts) (cfg : Document.Cfg) (hc : Config.htmlNoRaw = some cfg) (gas : Nat) (t : Str)
    (hg : gasBound cfg.block (docBuf (normalize (.str t))) ≤ gas) :
    ∃ d, Document.parse cfg gas t = .ok d ∧ Config.renderHtmlNoRaw o gas t = some (flat (renderDoc o.q d)) ∧
      WellFormed (renderDoc o.q d) ∧ ∀ e ∈ renderDoc o.q d, isRaw e = false := by
  have hk := htmlNoRaw_no_html_classes cfg hc
  obtain ⟨d, hd, _, h⟩ := C08_every_text_no_raw_general o cfg hk.1 hk.2 gas t hg
  exact ⟨d, hd, by rw [Config.renderHtmlNoRaw, hc]; simp only [hd, render], h⟩

/-! ### Non-vacuity -/

/-- the configuration exists: the regenerated lists are known to the model -/
example : Config.htmlNoRaw.isSome = true := by rw [Config.htmlNoRaw_eq]; rfl

/-- an output string is compared as a character list, so that `decide_lit` reaches its literal -/
theorem map_ofList_eq_some {o : Option Str} {s : String} (h : o = some s.toList) : o.map String.ofList = some s := by
  rw [h, Option.map_some, String.ofList_toList]

/-- a hostile text: an image destination that tries to close its attribute, a raw tag, `&`, quotes -/
def hostileText : Str := "![a](x\"onerror=\"alert(1)) <b> & \"q\"".toList

/-- with raw HTML processed (the default): the output of the real code
    (`mistletoe.markdown('![a](x"onerror="alert(1)) <b> & "q"')`); `<b>` is an HtmlSpan, kept verbatim -/
example : (Config.renderHtml {} 40 hostileText).map String.ofList =
    some "<p><img src=\"x%22onerror=%22alert(1)\" alt=\"a\" /> <b> &amp; \"q\"</p>\n" :=
  map_ofList_eq_some (Config.renderHtml_of (by unfold hostileText; decide_lit))

/-- with `process_html_tokens=False` (real code: `HtmlRenderer(process_html_tokens=False).render(Document(…))`):
    nothing of the text is markup any more -/
example : (Config.renderHtmlNoRaw {} 40 hostileText).map String.ofList =
    some "<p><img src=\"x%22onerror=%22alert(1)\" alt=\"a\" /> &lt;b&gt; &amp; \"q\"</p>\n" := by
  apply map_ofList_eq_some
  unfold hostileText
  decide_lit

/-- the events of the parsed hostile text under either configuration: checked with the executable
    counterparts of `WellFormed` (`balancedB`, `evOk`); one raw leaf with raw HTML on, none with it off -/
def evsOf (c : Option Document.Cfg) (t : Str) : List Ev :=
  match c with
  | none => []
  | some cfg => match Document.parse cfg 40 t with
    | .ok d => renderDoc ⟨false, false⟩ d
    | .err _ => []

example : balancedB (evsOf Config.html hostileText) [] = true ∧ (evsOf Config.html hostileText).all evOk = true ∧
    rawsOf (evsOf Config.html hostileText) = ["<b>".toList] := by rw [Config.html_eq]; unfold hostileText; decide_lit
example : balancedB (evsOf Config.htmlNoRaw hostileText) [] = true ∧ (evsOf Config.htmlNoRaw hostileText).all evOk = true ∧
    (evsOf Config.htmlNoRaw hostileText).any isRaw = false ∧ (evsOf Config.htmlNoRaw hostileText).isEmpty = false := by
  rw [Config.htmlNoRaw_eq]; unfold hostileText; decide_lit

/-- the theorems applied: configuration known, gas bound satisfiable -/
example : ∃ d, Document.parse (Config.html.get (by decide +kernel)) 4000 hostileText = .ok d ∧
    Config.renderHtml {} 4000 hostileText = some (render {} d) ∧
    render {} d = flat (renderDoc (Opts.q {}) d) ∧ WellFormed (renderDoc (Opts.q {}) d)
    ∧ rawsOf (renderDoc (Opts.q {}) d) = (if (renderDoc (Opts.q {}) d).isEmpty then [] else htmlOfL d.kids) :=
  C08_every_text {} (Config.html.get (by decide +kernel)) (Option.some_get _).symm 4000 _ (by unfold hostileText; decide_lit)

example : ∃ d, Document.parse (Config.htmlNoRaw.get (by decide +kernel)) 4000 hostileText = .ok d ∧
    Config.renderHtmlNoRaw {} 4000 hostileText = some (flat (renderDoc (Opts.q {}) d)) ∧
    WellFormed (renderDoc (Opts.q {}) d) ∧ ∀ e ∈ renderDoc (Opts.q {}) d, isRaw e = false :=
  C08_every_text_no_raw {} (Config.htmlNoRaw.get (by decide +kernel)) (Option.some_get _).symm 4000 _ (by unfold hostileText; decide_lit)

/-- a configuration other than `Config.htmlNoRaw` that the general theorem covers: BlankLine, GithubWiki and Math installed,
    HtmlBlock / HtmlSpan not -/
def cfgWikiNoRaw : Document.Cfg :=
  { block := { types := [.blankLine, .blockCode, .heading, .quote, .codeFence, .thematicBreak, .list, .table, .footnote, .paragraph] },
    span := [.escapeSequence, .githubWiki, .math, .strikethrough, .autoLink, .coreTokens, .inlineCode, .lineBreak] }

example : ∃ d, Document.parse cfgWikiNoRaw 4000 hostileText = .ok d ∧ render {} d = flat (renderDoc (Opts.q {}) d) ∧
    WellFormed (renderDoc (Opts.q {}) d) ∧ ∀ e ∈ renderDoc (Opts.q {}) d, isRaw e = false :=
  C08_every_text_no_raw_general {} cfgWikiNoRaw (by decide) (by decide) 4000 _ (by unfold hostileText; decide_lit)

/-- `levelsOks` is what `shapeOk` is needed for: a level-7 heading (no parse produces it) is outside C08 -/
example : levelsOks [.heading 7 [] [] 1] = false ∧ Doc.shapeOk ⟨[.heading 7 [] [] 1], []⟩ = false := by decide

end Mistletoe.Props.C08

section Audit
open Mistletoe.Props.C08 Mistletoe.HtmlEndToEnd
#print axioms shapeOk_levelsOks
#print axioms C08_parsed_wellformed
#print axioms C08_every_text
#print axioms C08_parsed_no_raw
#print axioms C08_every_text_no_raw
#print axioms C08_parsed_no_raw_general
#print axioms C08_every_text_no_raw_general
end Audit
