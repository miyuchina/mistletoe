/-
  C09 (Markdown round trip) for the blocks `Blk2`: prose paragraphs, ATX headings, thematic breaks (`Blk`,
  `Proofs/MdRoundBlocks.lean`) and CODE BLOCKS in the renderer's normal form:

  * fenced code block `Blk2.fence d info body`: opening line `d ++ info ++ "\n"` at indentation 0 (`d` = three or
    more backticks or tildes; `info` reproduced verbatim — `render_fenced_code_block` writes
    `indentation + delimiter + info_string`), the content lines, the closing line `d ++ "\n"`;
  * indented code block `Blk2.icode lines`: four spaces + non-blank text on every line, no blank line inside.

  Per kind one record of what the document chain needs (`fence_laws`, `icode_laws`: one step of the block loop under the
  Markdown renderer's token list in every parser state, constructor, renderer, text), collected for the blocks of the
  fragment by `blk2_laws`; the chain for a document of blocks, at the top level (tabs allowed) and inside `k` block
  quotes (tab-free), is `MdRoundDoc.doc_roundtrip` at `frag2`.  The theorems from the `str` under `Config.markdown`:
  `Props/C09_Code.lean`.

  The lemmas about the readers are stated in the generality the C03 trees need (`Proofs/ComposeCode.lean`,
  `Proofs/ComposeTable.lean`) and used here at indentation 0: the opening line of a fence behind 0-3 spaces
  (`ComposeC.codeFenceStart_line`), `CodeFence.read` with the dedenting of content lines (`ComposeC.dedent`, `fence_piece`,
  `readCodeFence_block`), `BlockCode.read` on indented lines with whitespace-only lines among them (`ComposeT.codePiece`,
  `ComposeT.readBlockCode_run`), and each kind as one round of the block loop, a `Block.Step` over the written lines under any
  list of token types in which the kind's type is the first that opens on its first line (`ComposeC.fence_step`,
  `ComposeT.icode_step`): `fence_laws` / `icode_laws` here and the open nodes of the C03 trees are their instances.
-/
import Mistletoe.Proofs.MdRoundDoc
import Mistletoe.Proofs.Lit
namespace Mistletoe.MdRound
open Mistletoe Mistletoe.Py Mistletoe.Scan Mistletoe.Block Mistletoe.Wrap Mistletoe.Markdown Mistletoe.InertInline Mistletoe.MdRoundDoc
open Mistletoe.Props.C14 (inertLine markdownTypes numbered numbered_cons numbered_append numbered_length numbered_s numbered_mem)

def fenceCh (c : Char) : Prop := c = '`' ∨ c = '~'

theorem fenceCh_ne (c : Char) (hc : fenceCh c) : c ≠ ' ' ∧ c ≠ '\t' ∧ c ≠ '\n' ∧ c ≠ '#' ∧ c ≠ '>' ∧ pyIsSpace c = false := by
  rcases hc with rfl | rfl <;> decide

/-- `(\S*)` after ` *` in the info string -/
def fenceLang (info : Str) : Str := (span (fun c => !ws c) (span (· == ' ') info).2).1

structure FenceOk (c : Char) (d info : Str) : Prop where
  ch : fenceCh c
  rep : d = List.replicate d.length c
  len : 3 ≤ d.length
  nonl : '\n' ∉ info
  nohead : info.head? ≠ some c
  notick : c = '`' → '`' ∉ info

theorem FenceOk.cons {c : Char} {d info : Str} (h : FenceOk c d info) : ∃ r, d = c :: r := by
  have := h.len
  cases hd : d with
  | nil => rw [hd] at this; simp at this
  | cons x r =>
    have e := h.rep
    rw [hd] at e
    simp only [List.length_cons, List.replicate_succ, List.cons.injEq] at e
    exact ⟨r, by rw [e.1]⟩

theorem FenceOk.chars {c : Char} {d info : Str} (h : FenceOk c d info) : ∀ x ∈ d, isLineSep x = false ∧ x ≠ '\t' := by
  intro x hx
  rw [h.rep] at hx
  rw [(List.mem_replicate.mp hx).2]
  rcases h.ch with e | e <;> rw [e] <;> decide

/-- the test `CodeFence.read` makes on every line after the opening one: is it a closing fence for the
    opening fence string `d`? -/
def closes (d l : Str) : Bool :=
  startsWith d (lstripSp l) && (Py.rstripSet [' ', '\t', '\n'] (lstripSp l)).all (fun x => some x == d.head?) &&
    decide (l.length - (lstripSp l).length < 4)

theorem lstripSp_cons (c : Char) (r : Str) : lstripSp (c :: r) = if c = ' ' then lstripSp r else c :: r := by
  by_cases h : c = ' '
  · subst h; simp [lstripSp]
  · rw [if_neg h]
    unfold lstripSp
    split
    · rename_i heq; simp only [List.cons.injEq] at heq; exact absurd heq.1 h
    · rfl

theorem lstripSp_len : ∀ (l : Str), (lstripSp l).length ≤ l.length
  | [] => by simp [lstripSp]
  | c :: r => by
    rw [lstripSp_cons]
    split
    · have := lstripSp_len r; simp; omega
    · simp

/-- `' ' * diff + stripped_line` is the line -/
theorem lstripSp_pad : ∀ (l : Str), List.replicate (l.length - (lstripSp l).length) ' ' ++ lstripSp l = l
  | [] => by simp [lstripSp]
  | c :: r => by
    rw [lstripSp_cons]
    split
    · rename_i h
      subst h
      have h1 := lstripSp_len r
      have e : (' ' :: r).length - (lstripSp r).length = (r.length - (lstripSp r).length) + 1 := by
        simp only [List.length_cons]; omega
      rw [e, List.replicate_succ, List.cons_append, lstripSp_pad r]
    · simp

theorem closes_self (c : Char) (d info : Str) (h : FenceOk c d info) : closes d (d ++ ['\n']) = true := by
  obtain ⟨r, hr⟩ := h.cons
  have h1 := (fenceCh_ne c h.ch).1
  have hcs : ([' ', '\t', '\n'].contains c) = false := by rcases h.ch with e | e <;> rw [e] <;> decide
  have hl : lstripSp (d ++ ['\n']) = d ++ ['\n'] := by rw [hr, List.cons_append, lstripSp_cons, if_neg h1]
  have hrev : d.reverse = List.replicate d.length c := by
    conv => lhs; rw [h.rep]
    simp
  have hlen : d.length = r.length + 1 := by rw [hr]; simp
  have hrs : Py.rstripSet [' ', '\t', '\n'] (d ++ ['\n']) = d := by
    unfold Py.rstripSet
    rw [List.reverse_append, List.reverse_singleton, List.singleton_append, List.dropWhile_cons]
    rw [if_pos (by decide), hrev, hlen, List.replicate_succ, List.dropWhile_cons, hcs]
    simp only [Bool.false_eq_true, if_false]
    rw [← List.replicate_succ, ← hlen, ← hrev, List.reverse_reverse]
  have hall : d.all (fun x => some x == d.head?) = true := by
    rw [hr]
    simp only [List.head?_cons]
    rw [← hr, h.rep]
    simp
  simp only [closes, hl, hrs, hall, startsWith]
  simp

/-- the gas that reaches the first type with `p` is less than the length of the list -/
theorem findIdx_succ_le {p : BTok → Bool} {ts : List BTok} {x : BTok} (h : ts.find? p = some x) : ts.findIdx p + 1 ≤ ts.length :=
  List.findIdx_lt_length_of_exists ⟨x, List.mem_of_find?_eq_some h, List.find?_some h⟩

theorem numbered_map_s (k : Nat) (ls : List Str) (f : Str → Str) :
    (numbered k ls).map (fun x => f x.s) = ls.map f := by
  have := congrArg (List.map f) (numbered_s k ls)
  simpa [List.map_map, Function.comp_def] using this

end Mistletoe.MdRound

namespace Mistletoe.ComposeC
open Mistletoe Mistletoe.Py Mistletoe.Scan Mistletoe.Block
open Mistletoe.Props.C14 (numbered numbered_cons numbered_append numbered_mem)
open Mistletoe.MdRound (fenceCh fenceCh_ne fenceLang closes lstripSp_cons lstripSp_len lstripSp_pad numbered_map_s)

def sp (n : Nat) : Str := List.replicate n ' '

abbrev FenceOk := Mistletoe.MdRound.FenceOk

theorem codeFence_line (n : Nat) (hn : n < 4) (c : Char) (d info : Str) (h : FenceOk c d info) :
    Scan.codeFence (sp n ++ d ++ info ++ ['\n']) = some { prepend := n, leader := d, info := info, lang := fenceLang info } := by
  obtain ⟨r, hr⟩ := h.cons
  have hc := h.ch
  obtain ⟨h1, _, hnl, _⟩ := fenceCh_ne c hc
  have hup : upTo3Spaces (sp n ++ d ++ info ++ ['\n']) = some (n, d ++ info ++ ['\n']) := by
    rw [hr]
    have := upTo3_rep n c (r ++ info ++ ['\n']) h1 hn
    simpa [sp] using this
  have hs := MdRound.span_replicate c d.length (info ++ ['\n']) (by
    cases hi : info with
    | nil => simpa using Ne.symm hnl
    | cons y t => simpa [hi] using h.nohead)
  rw [← h.rep] at hs
  have hs2 := span_neNl info [] h.nonl
  unfold Scan.codeFence
  rw [hup]
  simp only [List.append_assoc] at hs ⊢
  rw [hr] at hs ⊢
  simp only [List.cons_append] at hs ⊢
  have hcc : (c != '`' && c != '~') = false := by rcases hc with e | e <;> rw [e] <;> decide
  simp only [hcc, Bool.false_eq_true, if_false, hs, hs2]
  have hl := h.len
  rw [hr] at hl
  have : ¬ ((c :: r).length < 3) := by omega
  simp only [this, if_false, fenceLang]

theorem codeFenceStart_line (n : Nat) (hn : n < 4) (c : Char) (d info : Str) (h : FenceOk c d info) :
    codeFenceStart (sp n ++ d ++ info ++ ['\n']) = some { prepend := n, leader := d, info := info, lang := fenceLang info } := by
  unfold codeFenceStart
  rw [codeFence_line n hn c d info h]
  simp only
  obtain ⟨r, hr⟩ := h.cons
  by_cases hc : c = '`'
  · have hn := h.notick hc
    simp [hn]
  · have : (d.head? == some '`') = false := by rw [hr]; simpa using hc
    simp [this]

/-- a content line of a fence whose opening line is indented by `n` spaces: up to `n` leading spaces are removed -/
def dedent : Nat → Str → Str
  | n + 1, ' ' :: r => dedent n r
  | _, s => s

theorem dedent_zero (s : Str) : dedent 0 s = s := by cases s <;> rfl

/-- the piece `CodeFence.read` appends for a content line is the dedented line -/
theorem fence_piece : ∀ (l : Str) (p : Nat),
    (if l.length - (lstripSp l).length > p then List.replicate (l.length - (lstripSp l).length - p) ' ' ++ lstripSp l
      else lstripSp l) = dedent p l
  | [], p => by cases p <;> simp [lstripSp, dedent]
  | c :: r, p => by
    by_cases hc : c = ' '
    · subst hc
      have hlen := lstripSp_len r
      have hl : lstripSp (' ' :: r) = lstripSp r := by simp [lstripSp]
      have e : (' ' :: r).length - (lstripSp r).length = (r.length - (lstripSp r).length) + 1 := by
        simp only [List.length_cons]; omega
      rw [hl, e]
      cases p with
      | zero =>
        have := lstripSp_pad r
        simp only [Nat.zero_lt_succ, if_true, Nat.sub_zero, List.replicate_succ, List.cons_append, this, dedent]
      | succ p' =>
        have ih := fence_piece r p'
        simp only [dedent]
        rw [← ih]
        have e2 : r.length - (lstripSp r).length + 1 - (p' + 1) = r.length - (lstripSp r).length - p' := by omega
        rw [e2]
        by_cases hh : r.length - (lstripSp r).length > p'
        · rw [if_pos hh, if_pos (by omega)]
        · rw [if_neg hh, if_neg (by omega)]
    · have hl : lstripSp (c :: r) = c :: r := by rw [lstripSp_cons, if_neg hc]
      rw [hl]
      have : dedent p (c :: r) = c :: r := by
        cases p with
        | zero => rfl
        | succ p' => unfold dedent; split <;> simp_all
      rw [this]
      simp

theorem fenceStep_eq (d : Str) (p : Nat) (s : Str) (buf : List Str) :
    fenceStep d p s buf = if closes d s = true then .take buf else .go (dedent p s :: buf) := by
  simp only [fenceStep, fence_piece, closes]
  rfl

theorem codeFenceLoop_body (d : Str) (p : Nat) (cl : Line) (hcl : closes d cl.s = true) (post : List Line) (start : Nat)
    (body pre : List Line) (buf : List Str) (fuel : Nat) (hb : ∀ x ∈ body, closes d x.s = false) (hf : body.length + 1 ≤ fuel) :
    codeFenceLoop d p fuel ⟨pre ++ (body ++ cl :: post), pre.length, start⟩ buf =
      ((body.map (fun x => dedent p x.s)).reverse ++ buf, ⟨(pre ++ (body ++ [cl])) ++ post, (pre ++ (body ++ [cl])).length, start⟩) := by
  obtain ⟨f, rfl⟩ : ∃ f, fuel = (f + 1) + body.length := ⟨fuel - body.length - 1, by omega⟩
  rw [codeFenceLoop_eq, loop_go (fenceStep d p) (fun s buf => dedent p s :: buf) (cl :: post) start body pre buf (f + 1)
    (fun x hx s => by rw [fenceStep_eq, hb x hx]; rfl), foldl_cons_map]
  simp only [loop, peek_at, fenceStep_eq, hcl, if_true, FW.next_at]
  simp

theorem readCodeFence_block (d info lang : Str) (p : Nat) (l cl : Line) (hcl : closes d cl.s = true) (body pre post : List Line)
    (hb : ∀ x ∈ body, closes d x.s = false) (start : Nat) :
    readCodeFence ⟨pre ++ l :: (body ++ cl :: post), pre.length, start⟩ { prepend := p, leader := d, info := info, lang := lang } =
      (body.map (fun x => dedent p x.s), ⟨(pre ++ l :: (body ++ [cl])) ++ post, (pre ++ l :: (body ++ [cl])).length, start⟩) := by
  unfold readCodeFence
  simp only [FW.next_at]
  rw [codeFenceLoop_body d p cl hcl post start body (pre ++ [l]) [] _ hb (by simp [FW.remaining]; omega)]
  simp

/-- a fenced code block as one round of the loop, under every list of types in which `CodeFence` is the first that opens on
    the fence character: `read` consumes the content lines and the closing line, whatever follows -/
theorem fence_step (cfg : Cfg) (c : Char) (hf : cfg.types.find? (opens · c) = some .codeFence) (n : Nat) (hn : n < 4)
    (d info : Str) (h : FenceOk c d info) (body : List Str) (close : Str) (hcl : closes d close = true)
    (hb : ∀ x ∈ body, closes d x = false) (k : Nat) (st : St) :
    Step cfg (cfg.types.findIdx (opens · c) + 1) (fun _ => True) (numbered k ((sp n ++ d ++ info ++ ['\n']) :: (body ++ [close])))
      (fun ln => [.codeFence (body.map (dedent n)) n d info (fenceLang info) ln (k + 1)]) 1 st st false := by
  refine Step.one fun pre post start g acc loose _ hg => ?_
  obtain ⟨r, hr⟩ := h.cons
  have hcf := codeFenceStart_line n hn c d info h
  have hs : sp n ++ d ++ info ++ ['\n'] = List.replicate n ' ' ++ c :: (r ++ info ++ ['\n']) := by rw [hr]; simp [sp]
  generalize sp n ++ d ++ info ++ ['\n'] = op at hcf hs ⊢
  have e : numbered k (op :: (body ++ [close])) =
      { s := op, origin := k + 1 } :: (numbered (k + 1) body ++ [{ s := close, origin := k + 1 + body.length + 1 }]) := by
    simp only [numbered_cons, numbered_append]
    rfl
  have hrd := readCodeFence_block d info (fenceLang info) n { s := op, origin := k + 1 }
    { s := close, origin := k + 1 + body.length + 1 } hcl (numbered (k + 1) body) pre post (fun x hx => hb _ (numbered_mem _ _ _ hx)) start
  rw [numbered_map_s] at hrd
  rw [e]
  simp only [List.cons_append, List.append_assoc, List.nil_append] at hrd ⊢
  refine tokLoop_first_idx (peek_at ..) (fun _ => declines_first hs hn (fenceCh_ne c h.ch).2.2.2.2.2) (fun _ _ => ?_) hf
    (Nat.lt_of_succ_le hg) acc loose
  rw [tryTypes_hit_codeFence hcf, hrd]

end Mistletoe.ComposeC

namespace Mistletoe.MdRound
open Mistletoe Mistletoe.Py Mistletoe.Scan Mistletoe.Block Mistletoe.Wrap Mistletoe.Markdown Mistletoe.InertInline Mistletoe.MdRoundDoc
open Mistletoe.Props.C14 (inertLine markdownTypes numbered numbered_cons numbered_append numbered_length numbered_s numbered_mem)

abbrev ind4 (t : Str) : Str := ' ' :: ' ' :: ' ' :: ' ' :: t

theorem ind4_blockCodeStart (t : Str) (hnb : isBlank (ind4 t) = false) : blockCodeStart (ind4 t) = true := by
  simp [blockCodeStart, hnb, replaceTab1, replaceFirst, startsWith]

theorem ind4_strip (t : Str) : blockCodeStrip (ind4 t) 0 = t := by
  simp [blockCodeStrip]

theorem ind4_lstrip (t : Str) : lstrip (ind4 t) = lstrip t := by
  simp [lstrip, show pyIsSpace ' ' = true by decide]

theorem ind4_html (t : Str) : htmlBlockStart (ind4 t) = .ok none := by
  unfold htmlBlockStart
  simp only [ind4_lstrip]
  have := (Strip.lstrip_suffix t).length_le
  have hlen : (ind4 t).length - (lstrip t).length ≥ 4 := by simp only [List.length_cons]; omega
  simp only [hlen, if_true]

end Mistletoe.MdRound

namespace Mistletoe.ComposeT
open Mistletoe Mistletoe.Py Mistletoe.Scan Mistletoe.Block
open Mistletoe.Props.C14 (numbered numbered_cons numbered_mem numbered_s)
open Mistletoe.MdRound (ind4 ind4_blockCodeStart ind4_strip ind4_html CodeStop numbered_map_s)

/-- what `BlockCode.read` keeps of a line: a line with a visible character loses its first four columns; a line of
    whitespace loses four columns if it has five or more characters and all its spaces otherwise -/
def codePiece (l : Str) : Str := if isBlank l then (if l.length < 5 then lstripSp l else l.drop 4) else l.drop 4

/-- the count of trailing whitespace-only lines `BlockCode.read` keeps -/
def tbStep (tb : Nat) (l : Str) : Nat := if isBlank l then tb + 1 else 0

def CodeLine (l : Str) : Prop := isBlank l = true ∨ (isBlank l = false ∧ ∃ t, l = ind4 t)

theorem codeStep_line {l : Str} (h : CodeLine l) (st : List Str × Nat) :
    codeStep l st = .go (codePiece l :: st.1, tbStep st.2 l) := by
  rcases h with hb | ⟨hnb, t, ht⟩
  · simp [codeStep, codePiece, tbStep, hb]
  · have hs : blockCodeStart l = true := by rw [ht]; exact ind4_blockCodeStart t (by rw [← ht]; exact hnb)
    have hst : blockCodeStrip l 0 = codePiece l := by
      simp only [codePiece, hnb, Bool.false_eq_true, if_false]
      rw [ht, ind4_strip]; rfl
    simp [codeStep, tbStep, hnb, hs, hst]

theorem foldl_codeStep : ∀ (cs : List Line) (buf : List Str) (tb : Nat),
    cs.foldl (fun st x => (codePiece x.s :: st.1, tbStep st.2 x.s)) (buf, tb) =
      ((cs.map (fun x => codePiece x.s)).reverse ++ buf, (cs.map (·.s)).foldl tbStep tb)
  | [], _, _ => rfl
  | x :: cs, buf, tb => by simp [foldl_codeStep cs]

theorem blockCodeLoop_run (post : List Line) (start : Nat) (cs pre : List Line) (buf : List Str) (fuel tb : Nat)
    (h : ∀ x ∈ cs, CodeLine x.s) :
    blockCodeLoop (fuel + cs.length) ⟨pre ++ (cs ++ post), pre.length, start⟩ buf tb =
      blockCodeLoop fuel ⟨(pre ++ cs) ++ post, (pre ++ cs).length, start⟩ ((cs.map (fun x => codePiece x.s)).reverse ++ buf)
        ((cs.map (·.s)).foldl tbStep tb) := by
  rw [blockCodeLoop_eq, blockCodeLoop_eq, loop_go codeStep (fun l st => (codePiece l :: st.1, tbStep st.2 l)) post start cs pre
    (buf, tb) fuel (fun x hx st => codeStep_line (h x hx) st), foldl_codeStep]

/-- the loop at the end of the block: it stops at once, or takes the "\n" line and counts it as trailing -/
theorem blockCodeLoop_stop (pre post : List Line) (start : Nat) (buf : List Str) (hp : CodeStop post) (fuel : Nat)
    (hf : post.length < fuel) :
    ∃ x, blockCodeLoop fuel ⟨pre ++ post, pre.length, start⟩ buf 0 =
      (x ++ buf, x.length, ⟨pre ++ post, pre.length + x.length, start⟩) := by
  rcases hp with rfl | ⟨b, rest, rfl, hb, hx⟩
  · obtain ⟨f, rfl⟩ : ∃ f, fuel = f + 1 := ⟨fuel - 1, by omega⟩
    exact ⟨[], by simp [blockCodeLoop, peek_end]⟩
  · have hbb : isBlank b.s = true := by rw [hb]; decide
    obtain ⟨f, rfl⟩ : ∃ f, fuel = f + 1 + 1 := ⟨fuel - 2, by simp at hf; omega⟩
    refine ⟨[lstripSp b.s], ?_⟩
    cases rest with
    | nil =>
      simp only [blockCodeLoop, peek_at, hbb, if_true, FW.next_at]
      simp [FW.peek, hb]
    | cons x post' =>
      obtain ⟨hx1, hx2⟩ := hx x rfl
      simp only [blockCodeLoop, peek_at, hbb, if_true, FW.next_at]
      simp only [hx1, hx2, hb, Bool.false_eq_true, if_false, Bool.not_false, if_true]
      simp [FW.backstep]

theorem readBlockCode_run (cs pre post : List Line) (start : Nat) (h : ∀ x ∈ cs, CodeLine x.s) (hne : cs ≠ [])
    (hl : ∀ l, (cs.map (·.s)).getLast? = some l → isBlank l = false) (hp : CodeStop post) :
    readBlockCode ⟨pre ++ (cs ++ post), pre.length, start⟩ =
      (cs.map (fun x => codePiece x.s), ⟨(pre ++ cs) ++ post, (pre ++ cs).length, start⟩) := by
  have htb : (cs.map (·.s)).foldl tbStep 0 = 0 := by
    obtain ⟨cs', last, rfl⟩ : ∃ cs' last, cs = cs' ++ [last] := ⟨_, _, (List.dropLast_concat_getLast hne).symm⟩
    simp [List.foldl_append, tbStep, hl last.s (by simp)]
  have e : FW.remaining ⟨pre ++ (cs ++ post), pre.length, start⟩ + 1 = (post.length + 1) + cs.length := by
    simp [FW.remaining]; omega
  obtain ⟨x, hx⟩ := blockCodeLoop_stop (pre ++ cs) post start ((cs.map (fun x => codePiece x.s)).reverse ++ []) hp (post.length + 1)
    (Nat.lt_succ_self _)
  unfold readBlockCode
  rw [e, blockCodeLoop_run post start cs pre [] _ 0 h, htb, hx]
  simp

theorem codePiece_nonblank {l : Str} (h : isBlank l = false) : codePiece l = l.drop 4 := by
  simp only [codePiece, h, Bool.false_eq_true, if_false]

/-- the types that may stand before `BlockCode` in the list: they decline on an indented line `s` that is not blank, the
    definition types provided `s` does not begin with `[` -/
def beforeCode (s : Str) (t : BTok) : Bool :=
  t == .htmlBlock || t == .blankLine || ((t == .linkRefDefBlock || t == .footnote) && !startsWith ['['] (lstrip s))

/-- an indented code block as one round of the loop, under every list of types in which only types of `beforeCode` come
    before `BlockCode`: `read` takes the lines, those of whitespace only among them, up to `CodeStop` -/
theorem icode_step (cfg : Cfg) (l0 : Str) (ls : List Str)
    (hf : cfg.types.find? (fun t => !beforeCode l0 t) = some .blockCode) (h : ∀ l ∈ l0 :: ls, CodeLine l)
    (hnb : isBlank l0 = false) (hl : ∀ l, (l0 :: ls).getLast? = some l → isBlank l = false) (k : Nat) (st : St) :
    Step cfg (cfg.types.findIdx (fun t => !beforeCode l0 t) + 1) CodeStop (numbered k (l0 :: ls))
      (fun ln => [.blockCode ((l0 :: ls).map codePiece) ln (k + 1)]) 1 st st false := by
  refine Step.one fun pre post start g acc loose hp hg => ?_
  obtain ⟨t, ht⟩ : ∃ t, l0 = ind4 t := by
    rcases h l0 (by simp) with hb | ⟨_, ht⟩
    · rw [hb] at hnb; cases hnb
    · exact ht
  have hrd := readBlockCode_run (numbered k (l0 :: ls)) pre post start (fun x hx => h _ (numbered_mem _ _ _ hx))
    (by simp [numbered_cons]) (by rw [numbered_s]; exact hl) hp
  rw [numbered_map_s k (l0 :: ls) codePiece] at hrd
  rw [numbered_cons] at hrd ⊢
  simp only [List.cons_append] at hrd ⊢
  refine tokLoop_first_idx (peek_at pre _ (numbered (k + 1) ls ++ post) start) (fun x hx => ?_)
    (fun _ _ => (tryTypes_hit_blockCode (by rw [ht]; exact ind4_blockCodeStart t (by rw [← ht]; exact hnb))).trans (by rw [hrd]))
    hf (Nat.lt_of_succ_le hg) acc loose
  have f2 : Scan.blankLine l0 = false := by
    have : l0.all ws = false := hnb
    simp only [Scan.blankLine, this, Bool.false_and]
  cases x <;> simp only [beforeCode, Bool.not_eq_eq_eq_not, Bool.not_false, Bool.or_eq_true, Bool.and_eq_true, beq_iff_eq,
    reduceCtorEq, false_or, or_false, true_and, false_and, Bool.not_eq_eq_eq_not, Bool.not_true] at hx
  case htmlBlock => exact ht ▸ ind4_html t
  case blankLine => exact f2
  case linkRefDefBlock => exact hx
  case footnote => exact hx

end Mistletoe.ComposeT

namespace Mistletoe.MdRound
open Mistletoe Mistletoe.Py Mistletoe.Scan Mistletoe.Block Mistletoe.Wrap Mistletoe.Markdown Mistletoe.InertInline Mistletoe.MdRoundDoc
open Mistletoe.Props.C14 (inertLine markdownTypes numbered numbered_cons numbered_append numbered_length numbered_s numbered_mem)

inductive Blk2 where
  | blk (b : Blk)
  | fence (delim info : Str) (body : List Str)
  | icode (lines : List Str)

def Blk2.lines : Blk2 → List Str
  | .blk b => b.lines
  | .fence d info body => (d ++ info ++ ['\n']) :: (body ++ [d ++ ['\n']])
  | .icode ls => ls

/-- a content line of a fenced block in normal form: one complete line (text + "\n", no other line-boundary
    character) that is not a closing fence for `d`, and whose text is empty or not all whitespace (the
    renderer's `prefix_lines` writes a line of only whitespace as an empty line) -/
def bodyLineOk (d l : Str) : Bool :=
  oneLine l && !closes d l && (l.dropLast.isEmpty || !l.dropLast.all pyIsSpace)

/-- a line of an indented code block in normal form: four spaces, then text that is not blank; one complete
    line; the first non-blank character is not `[` (`LinkReferenceDefinitionBlock.start` looks at it) -/
def codeLineOk (s : Str) : Bool :=
  startsWith [' ', ' ', ' ', ' '] s && !isBlank s && oneLine s && !startsWith ['['] (lstrip s)

/-- normal form (decidable).  `Blk`: `Blk.ok`.  Fenced block: the fence is three or more backticks or three
    or more tildes; the info string has no line-boundary character, does not begin with the fence character
    and contains no backtick when the fence is made of backticks; every content line is `bodyLineOk`; the
    closing line is the fence string again (by construction: `Blk2.lines`).  Indented block: at least one
    line, every line `codeLineOk`. -/
def Blk2.ok : Blk2 → Bool
  | .blk b => b.ok
  | .fence d info body =>
    decide (3 ≤ d.length) && (d.all (· == '`') || d.all (· == '~')) &&
      info.all (fun c => !isLineSep c) && info.head? != d.head? && !(d.head? == some '`' && info.contains '`') &&
      body.all (bodyLineOk d)
  | .icode ls => !ls.isEmpty && ls.all codeLineOk

def Blk2.isICode : Blk2 → Bool
  | .icode _ => true
  | _ => false

/-- no two indented code blocks next to each other (the parser reads them as one block) -/
def adjOk : Blk2 → List Blk2 → Bool
  | _, [] => true
  | it, it' :: rest => !(it.isICode && it'.isICode) && adjOk it' rest

def itemsLines2 : Blk2 → List Blk2 → List Str
  | it, [] => it.lines
  | it, it' :: rest => it.lines ++ ['\n'] :: itemsLines2 it' rest

theorem all_eq_replicate (c : Char) (d : Str) (h : d.all (· == c) = true) : d = List.replicate d.length c :=
  List.eq_replicate_iff.mpr ⟨rfl, fun b hb => by simpa using List.all_eq_true.mp h b hb⟩

structure BodyOk (d l : Str) : Prop where
  one : oneLine l = true
  open_ : closes d l = false
  vis : l.dropLast = [] ∨ l.dropLast.all pyIsSpace = false

theorem bodyOk_of (d l : Str) (h : bodyLineOk d l = true) : BodyOk d l := by
  simp only [bodyLineOk, Bool.and_eq_true, Bool.not_eq_eq_eq_not, Bool.not_true, Bool.or_eq_true,
    List.isEmpty_iff] at h
  exact ⟨h.1.1, h.1.2, h.2⟩

/-- the facts about a fence from the checks the normal forms make (`Blk2.ok` here, `ComposeC.fenceOkB` for C03) -/
theorem FenceOk.of_checks {d info : Str} (h1 : 3 ≤ d.length) (h2 : d.all (· == '`') = true ∨ d.all (· == '~') = true)
    (hnl : '\n' ∉ info) (h4 : ¬info.head? = d.head?) (h5 : (d.head? == some '`') = false ∨ info.contains '`' = false) :
    ∃ c, FenceOk c d info := by
  have mk : ∀ c, fenceCh c → d.all (· == c) = true → FenceOk c d info := by
    intro c hc hall
    have hr := all_eq_replicate c d hall
    have hd : d.head? = some c := by
      rw [hr]; cases hdl : d.length with
      | zero => omega
      | succ n => simp [List.replicate_succ]
    refine ⟨hc, hr, h1, hnl, by rw [← hd]; exact h4, ?_⟩
    rintro rfl
    rcases h5 with h5 | h5
    · rw [hd] at h5; simp at h5
    · simpa using h5
  rcases h2 with h2 | h2
  · exact ⟨'`', mk _ (Or.inl rfl) h2⟩
  · exact ⟨'~', mk _ (Or.inr rfl) h2⟩

theorem fenceOk_of (d info : Str) (body : List Str) (h : (Blk2.fence d info body).ok = true) :
    (∃ c, FenceOk c d info) ∧ (∀ c ∈ info, isLineSep c = false) ∧ ∀ l ∈ body, BodyOk d l := by
  simp only [Blk2.ok, Bool.and_eq_true, decide_eq_true_eq, Bool.or_eq_true, bne_iff_ne, ne_eq,
    Bool.not_eq_eq_eq_not, Bool.not_true, Bool.and_eq_false_iff] at h
  obtain ⟨⟨⟨⟨⟨h1, h2⟩, h3⟩, h4⟩, h5⟩, h6⟩ := h
  have h3' : ∀ c ∈ info, isLineSep c = false := by
    intro c hc
    have := List.all_eq_true.mp h3 c hc
    simpa using this
  have hnl : '\n' ∉ info := nosep_nonl info h3'
  have hb : ∀ l ∈ body, BodyOk d l := fun l hl => bodyOk_of d l (List.all_eq_true.mp h6 l hl)
  exact ⟨FenceOk.of_checks h1 h2 hnl h4 h5, h3', hb⟩

structure CodeLineOk (s : Str) : Prop where
  nb : isBlank s = false
  ind : ∃ t, s = ind4 t
  one : oneLine s = true
  br : startsWith ['['] (lstrip s) = false

theorem codeLineOk_of (s : Str) (h : codeLineOk s = true) : CodeLineOk s := by
  simp only [codeLineOk, Bool.and_eq_true, Bool.not_eq_eq_eq_not, Bool.not_true] at h
  obtain ⟨⟨⟨h1, h2⟩, h3⟩, h4⟩ := h
  refine ⟨h2, ?_, h3, h4⟩
  obtain ⟨t, ht⟩ := List.isPrefixOf_iff_prefix.mp h1
  exact ⟨t, ht.symm⟩

theorem icodeOk_of (ls : List Str) (h : (Blk2.icode ls).ok = true) : ls ≠ [] ∧ ∀ s ∈ ls, CodeLineOk s := by
  simp only [Blk2.ok, Bool.and_eq_true, Bool.not_eq_eq_eq_not, Bool.not_true, List.isEmpty_eq_false_iff] at h
  exact ⟨h.1, fun s hs => codeLineOk_of s (List.all_eq_true.mp h.2 s hs)⟩

open Mistletoe.Document (mkBlock stripNl)

theorem lstripChar_ne (ch c : Char) (r : Str) (h : c ≠ ch) : lstripChar ch (c :: r) = c :: r := by
  simp [lstripChar, h]

theorem rstripChar_text (P u : Str) (hu : u ≠ []) (hn : '\n' ∉ u) : rstripChar '\n' (P ++ u ++ ['\n']) = P ++ u := by
  obtain ⟨w, x, rfl⟩ : ∃ w x, u = w ++ [x] := ⟨_, _, (List.dropLast_concat_getLast hu).symm⟩
  have hx : x ≠ '\n' := fun e => hn (by simp [e])
  unfold rstripChar
  have e : (P ++ (w ++ [x]) ++ ['\n']).reverse = '\n' :: x :: (w.reverse ++ P.reverse) := by simp
  rw [e]
  simp [lstripChar, hx]

theorem stripNl_lines (P u : Str) (c : Char) (r : Str) (hP : P ++ u = c :: r) (hc : c ≠ '\n') (hu : u ≠ []) (hn : '\n' ∉ u) :
    stripNl (P ++ u ++ ['\n']) ++ ['\n'] = P ++ u ++ ['\n'] := by
  have h1 : lstripChar '\n' (P ++ u ++ ['\n']) = P ++ u ++ ['\n'] := by
    rw [hP, List.cons_append]; exact lstripChar_ne _ _ _ hc
  simp only [stripNl, stripChar, h1, rstripChar_text P u hu hn]

structure CodeText (t : Str) : Prop where
  comp : NlEnd t
  vis : t.dropLast.all pyIsSpace = false

theorem ind4_dropLast (t : Str) (ht : t ≠ []) : (ind4 t).dropLast = ind4 t.dropLast := by
  cases t with
  | nil => exact absurd rfl ht
  | cons a b => simp [List.dropLast]

theorem codeText_ind4 (t : Str) (hnb : isBlank (ind4 t) = false) (hone : oneLine (ind4 t) = true) : CodeText t := by
  have hnb : (ind4 t).all pyIsSpace = false := hnb
  have ht : t ≠ [] := by
    intro e; subst e
    revert hnb; decide
  obtain ⟨h1, h2⟩ := (nlEnd_of_oneLine _ hone).dropLast
  rw [ind4_dropLast t ht] at h1 h2
  have h1' : t = t.dropLast ++ ['\n'] := by
    simp only [List.cons_append, List.cons.injEq, true_and] at h1
    exact h1
  refine ⟨⟨_, h1', fun hm => h2 (by simp [hm])⟩, ?_⟩
  rw [h1'] at hnb
  simp only [List.all_cons, List.all_append, show pyIsSpace ' ' = true by decide, show pyIsSpace '\n' = true by decide,
    Bool.true_and, List.all_nil, Bool.and_true] at hnb
  exact hnb

theorem codeText_of (s : Str) (h : CodeLineOk s) : CodeText (s.drop 4) := by
  obtain ⟨t, rfl⟩ := h.ind
  exact codeText_ind4 t h.nb h.one

theorem flatten_last (ts : List Str) (hne : ts ≠ []) (hl : ∀ t, ts.getLast? = some t → NlEnd t ∧ t ≠ ['\n']) :
    ∃ u, ts.flatten = ts.dropLast.flatten ++ u ++ ['\n'] ∧ u ≠ [] ∧ '\n' ∉ u := by
  obtain ⟨⟨u, hu, hun⟩, hu1⟩ := hl _ (List.getLast?_eq_some_getLast hne)
  refine ⟨u, ?_, fun e => hu1 (by rw [hu, e]; rfl), hun⟩
  conv => lhs; rw [← List.dropLast_concat_getLast hne, List.flatten_append, hu]
  simp

/-- the content of a code block, `''.join(lines).strip('\n') + '\n'`, is the joined lines when the first and the last line
    are complete lines with a text (not just "\n") -/
theorem stripNl_flatten (ts : List Str) (hne : ts ≠ []) (hf : ∀ t, ts.head? = some t → NlEnd t ∧ t ≠ ['\n'])
    (hl : ∀ t, ts.getLast? = some t → NlEnd t ∧ t ≠ ['\n']) : stripNl ts.flatten ++ ['\n'] = ts.flatten := by
  obtain ⟨u, e, hune, hun⟩ := flatten_last ts hne hl
  have hd := List.dropLast_concat_getLast hne
  -- the first character of the text is the first character of the first line
  obtain ⟨c, r, hcr, hc⟩ : ∃ c r, ts.dropLast.flatten ++ u = c :: r ∧ c ≠ '\n' := by
    cases hdl : ts.dropLast with
    | nil =>
      obtain ⟨c, r, rfl⟩ := List.exists_cons_of_ne_nil hune
      exact ⟨c, r, rfl, fun e => hun (by simp [e])⟩
    | cons t0 rest =>
      obtain ⟨⟨u0, rfl, hn0⟩, h0⟩ := hf t0 (by rw [← hd, hdl]; rfl)
      obtain ⟨c, r, rfl⟩ := List.exists_cons_of_ne_nil (l := u0) (fun e => h0 (by rw [e]; rfl))
      exact ⟨c, r ++ ['\n'] ++ rest.flatten ++ u, by simp, fun e => hn0 (by simp [e])⟩
  rw [e]
  exact stripNl_lines _ _ c r hcr hc hune hun

theorem CodeText.textLine {t : Str} (h : CodeText t) : NlEnd t ∧ t ≠ ['\n'] :=
  ⟨h.comp, fun e => by have := h.vis; rw [e] at this; cases this⟩

theorem splitNlAux_text : ∀ (u rest cur : Str), '\n' ∉ u → splitNlAux (u ++ rest) cur = splitNlAux rest (u.reverse ++ cur)
  | [], _, _, _ => by simp
  | c :: u, rest, cur, h => by
    have hc : c ≠ '\n' := fun e => h (by simp [e])
    have ih := splitNlAux_text u rest (c :: cur) (fun e => h (List.mem_cons_of_mem _ e))
    simp only [List.cons_append, splitNlAux, hc, if_false, ih]
    simp

/-- `content[:-1].split("\n")` on the joined complete lines: the texts of the lines -/
theorem splitNl_lines : ∀ (ts : List Str), ts ≠ [] → (∀ t ∈ ts, NlEnd t) →
    splitNl ts.flatten.dropLast = ts.map List.dropLast
  | [], h, _ => absurd rfl h
  | [t], _, h => by
    obtain ⟨h1, h2⟩ := (h t (by simp)).dropLast
    have e : [t].flatten.dropLast = t.dropLast := by simp
    rw [e]
    have := splitNlAux_text t.dropLast [] [] h2
    simp only [List.append_nil] at this
    simp [splitNl, this, splitNlAux]
  | t :: t2 :: ts, _, h => by
    obtain ⟨h1, h2⟩ := (h t (by simp)).dropLast
    have ih := splitNl_lines (t2 :: ts) (by simp) (fun x hx => h x (List.mem_cons_of_mem _ hx))
    have hne : (t2 :: ts).flatten ≠ [] := by
      have := (h t2 (by simp)).dropLast.1
      intro e
      simp only [List.flatten_cons, List.append_eq_nil_iff] at e
      rw [e.1] at this
      simp at this
    have e : (t :: t2 :: ts).flatten.dropLast = t.dropLast ++ '\n' :: (t2 :: ts).flatten.dropLast := by
      rw [List.flatten_cons, List.dropLast_append_of_ne_nil hne]
      conv => lhs; rw [h1]
      simp
    rw [e]
    simp only [splitNl] at ih ⊢
    rw [splitNlAux_text _ _ _ h2]
    simp only [splitNlAux, if_true, ih]
    simp

theorem prefix_codeLines (p : Str) (ts : List Str) (hne : ts ≠ []) (hc : ∀ t ∈ ts, NlEnd t)
    (hv : ∀ t ∈ ts, p ++ t.dropLast = [] ∨ (p ++ t.dropLast).all pyIsSpace = false) :
    prefixLines (codeLines ts.flatten) p none = ts.map (fun t => p ++ t.dropLast) := by
  rw [codeLines, splitNl_lines ts hne hc, prefixLines_vis p _ (by
    intro x hx
    obtain ⟨t, ht, rfl⟩ := List.mem_map.mp hx
    exact hv t ht), List.map_map]
  rfl

theorem dropLast_nl_lines (ls : List Str) (h : ∀ l ∈ ls, NlEnd l) : (ls.map List.dropLast).map (· ++ ['\n']) = ls := by
  rw [List.map_map]
  conv => rhs; rw [← List.map_id ls]
  exact List.map_congr_left (fun l hl => (h l hl).dropLast.1.symm)

section
variable (cfg : Document.Cfg) (fn : Footnotes.Table) (o : Opts) (st : St) (hty : cfg.block.types = markdownTypes)
include fn o st hty

def fenceTok (d info : Str) (body : List Str) : Tok :=
  ⟨fun ln og => .codeFence body 0 d info (fenceLang info) ln og,
   fun ln => .codeFence (Unescape.escStrip false (fenceLang info)) 0 d info body.flatten ln,
   (d ++ info) :: (body.map List.dropLast ++ [d])⟩

theorem fence_laws (c : Char) (d info : Str) (body : List Str) (hf : FenceOk c d info) (hinfo : ∀ c ∈ info, isLineSep c = false)
    (hbody : ∀ l ∈ body, BodyOk d l) :
    Laws cfg fn o st ((d ++ info ++ ['\n']) :: (body ++ [d ++ ['\n']])) false (fenceTok d info body) := by
  refine {
    step := ?_, flush := fun _ => ?_, one := ?_, ne := (by simp), mkB := fun ln og => (by simp only [fenceTok, mkBlock]),
    render := fun ln => ?_, text := ?_ }
  · have hfi : cfg.block.types.find? (opens · c) = some .codeFence := by rw [hty]; rcases hf.ch with rfl | rfl <;> rfl
    exact fun k => ((ComposeC.fence_step cfg.block c hfi 0 (by decide) d info hf body (d ++ ['\n']) (closes_self c d info hf)
      (fun x hx => (hbody x hx).open_) k st).mono (findIdx_succ_le hfi) (fun _ _ => trivial)).congr rfl
      (fun ln => by rw [List.map_congr_left (fun s _ => ComposeC.dedent_zero s), List.map_id']; rfl) rfl rfl
  · obtain ⟨r, hr⟩ := hf.cons
    refine ⟨_, _, rfl, ?_, ?_⟩
    · rw [hr]; simp [isBlank, (fenceCh_ne c hf.ch).2.2.2.2.2]
    · rw [hr]; simp only [List.cons_append]
      exact blockCodeStart_rep 0 c _ (by decide) (fenceCh_ne c hf.ch).1 (fenceCh_ne c hf.ch).2.1
  · have hd : ∀ x ∈ d, isLineSep x = false := fun x hx => (hf.chars x hx).1
    intro l hl
    simp only [List.mem_cons, List.mem_append, List.mem_nil_iff, or_false] at hl
    rcases hl with rfl | hl | rfl
    · apply oneLine_text
      intro x hx
      rcases List.mem_append.mp hx with hx | hx
      · exact hd x hx
      · exact hinfo x hx
    · exact (hbody l hl).one
    · exact oneLine_text d hd
  · simp only [fenceTok, renderBlock, spaces, List.replicate_zero, List.nil_append]
    cases body with
    | nil => simp
    | cons l body' =>
      have hne : (l :: body').flatten.isEmpty = false := by
        have := (nlEnd_of_oneLine l (hbody l (by simp)).one).dropLast.1
        cases l with
        | nil => simp at this
        | cons a b => rfl
      simp only [hne, Bool.false_eq_true, if_false, List.nil_append,
        prefix_codeLines [] (l :: body') (by simp) (fun t ht => nlEnd_of_oneLine t (hbody t ht).one) (fun t ht => (hbody t ht).vis)]
  · simp only [fenceTok, List.map_cons, List.map_append, List.map_nil,
      dropLast_nl_lines body (fun l hl => nlEnd_of_oneLine l (hbody l hl).one)]

def icodeTok (ls : List Str) : Tok :=
  ⟨fun ln og => .blockCode (ls.map (fun s => s.drop 4)) ln og, fun ln => .blockCode (ls.map (fun s => s.drop 4)).flatten ln,
   ls.map List.dropLast⟩

theorem icode_laws (ls : List Str) (hne : ls ≠ []) (hl : ∀ s ∈ ls, CodeLineOk s) : Laws cfg fn o st ls true (icodeTok ls) := by
  have hct : ∀ t ∈ ls.map (fun s => s.drop 4), CodeText t := List.forall_mem_map.mpr (fun s hs => codeText_of s (hl s hs))
  refine {
    step := ?_, flush := fun h => (by cases h), one := fun l hl' => (hl l hl').one, ne := hne, mkB := fun ln og => ?_,
    render := fun ln => ?_, text := dropLast_nl_lines ls (fun l hl' => nlEnd_of_oneLine l (hl l hl').one) }
  · obtain ⟨s0, ls', rfl⟩ := List.exists_cons_of_ne_nil hne
    have hfi : cfg.block.types.find? (fun t => !ComposeT.beforeCode s0 t) = some .blockCode := by
      rw [hty]; simp only [ComposeT.beforeCode, (hl s0 (by simp)).br]; rfl
    exact fun k => ((ComposeT.icode_step cfg.block s0 ls' hfi (fun l h => Or.inr ⟨(hl l h).nb, (hl l h).ind⟩) (hl s0 (by simp)).nb
      (fun l h => (hl l (List.mem_of_mem_getLast? h)).nb) k st).mono (findIdx_succ_le hfi)
        (fun _ hp => hp.2 rfl)).congr rfl
      (fun ln => by rw [List.map_congr_left (fun s hs => ComposeT.codePiece_nonblank (hl s hs).nb)]; rfl) rfl rfl
  · have := stripNl_flatten (ls.map (fun s => s.drop 4)) (by simpa using hne)
      (fun t h => (hct t (List.mem_of_mem_head? h)).textLine) (fun t h => (hct t (List.mem_of_mem_getLast? h)).textLine)
    simp only [icodeTok, mkBlock, this]
  · simp only [icodeTok, renderBlock, List.map_map,
      prefix_codeLines (spaces 4) (ls.map (fun s => s.drop 4)) (by simpa using hne) (fun t ht => (hct t ht).comp)
        (fun t ht => Or.inr (by simp only [List.all_append, (hct t ht).vis, Bool.and_false]))]
    congr 1
    apply List.map_congr_left
    intro s hs
    obtain ⟨t, rfl⟩ := (hl s hs).ind
    have ht : t ≠ [] := by
      have := (codeText_of _ (hl _ hs)).comp.dropLast.1
      intro e
      rw [e] at this
      simp at this
    rw [ind4_dropLast t ht]
    rfl

def blk2Tok : Blk2 → Tok
  | .blk b => blkTok b
  | .fence d info body => fenceTok d info body
  | .icode ls => icodeTok ls

theorem blk2_laws (ht : ∀ t ∈ cfg.span, inertClass t = true) (hc : cfg.span.count .lineBreak = 1) (b : Blk2) (hok : b.ok = true) :
    Laws cfg fn o st b.lines b.isICode (blk2Tok b) := by
  cases b with
  | blk b => exact blk_laws cfg fn o st hty ht hc b hok
  | fence d info body =>
    obtain ⟨⟨c, hf⟩, hinfo, hbody⟩ := fenceOk_of d info body hok
    exact fence_laws cfg fn o st hty c d info body hf hinfo hbody
  | icode ls => exact icode_laws cfg fn o st hty ls (icodeOk_of ls hok).1 (icodeOk_of ls hok).2

end

def frag2 : Frag Blk2 := { lines := Blk2.lines, isICode := Blk2.isICode, tok := blk2Tok, adj := adjOk, docLines := itemsLines2 }

end Mistletoe.MdRound

namespace Mistletoe.MdRoundCode
open Mistletoe Mistletoe.Py Mistletoe.Block Mistletoe.Inline Mistletoe.InertInline Mistletoe.MdRound
open Mistletoe.Props.C14 (inertLine markdownTypes)

def L (s : String) : Str := s.toList
attribute [lit] L

/-- the Markdown renderer's token lists as literals (as `Props.C09.mdCfg` and `MdTotal.mdCfg`) -/
def mdCfg : Document.Cfg :=
  { block := { types := markdownTypes },
    span := [.escapeSequence, .htmlSpan, .strikethrough, .autoLink, .coreTokens, .inlineCode, .lineBreak] }

theorem mdCfg_ok : mdCfg.block.types = markdownTypes ∧ (∀ t ∈ mdCfg.span, inertClass t = true) ∧
    mdCfg.span.count .lineBreak = 1 := by decide

/-- `mdCfg` is the configuration of the working tree (so the examples are about `Config.markdown`) -/
example : Config.markdown.map (fun c => (c.block.types, c.block.tableInterrupt, c.span)) =
    some (mdCfg.block.types, mdCfg.block.tableInterrupt, mdCfg.span) := by rw [Config.markdown_eq]; rfl

/-- `# T`, a fenced block with info `py` and three content lines (one empty, one starting with `#`), a paragraph -/
def doc1 : Blk2 := .blk (.heading 1 (L "T"))
def doc1rest : List Blk2 :=
  [.fence (L "```") (L "py") [L "x = 1\n", L "\n", L "# not a heading\n"], .blk (.para [L "last line.\n"])]
attribute [lit] doc1 doc1rest

theorem doc1_ok : doc1.ok = true ∧ (∀ x ∈ doc1rest, x.ok = true) ∧ adjOk doc1 doc1rest = true := by decide_lit

example : (itemsLines2 doc1 doc1rest).flatten = L "# T\n\n```py\nx = 1\n\n# not a heading\n```\n\nlast line.\n" := by
  decide_lit

/-- the theorem applies … -/
example : ∃ d, Document.parseLines mdCfg 18 (itemsLines2 doc1 doc1rest) = .ok d ∧
    Markdown.render {} d = (itemsLines2 doc1 doc1rest).flatten := by
  obtain ⟨d, h1, _, _, _, h3, _⟩ := MdRoundDoc.doc_roundtrip frag2 (·.ok = true) mdCfg mdCfg_ok.1 {} rfl doc1 doc1rest
    doc1_ok.1 doc1_ok.2.1 doc1_ok.2.2 0 0 (Or.inl rfl) (fun st _ x h => blk2_laws mdCfg _ {} st mdCfg_ok.1 mdCfg_ok.2.1 mdCfg_ok.2.2 x h)
  exact ⟨d, h1, h3⟩

/-- … and the kernel evaluation of parser and renderer on that text agrees -/
example : (Document.parse mdCfg 18 (L "# T\n\n```py\nx = 1\n\n# not a heading\n```\n\nlast line.\n")).bind
    (fun d => Markdown.renderRes {} d) = .ok (L "# T\n\n```py\nx = 1\n\n# not a heading\n```\n\nlast line.\n") := by
  decide_lit

/-- a tilde fence whose info string contains a backtick and ends in spaces, with an empty body; an indented
    code block (deeper indentation kept); a backtick fence of four with a three-backtick content line and a
    content line indented by four spaces that looks like a fence; all inside two block quotes -/
def doc2 : Blk2 := .fence (L "~~~") (L " a`b  ") []
def doc2rest : List Blk2 :=
  [.icode [L "    code\n", L "      deeper [x]\n"], .blk (.hr '*'),
   .fence (L "````") (L "") [L "```\n", L "    ````\n", L "  text \n"], .icode [L "    last\n"]]
attribute [lit] doc2 doc2rest

theorem doc2_ok : doc2.ok = true ∧ (∀ x ∈ doc2rest, x.ok = true) ∧ adjOk doc2 doc2rest = true ∧
    (∀ l ∈ itemsLines2 doc2 doc2rest, '\t' ∉ l) := by decide_lit

example : ∃ d, Document.parseLines mdCfg 38 (qStrs 2 (itemsLines2 doc2 doc2rest)) = .ok d ∧
    Markdown.render {} d = (qStrs 2 (itemsLines2 doc2 doc2rest)).flatten := by
  obtain ⟨d, h1, _, _, _, h3, _⟩ := MdRoundDoc.doc_roundtrip frag2 (·.ok = true) mdCfg mdCfg_ok.1 {} rfl doc2 doc2rest
    doc2_ok.1 doc2_ok.2.1 doc2_ok.2.2.1 0 2 (Or.inr doc2_ok.2.2.2)
    (fun st _ x h => blk2_laws mdCfg _ {} st mdCfg_ok.1 mdCfg_ok.2.1 mdCfg_ok.2.2 x h)
  exact ⟨d, h1, h3⟩

example : (itemsLines2 doc2 doc2rest).flatten =
    L "~~~ a`b  \n~~~\n\n    code\n      deeper [x]\n\n***\n\n````\n```\n    ````\n  text \n````\n\n    last\n" := by
  decide_lit

example : (Document.parse mdCfg 22
      (L "~~~ a`b  \n~~~\n\n    code\n      deeper [x]\n\n***\n\n````\n```\n    ````\n  text \n````\n\n    last\n")).bind
    (fun d => Markdown.renderRes {} d) =
      .ok (L "~~~ a`b  \n~~~\n\n    code\n      deeper [x]\n\n***\n\n````\n```\n    ````\n  text \n````\n\n    last\n") := by
  decide_lit

example : (Document.parse mdCfg 30 (L "> ```py\n> x\n> \n> ```\n> \n>     code\n")).bind (fun d => Markdown.renderRes {} d) =
    .ok (L "> ```py\n> x\n> \n> ```\n> \n>     code\n") := by decide_lit

example (cfg : Document.Cfg) (hcfg : Config.markdown = some cfg) :
    ∃ d, Document.parse cfg 18 (itemsLines2 doc1 doc1rest).flatten = .ok d ∧
      Markdown.render {} d = (itemsLines2 doc1 doc1rest).flatten := by
  obtain ⟨hty, ht, hc⟩ := markdown_cfg cfg hcfg
  obtain ⟨d, _, _, _, h, h3, _⟩ := MdRoundDoc.doc_roundtrip frag2 (·.ok = true) cfg hty {} rfl doc1 doc1rest
    doc1_ok.1 doc1_ok.2.1 doc1_ok.2.2 0 0 (Or.inl rfl) (fun st _ x h => blk2_laws cfg _ {} st hty ht hc x h)
  exact ⟨d, h, h3⟩

/-! ### what the normal form excludes (model and implementation agree; run on /repo)

  * a content line made only of whitespace is written back empty (`prefix_lines`: `prefixed.isspace()`);
  * a tilde info string beginning with `~` belongs to the fence (so the closing fence written is longer);
  * a content line that closes the fence ends the block. -/
example : bodyLineOk (L "```") (L "   \n") = false := by decide_lit
example : (Document.parse mdCfg 18 (L "```\n   \n```\n")).bind (fun d => Markdown.renderRes {} d) = .ok (L "```\n\n```\n") := by
  decide_lit
example : (Blk2.fence (L "~~~") (L "~x") [L "y\n"]).ok = false := by decide_lit
example : (Document.parse mdCfg 18 (L "~~~~x\ny\n~~~\n")).bind (fun d => Markdown.renderRes {} d) = .ok (L "~~~~x\ny\n~~~\n~~~~\n") := by
  decide_lit
example : bodyLineOk (L "```") (L "````\n") = false := by decide_lit
example : (Document.parse mdCfg 18 (L "```\n````\n```\n")).bind (fun d => Markdown.renderRes {} d) = .ok (L "```\n```\n```\n```\n") := by
  decide_lit

/-- two adjacent indented code blocks are outside `adjOk` only because the parser reads them as ONE `BlockCode`
    (the tree is not `frag2.docBlocks`); the text is still reproduced -/
example : (Document.parse mdCfg 18 (L "    a\n\n    b\n")).bind (fun d => Markdown.renderRes {} d) = .ok (L "    a\n\n    b\n") := by
  decide_lit

end Mistletoe.MdRoundCode
