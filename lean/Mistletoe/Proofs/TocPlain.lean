/-
  C19, clause "… one entry per heading …, carrying the heading's plain text".

  `TocRenderer.render_heading` renders the heading to HTML and `parse_rendered_heading` applies
  `re.sub(r'<.+?>', '', rendered)` (`Toc.stripTags`).  Proved here:

  * `stripTags` does not depend on its fuel (`strip_fuel`), removes a tag `<d…>` whose inside has no newline
    and no `>` (`strip_tag`), and copies text without `<` (`strip_text`);
  * for a heading whose children are raw text, emphasis, strong, strikethrough, inline code and escape
    sequences, nested at will (`plainInlines`), the regex removes exactly the tags the renderer wrote
    (`<hN>`, `<em>`, `<strong>`, `<del>`, `<code>` and their closers) and what is left is the HTML-escaped
    concatenation of the leaf strings, WHATEVER these strings are (`C19_escaped_text`): the escaper leaves no
    `<` in text;
  * when the leaf strings contain none of `<`, `>`, `&` (nor `"` when `html_escape_double_quotes`, nor `'` when
    `html_escape_single_quotes` is set) escaping is the identity and the entry carries the plain text itself
    (`C19_plain_text` for `[.rawText t]`, `C19_plain_text_inlines` in general).
-/
import Mistletoe.Model.Toc
import Mistletoe.Proofs.Html
import Mistletoe.Proofs.Lit
namespace Mistletoe.Toc
open Mistletoe Mistletoe.Html Mistletoe.Escape Mistletoe.Pred

/-! ## The regex, one step at a time -/

theorem strip_zero (s : Str) : stripTagsAux 0 s = s := by
  cases s <;> rfl

theorem strip_step_nil (f : Nat) : stripTagsAux (f + 1) [] = [] := rfl

theorem strip_step_other (f : Nat) (c : Char) (rest : Str) (hc : c ≠ '<') :
    stripTagsAux (f + 1) (c :: rest) = c :: stripTagsAux f rest := by
  simp [stripTagsAux, hc]

theorem strip_step_lt_end (f : Nat) : stripTagsAux (f + 1) ['<'] = ['<'] := by
  simp [stripTagsAux]

theorem strip_step_nl (f : Nat) (rest : Str) :
    stripTagsAux (f + 1) ('<' :: '\n' :: rest) = '<' :: stripTagsAux f ('\n' :: rest) := by
  simp [stripTagsAux]

theorem strip_step_some (f : Nat) (d : Char) (rest after : Str) (hd : d ≠ '\n') (h : findClose rest = some after) :
    stripTagsAux (f + 1) ('<' :: d :: rest) = stripTagsAux f after := by
  simp [stripTagsAux, hd, h]

theorem strip_step_none (f : Nat) (d : Char) (rest : Str) (hd : d ≠ '\n') (h : findClose rest = none) :
    stripTagsAux (f + 1) ('<' :: d :: rest) = '<' :: stripTagsAux f (d :: rest) := by
  simp [stripTagsAux, hd, h]

theorem findClose_length : ∀ (s after : Str), findClose s = some after → after.length < s.length
  | [], _, h => by simp [findClose] at h
  | c :: rest, after, h => by
    simp only [findClose] at h
    split at h
    · cases h
    · split at h
      · cases h; simp
      · have := findClose_length rest after h
        simp only [List.length_cons]; omega

theorem findClose_body : ∀ (body rest : Str), (∀ c ∈ body, c ≠ '\n' ∧ c ≠ '>') →
    findClose (body ++ '>' :: rest) = some rest
  | [], rest, _ => by simp [findClose]
  | c :: body, rest, h => by
    have hc := h c (List.mem_cons_self ..)
    simp only [List.cons_append, findClose, hc.1, hc.2, if_false]
    exact findClose_body body rest (fun x hx => h x (List.mem_cons_of_mem _ hx))

/-- **the fuel of `stripTagsAux` is immaterial once it covers the string** (each step consumes one unit of
    fuel and at least one character) -/
theorem strip_fuel (fuel : Nat) : ∀ (s : Str), s.length ≤ fuel → stripTagsAux fuel s = stripTagsAux s.length s := by
  induction fuel using Nat.strongRecOn with
  | _ fuel ih =>
    intro s hs
    cases s with
    | nil => cases fuel <;> rfl
    | cons c rest =>
      cases fuel with
      | zero => simp at hs
      | succ f =>
        have hr : rest.length ≤ f := by simpa using hs
        have ihf := ih f (Nat.lt_succ_self f)
        show stripTagsAux (f + 1) (c :: rest) = stripTagsAux (rest.length + 1) (c :: rest)
        by_cases hc : c = '<'
        · subst hc
          cases rest with
          | nil => rw [strip_step_lt_end, strip_step_lt_end]
          | cons d rest' =>
            by_cases hd : d = '\n'
            · subst hd
              rw [strip_step_nl, strip_step_nl, ihf _ hr]
            · cases hf : findClose rest' with
              | none => rw [strip_step_none _ _ _ hd hf, strip_step_none _ _ _ hd hf, ihf _ hr]
              | some after =>
                have hl := findClose_length _ _ hf
                simp only [List.length_cons] at hr
                rw [strip_step_some _ _ _ _ hd hf, strip_step_some _ _ _ _ hd hf]
                rw [ihf after (by omega),
                  ih (d :: rest').length (by simp only [List.length_cons]; omega) after
                    (by simp only [List.length_cons]; omega)]
        · rw [strip_step_other _ _ _ hc, strip_step_other _ _ _ hc, ihf _ hr]

/-- `re.sub(r'<.+?>', '', s)` with exactly the fuel the string needs (the regex of `parse_rendered_heading`; not `str.strip`,
    which is `Py.strip`) -/
def strip (s : Str) : Str := stripTagsAux s.length s

theorem stripTags_eq (s : Str) : stripTags s = strip s := strip_fuel _ s (Nat.le_succ _)

theorem strip_nil : strip [] = [] := rfl

theorem strip_cons (c : Char) (rest : Str) (hc : c ≠ '<') : strip (c :: rest) = c :: strip rest := by
  unfold strip
  simp only [List.length_cons]
  rw [strip_step_other _ _ _ hc]

theorem strip_text : ∀ (s rest : Str), (∀ c ∈ s, c ≠ '<') → strip (s ++ rest) = s ++ strip rest
  | [], _, _ => rfl
  | c :: s, rest, h => by
    rw [List.cons_append, strip_cons _ _ (h c (List.mem_cons_self ..)),
      strip_text s rest (fun x hx => h x (List.mem_cons_of_mem _ hx))]
    rfl

theorem strip_tag (d : Char) (body rest : Str) (hd : d ≠ '\n') (hb : ∀ c ∈ body, c ≠ '\n' ∧ c ≠ '>') :
    strip ('<' :: d :: (body ++ '>' :: rest)) = strip rest := by
  have hf := findClose_body body rest hb
  unfold strip
  simp only [List.length_cons]
  rw [strip_step_some _ _ _ _ hd hf]
  exact strip_fuel _ rest (by simp only [List.length_append, List.length_cons]; omega)

/-! ## Event lists made of attribute-free tags and text without `<` -/

/-- a tag name the regex reads over: no newline, no `>` -/
def tagOk (t : Str) : Bool := t.all (fun c => c != '\n' && c != '>')

def simpleEv : Ev → Bool
  | .otag t [] => !t.isEmpty && tagOk t
  | .ctag t => tagOk t
  | .text s => s.all (fun c => c != '<')
  | _ => false

def textOf : List Ev → Str
  | [] => []
  | .text s :: rest => s ++ textOf rest
  | _ :: rest => textOf rest

theorem textOf_append : ∀ (a b : List Ev), textOf (a ++ b) = textOf a ++ textOf b
  | [], _ => rfl
  | e :: a, b => by
    cases e <;> simp [textOf, textOf_append a b]

theorem tagOk_iff (t : Str) : tagOk t = true ↔ ∀ c ∈ t, c ≠ '\n' ∧ c ≠ '>' := by
  simp [tagOk, List.all_eq_true]

theorem strip_ev (e : Ev) (h : simpleEv e = true) (rest : Str) :
    strip (flatEv e ++ rest) = textOf [e] ++ strip rest := by
  cases e with
  | otag t as =>
    cases as with
    | cons _ _ => simp [simpleEv] at h
    | nil =>
      cases t with
      | nil => simp [simpleEv] at h
      | cons d body =>
        simp only [simpleEv, List.isEmpty_cons, Bool.not_false, Bool.true_and] at h
        have hall := (tagOk_iff _).mp h
        have e1 : flatEv (.otag (d :: body) []) ++ rest = '<' :: d :: (body ++ '>' :: rest) := by
          simp [flatEv, flatAttrs]
        rw [e1, strip_tag d body rest (hall d (List.mem_cons_self ..)).1
          (fun c hc => hall c (List.mem_cons_of_mem _ hc))]
        rfl
  | ctag t =>
    simp only [simpleEv] at h
    have hall := (tagOk_iff _).mp h
    have e1 : flatEv (.ctag t) ++ rest = '<' :: '/' :: (t ++ '>' :: rest) := by
      simp [flatEv]
    rw [e1, strip_tag '/' t rest (by decide) hall]
    rfl
  | vtag t as => simp [simpleEv] at h
  | text s =>
    simp only [simpleEv, List.all_eq_true, bne_iff_ne, ne_eq] at h
    simp only [flatEv, textOf, List.append_nil]
    exact strip_text s rest h
  | raw s => simp [simpleEv] at h

theorem strip_flat : ∀ (evs : List Ev), evs.all simpleEv = true → ∀ (rest : Str),
    strip (flat evs ++ rest) = textOf evs ++ strip rest
  | [], _, rest => rfl
  | e :: evs, h, rest => by
    simp only [List.all_cons, Bool.and_eq_true] at h
    have e1 : flat (e :: evs) ++ rest = flatEv e ++ (flat evs ++ rest) := by simp [flat]
    rw [e1, strip_ev e h.1, strip_flat evs h.2 rest]
    have e2 : textOf (e :: evs) = textOf [e] ++ textOf evs := textOf_append [e] evs
    rw [e2, List.append_assoc]

theorem stripTags_flat (evs : List Ev) (h : evs.all simpleEv = true) : stripTags (flat evs) = textOf evs := by
  have := strip_flat evs h []
  rw [stripTags_eq]
  simpa [strip_nil] using this

/-! ## The heading tags and the inline tags are simple; escaped text has no `<` -/

theorem headingTag_ok (l : Nat) : tagOk ('h' :: natDigits l) = true := by
  rw [tagOk_iff]
  intro c hc
  simp only [List.mem_cons] at hc
  rcases hc with rfl | hc
  · decide
  · exact (by decide : ∀ x ∈ decDigits, x ≠ '\n' ∧ x ≠ '>') c (natDigits_mem l c hc)

theorem safeText_no_lt : ∀ (s : Str), safeText s = true → s.all (fun c => c != '<') = true
  | [], _ => rfl
  | c :: rest, h => by
    simp only [safeText] at h
    split at h
    · rename_i hc
      simp only [Bool.and_eq_true] at h
      subst hc
      simp only [List.all_cons, Bool.and_eq_true]
      exact ⟨by decide, safeText_no_lt rest h.2⟩
    · simp only [Bool.and_eq_true] at h
      simp only [List.all_cons, Bool.and_eq_true]
      exact ⟨h.1.1, safeText_no_lt rest h.2⟩

theorem escaped_simple (q : Quotes) (c : Str) : simpleEv (.text (escapeHtmlText q.dq q.sq c)) = true :=
  safeText_no_lt _ (safeText_escapeHtmlText q.dq q.sq c)

mutual
/-- inline tokens that render to attribute-free tags and escaped text only -/
def plainInline : Inline → Bool
  | .rawText _ => true
  | .emphasis _ k => plainInlines k
  | .strong _ k => plainInlines k
  | .strikethrough k => plainInlines k
  | .inlineCode _ _ _ => true
  | .escapeSequence _ => true
  | _ => false
def plainInlines : List Inline → Bool
  | [] => true
  | i :: is => plainInline i && plainInlines is
end

mutual
def leafText : Inline → Str
  | .rawText c => c
  | .emphasis _ k => leafTexts k
  | .strong _ k => leafTexts k
  | .strikethrough k => leafTexts k
  | .inlineCode _ _ c => c
  | .escapeSequence c => c
  | _ => []
def leafTexts : List Inline → Str
  | [] => []
  | i :: is => leafText i ++ leafTexts is
end

theorem wrap_simple (t : Str) (hne : t ≠ []) (ht : tagOk t = true) (inner : List Ev) (text : Str)
    (hi : inner.all simpleEv = true ∧ textOf inner = text) :
    ([Ev.otag t []] ++ inner ++ [Ev.ctag t]).all simpleEv = true ∧
    textOf ([Ev.otag t []] ++ inner ++ [Ev.ctag t]) = text := by
  have ho : simpleEv (.otag t []) = true := by
    cases t with
    | nil => exact absurd rfl hne
    | cons d b => simpa [simpleEv] using ht
  refine ⟨?_, ?_⟩
  · simp only [List.all_append, List.all_cons, List.all_nil, Bool.and_true, Bool.and_eq_true]
    exact ⟨⟨ho, hi.1⟩, by simpa [simpleEv] using ht⟩
  · rw [textOf_append, textOf_append, hi.2]
    simp [textOf]

mutual
theorem inline_simple (q : Quotes) : ∀ (i : Inline), plainInline i = true →
    (renderInline q i).all simpleEv = true ∧ textOf (renderInline q i) = escapeHtmlText q.dq q.sq (leafText i)
  | .rawText c, _ => by
    simp only [renderInline, leafText, textOf, List.append_nil, List.all_cons, List.all_nil, Bool.and_true]
    exact ⟨escaped_simple q c, trivial⟩
  | .emphasis _ k, h => by
    simp only [plainInline] at h
    simp only [renderInline, leafText]
    exact wrap_simple _ (by decide +kernel) (by decide +kernel) _ _ (inlines_simple q k h)
  | .strong _ k, h => by
    simp only [plainInline] at h
    simp only [renderInline, leafText]
    exact wrap_simple _ (by decide +kernel) (by decide +kernel) _ _ (inlines_simple q k h)
  | .strikethrough k, h => by
    simp only [plainInline] at h
    simp only [renderInline, leafText]
    exact wrap_simple _ (by decide +kernel) (by decide +kernel) _ _ (inlines_simple q k h)
  | .inlineCode _ _ c, _ =>
    wrap_simple "code".toList (by decide +kernel) (by decide +kernel) [.text (escapeHtmlText q.dq q.sq c)] (escapeHtmlText q.dq q.sq c)
      ⟨by simp only [List.all_cons, List.all_nil, Bool.and_true]; exact escaped_simple q c, List.append_nil _⟩
  | .escapeSequence c, _ => by
    simp only [renderInline, leafText, textOf, List.append_nil, List.all_cons, List.all_nil, Bool.and_true]
    exact ⟨escaped_simple q c, trivial⟩
  | .image .., h => by cases h
  | .link .., h => by cases h
  | .autoLink .., h => by cases h
  | .lineBreak .., h => by cases h
  | .htmlSpan _, h => by cases h
  | .math _, h => by cases h
  | .githubWiki .., h => by cases h
  | .xwikiMacroStart _, h => by cases h
  | .xwikiMacroEnd _, h => by cases h
  | .linkRefDef .., h => by cases h
theorem inlines_simple (q : Quotes) : ∀ (k : List Inline), plainInlines k = true →
    (renderInlines q k).all simpleEv = true ∧ textOf (renderInlines q k) = escapeHtmlText q.dq q.sq (leafTexts k)
  | [], _ => ⟨rfl, rfl⟩
  | i :: is, h => by
    simp only [plainInlines, Bool.and_eq_true] at h
    obtain ⟨h1, h2⟩ := inline_simple q i h.1
    obtain ⟨h3, h4⟩ := inlines_simple q is h.2
    simp only [renderInlines, leafTexts]
    exact ⟨by rw [List.all_append, h1, h3]; rfl, by rw [textOf_append, h2, h4, escapeHtmlText_append]⟩
end

/-- **what `parse_rendered_heading` returns for a heading with such children**: the regex removes the heading
    tags and the inline tags, and nothing else — for every level and every leaf string -/
theorem heading_content (q : Quotes) (l : Nat) (k : List Inline) (hk : plainInlines k = true) :
    stripTags (flat ([Ev.otag ('h' :: natDigits l) []] ++ renderInlines q k ++ [Ev.ctag ('h' :: natDigits l)]))
      = escapeHtmlText q.dq q.sq (leafTexts k) := by
  have := wrap_simple ('h' :: natDigits l) (by simp) (headingTag_ok l) _ _ (inlines_simple q k hk)
  rw [stripTags_flat _ this.1, this.2]

/-! ## When escaping is the identity -/

/-- a character `escape_html_text` leaves alone under the quote options `q`: not `<`, `>`, `&`; not `"` when
    `html_escape_double_quotes`; not `'` when `html_escape_single_quotes`.  ("Plain" for the escaper; `Block.PlainChar` of
    Proofs/Inert.lean is about block starts, `Block.plainTitle` of Proofs/Outline.lean about the first character of a title.) -/
def plainChar (q : Quotes) (c : Char) : Bool :=
  c != '<' && c != '>' && c != '&' && !(q.dq && c == '"') && !(q.sq && c == '\'')

def plainStr (q : Quotes) (t : Str) : Bool := t.all (plainChar q)

theorem escChar_plain (q : Quotes) (c : Char) (h : plainChar q c = true) : escChar q.dq q.sq c = [c] := by
  simp only [plainChar, Bool.and_eq_true, bne_iff_ne, ne_eq, Bool.not_eq_true', Bool.and_eq_false_iff,
    beq_eq_false_iff_ne] at h
  obtain ⟨⟨⟨⟨h1, h2⟩, h3⟩, h4⟩, h5⟩ := h
  rcases h4 with h4 | h4 <;> rcases h5 with h5 | h5 <;> simp [escChar, h1, h2, h3, h4, h5]

/-- **on plain text `escape_html_text` is the identity**, under each of the four quote options (the tables
    are the ones probed from /repo) -/
theorem escape_ident (q : Quotes) (s : Str) (h : plainStr q s = true) : escapeHtmlText q.dq q.sq s = s :=
  escapeHtmlText_id q.dq q.sq s fun c hc => escChar_plain q c (List.all_eq_true.mp h c hc)

/-- the condition is exact on ASCII: every other character is changed by the escaper -/
example : ∀ dq ∈ [false, true], ∀ sq ∈ [false, true], (List.range 128).all (fun n =>
    plainChar ⟨dq, sq⟩ (Char.ofNat n) == (escapeHtmlText dq sq [Char.ofNat n] == [Char.ofNat n])) = true := by
  simp only [escapeHtmlText_eq]
  decide +kernel

end Mistletoe.Toc

namespace Mistletoe.Props.C19
open Mistletoe Mistletoe.Html Mistletoe.Toc Mistletoe.Escape

/-- the side effect of `render_heading` for a heading whose plain text is `c` -/
def entryWith (cfg : Cfg) (l : Nat) (c : Str) : List (Nat × Str) :=
  if (cfg.omitTitle && l == 1) || decide (l > cfg.depth) || cfg.excluded c then [] else [(l, c)]

/-- `not (omit_title and level == 1 or level > depth or any(cond(content) …))` -/
def qualifies (cfg : Cfg) (l : Nat) (c : Str) : Bool :=
  !(cfg.omitTitle && l == 1) && decide (l ≤ cfg.depth) && !cfg.excluded c

theorem qualifies_iff (cfg : Cfg) (l : Nat) (c : Str) : qualifies cfg l c = true ↔
    ¬ (cfg.omitTitle = true ∧ l = 1) ∧ l ≤ cfg.depth ∧ cfg.excluded c = false := by
  unfold qualifies
  cases cfg.omitTitle <;> cases cfg.excluded c <;> simp

theorem entryWith_eq (cfg : Cfg) (l : Nat) (c : Str) :
    entryWith cfg l c = if qualifies cfg l c then [(l, c)] else [] := by
  unfold entryWith qualifies
  by_cases hd : l ≤ cfg.depth
  · have : ¬ l > cfg.depth := by omega
    cases cfg.omitTitle <;> cases (l == 1) <;> cases cfg.excluded c <;> simp [hd, this]
  · have : l > cfg.depth := by omega
    simp [hd, this]

/-- **the entry of a heading made of raw text, emphasis, strong, strikethrough, inline code and escape
    sequences carries the HTML-escaped concatenation of its leaf strings** — whatever they contain, for every
    level and every option set: `re.sub(r'<.+?>', '', rendered)` removes exactly the tags the renderer wrote. -/
theorem C19_escaped_text (q : Quotes) (cfg : Cfg) (l : Nat) (k : List Inline) (hk : plainInlines k = true) :
    entry q cfg l k = entryWith cfg l (escapeHtmlText q.dq q.sq (leafTexts k)) := by
  unfold entry entryWith
  simp only [heading_content q l k hk]

/-- **C19, plain text, for all such children**: if moreover the leaf strings hold no character the escaper changes
    (`plainStr`: no `<`, `>`, `&`; no `"` / `'` when the corresponding option is on), the entry carries the
    concatenated plain text itself: the tags `<hN>`, `<em>`, `<strong>`, `<del>`, `<code>` are stripped. -/
theorem C19_plain_text_inlines (q : Quotes) (cfg : Cfg) (l : Nat) (k : List Inline) (hk : plainInlines k = true)
    (ht : plainStr q (leafTexts k) = true) : entry q cfg l k = entryWith cfg l (leafTexts k) := by
  rw [C19_escaped_text q cfg l k hk, escape_ident q _ ht]

/-- **C19, plain text**: for a heading of level `l` whose only child is the raw text `t`, with `t` free of `<`,
    `>`, `&` (and of `"` resp. `'` when `html_escape_double_quotes` resp. `html_escape_single_quotes` is set —
    with the default options both quotes are allowed), the collected entry, when the heading qualifies, is
    `(l, t)`: the regex removes exactly the opening and the closing heading tag. -/
theorem C19_plain_text (q : Quotes) (cfg : Cfg) (l : Nat) (t : Str) (ht : plainStr q t = true) :
    entry q cfg l [.rawText t] =
      if (cfg.omitTitle && l == 1) || decide (l > cfg.depth) || cfg.excluded t then [] else [(l, t)] := by
  have := C19_plain_text_inlines q cfg l [.rawText t] rfl (by simpa [leafTexts, leafText] using ht)
  simpa [leafTexts, leafText, entryWith] using this

/-- the same, read off the collection: every entry an ATX or setext heading `[.rawText t]` contributes has text `t` -/
theorem C19_plain_text_collect (q : Quotes) (cfg : Cfg) (l : Nat) (t : Str) (ht : plainStr q t = true) (x : Str) (ln : Nat) :
    (∀ e ∈ collect q cfg (.heading l x [.rawText t] ln), e = (l, t)) ∧
    (∀ e ∈ collect q cfg (.setextHeading l x [.rawText t] ln), e = (l, t)) ∧
    (¬ (cfg.omitTitle = true ∧ l = 1) → l ≤ cfg.depth → cfg.excluded t = false →
      collect q cfg (.heading l x [.rawText t] ln) = [(l, t)]) := by
  have h : entry q cfg l [.rawText t] = if qualifies cfg l t then [(l, t)] else [] :=
    (C19_plain_text q cfg l t ht).trans (entryWith_eq cfg l t)
  have hmem : ∀ e ∈ entry q cfg l [.rawText t], e = (l, t) := by
    rw [h]; intro e he
    cases hq : qualifies cfg l t <;> simp [hq] at he
    exact he
  exact ⟨hmem, hmem, fun h1 h2 h3 => h.trans (if_pos ((qualifies_iff cfg l t).mpr ⟨h1, h2, h3⟩))⟩

/-! ### Non-vacuity -/

/-- quotes are plain under the default options; the entry is the text -/
example : plainStr ⟨false, false⟩ "Intro: 'x' \"y\" – z".toList = true ∧
    entry ⟨false, false⟩ {} 2 [.rawText "Intro: 'x' \"y\" – z".toList] = [(2, "Intro: 'x' \"y\" – z".toList)] := by
  decide +kernel

/-- formatted title: `## a *b* **`c`** ~~d~~ \*` -/
def sampleKids : List Inline :=
  [.rawText "a ".toList, .emphasis "*".toList [.rawText "b".toList], .rawText " ".toList,
   .strong "**".toList [.inlineCode "`".toList [] "c".toList], .rawText " ".toList,
   .strikethrough [.rawText "d".toList], .rawText " ".toList, .escapeSequence "*".toList]
attribute [lit] sampleKids

example : plainInlines sampleKids = true ∧ plainStr ⟨true, true⟩ (leafTexts sampleKids) = true ∧
    String.ofList (flat ([Ev.otag ('h' :: natDigits 3) []] ++ renderInlines ⟨true, true⟩ sampleKids ++ [Ev.ctag ('h' :: natDigits 3)]))
      = "<h3>a <em>b</em> <strong><code>c</code></strong> <del>d</del> *</h3>" ∧
    entry ⟨true, true⟩ {} 3 sampleKids = [(3, "a b c d *".toList)] := by
  rw [← String.toList_inj, String.toList_ofList]
  decide_lit

example : entry ⟨true, true⟩ {} 3 sampleKids = [(3, leafTexts sampleKids)] :=
  C19_plain_text_inlines ⟨true, true⟩ {} 3 sampleKids (by decide +kernel) (by decide +kernel)

/-- the hypothesis is needed: a `<` in the text reaches the entry in escaped form (which is what
    `C19_escaped_text` says), and an entry is dropped when the heading does not qualify -/
example : entry ⟨false, false⟩ {} 2 [.rawText "a<b>&".toList] = [(2, "a&lt;b&gt;&amp;".toList)] ∧
    entry ⟨false, false⟩ {} 1 [.rawText "t".toList] = [] ∧ entry ⟨false, false⟩ {} 6 [.rawText "t".toList] = [] ∧
    entry ⟨false, false⟩ { omitTitle := false } 1 [.rawText "t".toList] = [(1, "t".toList)] := by
  decide_lit

/-- outside `plainInlines`: a tag the regex does NOT remove.  `.` does not match a newline, so a link title
    holding a line ending (possible in a setext heading) keeps `<a …>` in the entry while `</a>` goes -/
example : String.ofList (stripTags (flat (renderInlines ⟨false, false⟩
      [.link "u".toList "x\ny".toList .uri none none [.rawText "t".toList]]))) = "<a href=\"u\" title=\"x\ny\">t" := by
  rw [← String.toList_inj, String.toList_ofList]
  decide_lit

end Mistletoe.Props.C19

section Audit
open Mistletoe.Props.C19 Mistletoe.Toc
#print axioms strip_fuel
#print axioms C19_escaped_text
#print axioms C19_plain_text_inlines
#print axioms C19_plain_text
#print axioms C19_plain_text_collect
end Audit
