/-
  C01 for the HTML family (HtmlRenderer, TocRenderer, GithubWikiRenderer, MathJaxRenderer,
  PygmentsRenderer): every document the parser produces under a renderer's own token lists is a tree
  on which that renderer raises nowhere, i.e. `Html.supported o d = true` (Model/Html.lean,
  "On which trees the Python raises": a token class without `render_map` entry -> KeyError; a
  `column_align` entry outside {None, 0, 1}; a table header / row / cell of the wrong kind where
  `render_table_row` / `render_table_cell` are called directly).

  `Html.render` / `Html.renderFlavored` are total functions to `Str`; `C01_html_total` (Props/C01.lean)
  therefore only says "the model function returns".  Proved here: a PARSED document is inside
  `supported`, so the string the model returns is the string the Python returns (no raise).

  `supported` is read off the parser's range (`Range.BlocksIn`, Proofs/Range.lean): every installed span class
  has a render function (`clsH o`), BlankLine / LinkReferenceDefinitionBlock stand in no block list and HtmlBlock
  only with `process_html_tokens`; the children of an image — walked by `render_to_plain` only — are always
  `plainOk`; every TableCell has `alignOk`, a header is one TableRow of TableCells.

  Pygments: `supportedBlock` of the model is FALSE on BlockCode / CodeFence under the pygments flavour
  (the Pygments library — `highlight`, `guess_lexer`, `get_lexer_by_name` — is not modelled), so the
  statement for that flavour is "supported exactly when the document has no code block at any depth"
  (`ContribSame.noCodeBlocks`); everything outside code blocks is covered.
-/
import Mistletoe.Proofs.ContribSame
import Mistletoe.Proofs.HtmlEndToEnd

namespace Mistletoe.HtmlFamily
open Mistletoe Mistletoe.Block Mistletoe.Inline Mistletoe.Html Mistletoe.Range

/-- the span-token classes whose tokens the renderer with options `o` can render: HtmlSpan has a
    `render_map` entry only with `process_html_tokens`, Math only in MathJaxRenderer, GithubWiki only in
    GithubWikiRenderer; the XWiki macro tokens never -/
def clsH (o : Opts) : STok → Bool
  | .htmlSpan => o.processHtml
  | .math => o.flavor == .mathjax
  | .githubWiki => o.flavor == .githubWiki
  | .xwikiMacroStart => false
  | .xwikiMacroEnd => false
  | _ => true

mutual
/-- `render_to_plain` never fails on span tokens (every token has `children` or `content`; a
    LinkReferenceDefinition is never a span token), whatever the classes -/
theorem plainOk1_of_in {C : STok → Prop} : ∀ (i : Inline), InlineIn C i → plainOk1 i = true
  | .rawText _, _ => rfl
  | .strong _ k, h => plainOk_of_in k h.2
  | .emphasis _ k, h => plainOk_of_in k h.2
  | .inlineCode .., _ => rfl
  | .strikethrough k, h => plainOk_of_in k h.2
  | .image _ _ _ _ _ k, h => plainOk_of_in k h.2
  | .link _ _ _ _ _ k, h => plainOk_of_in k h.2
  | .autoLink .., _ => rfl
  | .escapeSequence _, _ => rfl
  | .lineBreak .., _ => rfl
  | .htmlSpan _, _ => rfl
  | .math _, _ => rfl
  | .githubWiki _ k, h => plainOk_of_in k h.2
  | .xwikiMacroStart _, _ => rfl
  | .xwikiMacroEnd _, _ => rfl
  | .linkRefDef .., h => h.elim
theorem plainOk_of_in {C : STok → Prop} : ∀ (k : List Inline), InlinesIn C k → plainOk k = true
  | [], _ => rfl
  | i :: is, h => by
    simp only [plainOk, Bool.and_eq_true]
    exact ⟨plainOk1_of_in i h.1, plainOk_of_in is h.2⟩
end

section
variable {o : Opts} {C : STok → Prop}

mutual
theorem supportedInline_of_in (hC : ∀ t, C t → clsH o t = true) :
    ∀ (i : Inline), InlineIn C i → supportedInline o i = true
  | .rawText _, _ => rfl
  | .strong _ k, h => supportedInlines_of_in hC k h.2
  | .emphasis _ k, h => supportedInlines_of_in hC k h.2
  | .inlineCode .., _ => rfl
  | .strikethrough k, h => supportedInlines_of_in hC k h.2
  | .image _ _ _ _ _ k, h => plainOk_of_in k h.2
  | .link _ _ _ _ _ k, h => supportedInlines_of_in hC k h.2
  | .autoLink .., _ => rfl
  | .escapeSequence _, _ => rfl
  | .lineBreak .., _ => rfl
  | .htmlSpan _, h => hC _ h
  | .math _, h => hC _ h
  | .githubWiki _ k, h => by
    simp only [supportedInline, Bool.and_eq_true]
    exact ⟨hC _ h.1, supportedInlines_of_in hC k h.2⟩
  | .xwikiMacroStart _, h => hC _ h
  | .xwikiMacroEnd _, h => hC _ h
  | .linkRefDef .., h => h.elim
theorem supportedInlines_of_in (hC : ∀ t, C t → clsH o t = true) :
    ∀ (k : List Inline), InlinesIn C k → supportedInlines o k = true
  | [], _ => rfl
  | i :: is, h => by
    simp only [supportedInlines, Bool.and_eq_true]
    exact ⟨supportedInline_of_in hC i h.1, supportedInlines_of_in hC is h.2⟩
end
end

theorem alignOk_of_in {a : Option Nat} (h : AlignIn a) : alignOk a = true := by
  rcases h with rfl | rfl | rfl <;> rfl

section
variable {o : Opts} {I : List Inline → Prop} (hI : ∀ k, I k → supportedInlines o k = true)
include hI

theorem supportedCells_of_in : ∀ (cs : List Mistletoe.Block), CellsIn I cs → supportedCells o cs = true
  | [], _ => rfl
  | c :: cs, h => by
    obtain ⟨⟨_, k, _, rfl, ha, hk⟩, hcs⟩ := cellsIn_cons h
    simp only [supportedCells, Bool.and_eq_true]
    exact ⟨⟨alignOk_of_in ha, hI k hk⟩, supportedCells_of_in cs hcs⟩

/-- fine as a `header` (`render_table_row` called directly) and as rows -/
theorem supportedRows_of_in : ∀ (rs : List Mistletoe.Block), RowsIn I rs → supportedRows o rs = true ∧ supportedBlocks o rs = true
  | [], _ => ⟨rfl, rfl⟩
  | r :: rs, h => by
    obtain ⟨⟨_, cs, _, rfl, hc⟩, hrs⟩ := rowsIn_cons h
    have hc' := supportedCells_of_in hI cs hc
    have ih := supportedRows_of_in rs hrs
    simp only [supportedRows, supportedBlocks, supportedBlock, Bool.and_eq_true]
    exact ⟨⟨hc', ih.1⟩, hc', ih.2⟩

end

section
variable {o : Opts} {K : BTok → Prop} {I : List Inline → Prop}

mutual
theorem supportedBlock_of_in (hpy : o.flavor ≠ .pygments) (hbl : ¬ K .blankLine) (hlr : ¬ K .linkRefDefBlock)
    (hhb : K .htmlBlock → o.processHtml = true) (hI : ∀ k, I k → supportedInlines o k = true) :
    ∀ (b : Mistletoe.Block), BlockIn K I b → supportedBlock o b = true
  | .paragraph k _, h => hI k h
  | .heading _ _ k _, h => hI k h
  | .setextHeading _ _ k _, h => hI k h
  | .quote kids _, h => supportedBlocks_of_in hpy hbl hlr hhb hI kids h
  | .blockCode .., _ => by simp [supportedBlock, hpy]
  | .codeFence .., _ => by simp [supportedBlock, hpy]
  | .list _ _ items _, h => supportedBlocks_of_in hpy hbl hlr hhb hI items h
  | .listItem _ _ _ _ kids _, h => supportedBlocks_of_in hpy hbl hlr hhb hI kids h
  | .table _ header rows _, h => by
    simp only [supportedBlock, Bool.and_eq_true]
    exact ⟨(supportedRows_of_in hI header h.2.2.1).1, (supportedRows_of_in hI rows h.2.2.2).2⟩
  | .tableRow _ cells _, h => supportedCells_of_in hI cells h
  | .tableCell _ k _, h => by
    simp only [supportedBlock, Bool.and_eq_true]
    exact ⟨alignOk_of_in h.1, hI k h.2⟩
  | .thematicBreak .., _ => rfl
  | .htmlBlock .., h => hhb h
  | .blankLine _, h => (hbl h).elim
  | .linkRefDefBlock .., h => (hlr h).elim
theorem supportedBlocks_of_in (hpy : o.flavor ≠ .pygments) (hbl : ¬ K .blankLine) (hlr : ¬ K .linkRefDefBlock)
    (hhb : K .htmlBlock → o.processHtml = true) (hI : ∀ k, I k → supportedInlines o k = true) :
    ∀ (bs : List Mistletoe.Block), BlocksIn K I bs → supportedBlocks o bs = true
  | [], _ => rfl
  | b :: bs, h => by
    simp only [supportedBlocks, Bool.and_eq_true]
    exact ⟨supportedBlock_of_in hpy hbl hlr hhb hI b h.1, supportedBlocks_of_in hpy hbl hlr hhb hI bs h.2⟩
end
end

/-- **every document `Document(lines)` returns is a tree on which the HTML-family renderer with options
    `o` raises nowhere**, for every configuration whose block list has no BlankLine /
    LinkReferenceDefinitionBlock (and no HtmlBlock unless `process_html_tokens`) and whose span classes
    all have a render function under `o` (`clsH`) — for every list of lines and every gas.
    (`hpy`: for the pygments flavour the model declares code blocks unsupported; see
    `parse_supported_pygments`.) -/
theorem parseLines_supported (o : Opts) (hpy : o.flavor ≠ .pygments) (cfg : Document.Cfg)
    (hbl : .blankLine ∉ cfg.block.types) (hlr : .linkRefDefBlock ∉ cfg.block.types)
    (hhb : o.processHtml = true ∨ .htmlBlock ∉ cfg.block.types)
    (hsp : ∀ t ∈ cfg.span, clsH o t = true)
    (gas : Nat) (lines : List Str) (d : Doc) (h : Document.parseLines cfg gas lines = .ok d) : supported o d = true :=
  supportedBlocks_of_in hpy hbl hlr (fun hm => hhb.resolve_right (fun hn => hn hm)) (fun _ => supportedInlines_of_in hsp _) _
    (parseLines_in cfg gas lines d h)

/-! ### The same stage by stage (`build`, `mkBlock`, `mkItems`); nothing below uses these four -/

theorem build_plain (s : Str) (found : List Found) : ∀ (out : Span.Out), plainOk1 (build s found out) = true :=
  fun out => plainOk1_of_in _ (build_in (C := fun _ => True) s found (fun _ _ => trivial) out)

theorem build_sup (o : Opts) (s : Str) (found : List Found) (hf : ∀ f ∈ found, clsH o f.cls = true) :
    ∀ (out : Span.Out), supportedInline o (build s found out) = true :=
  fun out => supportedInline_of_in (C := fun t => clsH o t = true) (fun _ h => h) _ (build_in s found hf out)

def InlSup (o : Opts) (cfg : Document.Cfg) (fn : Footnotes.Table) : Prop :=
  ∀ (s : Str) (ks : List Inline), Document.inl cfg fn s = .ok ks → supportedInlines o ks = true

/-- hypotheses on the buffer entry: no BlankLine / LinkReferenceDefinitionBlock entry at any depth
    (`Contrib.EntryClean`); no HtmlBlock entry at any depth (`Latex.EntryLx`) unless HtmlBlock has a
    `render_map` entry (`process_html_tokens`).  `hpy`: the flavour renders code blocks in the model. -/
theorem mkBlock_sup (o : Opts) (hpy : o.flavor ≠ .pygments) (cfg : Document.Cfg) (fn : Footnotes.Table) (hinl : InlSup o cfg fn) :
    ∀ (e : Entry), Contrib.EntryClean e → (o.processHtml = true ∨ Latex.EntryLx e) →
      ∀ (b : Mistletoe.Block), Document.mkBlock cfg fn e = .ok (some b) → supportedBlock o b = true :=
  fun e hc hp b h => hp.elim
    (fun hp => supportedBlock_of_in hpy (fun h => h.1 rfl) (fun h => h.2 rfl) (fun _ => hp) (fun _ h => h) b
      (mkBlock_in hinl e (Contrib.entryClean_in e hc) b h))
    (fun hx => supportedBlock_of_in hpy id id False.elim (fun _ h => h) b (mkBlock_in hinl e (Latex.entryLx_in e hx) b h))

theorem mkItems_sup (o : Opts) (hpy : o.flavor ≠ .pygments) (cfg : Document.Cfg) (fn : Footnotes.Table) (hinl : InlSup o cfg fn) :
    ∀ (is : List Item), Contrib.ItemsClean is → (o.processHtml = true ∨ Latex.ItemsLx is) →
      ∀ (bs : List Mistletoe.Block), Document.mkItems cfg fn is = .ok bs → supportedBlocks o bs = true :=
  fun is hc hp bs h => hp.elim
    (fun hp => supportedBlocks_of_in hpy (fun h => h.1 rfl) (fun h => h.2 rfl) (fun _ => hp) (fun _ h => h) bs
      (mkItems_in hinl is (Contrib.itemsClean_in is hc) bs h))
    (fun hx => supportedBlocks_of_in hpy id id False.elim (fun _ h => h) bs (mkItems_in hinl is (Latex.itemsLx_in is hx) bs h))

theorem parse_supported (o : Opts) (hpy : o.flavor ≠ .pygments) (cfg : Document.Cfg)
    (hbl : .blankLine ∉ cfg.block.types) (hlr : .linkRefDefBlock ∉ cfg.block.types)
    (hhb : o.processHtml = true ∨ .htmlBlock ∉ cfg.block.types)
    (hsp : ∀ t ∈ cfg.span, clsH o t = true)
    (gas : Nat) (t : Str) (d : Doc) (h : Document.parse cfg gas t = .ok d) : supported o d = true :=
  parseLines_supported o hpy cfg hbl hlr hhb hsp gas _ d h

open Mistletoe.Config in
/-- a regenerated configuration `c` with HtmlRenderer's block list: every parsed document is supported as soon
    as the renderer has a render function for every class of the span list (and for HtmlBlock) -/
theorem parse_supported_of_eq (o : Opts) (hpy : o.flavor ≠ .pygments) (hph : o.processHtml = true)
    (c : Option Document.Cfg) (spans : List STok) (hc : c = some ⟨⟨htmlBlockList, true⟩, spans⟩)
    (hsp : spans.all (clsH o) = true) (cfg : Document.Cfg) (hcfg : c = some cfg) (gas : Nat) (t : Str) (d : Doc)
    (h : Document.parse cfg gas t = .ok d) : supported o d = true := by
  rw [hc] at hcfg
  cases hcfg
  exact parse_supported o hpy _ (show .blankLine ∉ htmlBlockList by decide) (show .linkRefDefBlock ∉ htmlBlockList by decide) (.inl hph) (List.all_eq_true.mp hsp) gas t d h

/-- **PygmentsRenderer**: same lists as HtmlRenderer.  The model declares the pygments flavour faithful
    exactly outside code blocks (`highlight` is not modelled), so: a parsed document is supported EXACTLY
    when it contains no BlockCode / CodeFence at any depth — every other token is rendered by HtmlRenderer's
    functions, for which the document is supported. -/
theorem parse_supported_pygments (o : Opts) (cfg : Document.Cfg) (hc : Config.pygments = some cfg) (gas : Nat) (t : Str) (d : Doc)
    (h : Document.parse cfg gas t = .ok d) :
    supported { o with flavor := .pygments, processHtml := true } d = ContribSame.noCodeBlocks d.kids := by
  have h1 : supported { o with flavor := .html, processHtml := true } d = true :=
    parse_supported_of_eq _ (by simp) rfl _ _ Config.pygments_eq rfl cfg hc gas t d h
  rw [ContribSame.supported_pygments { o with processHtml := true } d, h1, Bool.true_and]

end Mistletoe.HtmlFamily

namespace Mistletoe.Config
open Mistletoe

/-- the regenerated token lists of the renderer of each flavour (default `process_html_tokens=True`) -/
def ofFlavor : Html.Flavor → Option Document.Cfg
  | .html => html
  | .toc => toc
  | .githubWiki => githubWiki
  | .mathjax => mathjax
  | .pygments => pygments

end Mistletoe.Config

namespace Mistletoe.Props.C01
open Mistletoe Mistletoe.Block Mistletoe.Lines Mistletoe.Html Mistletoe.HtmlFamily

/-- the options of the renderer of flavour `f` built with default `process_html_tokens` and the two
    quote-escaping options of `o` -/
def famOpts (f : Flavor) (o : Opts) : Opts := { o with flavor := f, processHtml := true }

/-- the side condition per flavour: none, except for Pygments (code blocks are outside the model) -/
def famSide (f : Flavor) (d : Doc) : Bool :=
  match f with
  | .pygments => ContribSame.noCodeBlocks d.kids
  | _ => true

/-- **Every document parsed under the token lists of a renderer of the HTML family is a tree on which
    that renderer raises nowhere** — every token at every depth has a `render_map` entry in that renderer
    (HtmlBlock / HtmlSpan; Math under MathJaxRenderer; GithubWiki under GithubWikiRenderer; never BlankLine,
    LinkReferenceDefinition(Block), XWiki macros), every `column_align` entry is None / 0 / 1, every table
    header is a TableRow of TableCells, an image's children all have `content` or `children`.  One statement
    for the five flavours; for Pygments the model's `supported` is, exactly, "no code block" (`famSide`). -/
theorem C01_html_family_supported (f : Flavor) (o : Opts) (cfg : Document.Cfg) (hc : Config.ofFlavor f = some cfg)
    (gas : Nat) (t : Str) (d : Doc) (h : Document.parse cfg gas t = .ok d) :
    supported (famOpts f o) d = famSide f d := by
  cases f
  · exact parse_supported_of_eq _ (by simp [famOpts]) rfl _ _ Config.html_eq rfl cfg hc gas t d h
  · exact parse_supported_of_eq _ (by simp [famOpts]) rfl _ _ Config.toc_eq rfl cfg hc gas t d h
  · exact parse_supported_of_eq _ (by simp [famOpts]) rfl _ _ Config.githubWiki_eq rfl cfg hc gas t d h
  · exact parse_supported_of_eq _ (by simp [famOpts]) rfl _ _ Config.mathjax_eq rfl cfg hc gas t d h
  · exact parse_supported_pygments o cfg hc gas t d h

/-- **Parse-and-render with a renderer of the HTML family, for every text**: with the token lists the
    renderer installs (regenerated from /repo) and enough gas, `Document(text)` returns a document `d`,
    `d` is supported by that renderer (code blocks aside for Pygments), and so the renderer finds a render
    function for every token and returns the string `Html.renderFlavored (famOpts f o) d`. -/
theorem C01_html_family_total (f : Flavor) (o : Opts) (cfg : Document.Cfg) (hc : Config.ofFlavor f = some cfg)
    (gas : Nat) (t : Str) (hg : gasBound cfg.block (docBuf (normalize (.str t))) ≤ gas) :
    ∃ d, Document.parse cfg gas t = .ok d ∧ supported (famOpts f o) d = famSide f d ∧
      Config.renderContrib (Config.ofFlavor f) (famOpts f o) gas t = some (renderFlavored (famOpts f o) d) := by
  obtain ⟨d, hd⟩ := C01_parse_terminates cfg gas t hg
  exact ⟨d, hd, C01_html_family_supported f o cfg hc gas t d hd, by simp only [Config.renderContrib, hc, hd]⟩

theorem C01_html_family_total' (f : Flavor) (hf : f ≠ .pygments) (o : Opts) (cfg : Document.Cfg)
    (hc : Config.ofFlavor f = some cfg) (gas : Nat) (t : Str) (hg : gasBound cfg.block (docBuf (normalize (.str t))) ≤ gas) :
    ∃ d, Document.parse cfg gas t = .ok d ∧ supported (famOpts f o) d = true := by
  obtain ⟨d, hd, hs, _⟩ := C01_html_family_total f o cfg hc gas t hg
  refine ⟨d, hd, ?_⟩
  rw [hs]
  cases f <;> first | rfl | exact absurd rfl hf

/-- **HtmlRenderer(process_html_tokens=False)**: the two HTML token classes are not installed (`Config.htmlNoRaw`,
    regenerated), so a parsed document is supported by the renderer WITHOUT the two HTML `render_map` entries
    (that it holds no HtmlBlock / HtmlSpan token is `C08_parsed_no_raw`). -/
theorem C01_html_noraw_supported (o : Opts) (cfg : Document.Cfg) (hc : Config.htmlNoRaw = some cfg)
    (gas : Nat) (t : Str) (d : Doc) (h : Document.parse cfg gas t = .ok d) :
    supported { o with flavor := .html, processHtml := false } d = true := by
  rw [Config.htmlNoRaw_eq] at hc
  cases hc
  exact parse_supported _ (by simp) _ (by decide) (by decide) (.inr (by decide)) (List.all_eq_true.mp rfl) gas t d h

theorem C01_html_noraw_total (o : Opts) (cfg : Document.Cfg) (hc : Config.htmlNoRaw = some cfg)
    (gas : Nat) (t : Str) (hg : gasBound cfg.block (docBuf (normalize (.str t))) ≤ gas) :
    ∃ d, Document.parse cfg gas t = .ok d ∧ supported { o with flavor := .html, processHtml := false } d = true ∧
      Config.renderHtmlNoRaw { o with flavor := .html, processHtml := false } gas t =
        some (render { o with flavor := .html, processHtml := false } d) := by
  obtain ⟨d, hd⟩ := C01_parse_terminates cfg gas t hg
  exact ⟨d, hd, C01_html_noraw_supported o cfg hc gas t d hd, by rw [Config.renderHtmlNoRaw, hc]; simp only [hd]⟩

/-- the configurations exist: the regenerated lists are known to the model -/
example : ∀ f, (Config.ofFlavor f).isSome = true := by
  intro f
  cases f <;> simp only [Config.ofFlavor, Config.html_eq, Config.toc_eq, Config.githubWiki_eq, Config.mathjax_eq,
    Config.pygments_eq, Option.isSome_some]
example : Config.htmlNoRaw.isSome = true := by rw [Config.htmlNoRaw_eq]; rfl

/-! ### Sharpness: `supported` does exclude trees (no parse produces them under the matching lists) -/

/-- a Math token handed to the plain HtmlRenderer (KeyError 'Math'): unsupported under every flavour but
    mathjax -/
example : supported { flavor := .html } ⟨[.paragraph [.math "$x$".toList] 1], []⟩ = false ∧
    supported { flavor := .toc } ⟨[.paragraph [.math "$x$".toList] 1], []⟩ = false ∧
    supported { flavor := .githubWiki } ⟨[.paragraph [.math "$x$".toList] 1], []⟩ = false ∧
    supported { flavor := .pygments } ⟨[.paragraph [.math "$x$".toList] 1], []⟩ = false ∧
    supported { flavor := .mathjax } ⟨[.paragraph [.math "$x$".toList] 1], []⟩ = true := by decide +kernel

/-- a GithubWiki token outside GithubWikiRenderer; raw HTML tokens without `process_html_tokens`; a
    BlankLine; an alignment 2; a header that is not a TableRow; a code block under Pygments -/
example : supported { flavor := .html } ⟨[.paragraph [.githubWiki "b".toList [.rawText "a".toList]] 1], []⟩ = false ∧
    supported { flavor := .githubWiki } ⟨[.paragraph [.githubWiki "b".toList [.rawText "a".toList]] 1], []⟩ = true ∧
    supported { processHtml := false } ⟨[.htmlBlock "<p>".toList 1], []⟩ = false ∧
    supported { processHtml := false } ⟨[.paragraph [.htmlSpan "<b>".toList] 1], []⟩ = false ∧
    supported {} ⟨[.htmlBlock "<p>".toList 1, .paragraph [.htmlSpan "<b>".toList] 2], []⟩ = true ∧
    supported {} ⟨[.blankLine 1], []⟩ = false ∧
    supported {} ⟨[.table [some 2] [] [.tableRow [some 2] [.tableCell (some 2) [] 1] 1] 1], []⟩ = false ∧
    supported {} ⟨[.table [none] [.thematicBreak [] 1] [] 1], []⟩ = false ∧
    supported { flavor := .pygments } ⟨[.blockCode "x\n".toList 1], []⟩ = false ∧
    supported { flavor := .html } ⟨[.blockCode "x\n".toList 1], []⟩ = true := by decide +kernel

/-! ### Non-vacuity: the text "$x$ [[a|b]]" (plus raw HTML and a table) under every configuration -/

def parsedSupported (c : Option Document.Cfg) (o : Opts) (gas : Nat) (t : Str) : Bool :=
  match c with
  | none => false
  | some cfg =>
    match Document.parse cfg gas t with
    | .ok d => supported o d
    | .err _ => false

def mathWiki : Str := "$x$ [[a|b]]".toList

/-- under each renderer's own lists the parsed document of "$x$ [[a|b]]" is supported by that renderer -/
example : parsedSupported Config.html (famOpts .html {}) 50 mathWiki = true := by rw [Config.html_eq]; decide +kernel
example : parsedSupported Config.toc (famOpts .toc {}) 50 mathWiki = true := by rw [Config.toc_eq]; decide +kernel
example : parsedSupported Config.githubWiki (famOpts .githubWiki {}) 50 mathWiki = true := by rw [Config.githubWiki_eq]; decide +kernel
example : parsedSupported Config.mathjax (famOpts .mathjax {}) 50 mathWiki = true := by rw [Config.mathjax_eq]; decide +kernel
example : parsedSupported Config.pygments (famOpts .pygments {}) 50 mathWiki = true := by rw [Config.pygments_eq]; decide +kernel
example : parsedSupported Config.htmlNoRaw { processHtml := false } 50 mathWiki = true := by
  rw [Config.htmlNoRaw_eq]; decide +kernel

/-- … and the lists matter: the document parsed under MathJaxRenderer's lists has a Math token, which the
    plain HtmlRenderer could not render; likewise GithubWiki -/
example : parsedSupported Config.mathjax (famOpts .html {}) 50 mathWiki = false := by rw [Config.mathjax_eq]; decide +kernel
example : parsedSupported Config.githubWiki (famOpts .html {}) 50 mathWiki = false := by rw [Config.githubWiki_eq]; decide +kernel
/-- raw HTML parsed under HtmlRenderer's lists is not renderable by `HtmlRenderer(process_html_tokens=False)`'s map -/
example : parsedSupported Config.html { processHtml := false } 50 "a <b>c</b>".toList = false := by
  rw [Config.html_eq]; decide_lit
example : parsedSupported Config.htmlNoRaw { processHtml := false } 50 "a <b>c</b>".toList = true := by
  rw [Config.htmlNoRaw_eq]; decide_lit

/-- what the model returns on the sample, byte for byte the real renderers' outputs
    (`mistletoe.markdown('$x$ [[a|b]]', R)`) -/
example : Config.renderContrib Config.githubWiki (famOpts .githubWiki {}) 50 mathWiki =
    some "<p>$x$ <a href=\"b\">a</a></p>\n".toList := by
  rw [Config.githubWiki_eq]; decide_lit
example : Config.renderContrib Config.mathjax (famOpts .mathjax {}) 50 mathWiki =
    some ("<p>\\(x\\) [[a|b]]</p>\n".toList ++ Gen.RenderMaps.mathjaxSrc) := by
  rw [Config.mathjax_eq]; decide_lit

/-- a table with the three alignments, an image whose description holds emphasis, raw HTML: supported -/
example : parsedSupported Config.html (famOpts .html {}) 80 "|a|b|c|\n|:-|:-:|-:|\n|![*i*](u)|<b>|\n\n<div>\n".toList = true := by
  rw [Config.html_eq]; decide_lit

/-- Pygments: a document with a code fence is where the model stops -/
example : parsedSupported Config.pygments (famOpts .pygments {}) 50 "```\nx\n```\n".toList = false ∧
    parsedSupported Config.pygments (famOpts .html {}) 50 "```\nx\n```\n".toList = true := by
  rw [Config.pygments_eq]; decide_lit

/-- the theorems applied: the hypotheses (configuration known, gas bound) are satisfiable -/
example : ∃ d, Document.parse (Config.mathjax.get (by decide +kernel)) 2000 mathWiki = .ok d ∧
    supported (famOpts .mathjax {}) d = true :=
  C01_html_family_total' .mathjax (by decide) {} _ (Option.some_get _).symm 2000 _
    (by decide +kernel)

example : ∃ d, Document.parse (Config.githubWiki.get (by decide +kernel)) 2000 mathWiki = .ok d ∧
    supported (famOpts .githubWiki { dq := true }) d = famSide .githubWiki d ∧
    Config.renderContrib (Config.ofFlavor .githubWiki) (famOpts .githubWiki { dq := true }) 2000 mathWiki =
      some (renderFlavored (famOpts .githubWiki { dq := true }) d) :=
  C01_html_family_total .githubWiki { dq := true } _ (Option.some_get _).symm 2000 _
    (by decide +kernel)

example : ∃ d, Document.parse (Config.htmlNoRaw.get (by decide +kernel)) 2000 "a <b>c</b>".toList = .ok d ∧
    supported { flavor := .html, processHtml := false } d = true ∧
    Config.renderHtmlNoRaw { flavor := .html, processHtml := false } 2000 "a <b>c</b>".toList =
      some (render { flavor := .html, processHtml := false } d) :=
  C01_html_noraw_total {} _ (Option.some_get _).symm 2000 _ (by decide +kernel)

end Mistletoe.Props.C01
