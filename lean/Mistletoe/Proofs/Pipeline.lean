/-
  The top of the pipeline through lemmas of its own.

  `Document.parseLines`, `Html.render` and `Config.renderHtml` are the three places where the phases are put together: block
  phase, then the token constructors with the table of all definitions; the blocks joined by "\n" with a final "\n"; the
  bundled HTML configuration around `parse` and `render`.  The end-to-end theorems compose their phases through the statements
  below (`parseLines_phase` where the outcome of the constructors is left open, exceptions included: DocLevel), and an inversion
  of a parsed document starts from `parseLines_ok`, instead of unfolding the three definitions.
  At the end: `List.__init__` from the constructed items (`mkBlock_list_of`), the one constructor whose looseness test is an
  anonymous matcher in the model; and `make_tokens` of a concatenated buffer (`DocLevel.mkBlocks_append`, with the sequencing
  `DocLevel.rapp` of two results).  Before all that, four small facts that modules far apart need and that have no other
  common module below them.  Imports the model only.
-/
import Mistletoe.Model.Document
import Mistletoe.Model.Html
import Mistletoe.Model.Config
import Mistletoe.Model.Wrap

theorem Mistletoe.Res.exists_of_isOk {α} {r : Mistletoe.Res α} (h : r.isOk = true) : ∃ a, r = .ok a := by
  cases r with
  | ok a => exact ⟨a, rfl⟩
  | err e => cases h

/-- the list step of "a tree predicate is the conjunction of two tree predicates" -/
theorem Bool.and_and_and_comm (a b c d : Bool) : (a && b && (c && d)) = (a && c && (b && d)) := by
  cases a <;> cases b <;> cases c <;> cases d <;> rfl

theorem Mistletoe.Document.of_mem_joinNl : ∀ (ls : List Mistletoe.Str) (c : Char), c ∈ joinNl ls → c = '\n' ∨ ∃ l ∈ ls, c ∈ l
  | [], _, h => by simp [joinNl] at h
  | [x], c, h => by simp only [joinNl] at h; exact Or.inr ⟨x, List.mem_cons_self .., h⟩
  | x :: y :: rest, c, h => by
    simp only [joinNl, List.mem_append, List.mem_singleton] at h
    rcases h with (h1 | h1) | h1
    · exact Or.inr ⟨x, List.mem_cons_self .., h1⟩
    · exact Or.inl h1
    · rcases of_mem_joinNl (y :: rest) c h1 with h2 | ⟨l, hl, hc⟩
      · exact Or.inl h2
      · exact Or.inr ⟨l, List.mem_cons_of_mem _ hl, hc⟩

theorem Mistletoe.Wrap.prefixLines_none (ls : List Mistletoe.Str) (p : Mistletoe.Str) :
    prefixLines ls p none = prefixLinesAux p ls := by
  cases ls <;> rfl

namespace Mistletoe.Pipeline
open Mistletoe Mistletoe.Block Mistletoe.Document Mistletoe.Html

theorem parseLines_phase {cfg : Document.Cfg} {gas : Nat} {lines : List Str} {buf : Buf} {st : St}
    (hb : blockPhase cfg.block gas lines = .ok (buf, st)) :
    parseLines cfg gas lines =
      match mkBlocks cfg (footnotesOf st.defs) buf.entries with
      | .err e => .err e
      | .ok kids => .ok { kids := kids, footnotes := footnotesOf st.defs } := by
  simp only [parseLines, hb]
  cases mkBlocks cfg (footnotesOf st.defs) buf.entries <;> rfl

theorem parseLines_of_phase {cfg : Document.Cfg} {gas : Nat} {lines : List Str} {buf : Buf} {st : St} {kids : List Mistletoe.Block}
    (hb : blockPhase cfg.block gas lines = .ok (buf, st))
    (hk : mkBlocks cfg (footnotesOf st.defs) buf.entries = .ok kids) :
    parseLines cfg gas lines = .ok { kids := kids, footnotes := footnotesOf st.defs } := by
  rw [parseLines_phase hb, hk]

theorem parseLines_ok {cfg : Document.Cfg} {gas : Nat} {lines : List Str} {d : Doc} (h : parseLines cfg gas lines = .ok d) :
    ∃ buf st, blockPhase cfg.block gas lines = .ok (buf, st) ∧
      mkBlocks cfg (footnotesOf st.defs) buf.entries = .ok d.kids ∧ d.footnotes = footnotesOf st.defs := by
  unfold parseLines at h
  cases hb : blockPhase cfg.block gas lines with
  | err e => rw [hb] at h; cases h
  | ok r =>
    obtain ⟨buf, st⟩ := r
    rw [hb] at h
    cases hk : mkBlocks cfg (footnotesOf st.defs) buf.entries with
    | err e => simp [hk] at h
    | ok kids =>
      simp only [hk, Res.ok.injEq] at h
      subst h
      exact ⟨buf, st, rfl, hk, rfl⟩

theorem flat_append (a b : List Ev) : flat (a ++ b) = flat a ++ flat b := by simp [flat]

theorem flat_sep_cons2 (q : Quotes) (s : Bool) (b b' : Mistletoe.Block) (bs : List Mistletoe.Block) :
    flat (renderSep q s (b :: b' :: bs)) = flat (renderBlock q s b) ++ '\n' :: flat (renderSep q s (b' :: bs)) := by
  simp [renderSep, flat, flatEv, nl]

theorem flat_sep_single (q : Quotes) (s : Bool) (b : Mistletoe.Block) : flat (renderSep q s [b]) = flat (renderBlock q s b) := by
  simp [renderSep]

theorem flat_afterEach_cons (q : Quotes) (s : Bool) (b : Mistletoe.Block) (bs : List Mistletoe.Block) :
    flat (renderAfterEach q s (b :: bs)) = flat (renderBlock q s b) ++ '\n' :: flat (renderAfterEach q s bs) := by
  simp [renderAfterEach, flat, flatEv, nl]

theorem flat_sep_afterEach (q : Quotes) (s : Bool) : ∀ (bs : List Mistletoe.Block), bs ≠ [] →
    flat (renderSep q s bs) ++ ['\n'] = flat (renderAfterEach q s bs)
  | [], h => absurd rfl h
  | [b], _ => by simp [renderSep, renderAfterEach, flat, flatEv, nl]
  | b :: b' :: rest, _ => by
    rw [flat_sep_cons2, flat_afterEach_cons, ← flat_sep_afterEach q s (b' :: rest) (by simp)]
    simp

/-- `h`: `render` returns "" for a document that writes nothing -/
theorem render_cons (o : Opts) (b : Mistletoe.Block) (bs : List Mistletoe.Block) (fn : List (Str × Str × Str))
    (h : flat (renderBlock o.q false b) ≠ []) :
    render o { kids := b :: bs, footnotes := fn } = flat (renderSep o.q false (b :: bs)) ++ ['\n'] := by
  have hne : (flat (renderSep o.q false (b :: bs))).isEmpty = false := by
    cases bs with
    | nil => simpa [renderSep] using h
    | cons b' r => simp [flat_sep_cons2, h]
  simp only [render, renderDoc, hne, Bool.false_eq_true, if_false, flat_append]
  rfl

theorem flat_paragraph (q : Quotes) (s : Bool) (kids : List Inline) (ln : Nat) :
    flat (renderBlock q s (.paragraph kids ln)) =
      if s then flat (renderInlines q kids) else "<p>".toList ++ flat (renderInlines q kids) ++ "</p>".toList := by
  cases s with
  | true => simp only [renderBlock, if_true]
  | false =>
    simp only [renderBlock, Bool.false_eq_true, if_false, flat_append]
    simp [flat, flatEv, flatAttrs]

theorem render_one_paragraph (o : Opts) (kids : List Inline) (ln : Nat) (fn : List (Str × Str × Str)) :
    render o { kids := [.paragraph kids ln], footnotes := fn } =
      "<p>".toList ++ flat (renderInlines o.q kids) ++ "</p>\n".toList := by
  rw [render_cons o _ [] fn (by rw [flat_paragraph]; simp), renderSep, flat_paragraph]
  simp

/-- (with HtmlRenderer's lists written out, for test vectors: `Config.renderHtml_of`, Proofs/ConfigValues.lean) -/
theorem renderHtml_of_parse {cfg : Document.Cfg} (hcfg : Config.html = some cfg) (o : Opts) {gas : Nat} {text : Str} {d : Doc}
    (h : Document.parse cfg gas text = .ok d) : Config.renderHtml o gas text = some (render o d) := by
  rw [Config.renderHtml, hcfg]
  simp only [h]

end Mistletoe.Pipeline

namespace Mistletoe.Document
open Mistletoe Mistletoe.Py Mistletoe.Block

/-- what `List.__init__` asks of an item for the looseness of the list -/
def itemLooseB : Mistletoe.Block → Bool
  | .listItem _ _ _ l _ _ => l
  | _ => false

/-- `List(matches)` from its items: looseness is "some item is loose", `start` is read off the first item's leader -/
theorem mkBlock_list_of (cfg : Cfg) (fn : Footnotes.Table) (inner : List Entry) (lo : Bool) (ind pre : Nat) (ld : Str)
    (iln iog : Nat) (r : List Item) (its : List Mistletoe.Block) (ln og : Nat)
    (h : mkItems cfg fn (.mk inner lo ind pre ld iln iog :: r) = .ok its) :
    mkBlock cfg fn (.list (.mk inner lo ind pre ld iln iog :: r) ln og) =
      .ok (some (.list (its.any itemLooseB) (if ld.length != 1 then some (parseNat ld.dropLast) else none) its ln)) := by
  simp only [mkBlock, h]
  -- the model's matcher is not syntactically `itemLooseB`
  exact congrArg (fun x => Res.ok (some (Mistletoe.Block.list x _ its ln)))
    (congrArg its.any (funext fun b => by cases b <;> rfl))

end Mistletoe.Document

namespace Mistletoe.DocLevel
open Mistletoe Mistletoe.Block Mistletoe.Document

def rapp {α} : Res (List α) → Res (List α) → Res (List α)
  | .err e, _ => .err e
  | .ok _, .err e => .err e
  | .ok a, .ok b => .ok (a ++ b)

@[simp] theorem rapp_ok_ok {α} (a b : List α) : rapp (.ok a) (.ok b) = .ok (a ++ b) := rfl
@[simp] theorem rapp_err {α} (e : Err) (r : Res (List α)) : rapp (.err e) r = .err e := rfl
@[simp] theorem rapp_ok_err {α} (a : List α) (e : Err) : rapp (.ok a) (.err e) = .err e := rfl

theorem mkBlocks_append (cfg : Document.Cfg) (fn : Footnotes.Table) : ∀ (es₁ es₂ : List Entry),
    mkBlocks cfg fn (es₁ ++ es₂) = rapp (mkBlocks cfg fn es₁) (mkBlocks cfg fn es₂)
  | [], es₂ => by
    simp only [List.nil_append, mkBlocks]
    cases mkBlocks cfg fn es₂ <;> rfl
  | e :: es, es₂ => by
    simp only [List.cons_append, mkBlocks]
    rw [mkBlocks_append cfg fn es es₂]
    cases mkBlock cfg fn e with
    | err x => rfl
    | ok b =>
      cases mkBlocks cfg fn es with
      | err x => rfl
      | ok bs =>
        cases mkBlocks cfg fn es₂ with
        | err x => rfl
        | ok cs => cases b <;> simp

end Mistletoe.DocLevel
