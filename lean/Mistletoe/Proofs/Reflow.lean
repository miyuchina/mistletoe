/-
  C10 (reflow), prose fragment — the Markdown renderer WITH a line limit (`max_line_length = L`) on documents made
  of paragraphs of plain words.

  Fragment: a document is given as paragraphs `p, q₁, q₂, …`; a paragraph is a non-empty list of lines; a line is a
  non-empty list of words; the source line is the words joined by single spaces + "\n" (`lineOf`), consecutive paragraphs
  are separated by one empty line (`textOf`).  Every word is a `plainWord`: non-empty, no whitespace, none of the
  inline-active characters ``\ ` < & ~ [ * _``, and its first character cannot begin a block construct (`plainStart`: not a
  digit, none of ``# > ` ~ - _ * + = < [ | :``) — "documents whose prose words cannot be mistaken for block markers at the
  start of a line": after re-breaking, ANY word may come first on a line.  Such a document is in the normal form of C09
  (`normalPara_of_plain`), so the C14 / C09 lemmas give its tree.  Here, paragraph by paragraph:

  * `makeWords_prose`   — `make_words` on the fragments of such a paragraph (word-wrappable `RawText` fragments, the
                          "\n" fragment of a soft `LineBreak`) yields all the words of the paragraph, in order;
  * `spanToLines_wrap`, `renderBlocks_wrap` (a) — the renderer's output is `Wrap.fill L words` per paragraph;
  * `reflowFacts`, `reflow_same_words` (b) — the output is the text of a document of the same fragment (`reflowG`)
                          with the same word sequence per paragraph;
  * `html_norm`, `htmlParas_reflow` (c) — the HTML of such a document after "\n" ↦ " " (`nlToSp`) in closed form
                          (`render_proseB`), which depends on the words only;
  * `reflowG_idem`, `fill_idem` (d) — the fill loop is a function of the word sequence: refilling again changes nothing;
  * `reflow_bound` (e)  — a line longer than `L` is a single word without whitespace (from `C10.fillAux_bound`, like `C10_bound`).

  The theorems about `Document(text)` and `render` are stated once, behind `k ≥ 0` markers "> ", in
  Proofs/ReflowQuote.lean (`reflowQ_all`, `reflowQ_meaning`, `reflowQ_idempotent`); the top-level theorems of
  Props/C10_Reflow.lean are their instances at depth 0.  List items as containers: Proofs/ReflowList.lean
  (Props/C10_Lists.lean).  Not covered: hard line breaks, inline markup, and words that could be mistaken for block
  markers (excluded by `plainWord`).
-/
import Mistletoe.Props.C09
import Mistletoe.Props.C10
import Mistletoe.Proofs.Lit
import Mistletoe.Proofs.MapChars
namespace Mistletoe.Reflow
open Mistletoe Mistletoe.Py Mistletoe.Wrap Mistletoe.Markdown Mistletoe.InertInline Mistletoe.MdRound
open Mistletoe.Block (plainStart)
open Mistletoe.Strip (lstrip_of_head strip_line)
open Mistletoe.Props.C10 (joinWords fillG joinWords_cons joinWords_snoc joinWords_append joinWords_mem fill_eq_fillG
  fillG_nil_flatten)
open Mistletoe.Props.C14 (inertLine joinBlank)
open Mistletoe.Props.C09 (normalPara docText ParaFacts)

/-- a character of a plain word: not whitespace (`str.isspace`), and without inline meaning anywhere
    (`plainInline`: none of ``\ ` < & ~ [ * _`` and newline) -/
def wordChar (c : Char) : Bool := !pyIsSpace c && plainInline c

/-- **plain word** (decidable): non-empty; the first character can begin no block construct
    (`plainStart`: not a digit and none of ``# > ` ~ - _ * + = < [ | :``, e.g. any letter); every character is
    a `wordChar`. -/
def plainWord : Str → Bool
  | [] => false
  | c :: r => plainStart c && (c :: r).all wordChar

def plainWords (ws : List Str) : Bool := !ws.isEmpty && ws.all plainWord

def plainPara (g : List (List Str)) : Bool := !g.isEmpty && g.all plainWords

def lineOf (ws : List Str) : Str := joinWords ws ++ ['\n']

def paraLines (g : List (List Str)) : List Str := g.map lineOf

structure WordFacts (w : Str) : Prop where
  ne : w ≠ []
  start : ∀ c r, w = c :: r → plainStart c = true
  chars : ∀ c ∈ w, wordChar c = true

theorem plainWord_facts (w : Str) (h : plainWord w = true) : WordFacts w := by
  cases w with
  | nil => cases h
  | cons c r =>
    simp only [plainWord, Bool.and_eq_true, List.all_eq_true] at h
    refine ⟨by simp, ?_, h.2⟩
    intro c' r' e
    simp only [List.cons.injEq] at e
    rw [← e.1]; exact h.1

theorem plainWords_facts (ws : List Str) (h : plainWords ws = true) : ws ≠ [] ∧ ∀ w ∈ ws, WordFacts w := by
  simp only [plainWords, Bool.and_eq_true, Bool.not_eq_eq_eq_not, Bool.not_true, List.all_eq_true] at h
  exact ⟨(by intro e; rw [e] at h; cases h.1), fun w hw => plainWord_facts w (h.2 w hw)⟩

theorem plainPara_facts (g : List (List Str)) (h : plainPara g = true) : g ≠ [] ∧ ∀ ws ∈ g, plainWords ws = true := by
  simp only [plainPara, Bool.and_eq_true, Bool.not_eq_eq_eq_not, Bool.not_true, List.all_eq_true] at h
  exact ⟨(by intro e; rw [e] at h; cases h.1), h.2⟩

theorem plainPara_cons (p : List (List Str)) (rest : List (List (List Str))) (hp : plainPara p = true)
    (hrest : ∀ q ∈ rest, plainPara q = true) : ∀ q ∈ p :: rest, plainPara q = true :=
  List.forall_mem_cons.mpr ⟨hp, hrest⟩

theorem wordChar_nsp (c : Char) (h : wordChar c = true) : pyIsSpace c = false := by
  simp only [wordChar, Bool.and_eq_true, Bool.not_eq_eq_eq_not, Bool.not_true] at h
  exact h.1

theorem wordChar_plain (c : Char) (h : wordChar c = true) : plainInline c = true := by
  simp only [wordChar, Bool.and_eq_true] at h
  exact h.2

/-! ### `re.split(r"\s+", line)` gives back the words -/

theorem splitWsAux_word (s : Str) : ∀ (w : Str) (c : Char) (cur : Str) (b : Bool),
    (∀ x ∈ c :: w, pyIsSpace x = false) →
    Wrap.splitWsAux (c :: w ++ s) cur b = Wrap.splitWsAux s ((c :: w).reverse ++ cur) false
  | [], c, cur, b, h => by
    simp [Wrap.splitWsAux, h c (by simp)]
  | d :: w, c, cur, b, h => by
    have ih := splitWsAux_word s w d (c :: cur) false (fun x hx => h x (List.mem_cons_of_mem _ hx))
    simp only [List.cons_append, Wrap.splitWsAux, h c (by simp), Bool.false_eq_true, if_false] at ih ⊢
    rw [ih]
    simp

theorem splitWsAux_nil_word (w : Str) (hne : w ≠ []) (h : ∀ x ∈ w, pyIsSpace x = false) (b : Bool) :
    Wrap.splitWsAux w [] b = [w] := by
  cases w with
  | nil => exact absurd rfl hne
  | cons c r =>
    have := splitWsAux_word [] r c [] b h
    simp only [List.append_nil] at this
    rw [this]
    simp [Wrap.splitWsAux]

theorem splitWs_joinWords : ∀ (ws : List Str) (b : Bool), ws ≠ [] → (∀ w ∈ ws, w ≠ [] ∧ ∀ x ∈ w, pyIsSpace x = false) →
    Wrap.splitWsAux (joinWords ws) [] b = ws
  | [], _, h, _ => absurd rfl h
  | [w], b, _, h => by
    simp only [joinWords]
    exact splitWsAux_nil_word w (h w (by simp)).1 (h w (by simp)).2 b
  | w :: y :: ys, b, _, h => by
    have ih := splitWs_joinWords (y :: ys) true (by simp) (fun x hx => h x (List.mem_cons_of_mem _ hx))
    obtain ⟨hne, hw⟩ := h w (by simp)
    cases w with
    | nil => exact absurd rfl hne
    | cons c r =>
      simp only [joinWords]
      have e : (c :: r) ++ [' '] ++ joinWords (y :: ys) = c :: r ++ (' ' :: joinWords (y :: ys)) := by simp
      rw [e, splitWsAux_word _ r c [] b hw]
      have hs : pyIsSpace ' ' = true := by decide
      simp only [Wrap.splitWsAux, hs, if_true, Bool.false_eq_true, if_false, ih]
      simp

/-! ### `make_words` on the fragments of a prose paragraph -/

theorem feedItems_false : ∀ (items : List Str) (word : Str), word ≠ [] → (∀ x ∈ items, x ≠ []) →
    (feedItems items false word).1 ++ [(feedItems items false word).2] = word :: items
  | [], word, _, _ => by simp [feedItems]
  | it :: rest, word, hw, h => by
    have ih := feedItems_false rest it (h it (by simp)) (fun x hx => h x (List.mem_cons_of_mem _ hx))
    have e : word.isEmpty = false := List.isEmpty_eq_false_iff.mpr hw
    simp only [feedItems, Bool.false_eq_true, if_false, e]
    simp only [List.cons_append, List.nil_append, ih]

theorem splitWs_nl : Wrap.splitWs ['\n'] = [[], []] := by decide

theorem makeWordsAux_line (ws : List Str) (hne : ws ≠ []) (hw : ∀ w ∈ ws, w ≠ [] ∧ ∀ x ∈ w, pyIsSpace x = false) :
    ∃ ys w, ys ++ [w] = ws ∧ w ≠ [] ∧
      ∀ rest, makeWordsAux (fragW (joinWords ws) :: rest) [] = ys ++ makeWordsAux rest w := by
  have hsplit : Wrap.splitWs (joinWords ws) = ws := splitWs_joinWords ws false hne hw
  cases ws with
  | nil => exact absurd rfl hne
  | cons w1 ws' =>
    have hf := feedItems_false ws' w1 (hw w1 (by simp)).1 (fun x hx => (hw x (List.mem_cons_of_mem _ hx)).1)
    refine ⟨(feedItems ws' false w1).1, (feedItems ws' false w1).2, hf, ?_, ?_⟩
    · have hm : (feedItems ws' false w1).2 ∈ w1 :: ws' := by rw [← hf]; simp
      exact (hw _ hm).1
    · intro rest
      simp only [makeWordsAux, fragW, if_true, hsplit, feedItems, List.nil_append]

/-- the fragment "\n" of a soft line break: the pending word is yielded, as at a space -/
theorem makeWordsAux_soft (w : Str) (hw : w ≠ []) (rest : List Fragment) :
    makeWordsAux ({ text := ['\n'], wordwrap := true, hardLineBreak := false } :: rest) w = w :: makeWordsAux rest [] := by
  have e : w.isEmpty = false := List.isEmpty_eq_false_iff.mpr hw
  simp only [makeWordsAux, if_true, splitWs_nl, feedItems, List.append_nil, e, Bool.false_eq_true, if_false]
  simp

theorem makeWords_prose : ∀ (g : List (List Str)),
    (∀ ws ∈ g, ws ≠ [] ∧ ∀ w ∈ ws, w ≠ [] ∧ ∀ x ∈ w, pyIsSpace x = false) →
    makeWordsAux (proseFrags (g.map joinWords)) [] = g.flatten
  | [], _ => by simp [proseFrags, makeWordsAux]
  | [ws], h => by
    obtain ⟨ys, w, e, hw, hm⟩ := makeWordsAux_line ws (h ws (by simp)).1 (h ws (by simp)).2
    have e2 : w.isEmpty = false := List.isEmpty_eq_false_iff.mpr hw
    simp only [List.map_cons, List.map_nil, proseFrags, hm, makeWordsAux, e2, Bool.false_eq_true, if_false, e,
      List.flatten_cons, List.flatten_nil, List.append_nil]
  | ws :: ws2 :: g', h => by
    have ih := makeWords_prose (ws2 :: g') (fun x hx => h x (List.mem_cons_of_mem _ hx))
    obtain ⟨ys, w, e, hw, hm⟩ := makeWordsAux_line ws (h ws (by simp)).1 (h ws (by simp)).2
    rw [List.map_cons, List.map_cons, proseFrags_cons2, ← List.map_cons, hm, makeWordsAux_soft w hw, ih, List.flatten_cons, ← e]
    simp

theorem joinWords_head (w : Str) (ws : List Str) (c : Char) (r : Str) (hw : w = c :: r) :
    ∃ r', joinWords (w :: ws) = c :: r' :=
  ⟨r ++ ws.flatMap (' ' :: ·), by rw [joinWords_cons, hw]; rfl⟩

theorem joinWords_last (ws : List Str) (h : ws ≠ []) (hne : ∀ w ∈ ws, w ≠ []) :
    ∃ w ∈ ws, (joinWords ws).getLast? = w.getLast? := by
  obtain ⟨init, w, rfl⟩ := (List.eq_nil_or_concat ws).resolve_left h
  rw [List.concat_eq_append] at hne ⊢
  refine ⟨w, by simp, ?_⟩
  cases init with
  | nil => rfl
  | cons x xs =>
    rw [joinWords_snoc _ w (by simp), List.getLast?_append]
    cases hl : w.getLast? with
    | none => exact absurd (List.getLast?_eq_none_iff.mp hl) (hne w (by simp))
    | some d => rfl

/-- every range of line separators lies inside a range of whitespace -/
theorem lineSep_space (c : Char) (h : isLineSep c = true) : pyIsSpace c = true := by
  simp only [isLineSep, pyIsSpace, inRanges, List.any_eq_true, Bool.and_eq_true, decide_eq_true_eq] at h ⊢
  obtain ⟨r, hr, h1, h2⟩ := h
  have sub : ∀ r ∈ Gen.Python.lineSeparators, ∃ r' ∈ Gen.Python.isspace, r'.1 ≤ r.1 ∧ r.2 ≤ r'.2 := by decide
  obtain ⟨r', hr', a, b⟩ := sub r hr
  exact ⟨r', hr', Nat.le_trans a h1, Nat.le_trans h2 b⟩

/-- what a line of plain words satisfies (everything `normalPara` asks of a line) -/
structure LineFacts (ws : List Str) : Prop where
  inert : inertLine (lineOf ws) = true
  prose : proseLine (lineOf ws) = true
  flush : lstrip (lineOf ws) = lineOf ws
  one : oneLine (lineOf ws) = true
  strip : strip (lineOf ws) = joinWords ws
  chars : ∀ x ∈ joinWords ws, plainInline x = true

theorem lineFacts (ws : List Str) (h : plainWords ws = true) : LineFacts ws := by
  obtain ⟨hne, hw⟩ := plainWords_facts ws h
  have hchars : ∀ x ∈ joinWords ws, x = ' ' ∨ wordChar x = true := by
    intro x hx
    rcases joinWords_mem ws x hx with h | ⟨w, hw', hxw⟩
    · exact Or.inl h
    · exact Or.inr ((hw w hw').chars x hxw)
  have hplain : ∀ x ∈ joinWords ws, plainInline x = true := by
    intro x hx
    rcases hchars x hx with rfl | h
    · decide
    · exact wordChar_plain x h
  have hnl : '\n' ∉ joinWords ws := by
    intro hm
    have := hplain _ hm
    revert this; decide
  have hnosep : ∀ x ∈ joinWords ws, isLineSep x = false := by
    intro x hx
    rcases hchars x hx with rfl | h
    · decide
    · cases hs : isLineSep x with
      | false => rfl
      | true =>
        have h1 := lineSep_space x hs
        rw [wordChar_nsp x h] at h1
        cases h1
  cases ws with
  | nil => exact absurd rfl hne
  | cons w ws' =>
    have fw := hw w (by simp)
    cases hwc : w with
    | nil => exact absurd hwc fw.ne
    | cons c r =>
      obtain ⟨r', hj⟩ := joinWords_head w ws' c r hwc
      have hc : plainStart c = true := fw.start c r hwc
      have hcs : pyIsSpace c = false := wordChar_nsp c (fw.chars c (by rw [hwc]; simp))
      have hlast : ∀ d, (joinWords (w :: ws')).getLast? = some d → pyIsSpace d = false := by
        intro d hd
        obtain ⟨w', hw', e⟩ := joinWords_last (w :: ws') (by simp) (fun x hx => (hw x hx).ne)
        rw [e] at hd
        exact wordChar_nsp d ((hw w' hw').chars d (List.mem_of_getLast? hd))
      have hflush : lstrip (lineOf (w :: ws')) = lineOf (w :: ws') := by
        simp only [lineOf, hj, List.cons_append]
        exact lstrip_of_head c _ hcs
      have hstrip : strip (lineOf (w :: ws')) = joinWords (w :: ws') := by
        rw [lineOf, hj]
        exact strip_line c r' hcs (hj ▸ hlast)
      subst hwc
      refine ⟨?_, ?_, hflush, ?_, hstrip, hplain⟩
      · have := Mistletoe.Props.C14.C14_inert_of_plainStart 0 c (r' ++ ['\n']) (by omega) hc
        simpa [lineOf, hj] using this
      · simp only [proseLine, hflush, hstrip, Bool.and_eq_true, beq_iff_eq, Bool.not_eq_eq_eq_not, Bool.not_true]
        exact ⟨rfl, by simpa using hnl⟩
      · simp only [oneLine, lineOf, Bool.and_eq_true, beq_iff_eq, List.all_eq_true, Bool.not_eq_eq_eq_not, Bool.not_true]
        refine ⟨by simp, ?_⟩
        intro x hx
        rw [List.dropLast_concat] at hx
        exact hnosep x hx

theorem joinWords_nonl (ws : List Str) (h : plainWords ws = true) : '\n' ∉ joinWords ws := by
  intro hm
  have := (lineFacts ws h).chars _ hm
  revert this; decide

theorem paraLines_strip (g : List (List Str)) (h : ∀ ws ∈ g, plainWords ws = true) :
    (paraLines g).map strip = g.map joinWords := by
  rw [paraLines, List.map_map]
  exact List.map_congr_left (fun ws hws => (lineFacts ws (h ws hws)).strip)

/-- **a paragraph of plain words is in the normal form of C09** (`normalPara`: block-inert lines, text + "\n"
    without whitespace at either end, one line each, inline-inert when joined) -/
theorem normalPara_of_plain (g : List (List Str)) (h : plainPara g = true) : normalPara (paraLines g) = true := by
  obtain ⟨hne, hg⟩ := plainPara_facts g h
  have hbody : inertBody (Document.joinNl ((paraLines g).map strip)) = true := by
    rw [paraLines_strip g hg]
    apply inertBody_of_plain
    intro c hc
    rcases Document.of_mem_joinNl _ c hc with h | ⟨t, ht, hx⟩
    · exact Or.inl h
    · obtain ⟨ws, hws, rfl⟩ := List.mem_map.mp ht
      exact Or.inr ((lineFacts ws (hg ws hws)).chars c hx)
  simp only [normalPara, Bool.and_eq_true, Bool.not_eq_eq_eq_not, Bool.not_true, List.all_eq_true, beq_iff_eq, hbody, and_true]
  constructor
  · cases g with
    | nil => exact absurd rfl hne
    | cons _ _ => rfl
  · intro l hl
    obtain ⟨ws, hws, rfl⟩ := List.mem_map.mp hl
    have f := lineFacts ws (hg ws hws)
    exact ⟨⟨⟨f.inert, f.prose⟩, f.flush⟩, f.one⟩

theorem plainWords_nonblank (g : List (List Str)) (hg : ∀ ws ∈ g, plainWords ws = true) :
    ∀ ws ∈ g, ws ≠ [] ∧ ∀ w ∈ ws, w ≠ [] ∧ ∀ x ∈ w, pyIsSpace x = false := by
  intro ws hws
  obtain ⟨hne, hw⟩ := plainWords_facts ws (hg ws hws)
  exact ⟨hne, fun w hw' => ⟨(hw w hw').ne, fun x hx => wordChar_nsp x ((hw w hw').chars x hx)⟩⟩

/-- **`span_to_lines` in word-wrap mode on a paragraph of plain words**: the fill loop over all the words of
    the paragraph, in order (`n` is `max_line_length`, truthy; a negative limit behaves like 0) -/
theorem spanToLines_wrap (g : List (List Str)) (hg : ∀ ws ∈ g, plainWords ws = true) (n : Int) (hn : n ≠ 0) :
    spanToLines (proseInlines (g.map joinWords)) (some n) = .ok (fill n.toNat g.flatten) := by
  unfold spanToLines
  rw [renderInlines_prose]
  simp only [fragmentsToLines, hn, if_false, makeWords, makeWords_prose g (plainWords_nonblank g hg)]

def wrapOut (L : Nat) : List (List Str) → List (List (List Str)) → List Str
  | p, [] => fill L p.flatten
  | p, q :: rest => fill L p.flatten ++ [] :: wrapOut L q rest

theorem renderBlocks_wrap (o : Opts) (n : Int) (hn : n ≠ 0) : ∀ (rest : List (List (List Str))) (p : List (List Str)) (k : Nat),
    (∀ ws ∈ p, plainWords ws = true) → (∀ q ∈ rest, ∀ ws ∈ q, plainWords ws = true) →
    renderBlocks o (some n) (proseBlocks k (paraLines p) (rest.map paraLines)) = .ok (wrapOut n.toNat p rest)
  | [], p, k, hp, _ => by
    simp only [List.map_nil, proseBlocks, wrapOut, renderBlocks, renderBlock, paraLines_strip p hp, spanToLines_wrap p hp n hn]
    simp
  | q :: rest, p, k, hp, hr => by
    have ih := renderBlocks_wrap o n hn rest q (k + (paraLines p).length + 1) (hr q (by simp))
      (fun x hx => hr x (List.mem_cons_of_mem _ hx))
    simp only [List.map_cons, proseBlocks, wrapOut, renderBlocks, renderBlock, paraLines_strip p hp,
      spanToLines_wrap p hp n hn, ih]
    simp

def reflowLines (L : Nat) (g : List (List Str)) : List Str := (fill L g.flatten).map (· ++ ['\n'])

theorem wrapOut_lines (L : Nat) : ∀ (rest : List (List (List Str))) (p : List (List Str)),
    (wrapOut L p rest).map (· ++ ['\n']) = joinBlank (reflowLines L p) (rest.map (reflowLines L))
  | [], p => by simp [wrapOut, joinBlank, reflowLines]
  | q :: rest, p => by
    simp only [wrapOut, List.map_append, List.map_cons, wrapOut_lines L rest q, joinBlank, reflowLines, List.nil_append]

/-! ### the fill loop as a regrouping of the words -/

def reflowG (L : Nat) (g : List (List Str)) : List (List Str) := fillG L g.flatten []

theorem plainWord_ne_brk (w : Str) (h : plainWord w = true) : w ≠ brk := by
  intro e; rw [e] at h; revert h; decide

theorem fillG_groups_ne (L : Nat) : ∀ (ws cur : List Str), (∀ w ∈ ws, w ≠ brk) → ∀ grp ∈ fillG L ws cur, grp ≠ []
  | [], [], _, grp, hg => by simp [fillG] at hg
  | [], c :: cs, _, grp, hg => by
    simp only [fillG, List.isEmpty_cons, Bool.false_eq_true, if_false, List.mem_singleton] at hg
    subst hg; simp
  | w :: rest, [], h, grp, hg => by
    simp only [fillG, h w (by simp), if_false, List.isEmpty_nil, if_true] at hg
    exact fillG_groups_ne L rest [w] (fun x hx => h x (List.mem_cons_of_mem _ hx)) grp hg
  | w :: rest, c :: cs, h, grp, hg => by
    have hr := fun x hx => h x (List.mem_cons_of_mem _ hx)
    simp only [fillG, h w (by simp), if_false, List.isEmpty_cons, Bool.false_eq_true] at hg
    split at hg
    · exact fillG_groups_ne L rest (w :: c :: cs) hr grp hg
    · rcases List.mem_cons.mp hg with rfl | hg
      · simp
      · exact fillG_groups_ne L rest [w] hr grp hg

structure ReflowFacts (L : Nat) (g : List (List Str)) : Prop where
  lines : fill L g.flatten = (reflowG L g).map joinWords
  words : (reflowG L g).flatten = g.flatten
  plain : plainPara (reflowG L g) = true

/-- without hard breaks the groups are the words -/
theorem fillG_flatten_plain (L : Nat) (ws : List Str) (h : ∀ w ∈ ws, plainWord w = true) : (fillG L ws []).flatten = ws := by
  rw [fillG_nil_flatten, List.filter_eq_self]
  intro w hw
  simpa using plainWord_ne_brk w (h w hw)

theorem plainPara_iff (g : List (List Str)) :
    plainPara g = true ↔ g ≠ [] ∧ ∀ ws ∈ g, ws ≠ [] ∧ ∀ w ∈ ws, plainWord w = true := by
  simp [plainPara, plainWords]

theorem reflowFacts (L : Nat) (g : List (List Str)) (h : plainPara g = true) : ReflowFacts L g := by
  obtain ⟨hne, hg⟩ := (plainPara_iff g).mp h
  have hpw : ∀ w ∈ g.flatten, plainWord w = true := by
    intro w hw
    obtain ⟨ws, hws, hww⟩ := List.mem_flatten.mp hw
    exact (hg ws hws).2 w hww
  have hflat : (reflowG L g).flatten = g.flatten := fillG_flatten_plain L g.flatten hpw
  refine ⟨fill_eq_fillG L g.flatten (fun w hw => (plainWord_facts w (hpw w hw)).ne), hflat, (plainPara_iff _).mpr ⟨?_, ?_⟩⟩
  · obtain ⟨ws, g', rfl⟩ := List.exists_cons_of_ne_nil hne
    intro e
    rw [e] at hflat
    exact List.flatten_ne_nil_iff.mpr ⟨ws, by simp, (hg ws (by simp)).1⟩ hflat.symm
  · intro grp hgrp
    exact ⟨fillG_groups_ne L g.flatten [] (fun w hw => plainWord_ne_brk w (hpw w hw)) grp hgrp,
      fun w hw => hpw w (hflat ▸ List.mem_flatten.mpr ⟨grp, hgrp, hw⟩)⟩

theorem reflowLines_eq (L : Nat) (g : List (List Str)) (h : plainPara g = true) :
    reflowLines L g = paraLines (reflowG L g) := by
  rw [reflowLines, (reflowFacts L g h).lines, paraLines, List.map_map]
  rfl

/-- the word sequence is the same, and the fill loop is a function of the word sequence -/
theorem reflowG_idem (L : Nat) (g : List (List Str)) (h : plainPara g = true) :
    reflowG L (reflowG L g) = reflowG L g := by
  rw [reflowG, (reflowFacts L g h).words]
  rfl

theorem fill_idem (L : Nat) (ws : List Str) (h : ∀ w ∈ ws, plainWord w = true) :
    ∃ groups : List (List Str), fill L ws = groups.map joinWords ∧ fill L groups.flatten = fill L ws :=
  ⟨fillG L ws [], fill_eq_fillG L ws (fun w hw => (plainWord_facts w (h w hw)).ne), by rw [fillG_flatten_plain L ws h]⟩

theorem map_reflowG {β : Type} (L : Nat) (f g : List (List Str) → β)
    (h : ∀ q, plainPara q = true → f (reflowG L q) = g q) (rest : List (List (List Str)))
    (hrest : ∀ q ∈ rest, plainPara q = true) : (rest.map (reflowG L)).map f = rest.map g := by
  rw [List.map_map]
  exact List.map_congr_left (fun q hq => h q (hrest q hq))

theorem reflow_plain (L : Nat) (rest : List (List (List Str))) (hrest : ∀ q ∈ rest, plainPara q = true) :
    ∀ q ∈ rest.map (reflowG L), plainPara q = true :=
  List.forall_mem_map.mpr (fun q hq => (reflowFacts L q (hrest q hq)).plain)

abbrev textOf (p : List (List Str)) (rest : List (List (List Str))) : Str := docText (paraLines p) (rest.map paraLines)

theorem paraFacts (p : List (List Str)) (hp : plainPara p = true) : ParaFacts (paraLines p) :=
  Mistletoe.Props.C09.normalPara_facts _ (normalPara_of_plain p hp)

theorem paraFacts_rest (rest : List (List (List Str))) (hrest : ∀ q ∈ rest, plainPara q = true) :
    ∀ q ∈ rest.map paraLines, ParaFacts q :=
  List.forall_mem_map.mpr (fun q hq => paraFacts q (hrest q hq))

/-- **(b) same words**: the refilled paragraph is again a paragraph of plain words (every line a non-empty sequence
    of plain words joined by single spaces), its lines are the lines of the fill loop, and the concatenation of the
    lines' words is the original word sequence.  (`Props.C10.C10_words` gives the grouping for arbitrary word lists;
    here the groups are moreover non-empty, `fillG_groups_ne`, because there is no hard break.) -/
theorem reflow_same_words (L : Nat) (g : List (List Str)) (h : plainPara g = true) :
    plainPara (reflowG L g) = true ∧ (reflowG L g).flatten = g.flatten ∧
      fill L g.flatten = (reflowG L g).map joinWords ∧ reflowLines L g = paraLines (reflowG L g) :=
  ⟨(reflowFacts L g h).plain, (reflowFacts L g h).words, (reflowFacts L g h).lines, reflowLines_eq L g h⟩

/-! ### (c) meaning: the HTML up to the position of the soft line breaks

  Formulation.  `nlToSp` replaces every "\n" of a string by a space.  For the documents of the fragment the HTML is
  `<p>`text`</p>` per paragraph with "\n" (or "\n\n", when `BlankLine` is a token type) between paragraphs, and the
  only "\n" inside `<p>…</p>` are the soft line breaks.  `ReflowQuote.reflowQ_meaning` says that the HTML of the re-broken text and
  the HTML of the original text are equal after `nlToSp` — hence equal after any whitespace normalisation that does
  not distinguish "\n" from a space (e.g. collapsing whitespace runs) — and gives the common value in closed form:
  per paragraph, `<p>` + all the words joined by single spaces, HTML-escaped + `</p>`. -/

def nlToSp (s : Str) : Str := s.map (fun c => if c = '\n' then ' ' else c)

theorem nlToSp_append (a b : Str) : nlToSp (a ++ b) = nlToSp a ++ nlToSp b := by simp [nlToSp]

theorem nlToSp_id (s : Str) (h : '\n' ∉ s) : nlToSp s = s := by
  induction s with
  | nil => rfl
  | cons c r ih =>
    have hc : c ≠ '\n' := fun e => h (by simp [e])
    simp only [nlToSp, List.map_cons, hc, if_false] at ih ⊢
    rw [ih (fun hm => h (List.mem_cons_of_mem _ hm))]

theorem nlToSp_nonl (s : Str) : '\n' ∉ nlToSp s := by
  intro h
  simp only [nlToSp, List.mem_map] at h
  obtain ⟨c, _, hc⟩ := h
  split at hc
  · cases hc
  · rename_i hne; exact hne hc

theorem nlToSp_idem (s : Str) : nlToSp (nlToSp s) = nlToSp s := nlToSp_id _ (nlToSp_nonl s)

theorem nlToSp_flatMap (f : Char → Str) (hf : ∀ c, nlToSp (f c) = f (if c = '\n' then ' ' else c)) (s : Str) :
    nlToSp (s.flatMap f) = (nlToSp s).flatMap f := by
  induction s with
  | nil => rfl
  | cons c r ih =>
    rw [List.flatMap_cons, nlToSp_append, ih, hf]
    rfl

theorem not_mem_ite {α} {p : Prop} [Decidable p] {x : α} {a b : List α} (ha : x ∉ a) (hb : x ∉ b) :
    x ∉ (if p then a else b) := by
  by_cases h : p
  · rw [if_pos h]; exact ha
  · rw [if_neg h]; exact hb

/-- of what `escape_html_text` writes for a character, only the "\n" written for "\n" contains one -/
theorem nl_notin_escChar (dq sq : Bool) (c : Char) (hc : c ≠ '\n') : '\n' ∉ Escape.escChar dq sq c := by
  unfold Escape.escChar
  -- one step per replacement string (`split` on the chain of conditions is an order of magnitude slower)
  iterate 5 (refine not_mem_ite (by decide) ?_)
  exact fun h => hc (List.mem_singleton.mp h).symm

theorem nlToSp_escape (dq sq : Bool) (s : Str) :
    nlToSp (Escape.escapeHtmlText dq sq s) = Escape.escapeHtmlText dq sq (nlToSp s) := by
  rw [Escape.escapeHtmlText_eq, Escape.escapeHtmlText_eq]
  refine nlToSp_flatMap _ (fun c => ?_) s
  by_cases hc : c = '\n'
  · rw [if_pos hc, hc]
    cases dq <;> cases sq <;> rfl
  · rw [if_neg hc]
    exact nlToSp_id _ (nl_notin_escChar dq sq c hc)

def htmlParas (dq sq : Bool) (sep : Str) : Str → List Str → Str
  | t, [] => "<p>".toList ++ Escape.escapeHtmlText dq sq t ++ "</p>\n".toList
  | t, u :: rest => "<p>".toList ++ Escape.escapeHtmlText dq sq t ++ "</p>".toList ++ sep ++ htmlParas dq sq sep u rest

/-- what `'\n'.join(...)` puts between two paragraphs: one "\n" per block boundary (a `BlankLine` renders as "") -/
def paraSep (bl : Bool) : Str := if bl then ['\n', '\n'] else ['\n']

theorem flat_para (q : Html.Quotes) (ts : List Str) (ln : Nat) :
    Html.flat (Html.renderBlock q false (.paragraph (proseInlines ts) ln)) =
      "<p>".toList ++ Escape.escapeHtmlText q.dq q.sq (Document.joinNl ts) ++ "</p>".toList := by
  rw [Pipeline.flat_paragraph, flat_prose]; rfl

theorem proseBlocksB_cons (bl : Bool) (n : Nat) (p : List Str) (rest : List (List Str)) :
    ∃ bs, proseBlocksB bl n p rest = .paragraph (proseInlines (p.map strip)) n :: bs := by
  cases rest <;> exact ⟨_, rfl⟩

theorem proseBlocksB_ne (bl : Bool) (n : Nat) (p : List Str) (rest : List (List Str)) : proseBlocksB bl n p rest ≠ [] := by
  cases rest <;> simp [proseBlocksB]

theorem flat_sep (q : Html.Quotes) (bl : Bool) : ∀ (rest : List (List Str)) (p : List Str) (n : Nat),
    Html.flat (Html.renderSep q false (proseBlocksB bl n p rest)) ++ ['\n'] =
      htmlParas q.dq q.sq (paraSep bl) (Document.joinNl (p.map strip)) (rest.map (fun x => Document.joinNl (x.map strip)))
  | [], p, n => by
    simp only [proseBlocksB, Html.renderSep, flat_para, List.map_nil, htmlParas]
    simp
  | x :: rest, p, n => by
    have ih := flat_sep q bl rest x (n + p.length + 1)
    obtain ⟨bs, e⟩ := proseBlocksB_cons bl (n + p.length + 1) x rest
    rw [e] at ih
    cases bl with
    | true =>
      simp only [proseBlocksB, if_true, List.cons_append, List.nil_append, List.map_cons, htmlParas, e]
      rw [Pipeline.flat_sep_cons2, Pipeline.flat_sep_cons2, flat_para, ← ih]
      simp [Html.flat, Html.renderBlock, paraSep]
    | false =>
      simp only [proseBlocksB, Bool.false_eq_true, if_false, List.nil_append, List.map_cons, htmlParas, e]
      rw [Pipeline.flat_sep_cons2, flat_para, ← ih]
      simp [paraSep]

/-- **the HTML of a prose document**, whatever the token lists it was parsed under -/
theorem render_proseB (o : Html.Opts) (bl : Bool) (n : Nat) (p : List Str) (rest : List (List Str)) (fn : Footnotes.Table) :
    Html.render o { kids := proseBlocksB bl n p rest, footnotes := fn } =
      htmlParas o.dq o.sq (paraSep bl) (Document.joinNl (p.map strip)) (rest.map (fun x => Document.joinNl (x.map strip))) := by
  obtain ⟨bs, e⟩ := proseBlocksB_cons bl n p rest
  have h := flat_sep o.q bl rest p n
  rw [e] at h ⊢
  exact (Pipeline.render_cons o _ bs fn (by rw [flat_para]; simp)).trans h

theorem nlToSp_htmlParas (dq sq : Bool) (sep : Str) : ∀ (ts : List Str) (t : Str),
    nlToSp (htmlParas dq sq sep t ts) = nlToSp (htmlParas dq sq sep (nlToSp t) (ts.map nlToSp))
  | [], t => by
    simp only [htmlParas, List.map_nil, nlToSp_append, nlToSp_escape, nlToSp_idem]
  | u :: ts, t => by
    have ih := nlToSp_htmlParas dq sq sep ts u
    simp only [htmlParas, List.map_cons, nlToSp_append, nlToSp_escape, nlToSp_idem, ih]

theorem nlToSp_paraText : ∀ (g : List (List Str)), g ≠ [] → (∀ ws ∈ g, plainWords ws = true) →
    nlToSp (Document.joinNl (g.map joinWords)) = joinWords g.flatten
  | [], h, _ => absurd rfl h
  | [ws], _, hg => by
    simp only [List.map_cons, List.map_nil, Document.joinNl, List.flatten_cons, List.flatten_nil, List.append_nil]
    exact nlToSp_id _ (joinWords_nonl ws (hg ws (by simp)))
  | ws :: ws2 :: g', _, hg => by
    have ih := nlToSp_paraText (ws2 :: g') (by simp) (fun x hx => hg x (List.mem_cons_of_mem _ hx))
    have hne1 : ws ≠ [] := (plainWords_facts ws (hg ws (by simp))).1
    have hne2 : (ws2 :: g').flatten ≠ [] :=
      List.flatten_ne_nil_iff.mpr ⟨ws2, by simp, (plainWords_facts ws2 (hg ws2 (by simp))).1⟩
    rw [List.map_cons, List.map_cons, joinNl_cons2, ← List.map_cons, List.flatten_cons, joinWords_append _ _ hne1 hne2, ← ih]
    have e : joinWords ws ++ '\n' :: Document.joinNl ((ws2 :: g').map joinWords) =
        joinWords ws ++ (['\n'] ++ Document.joinNl ((ws2 :: g').map joinWords)) := by simp
    rw [e, nlToSp_append, nlToSp_append, nlToSp_id _ (joinWords_nonl ws (hg ws (by simp)))]
    simp [nlToSp]

theorem html_norm (o : Html.Opts) (bl : Bool) (n : Nat) (fn : Footnotes.Table)
    (p : List (List Str)) (rest : List (List (List Str))) (hp : plainPara p = true) (hrest : ∀ q ∈ rest, plainPara q = true) :
    nlToSp (Html.render o { kids := proseBlocksB bl n (paraLines p) (rest.map paraLines), footnotes := fn }) =
      nlToSp (htmlParas o.dq o.sq (paraSep bl) (joinWords p.flatten) (rest.map (fun q => joinWords q.flatten))) := by
  obtain ⟨hne, hg⟩ := plainPara_facts p hp
  rw [render_proseB, nlToSp_htmlParas, paraLines_strip p hg, nlToSp_paraText p hne hg]
  congr 2
  rw [List.map_map, List.map_map]
  apply List.map_congr_left
  intro q hq
  obtain ⟨hqne, hqg⟩ := plainPara_facts q (hrest q hq)
  simp only [Function.comp, paraLines_strip q hqg, nlToSp_paraText q hqne hqg]

/-- the closed form depends on the words only, so refilling does not change it -/
theorem htmlParas_reflow (dq sq : Bool) (sep : Str) (L : Nat) (p : List (List Str)) (rest : List (List (List Str)))
    (hp : plainPara p = true) (hrest : ∀ q ∈ rest, plainPara q = true) :
    htmlParas dq sq sep (joinWords (reflowG L p).flatten) ((rest.map (reflowG L)).map (fun q => joinWords q.flatten)) =
      htmlParas dq sq sep (joinWords p.flatten) (rest.map (fun q => joinWords q.flatten)) := by
  rw [(reflowFacts L p hp).words,
    map_reflowG L _ _ (fun q hq => congrArg joinWords (reflowFacts L q hq).words) rest hrest]

/-- **(e)** every output line longer than `L` is one single word of the paragraph: it contains no whitespace at all,
    so no breakable space (the invariant of the fill loop, `C10.fillAux_bound`, of which `C10_bound` is the instance for `makeWords fs`) -/
theorem reflow_bound (L : Nat) (g : List (List Str)) (hg : plainPara g = true) :
    ∀ l ∈ fill L g.flatten, L < l.length → l ∈ g.flatten ∧ ∀ c ∈ l, pyIsSpace c = false := by
  intro l hl hlong
  rcases Mistletoe.Props.C10.fillAux_bound L g.flatten g.flatten [] (fun _ h => h) (Or.inl (Nat.zero_le _)) l hl with h | h
  · omega
  · refine ⟨h, ?_⟩
    obtain ⟨ws, hws, hlw⟩ := List.mem_flatten.mp h
    exact ((plainWords_nonblank g (plainPara_facts g hg).2 ws hws).2 l hlw).2

theorem joinWords_two_le (w y : Str) (ys : List Str) (hw : w ≠ []) : 2 ≤ (joinWords (w :: y :: ys)).length := by
  cases w with
  | nil => exact absurd rfl hw
  | cons c r => simp only [joinWords_cons, List.flatMap_cons, List.length_append, List.length_cons]; omega

theorem fill_single (B : Nat) (g : List (List Str)) (hg : plainPara g = true) :
    ∀ body ∈ fill B g.flatten, (B < body.length ∨ body.length ≤ 1) → body ∈ g.flatten ∧ ∀ c ∈ body, pyIsSpace c = false := by
  intro body hb hlong
  by_cases h1 : B < body.length
  · exact reflow_bound B g hg body hb h1
  · have hlen : body.length ≤ 1 := hlong.resolve_left h1
    have f := reflowFacts B g hg
    rw [f.lines] at hb
    obtain ⟨grp, hgrp, rfl⟩ := List.mem_map.mp hb
    obtain ⟨_, hpl⟩ := plainPara_facts _ f.plain
    obtain ⟨hne, hw⟩ := plainWords_facts grp (hpl grp hgrp)
    have hmem : ∀ x ∈ grp, x ∈ g.flatten := by
      intro x hx
      rw [← f.words]
      exact List.mem_flatten.mpr ⟨grp, hgrp, hx⟩
    cases grp with
    | nil => exact absurd rfl hne
    | cons x xs =>
      cases xs with
      | nil =>
        simp only [joinWords]
        exact ⟨hmem x (by simp), fun c hc => wordChar_nsp c ((hw x (by simp)).chars c hc)⟩
      | cons y ys =>
        have := joinWords_two_le x y ys (hw x (by simp)).ne
        omega

/-! ### (d) from "the renderer writes `t'` for `t`, and `t'` again for `t'`" to idempotence as the property states it -/

theorem idempotent_of_renders (cfg : Document.Cfg) (G : Nat) (o : Opts) (t t' : Str) (d d' : Doc)
    (h1 : Document.parse cfg G t = .ok d) (h2 : renderRes o d = .ok t')
    (h3 : Document.parse cfg G t' = .ok d') (h4 : renderRes o d' = .ok t') :
    ∃ d, Document.parse cfg G t = .ok d ∧
      ∃ d', Document.parse cfg G (render o d) = .ok d' ∧ renderRes o d' = renderRes o d ∧ render o d' = render o d :=
  ⟨d, h1, d', by simp only [render, h2]; exact h3, by rw [h2, h4], by simp only [render, h2, h4]⟩

theorem markdown_facts (cfg : Document.Cfg) (hcfg : Config.markdown = some cfg) :
    cfg.block.types = Mistletoe.Props.C14.markdownTypes ∧ .paragraph ∈ cfg.block.types ∧ .blankLine ∈ cfg.block.types ∧
      (∀ t ∈ cfg.span, inertClass t = true) ∧ cfg.span.count .lineBreak = 1 := by
  obtain ⟨hty, ht, hc⟩ := Mistletoe.MdRound.markdown_cfg cfg hcfg
  exact ⟨hty, by rw [hty]; decide, by rw [hty]; decide, ht, hc⟩

theorem html_facts : ∃ cfg, Config.html = some cfg ∧ cfg.block.types = Mistletoe.Props.C14.defaultTypes :=
  ⟨_, Config.html_eq, rfl⟩

/-! ### Non-vacuity -/

def W (s : String) : Str := s.toList

def para1 : List (List Str) := [[W "an", W "extraordinarily", W "long"], [W "word", W "here"]]
def para2 : List (List Str) := [[W "the", W "quick", W "brown"], [W "fox", W "jumps", W "over", W "it."]]

attribute [lit] W para1 para2

theorem paras_plain : plainPara para1 = true ∧ plainPara para2 = true := by decide_lit

/-- the source text of the two-line paragraph, and of the two-paragraph document -/
example : textOf para1 [] = W "an extraordinarily long\nword here\n" := by decide_lit
example : textOf para1 [para2] = W "an extraordinarily long\nword here\n\nthe quick brown\nfox jumps over it.\n" := by
  decide_lit

/-- the two-line paragraph re-broken with L = 12 (the 15-character word stands alone on a line longer than 12; the theorem
    is applied to it at the end of Proofs/ReflowQuote.lean) … -/
example : reflowG 12 para1 = [[W "an"], [W "extraordinarily"], [W "long", W "word"], [W "here"]] := by decide_lit
example : textOf (reflowG 12 para1) [] = W "an\nextraordinarily\nlong word\nhere\n" := by decide_lit

open Mistletoe.Props.C09 (mdCfg) in
/-- … and evaluating parser and renderer in the kernel on that text gives the same answer -/
example : (Document.parse mdCfg 15 (W "an extraordinarily long\nword here\n")).bind
    (fun d => renderRes { maxLineLength := some 12 } d) = .ok (W "an\nextraordinarily\nlong word\nhere\n") := by decide_lit

open Mistletoe.Props.C09 (mdCfg) in
example : (Document.parse mdCfg 17 (W "an extraordinarily long\nword here\n\nthe quick brown\nfox jumps over it.\n")).bind
    (fun d => renderRes { maxLineLength := some 12 } d) =
      .ok (W "an\nextraordinarily\nlong word\nhere\n\nthe quick\nbrown fox\njumps over\nit.\n") := by decide_lit
open Mistletoe.Props.C09 (mdCfg) in
example : (Document.parse mdCfg 17 (W "an\nextraordinarily\nlong word\nhere\n\nthe quick\nbrown fox\njumps over\nit.\n")).bind
    (fun d => renderRes { maxLineLength := some 12 } d) =
      .ok (W "an\nextraordinarily\nlong word\nhere\n\nthe quick\nbrown fox\njumps over\nit.\n") := by decide_lit

example : Config.renderHtml {} 16 (W "an extraordinarily long\nword here\n\nthe quick brown\nfox jumps over it.\n") =
    some (W "<p>an extraordinarily long\nword here</p>\n<p>the quick brown\nfox jumps over it.</p>\n") :=
  Config.renderHtml_of (by decide_lit)
example : Config.renderHtml {} 16 (W "an\nextraordinarily\nlong word\nhere\n\nthe quick\nbrown fox\njumps over\nit.\n") =
    some (W "<p>an\nextraordinarily\nlong word\nhere</p>\n<p>the quick\nbrown fox\njumps over\nit.</p>\n") :=
  Config.renderHtml_of (by decide_lit)

/-- the predicate is not trivially true: words that could be mistaken for markers or markup are excluded -/
example : [W "", W "a b", W "1.", W "-", W "#tag", W ">", W "a*b", W "snake_case", W "x[1]", W "AT&T", W "`c`", W "a\\b",
    W "~x", W "<b>", W "=", W "+", W "|", W ":x"].map plainWord = List.replicate 18 false := by decide_lit
example : [W "word", W "Word,", W "(see", W "p.3)", W "it's", W "\"q\"", W "é", W "日本", W "a-b", W "x=1", W "a#b", W "u:v",
    W "what?!", W "$5", W "%d"].map plainWord = List.replicate 15 true := by decide_lit

end Mistletoe.Reflow
