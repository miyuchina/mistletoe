/-
  The tree `ComposeC.T3` of C03: paragraphs, ATX headings, thematic breaks, block quotes, lists (as in `ComposeL.T2`,
  `Proofs/ComposeLists.lean`), FENCED CODE BLOCKS and SETEXT HEADINGS (the spellings covered: see `T3`) - its writers,
  well-formedness, expected entries and block tokens, gas and HTML - and the two kinds of leaves beyond `T2` as blocks of
  lines.  Fenced code blocks stand at top level, inside quotes and inside list items; setext headings at top level and
  inside list items, not inside quotes (there the implementation does not recognise them: recorded finding, see the
  example in `Proofs/ComposeCode3.lean`).

  The claims about written blocks are stated for lines in `Proofs/ComposeGen.lean`.  What the two leaves need:
  * (in `Proofs/MdRoundCode.lean`, shared with the C09 fragment) the opening line of a fence at indentation 0-3
    (`codeFenceStart_line`), `CodeFence.read` with the dedenting of content lines (`fence_piece`, `codeFenceLoop_body`), the
    round of the block loop over a closed fence, whatever follows (`fence_step`).  A code fence is not one of the blocks C05
    counts as closed by a blank line (`closedE`), so `tokenizeBlock_concat` does not apply behind it; as a list it is
    an open node (`open_fence`, `ComposeG.Open`), here with no condition on what follows;
  * `Paragraph.read` over text lines and an underline with `parse_setext` on (`readParagraph_setext`), and the round of the
    loop over them under any list of types with `Paragraph` (`setext_step`, shared with the C09 fragment);
    the state component `setext` is switched off inside quotes, so every claim carries the hypothesis `SxOk`: where the
    tree has a setext heading, `parse_setext` is on; well-formedness keeps setext headings out of quotes.
  A leaf's round of the loop is a `Block.Step` over its written lines; `ComposeG.open_of_step`, `closed_of_step` turn it into the
  open or closed node.

  The tree with tables and indented code (`ComposeT.T4`, `Proofs/ComposeTable.lean`) has these two leaves as well and uses
  `closed_setext`, `open_fence` and the HTML of a fence from here; the induction over a tree is done there, once, and the
  theorems about `T3` follow from those about `T4` in `Proofs/ComposeEmbed.lean`.
-/
import Mistletoe.Proofs.ComposeGen
import Mistletoe.Proofs.MdRoundCode
namespace Mistletoe.ComposeC
open Mistletoe Mistletoe.Py Mistletoe.Scan Mistletoe.Compose
open Mistletoe.Block
open Mistletoe.Props.C14 (defaultTypes inertLine numbered numbered_cons numbered_append numbered_length numbered_mem numbered_s)
open Mistletoe.InertInline (inertBody inertText proseLine oneLine proseInlines inertClass)
open Mistletoe.Props.C04 (indentDoc itemDocOk)
open Mistletoe.Html (natDigits)
open Mistletoe.MdRound (fenceCh fenceLang closes lstripSp_cons lstripSp_len lstripSp_pad)

/-! ### Setext headings -/

/-- the specification's shape of a setext underline: up to three spaces, a run of `=` (level 1) or of `-` (level 2),
    spaces, "\n" -/
def ulShape (lv : Nat) (s : Str) : Bool :=
  let r := lstripSp s
  decide (s.length - r.length ≤ 3) &&
  (match r with
   | c :: _ => ((c == '=' && lv == 1) || (c == '-' && lv == 2)) &&
       (let r2 := r.dropWhile (· == c); r2.getLast? == some '\n' && r2.dropLast.all (· == ' '))
   | [] => false)

/-- an underline: the shape, and the facts about the scanners the proof uses (every line of the shape has them, see the
    example in `Proofs/ComposeCode3.lean`, which checks all 192 underlines of at most 3 + 6 + 3 characters): it is not
    blank; no `Heading`, `Quote`, `CodeFence`, `HtmlBlock` starts on it and `List.check_interrupts_paragraph` does not
    fire (`-` alone would begin an EMPTY item, which does not interrupt a paragraph); `Paragraph.setext_pattern` matches
    it; its last visible character tells the level -/
def ulOk (lv : Nat) (s : Str) : Bool :=
  ulShape lv s && oneLine s && !s.contains '\t' && !s.contains '|' && !isBlank s && (heading s).isNone && !quoteStart s
    && (codeFenceStart s).isNone && !listInterrupts s && (match htmlBlockStart s with | .ok none => true | _ => false)
    && setext s && (((rstrip s).getLast? == some '=') == (lv == 1))

structure UlOk (lv : Nat) (s : Str) : Prop where
  line : LineOk s
  nobar : s.contains '|' = false
  nb : isBlank s = false
  hd : heading s = none
  qt : quoteStart s = false
  cf : codeFenceStart s = none
  li : listInterrupts s = false
  html : htmlBlockStart s = .ok none
  se : setext s = true
  lvl : ((rstrip s).getLast? == some '=') = (lv == 1)
  lv12 : lv = 1 ∨ lv = 2

theorem ulShape_lv (lv : Nat) (s : Str) (h : ulShape lv s = true) : lv = 1 ∨ lv = 2 := by
  unfold ulShape at h
  simp only [Bool.and_eq_true, decide_eq_true_eq] at h
  obtain ⟨_, h⟩ := h
  split at h
  · simp only [Bool.and_eq_true, Bool.or_eq_true, beq_iff_eq] at h
    rcases h.1 with h | h
    · exact Or.inl h.2
    · exact Or.inr h.2
  · cases h

theorem ulOk_of (lv : Nat) (s : Str) (h : ulOk lv s = true) : UlOk lv s := by
  simp only [ulOk, Bool.and_eq_true, Bool.not_eq_eq_eq_not, Bool.not_true, Option.isNone_iff_eq_none, beq_iff_eq] at h
  obtain ⟨⟨⟨⟨⟨⟨⟨⟨⟨⟨⟨h0, h1⟩, h2⟩, h3⟩, h4⟩, h5⟩, h6⟩, h7⟩, h8⟩, h9⟩, h10⟩, h11⟩ := h
  refine ⟨lineOk_of s h1 h2, h3, h4, h5, h6, h7, h8, ?_, h10, h11, ulShape_lv lv s h0⟩
  split at h9
  · assumption
  · cases h9

/-- the level `SetextHeading.__init__` reads off the last character of the underline -/
theorem UlOk.level {lv : Nat} {ul : Str} (hu : UlOk lv ul) : (if (rstrip ul).getLast? == some '=' then 1 else 2) = lv := by
  have := hu.lvl
  rcases hu.lv12 with rfl | rfl
  · simp only [beq_self_eq_true] at this; simp [this]
  · have e : ((2 : Nat) == 1) = false := by decide
    rw [e] at this; simp [this]

theorem readTable_none_nobar (pre : List Line) (l : Line) (rest : List Line) (start : Nat)
    (h : ∀ l', rest.head? = some l' → l'.s.contains '|' = false) :
    readTable ⟨pre ++ l :: rest, pre.length, start⟩ = none :=
  readTable_none_next pre l rest start fun l' hl' => by rw [h l' hl', Bool.and_false]

theorem anyInterrupt_ul (cfg : Cfg) (fw : FW) (l : Line) (lv : Nat) (hp : fw.peek = some l) (hu : UlOk lv l.s)
    (ht : readTable fw = none) : ∀ ts, anyInterrupt cfg fw .thematicBreak false ts = .ok false :=
  anyInterrupt_none cfg fw .thematicBreak false fun t hne _ => by
    unfold interruptsOne
    rw [hp]
    cases t <;> simp [hu.hd, hu.qt, hu.cf, hu.html, hu.li, ht] at hne ⊢

theorem readParagraph_setext (cfg : Cfg) (start : Nat) (lv : Nat) (l ul : Line) (hu : UlOk lv ul.s) (para pre post : List Line)
    (hq : ∀ x ∈ para, Quiet x.s) (hb : ∀ b, post.head? = some b → b.s.contains '|' = false) :
    readParagraph cfg true ⟨pre ++ (l :: para ++ ul :: post), pre.length, start⟩ l.s =
      .ok ((l :: para).map (·.s) ++ [ul.s], true, ⟨pre ++ (l :: para ++ ul :: post), pre.length + (para.length + 2), start⟩) :=
  have he : ParaEnd cfg true (ul :: post) (some ul) := .underline ul post rfl hu.nb hu.se hu.nobar fun pre start =>
    anyInterrupt_ul cfg _ ul lv (peek_at ..) hu (readTable_none_nobar pre ul post start hb) cfg.types
  readParagraph_read cfg true start l para pre (ul :: post) (some ul) (fun x hx => contQuiet_of_quiet _ (hq x hx)) he
    (he.noDelim fun _ _ _ e => nomatch e)

/-- on quiet text no other type starts, and `Paragraph.read` stops behind the underline -/
theorem setext_step (cfg : Cfg) (hpar : .paragraph ∈ cfg.types) (l0 : Str) (tl : List Str) (ul : Str) (lv : Nat)
    (hq : ∀ l ∈ l0 :: tl, Quiet l) (hu : UlOk lv ul) (k : Nat) (st : St) (hs : st.setext = true) :
    Step cfg cfg.types.length (fun post => ∀ b, post.head? = some b → b.s.contains '|' = false) (numbered k (l0 :: tl ++ [ul]))
      (fun ln => [.setext (l0 :: tl ++ [ul]) ln (k + 1)]) 1 st st false := by
  refine Step.one fun pre post start g acc loose hb hg => ?_
  have e : numbered k (l0 :: tl ++ [ul]) =
      { s := l0, origin := k + 1 } :: (numbered (k + 1) tl ++ [{ s := ul, origin := k + 1 + tl.length + 1 }]) := by
    simp only [List.cons_append, numbered_cons, numbered_append]
    rfl
  have hq' : ∀ x ∈ numbered (k + 1) tl, Quiet x.s := fun x hx => hq _ (List.mem_cons_of_mem _ (numbered_mem _ _ _ hx))
  have hR := readParagraph_setext cfg start lv { s := l0, origin := k + 1 } { s := ul, origin := k + 1 + tl.length + 1 } hu
    (numbered (k + 1) tl) pre post hq' hb
  -- `Table.read` looks at the second line only: a text line has no delimiter row, the underline no `|`
  have ht : readTable ⟨pre ++ ({ s := l0, origin := k + 1 } :: numbered (k + 1) tl ++ { s := ul, origin := k + 1 + tl.length + 1 } :: post),
      pre.length, start⟩ = none := by
    cases tl with
    | nil => exact readTable_none_nobar pre _ _ start (by intro l' h'; simp at h'; subst h'; exact hu.nobar)
    | cons x xs => exact readTable_none pre _ _ start (by intro l' h'; simp [numbered_cons] at h'; subst h'; exact (hq x (by simp)).dr)
  have hT := tryTypes_only (cfg := cfg) (st := st) (fun _ => (hq l0 (by simp)).declines ht)
    (fun _ _ => tryTypes_hit_setext (hq l0 (by simp)).nb (by rw [hs]; exact hR)) hpar hg
  have h1 := tokLoop_some (peek_at pre _ _ start) hT acc loose
  rw [e]
  simp only [List.cons_append, List.append_assoc, List.map_cons, numbered_s, List.length_append, List.length_cons,
    List.length_nil, numbered_length] at h1 ⊢
  exact h1

/-! ### The fragment with fenced code blocks and setext headings -/

open Mistletoe.ComposeL (leaderOf markerOk leaderOk_of_marker sepS stopLineB StopLine stopLine_of PostOk
  item_lines_last item_lines_next leader_chars spaces_chars
  indentDoc_lineOk itemDocOk_ne dcfg_noBlank dcfg_len tokLoop_list_step readList_item_cons)

/-- A tree of CommonMark constructs: everything `ComposeL.T2` has (paragraph, ATX heading, thematic break, block quote,
    bullet / ordered list; children of quotes and list items are trees of this type again) and
    * `fence ind delim info body close`: a fenced code block.  Opening line: `ind` spaces (0 … 3), the fence `delim` (three
      or more backticks, or three or more tildes), the info string `info` as written (with its leading and trailing
      spaces), "\n".  Then the content lines `body` as written (each loses up to `ind` leading spaces in the tree).
      Then the closing line `close`: up to three spaces, the fence character at least `delim.length` times, spaces, "\n".
    * `setext level lines ul`: a setext heading: one or more text lines (as for a paragraph) and the underline `ul`: up to
      three spaces, a run of `=` (level 1) or `-` (level 2), spaces, "\n".  Not inside quotes (`T3.ok`). -/
inductive T3 where
  | para (lines : List Str)
  | heading (level : Nat) (text : Str) (line : Str)
  | hr (line : Str)
  | quote (bare : Bool) (kids : List T3)
  | list (ordered : Bool) (start : Nat) (marker : Char) (pad : Nat) (loose : Bool) (items : List (List T3))
  | fence (ind : Nat) (delim info : Str) (body : List Str) (close : Str)
  | setext (level : Nat) (lines : List Str) (ul : Str)

/-- the shape the specification gives a closing fence for the opening fence `d`: behind the leading spaces only fence
    characters (the test `closes` asks for at least `d`, and fewer than four leading spaces), then only spaces, then "\n" -/
def closeShape (d close : Str) : Bool :=
  match d.head? with
  | some c =>
    let r := (lstripSp close).dropWhile (· == c)
    r.getLast? == some '\n' && r.dropLast.all (· == ' ')
  | none => false

/-- well-formedness of a fenced code block (decidable):
    * 0 ≤ ind ≤ 3; the fence is three or more backticks or three or more tildes;
    * the info string has no line-boundary character and no tab, does not begin with the fence character, and contains no
      backtick when the fence is made of backticks;
    * every content line is one complete line without a tab that is not a closing line for this fence - by the test
      `CodeFence.read` makes (`closes`: behind fewer than four spaces the opening fence string, then fence characters
      only, then whitespace - the specification's closing fences since the repair in /repo by 99c8328; a content line
      such as "```abc" inside a "```" fence is accepted here, see the example in `Proofs/ComposeCode2.lean`);
    * the closing line is one complete line without a tab, passes that test and has the specification's shape. -/
def fenceOkB (ind : Nat) (d info : Str) (body : List Str) (close : Str) : Bool :=
  decide (ind ≤ 3) && decide (3 ≤ d.length) && (d.all (· == '`') || d.all (· == '~'))
    && info.all (fun c => !isLineSep c && c != '\t') && info.head? != d.head? && !(d.head? == some '`' && info.contains '`')
    && body.all (fun l => oneLine l && !l.contains '\t' && !closes d l)
    && oneLine close && !close.contains '\t' && closes d close && closeShape d close

structure FenceFacts (ind : Nat) (d info : Str) (body : List Str) (close : Str) : Prop where
  indLt : ind < 4
  fo : ∃ c, FenceOk c d info
  openOk : LineOk (sp ind ++ d ++ info ++ ['\n'])
  body : ∀ l ∈ body, LineOk l ∧ closes d l = false
  closeOk : LineOk close
  closes : closes d close = true

theorem fenceFacts_of (ind : Nat) (d info : Str) (body : List Str) (close : Str) (h : fenceOkB ind d info body close = true) :
    FenceFacts ind d info body close := by
  simp only [fenceOkB, Bool.and_eq_true, decide_eq_true_eq, Bool.or_eq_true, bne_iff_ne, ne_eq,
    Bool.not_eq_eq_eq_not, Bool.not_true, Bool.and_eq_false_iff] at h
  obtain ⟨⟨⟨⟨⟨⟨⟨⟨⟨⟨h0, h1⟩, h2⟩, h3⟩, h4⟩, h5⟩, h6⟩, h7⟩, h8⟩, h9⟩, _⟩ := h
  have h3' : ∀ c ∈ info, isLineSep c = false ∧ c ≠ '\t' := by
    intro c hc
    have := List.all_eq_true.mp h3 c hc
    simpa using this
  have hnl : '\n' ∉ info := MdRound.nosep_nonl info fun c hc => (h3' c hc).1
  have hfo := MdRound.FenceOk.of_checks h1 h2 hnl h4 h5
  refine ⟨by omega, hfo, ?_, ?_, lineOk_of close h7 (by simpa using h8), h9⟩
  · obtain ⟨c, hf⟩ := hfo
    have := lineOk_append (sp ind) _ (spaces_chars ind) (lineOk_append d _ hf.chars (lineOk_append info _ h3' lineOk_nl))
    simpa [List.append_assoc] using this
  · intro l hl
    have := List.all_eq_true.mp h6 l hl
    simp only [Bool.and_eq_true, Bool.not_eq_eq_eq_not, Bool.not_true] at this
    exact ⟨lineOk_of l this.1.1 this.1.2, this.2⟩
mutual
def write3 : T3 → List Str
  | .para ls => ls
  | .heading _ _ line => [line]
  | .hr line => [line]
  | .quote bare kids => (writes3 kids).map (if bare then qbare else qsp)
  | .list o n mk pad loose items => writeItems3 o mk pad loose n items
  | .fence ind d info body close => (sp ind ++ d ++ info ++ ['\n']) :: (body ++ [close])
  | .setext _ ls ul => ls ++ [ul]
/-- siblings, separated by exactly one "\n" line -/
def writes3 : List T3 → List Str
  | [] => []
  | t :: rest =>
    match rest with
    | [] => write3 t
    | _ :: _ => write3 t ++ ['\n'] :: writes3 rest
/-- as `ComposeL.writeItems` -/
def writeItems3 (o : Bool) (mk : Char) (pad : Nat) (loose : Bool) (n : Nat) : List (List T3) → List Str
  | [] => []
  | it :: rest =>
    match rest with
    | [] => indentDoc (leaderOf o n mk) pad (writes3 it)
    | _ :: _ => indentDoc (leaderOf o n mk) pad (writes3 it) ++ (sepS loose ++ writeItems3 o mk pad loose (n + 1) rest)
end

mutual
/-- a setext heading occurs in the node, at any depth -/
def hasSx : T3 → Bool
  | .setext .. => true
  | .quote _ kids => hasSxs kids
  | .list _ _ _ _ _ items => hasSxItems items
  | _ => false
def hasSxs : List T3 → Bool
  | [] => false
  | t :: rest => hasSx t || hasSxs rest
def hasSxItems : List (List T3) → Bool
  | [] => false
  | it :: rest => hasSxs it || hasSxItems rest
end

def isList3 : T3 → Bool
  | .list .. => true
  | _ => false

def sepOk3 (t t' : T3) : Bool := !isList3 t || (!isList3 t' && stopLineB ((write3 t').headD []))

open Mistletoe.Document (joinNl) in
mutual
/-- well-formedness (decidable).  Paragraph, heading, thematic break, quote: as `Compose.T.ok`.  List, and siblings
    (`T3.oks`, `sepOk3`): as `ComposeL.T2.ok`.
    Quote: in addition no setext heading inside, at any depth (`hasSxs`).
    Fenced code block: `fenceOkB`.  Setext heading: the text lines as for a paragraph; the underline `ulOk`. -/
def T3.ok : T3 → Bool
  | .para ls => !ls.isEmpty && ls.all (fun l => inertLine l && proseLine l && oneLine l && !l.contains '\t')
      && inertBody (joinNl (ls.map strip))
  | .heading lv t line => !t.isEmpty && inertText t && headLine lv t line && oneLine line && !line.contains '\t'
  | .hr line => hrLine line && oneLine line && !line.contains '\t'
  | .quote bare kids => !kids.isEmpty && T3.oks kids && (!bare || (writes3 kids).all (fun s => s.head? != some ' '))
      && !hasSxs kids
  | .list o n mk pad loose items =>
    decide (1 ≤ pad) && decide (pad ≤ 4) && !items.isEmpty && T3.okItems o mk pad n items
      && (if loose then decide (2 ≤ items.length) || items.any (fun it => decide (1 < it.length))
          else items.all (fun it => it.length == 1))
  | .fence ind d info body close => fenceOkB ind d info body close
  | .setext lv ls ul => (Compose.T.para ls).ok && ulOk lv ul
def T3.oks : List T3 → Bool
  | [] => true
  | t :: rest => t.ok && T3.oks rest && (match rest with | [] => true | t' :: _ => sepOk3 t t')
def T3.okItems (o : Bool) (mk : Char) (pad : Nat) (n : Nat) : List (List T3) → Bool
  | [] => true
  | it :: rest => !it.isEmpty && T3.oks it && markerOk o n mk && itemDocOk (writes3 it)
      && !Scan.thematicBreak (leaderOf o n mk ++ List.replicate pad ' ' ++ (writes3 it).headD [])
      && T3.okItems o mk pad (n + 1) rest
end

mutual
def entry3 (n : Nat) : T3 → Entry
  | .para ls => .paragraph ls n n
  | .heading lv t line => .heading lv t (closingOf line) n n
  | .hr line => .thematicBreak line n n
  | .quote _ kids => .quote (entries3 n kids) (decide (1 < kids.length)) n n
  | .list o s mk pad loose items => .list (items3 o mk pad loose s n items) n n
  | .fence ind d info body _ => .codeFence (body.map (dedent ind)) ind d info (fenceLang info) n n
  | .setext _ ls ul => .setext (ls ++ [ul]) n n
def entries3 (n : Nat) : List T3 → List Entry
  | [] => []
  | t :: rest => entry3 n t :: entries3 (n + (write3 t).length + 1) rest
/-- the fields: as `ComposeL.items2` -/
def items3 (o : Bool) (mk : Char) (pad : Nat) (loose : Bool) (s : Nat) (n : Nat) : List (List T3) → List Item
  | [] => []
  | it :: rest =>
    .mk (entries3 n it) ((loose && !rest.isEmpty) || decide (1 < it.length)) 0 ((leaderOf o s mk).length + pad) (leaderOf o s mk) n n
      :: items3 o mk pad loose (s + 1) (n + (writes3 it).length + (sepS loose).length) rest
end

mutual
/-- a quote occurs among the blocks (at any depth of list nesting): `Quote.read` switches `Paragraph.parse_setext` back on -/
def touch3 : T3 → Bool
  | .quote _ _ => true
  | .list _ _ _ _ _ items => touchItems3 items
  | _ => false
def touches3 : List T3 → Bool
  | [] => false
  | t :: rest => touch3 t || touches3 rest
def touchItems3 : List (List T3) → Bool
  | [] => false
  | it :: rest => touches3 it || touchItems3 rest
end

mutual
/-- 14 per sibling, 12 for an open node, 1 per item, the leaves as in `Compose.need`; see *The gas* in the head of
    Proofs/ComposeGen.lean -/
def need3 : T3 → Nat
  | .para _ => 14
  | .heading _ _ _ => 14
  | .hr _ => 14
  | .quote _ kids => needs3 kids + 6
  | .list _ _ _ _ _ items => needItems3 items + 12
  | .fence .. => 12
  | .setext .. => 14
def needs3 : List T3 → Nat
  | [] => 0
  | t :: rest => need3 t + needs3 rest + 14
def needItems3 : List (List T3) → Nat
  | [] => 0
  | it :: rest => needs3 it + needItems3 rest + 1
end

theorem writeItems3_single (o : Bool) (mk : Char) (pad : Nat) (loose : Bool) (n : Nat) (it : List T3) :
    writeItems3 o mk pad loose n [it] = indentDoc (leaderOf o n mk) pad (writes3 it) := by simp [writeItems3]

theorem writeItems3_cons2 (o : Bool) (mk : Char) (pad : Nat) (loose : Bool) (n : Nat) (it it' : List T3) (r : List (List T3)) :
    writeItems3 o mk pad loose n (it :: it' :: r) =
      indentDoc (leaderOf o n mk) pad (writes3 it) ++ (sepS loose ++ writeItems3 o mk pad loose (n + 1) (it' :: r)) := by
  simp [writeItems3]

theorem writes3_cons2 (t t' : T3) (r : List T3) : writes3 (t :: t' :: r) = write3 t ++ ['\n'] :: writes3 (t' :: r) := by
  simp [writes3]

theorem writes3_single (t : T3) : writes3 [t] = write3 t := by simp [writes3]

/-- `T3.ok`, `T4.ok` of a setext heading unfold to the hypothesis -/
theorem setextOk_of (lv : Nat) (ls : List Str) (ul : Str) (h : ((Compose.T.para ls).ok && ulOk lv ul) = true) :
    ParaOk ls ∧ UlOk lv ul := by
  simp only [Bool.and_eq_true] at h
  exact ⟨paraOk_of ls h.1, ulOk_of lv ul h.2⟩

theorem fence_lineOk {ind : Nat} {d info : Str} {body : List Str} {close : Str} (hf : FenceFacts ind d info body close) :
    ∀ s ∈ (sp ind ++ d ++ info ++ ['\n']) :: (body ++ [close]), LineOk s := by
  intro s hs
  rcases List.mem_cons.mp hs with rfl | hs
  · exact hf.openOk
  · rcases List.mem_append.mp hs with hs | hs
    · exact (hf.body s hs).1
    · simp only [List.mem_singleton] at hs; rw [hs]; exact hf.closeOk

theorem setext_lineOk {lv : Nat} {ls : List Str} {ul : Str} (hp : ParaOk ls) (hu : UlOk lv ul) : ∀ s ∈ ls ++ [ul], LineOk s := by
  intro s hs
  rcases List.mem_append.mp hs with hs | hs
  · exact hp.line s hs
  · simp only [List.mem_singleton] at hs; rw [hs]; exact hu.line

/-! ### Fences and setext headings, as blocks of lines -/

open Mistletoe.ComposeG (Closed Open open_of_step closed_of_step)

theorem closed_setext {ti : Bool} (lv : Nat) (ls : List Str) (ul : Str) (hp : ParaOk ls) (hu : UlOk lv ul) :
    Closed ti (ls ++ [ul]) (fun m => .setext (ls ++ [ul]) m m) 14 false true := by
  obtain ⟨l0, tl, rfl⟩ := List.exists_cons_of_ne_nil hp.ne
  -- 10 = `(dcfg ti).types.length` (`dcfg_len`), what `setext_step` asks
  exact closed_of_step (n := 10) (fun k st hsx => setext_step (dcfg ti) (show BTok.paragraph ∈ defaultTypes by decide) l0 tl ul lv
    (fun l hl => Props.C14.inertLine_quiet _ (hp.inert l hl)) hu k st (hsx rfl)) (fun _ h => nomatch h) (by decide)

theorem open_fence {ti sx : Bool} (ind : Nat) (d info : Str) (body : List Str) (close : Str) (hf : FenceFacts ind d info body close) :
    Open ti ((sp ind ++ d ++ info ++ ['\n']) :: (body ++ [close]))
      (fun m => .codeFence (body.map (dedent ind)) ind d info (fenceLang info) m m) 0 false sx (fun _ => True) := by
  obtain ⟨c, hfo⟩ := hf.fo
  exact open_of_step (gn := 0) fun k st => (fence_step (dcfg ti) c (by rcases hfo.ch with rfl | rfl <;> rfl) ind hf.indLt d info hfo
    body close hf.closes (fun x hx => (hf.body x hx).2) k st).mono
      (by rcases hfo.ch with rfl | rfl <;> exact (show List.findIdx _ defaultTypes + 1 ≤ 7 by decide)) (fun _ h => h)

/-! ### The expected block tokens -/

open Mistletoe.Document (joinNl mkBlock mkBlocks mkItems)
open Mistletoe.Html Mistletoe.Escape
open Mistletoe.InertInline (flat_prose)
open Mistletoe.Pipeline (flat_append)
open Mistletoe.ComposeL (listHtml)

/-- the language of a fenced code block: the first word of the info string (`fenceLang`: the non-blank characters behind
    the leading spaces), backslash escapes and character references resolved -/
def langOf (info : Str) : Str := Unescape.escStrip false (fenceLang info)

/-- `<pre><code class="language-…">`, the content with `&`, `<`, `>` (and the quotes, as the options say) escaped,
    `</code></pre>`; no `class` attribute when there is no language -/
def fenceHtml (q : Quotes) (lang content : Str) : Str :=
  "<pre><code".toList ++ (if lang.isEmpty then [] else " class=\"language-".toList ++ htmlEscape lang ++ "\"".toList) ++ ">".toList
    ++ escapeHtmlText q.dq q.sq content ++ "</code></pre>".toList

theorem flat_fence (q : Quotes) (lang content : Str) :
    flat [Ev.otag "pre".toList [],
     Ev.otag "code".toList (if lang.isEmpty then [] else [("class".toList, "language-".toList ++ htmlEscape lang)]),
     Ev.text (escapeHtmlText q.dq q.sq content), Ev.ctag "code".toList, Ev.ctag "pre".toList] = fenceHtml q lang content := by
  unfold fenceHtml
  -- every literal becomes its list of characters; both sides are then the same concatenation
  repeat rw [String.toList_ofList]
  cases lang.isEmpty with
  | true =>
    simp only [flat, List.flatMap_cons, List.flatMap_nil, flatEv, flatAttrs, if_true, List.cons_append, List.nil_append,
      List.append_nil]
  | false =>
    simp only [flat, List.flatMap_cons, List.flatMap_nil, flatEv, flatAttrs, if_false, Bool.false_eq_true, List.append_assoc,
      List.cons_append, List.nil_append, List.append_nil]

theorem fenceHtml_ne (q : Quotes) (lang content : Str) : fenceHtml q lang content ≠ [] := by
  unfold fenceHtml
  rw [String.toList_ofList]
  simp only [List.append_assoc, List.cons_append, ne_eq, reduceCtorEq, not_false_eq_true]

mutual
def block3 (n : Nat) : T3 → Mistletoe.Block
  | .para ls => .paragraph (proseInlines (ls.map strip)) n
  | .heading lv t line => .heading lv (closingOf line) [.rawText t] n
  | .hr line => .thematicBreak (Document.stripNl line) n
  | .quote _ kids => .quote (blocks3 n kids) n
  | .list o s mk pad loose items => .list loose (if o then some s else none) (itemBlocks3 o mk pad loose s n items) n
  | .fence ind d info body _ => .codeFence (langOf info) ind d info (body.map (dedent ind)).flatten n
  | .setext lv ls ul => .setextHeading lv (rstrip ul) (proseInlines (ls.map strip)) n
def blocks3 (n : Nat) : List T3 → List Mistletoe.Block
  | [] => []
  | t :: rest => block3 n t :: blocks3 (n + (write3 t).length + 1) rest
def itemBlocks3 (o : Bool) (mk : Char) (pad : Nat) (loose : Bool) (s : Nat) (n : Nat) : List (List T3) → List Mistletoe.Block
  | [] => []
  | it :: rest =>
    .listItem (leaderOf o s mk) 0 ((leaderOf o s mk).length + pad) ((loose && !rest.isEmpty) || decide (1 < it.length)) (blocks3 n it) n
      :: itemBlocks3 o mk pad loose (s + 1) (n + (writes3 it).length + (sepS loose).length) rest
end

/-! ### HTML written directly from the tree -/

def isPara3 : T3 → Bool
  | .para _ => true
  | _ => false

def itemHtml3 (s : Bool) (it : List T3) (inner : Str) : Str :=
  match it with
  | [] => "<li></li>".toList
  | first :: _ =>
    "<li>".toList ++ (if s && isPara3 first then [] else ['\n']) ++ inner
      ++ (if s && (it.getLast?.map isPara3).getD false then [] else ['\n']) ++ "</li>".toList

mutual
/-- `s`: directly inside an item of a tight list -/
def html3 (q : Quotes) (s : Bool) : T3 → Str
  | .para ls => if s then escapeHtmlText q.dq q.sq (joinNl (ls.map strip)) else paraHtml q ls
  | .heading lv t _ => headHtml q lv t
  | .hr _ => hrHtml
  | .quote _ kids => quoteHtml (htmlAfter3 q kids)
  | .list o st _ _ loose items => listHtml o st (htmlItems3 q (!loose) items)
  | .fence ind _ info body _ => fenceHtml q (langOf info) (body.map (dedent ind)).flatten
  | .setext lv ls _ => headHtml q lv (joinNl (ls.map strip))
/-- nodes, each followed by a newline (document, quote) -/
def htmlAfter3 (q : Quotes) : List T3 → Str
  | [] => []
  | t :: rest => html3 q false t ++ '\n' :: htmlAfter3 q rest
/-- nodes separated by newlines (list item) -/
def htmlSep3 (q : Quotes) (s : Bool) : List T3 → Str
  | [] => []
  | t :: rest =>
    match rest with
    | [] => html3 q s t
    | _ :: _ => html3 q s t ++ '\n' :: htmlSep3 q s rest
def htmlItems3 (q : Quotes) (s : Bool) : List (List T3) → Str
  | [] => []
  | it :: rest =>
    match rest with
    | [] => itemHtml3 s it (htmlSep3 q s it)
    | _ :: _ => itemHtml3 s it (htmlSep3 q s it) ++ '\n' :: htmlItems3 q s rest
end

def htmlOf3 (o : Opts) (ts : List T3) : Str := htmlAfter3 o.q ts

theorem itemHtml3_nil (s : Bool) (inner : Str) : itemHtml3 s [] inner = "<li></li>".toList := rfl
theorem itemHtml3_cons (s : Bool) (first : T3) (rest : List T3) (inner : Str) : itemHtml3 s (first :: rest) inner =
    "<li>".toList ++ (if s && isPara3 first then [] else ['\n']) ++ inner
      ++ (if s && ((first :: rest).getLast?.map isPara3).getD false then [] else ['\n']) ++ "</li>".toList := rfl

theorem htmlItems3_cons2 (q : Quotes) (s : Bool) (it it' : List T3) (r : List (List T3)) :
    htmlItems3 q s (it :: it' :: r) = itemHtml3 s it (htmlSep3 q s it) ++ '\n' :: htmlItems3 q s (it' :: r) := by
  simp [htmlItems3]

theorem flat_setextHeading (q : Quotes) (s : Bool) (lv : Nat) (ul : Str) (ts : List Str) (n : Nat) :
    flat (renderBlock q s (.setextHeading lv ul (proseInlines ts) n)) = headHtml q lv (joinNl ts) := by
  simp only [renderBlock, headHtml, flat_append, flat_prose, flat_cons, Compose.flat_nil,
    flatEv, flatAttrs, List.append_nil, List.append_assoc, List.cons_append, List.nil_append]

end Mistletoe.ComposeC
