/-
  The range of the parser: which trees `Document(lines)` can return.

  `InlinesIn C`: every span token, at every depth, is RawText or of a class satisfying `C`
  (LinkReferenceDefinition never occurs among inline children).
  `BlocksIn K I`: HtmlBlock / BlankLine / LinkReferenceDefinitionBlock tokens occur only if `K` holds of the class;
  a table's `header` is absent or one TableRow, its rows are TableRows, a TableRow holds TableCells, every
  alignment is None / 0 / 1; the inline children of every leaf satisfy `I`.
  `parse_in`: under token lists `cfg`, the document is in `BlocksIn (· ∈ cfg.block.types) (InlinesIn (· ∈ cfg.span))`.
  That a renderer has a render function for every token of a parsed document is then an implication between
  predicates on the tree (`…_of_in`), with the side condition that the token lists avoid the classes it lacks.
-/
import Mistletoe.Proofs.DocTotal
namespace Mistletoe.Range
open Mistletoe Mistletoe.Block Mistletoe.Inline Mistletoe.Document

mutual
def InlineIn (C : STok → Prop) : Inline → Prop
  | .rawText _ => True
  | .strong _ k => C .coreTokens ∧ InlinesIn C k
  | .emphasis _ k => C .coreTokens ∧ InlinesIn C k
  | .inlineCode .. => C .inlineCode
  | .strikethrough k => C .strikethrough ∧ InlinesIn C k
  | .image _ _ _ _ _ k => C .coreTokens ∧ InlinesIn C k
  | .link _ _ _ _ _ k => C .coreTokens ∧ InlinesIn C k
  | .autoLink .. => C .autoLink
  | .escapeSequence _ => C .escapeSequence
  | .lineBreak .. => C .lineBreak
  | .htmlSpan _ => C .htmlSpan
  | .math _ => C .math
  | .githubWiki _ k => C .githubWiki ∧ InlinesIn C k
  | .xwikiMacroStart _ => C .xwikiMacroStart
  | .xwikiMacroEnd _ => C .xwikiMacroEnd
  | .linkRefDef .. => False
def InlinesIn (C : STok → Prop) : List Inline → Prop
  | [] => True
  | i :: is => InlineIn C i ∧ InlinesIn C is
end

/-- `Table.parse_align` returns None, 0 or 1 -/
def AlignIn (a : Option Nat) : Prop := a = none ∨ a = some 0 ∨ a = some 1

def CellsIn (I : List Inline → Prop) (cs : List Mistletoe.Block) : Prop :=
  ∀ c ∈ cs, ∃ a k ln, c = .tableCell a k ln ∧ AlignIn a ∧ I k

def RowsIn (I : List Inline → Prop) (rs : List Mistletoe.Block) : Prop :=
  ∀ r ∈ rs, ∃ al cs ln, r = .tableRow al cs ln ∧ CellsIn I cs

mutual
def BlockIn (K : BTok → Prop) (I : List Inline → Prop) : Mistletoe.Block → Prop
  | .paragraph k _ => I k
  | .heading _ _ k _ => I k
  | .setextHeading _ _ k _ => I k
  | .quote kids _ => BlocksIn K I kids
  | .blockCode .. => True
  | .codeFence .. => True
  | .list _ _ items _ => BlocksIn K I items
  | .listItem _ _ _ _ kids _ => BlocksIn K I kids
  | .table al header rows _ => (∀ a ∈ al, AlignIn a) ∧ header.length ≤ 1 ∧ RowsIn I header ∧ RowsIn I rows
  | .tableRow _ cells _ => CellsIn I cells
  | .tableCell a k _ => AlignIn a ∧ I k
  | .thematicBreak .. => True
  | .htmlBlock .. => K .htmlBlock
  | .blankLine _ => K .blankLine
  | .linkRefDefBlock .. => K .linkRefDefBlock
def BlocksIn (K : BTok → Prop) (I : List Inline → Prop) : List Mistletoe.Block → Prop
  | [] => True
  | b :: bs => BlockIn K I b ∧ BlocksIn K I bs
end

theorem cellsIn_nil {I : List Inline → Prop} : CellsIn I [] := fun _ h => nomatch h

theorem rowsIn_nil {I : List Inline → Prop} : RowsIn I [] := fun _ h => nomatch h

theorem cellsIn_cons {I : List Inline → Prop} {c : Mistletoe.Block} {cs : List Mistletoe.Block} (h : CellsIn I (c :: cs)) :
    (∃ a k ln, c = .tableCell a k ln ∧ AlignIn a ∧ I k) ∧ CellsIn I cs :=
  List.forall_mem_cons.1 h

theorem rowsIn_cons {I : List Inline → Prop} {r : Mistletoe.Block} {rs : List Mistletoe.Block} (h : RowsIn I (r :: rs)) :
    (∃ al cs ln, r = .tableRow al cs ln ∧ CellsIn I cs) ∧ RowsIn I rs :=
  List.forall_mem_cons.1 h

theorem cellsIn_blocksIn {K : BTok → Prop} {I : List Inline → Prop} : ∀ {cs : List Mistletoe.Block}, CellsIn I cs → BlocksIn K I cs
  | [], _ => trivial
  | _ :: _, h => by
    obtain ⟨⟨_, _, _, rfl, ha, hk⟩, hcs⟩ := cellsIn_cons h
    exact ⟨⟨ha, hk⟩, cellsIn_blocksIn hcs⟩

theorem rowsIn_blocksIn {K : BTok → Prop} {I : List Inline → Prop} : ∀ {rs : List Mistletoe.Block}, RowsIn I rs → BlocksIn K I rs
  | [], _ => trivial
  | _ :: _, h => by
    obtain ⟨⟨_, _, _, rfl, hc⟩, hrs⟩ := rowsIn_cons h
    exact ⟨hc, rowsIn_blocksIn hrs⟩

mutual
def EntryIn (K : BTok → Prop) : Entry → Prop
  | .blockCode _ _ _ => True
  | .heading _ _ _ _ _ => True
  | .quote inner _ _ _ => EntriesIn K inner
  | .codeFence _ _ _ _ _ _ _ => True
  | .thematicBreak _ _ _ => True
  | .list items _ _ => ItemsIn K items
  | .table _ _ _ _ => True
  | .footnote _ _ _ => True
  | .linkRefDefs _ _ _ => K .linkRefDefBlock
  | .paragraph _ _ _ => True
  | .setext _ _ _ => True
  | .htmlBlock _ _ _ => K .htmlBlock
  | .blankLine _ _ => K .blankLine
def EntriesIn (K : BTok → Prop) : List Entry → Prop
  | [] => True
  | e :: es => EntryIn K e ∧ EntriesIn K es
def ItemsIn (K : BTok → Prop) : List Item → Prop
  | [] => True
  | .mk inner _ _ _ _ _ _ :: is => EntriesIn K inner ∧ ItemsIn K is
end

/-! ## The inline phase -/

theorem findOne_spec (s : Str) (core : List Core.CoreM) (codes : List InlineScan.CodeM) (t : STok) :
    ∀ f ∈ findOne s core codes t, f.cls = t ∧ ∀ m, f.payload = .core m → m ∈ core := by
  intro f hf
  cases t <;> simp only [findOne, List.mem_map] at hf
  all_goals first
    | (obtain ⟨x, hx, rfl⟩ := hf; exact ⟨rfl, fun m hm => by simp only [Payload.core.injEq] at hm; subst hm; exact hx⟩)
    | (obtain ⟨x, _, rfl⟩ := hf; exact ⟨rfl, fun m hm => by simp [ofRe] at hm⟩)
    | (obtain ⟨x, _, rfl⟩ := hf; exact ⟨rfl, fun m hm => by cases hm⟩)
    | exact absurd hf (by simp)

/-- what `find_tokens` returns when it returns: the matches of the classes in list order, over the result of
    `find_core_tokens` (run only when `CoreTokens` is among the classes) -/
theorem findAll_ok {s : Str} {types : List STok} {fn : Footnotes.Table} {found : List Found}
    (h : findAll s types fn = .ok found) :
    ∃ core codes, (if types.contains .coreTokens = true then Core.findCoreTokens s fn else .ok ([], [])) = .ok (core, codes) ∧
      found = types.flatMap (findOne s core codes) := by
  simp only [findAll] at h
  generalize (if types.contains .coreTokens = true then Core.findCoreTokens s fn else .ok ([], [])) = coreRes at h
  cases coreRes with
  | err e => cases h
  | ok p => cases h; exact ⟨_, _, rfl, rfl⟩

theorem findAll_cls {s : Str} {types : List STok} {fn : Footnotes.Table} {found : List Found}
    (h : findAll s types fn = .ok found) : ∀ f ∈ found, f.cls ∈ types := by
  obtain ⟨core, codes, _, rfl⟩ := findAll_ok h
  intro f hf
  obtain ⟨t, htm, hft⟩ := List.mem_flatMap.mp hf
  rw [(findOne_spec _ _ _ t f hft).1]
  exact htm

mutual
/-- a token `build` makes is RawText or of the class of the candidate it was made from -/
theorem build_in {C : STok → Prop} (s : Str) (found : List Found) (hf : ∀ f ∈ found, C f.cls) :
    ∀ (o : Span.Out), InlineIn C (build s found o)
  | .raw a b => by simp only [build]; trivial
  | .tok c kids => by
    have ih := builds_in s found hf kids
    simp only [build]
    split
    · trivial
    · rename_i f hfe
      have hc := hf f (List.mem_of_getElem? hfe)
      -- one goal for each class `build` knows, in the order of its cases; the last is the fall-through
      split
      all_goals try rw [‹f.cls = _›] at hc
      · exact hc
      · exact hc
      · exact ⟨hc, ih⟩
      · exact hc
      · exact hc
      · exact hc
      · exact ⟨hc, ih⟩
      · exact hc
      · exact hc
      · unfold inlineCodeOf; simp only; split <;> exact hc
      · split <;> exact ⟨hc, ih⟩
      · trivial
theorem builds_in {C : STok → Prop} (s : Str) (found : List Found) (hf : ∀ f ∈ found, C f.cls) :
    ∀ (os : List Span.Out), InlinesIn C (builds s found os)
  | [] => trivial
  | o :: os => ⟨build_in s found hf o, builds_in s found hf os⟩
end

theorem tokenizeInner_in {types : List STok} {fn : Footnotes.Table} {s : Str} {ks : List Inline}
    (h : tokenizeInner types fn s = .ok ks) : InlinesIn (· ∈ types) ks := by
  unfold tokenizeInner at h
  split at h
  · cases h
  · rename_i found hfound
    cases h
    exact builds_in s found (findAll_cls hfound) _

/-! ## The block token constructors -/

theorem parseAlign_in {col : Str} {a : Option Nat} (h : parseAlign col = .ok a) : AlignIn a := by
  unfold parseAlign at h
  split at h
  · cases h
    split
    · split
      · exact .inr (.inl rfl)
      · exact .inr (.inr rfl)
    · exact .inl rfl
  · cases h

theorem mapRes_parseAlign_in : ∀ {cols : List Str} {al : List (Option Nat)},
    mapRes parseAlign cols = .ok al → ∀ a ∈ al, AlignIn a
  | [], al, h => by simp only [mapRes] at h; cases h; intro a ha; cases ha
  | c :: cs, al, h => by
    simp only [mapRes] at h
    split at h
    · cases h
    · rename_i a ha
      split at h
      · cases h
      · rename_i more hm
        cases h
        intro x hx
        rcases List.mem_cons.mp hx with rfl | hx
        · exact parseAlign_in ha
        · exact mapRes_parseAlign_in hm x hx

/-- `zip_longest(cells, row_align)` pads the alignments with None -/
theorem zipLongest_align : ∀ (cells : List Str) (al : List (Option Nat)), (∀ a ∈ al, AlignIn a) →
    ∀ z ∈ zipLongest cells al, AlignIn z.2
  | [], al, h, z, hz => by
    simp only [zipLongest, List.mem_map] at hz
    obtain ⟨a, ha, rfl⟩ := hz
    exact h a ha
  | c :: cs, [], h, z, hz => by
    simp only [zipLongest, List.mem_cons] at hz
    rcases hz with rfl | hz
    · exact .inl rfl
    · exact zipLongest_align cs [] h z hz
  | c :: cs, a :: as, h, z, hz => by
    simp only [zipLongest, List.mem_cons] at hz
    rcases hz with rfl | hz
    · exact h a (List.mem_cons_self ..)
    · exact zipLongest_align cs as (fun x hx => h x (List.mem_cons_of_mem _ hx)) z hz

section
variable {K : BTok → Prop} {I : List Inline → Prop} {cfg : Document.Cfg} {fn : Footnotes.Table}
  (hinl : ∀ (s : Str) (ks : List Inline), inl cfg fn s = .ok ks → I ks)
include hinl

theorem tableRow_go_in (ln : Nat) : ∀ (zs : List (Option Str × Option Nat)) (cs : List Mistletoe.Block),
    (∀ z ∈ zs, AlignIn z.2) → Document.tableRow.go cfg fn ln zs = .ok cs → CellsIn I cs
  | [], cs, _, h => by simp only [Document.tableRow.go] at h; cases h; exact cellsIn_nil
  | (c, a) :: rest, cs, hz, h => by
    simp only [Document.tableRow.go] at h
    split at h
    · cases h
    · rename_i kids hk
      split at h
      · cases h
      · rename_i more hm
        cases h
        exact List.forall_mem_cons.2 ⟨⟨_, _, _, rfl, hz (c, a) (List.mem_cons_self ..), hinl _ _ hk⟩,
          tableRow_go_in ln rest more (fun z hzm => hz z (List.mem_cons_of_mem _ hzm)) hm⟩

theorem tableRow_in {line : Str} {al : List (Option Nat)} (hal : ∀ a ∈ al, AlignIn a) {ln : Nat} {r : Mistletoe.Block}
    (h : Document.tableRow cfg fn line al ln = .ok r) : ∃ al' cs ln', r = .tableRow al' cs ln' ∧ CellsIn I cs := by
  unfold Document.tableRow at h
  simp only at h
  split at h
  · cases h
  · rename_i cs hcs
    cases h
    have hal' : ∀ a ∈ (if al.isEmpty = true then [none] else al), AlignIn a := by
      intro a ha
      split at ha
      · rcases List.mem_singleton.mp ha with rfl
        exact .inl rfl
      · exact hal a ha
    exact ⟨_, _, _, rfl, tableRow_go_in hinl ln _ cs (zipLongest_align _ _ hal') hcs⟩

theorem tableRows_in : ∀ (ls : List Str) {al : List (Option Nat)}, (∀ a ∈ al, AlignIn a) → ∀ (ln : Nat) (rs : List Mistletoe.Block),
    tableRows cfg fn ls al ln = .ok rs → RowsIn I rs
  | [], _, _, _, rs, h => by simp only [tableRows] at h; cases h; exact rowsIn_nil
  | l :: rest, al, hal, ln, rs, h => by
    simp only [tableRows] at h
    split at h
    · cases h
    · rename_i r hr
      split at h
      · cases h
      · rename_i more hm
        cases h
        exact List.forall_mem_cons.2 ⟨tableRow_in hinl hal hr, tableRows_in rest hal (ln + 1) more hm⟩

end

section
variable {K : BTok → Prop} {I : List Inline → Prop} {cfg : Document.Cfg} {fn : Footnotes.Table}

mutual
/-- **what the block token constructors return lies in `BlocksIn K I`** when the inline phase returns lists in
    `I` and the HtmlBlock / BlankLine / LinkReferenceDefinitionBlock entries of the buffer have classes in `K` -/
theorem mkBlock_in (hinl : ∀ (s : Str) (ks : List Inline), inl cfg fn s = .ok ks → I ks) :
    ∀ (e : Entry), EntryIn K e → ∀ (b : Mistletoe.Block), mkBlock cfg fn e = .ok (some b) → BlockIn K I b
  | .blockCode ls ln og, _, b, h => by simp only [mkBlock] at h; cases h; trivial
  | .heading lvl content closing ln og, _, b, h => by
    obtain ⟨kids, hk, ⟨⟩⟩ := mkBlock_heading_ok h
    exact hinl _ _ hk
  | .quote inner lo ln og, hc, b, h => by
    obtain ⟨kids, hk, ⟨⟩⟩ := mkBlock_quote_ok h
    exact mkBlocks_in hinl inner hc kids hk
  | .codeFence ls p ld info lang ln og, _, b, h => by simp only [mkBlock] at h; cases h; trivial
  | .thematicBreak line ln og, _, b, h => by simp only [mkBlock] at h; cases h; trivial
  | .list items ln og, hc, b, h => by
    have ih := mkItems_in hinl items hc
    obtain ⟨_, _, _, _, _, _, _, _, its, _, hits, ⟨⟩⟩ := mkBlock_list_ok h
    exact ih its hits
  | .table lines sl ln og, _, b, h => by
    obtain ⟨l0, l1, rest, rfl, ⟨_, align, header, rows, hal, hh, hr, ⟨⟩⟩ | ⟨_, rows, hr, ⟨⟩⟩⟩ := mkBlock_table_ok h
    · have hA := mapRes_parseAlign_in hal
      exact ⟨hA, Nat.le_refl _, List.forall_mem_cons.2 ⟨tableRow_in hinl hA hh, rowsIn_nil⟩, tableRows_in hinl _ hA _ _ hr⟩
    · exact ⟨fun a ha => by rcases List.mem_singleton.mp ha with rfl; exact .inl rfl, Nat.zero_le _,
        rowsIn_nil, tableRows_in hinl _ (al := []) (fun _ hm => nomatch hm) _ _ hr⟩
  | .footnote ms ln og, _, b, h => by simp only [mkBlock] at h; cases h
  | .linkRefDefs ms ln og, hc, b, h => by simp only [mkBlock] at h; cases h; exact hc
  | .paragraph lines ln og, _, b, h => by
    obtain ⟨kids, hk, ⟨⟩⟩ := mkBlock_paragraph_ok h
    exact hinl _ _ hk
  | .setext lines ln og, _, b, h => by
    obtain ⟨_, kids, _, hk, ⟨⟩⟩ := mkBlock_setext_ok h
    exact hinl _ _ hk
  | .htmlBlock lines ln og, hc, b, h => by simp only [mkBlock] at h; cases h; exact hc
  | .blankLine ln og, hc, b, h => by simp only [mkBlock] at h; cases h; exact hc
theorem mkBlocks_in (hinl : ∀ (s : Str) (ks : List Inline), inl cfg fn s = .ok ks → I ks) :
    ∀ (es : List Entry), EntriesIn K es → ∀ (bs : List Mistletoe.Block), mkBlocks cfg fn es = .ok bs → BlocksIn K I bs
  | [], _, bs, h => by simp only [mkBlocks] at h; cases h; trivial
  | e :: es, hc, bs, h => by
    obtain ⟨b, more, hb, hbs, rfl⟩ := mkBlocks_cons_ok h
    have ih := mkBlocks_in hinl es hc.2 more hbs
    cases b with
    | none => exact ih
    | some x => exact ⟨mkBlock_in hinl e hc.1 x hb, ih⟩
theorem mkItems_in (hinl : ∀ (s : Str) (ks : List Inline), inl cfg fn s = .ok ks → I ks) :
    ∀ (is : List Item), ItemsIn K is → ∀ (bs : List Mistletoe.Block), mkItems cfg fn is = .ok bs → BlocksIn K I bs
  | [], _, bs, h => by simp only [mkItems] at h; cases h; trivial
  | .mk inner lo ind pre ld ln og :: rest, hc, bs, h => by
    obtain ⟨kids, more, hk, hm, rfl⟩ := mkItems_cons_ok h
    exact ⟨mkBlocks_in hinl inner hc.1 kids hk, mkItems_in hinl rest hc.2 more hm⟩
end
end

/-! ## The block phase, and the document -/

mutual
theorem entryIn_of_from {ts : List BTok} : ∀ (e : Entry), EntryFrom ts e → EntryIn (· ∈ ts) e
  | .blockCode _ _ _, _ => trivial
  | .heading _ _ _ _ _, _ => trivial
  | .quote inner _ _ _, h => entriesIn_of_from inner h
  | .codeFence _ _ _ _ _ _ _, _ => trivial
  | .thematicBreak _ _ _, _ => trivial
  | .list items _ _, h => itemsIn_of_from items h.2
  | .table _ _ _ _, _ => trivial
  | .footnote _ _ _, _ => trivial
  | .linkRefDefs _ _ _, h => h.1
  | .paragraph _ _ _, _ => trivial
  | .setext _ _ _, _ => trivial
  | .htmlBlock _ _ _, h => h
  | .blankLine _ _, h => h
theorem entriesIn_of_from {ts : List BTok} : ∀ (es : List Entry), EntriesFrom ts es → EntriesIn (· ∈ ts) es
  | [], _ => trivial
  | e :: es, h => ⟨entryIn_of_from e h.1, entriesIn_of_from es h.2⟩
theorem itemsIn_of_from {ts : List BTok} : ∀ (is : List Item), ItemsFrom ts is → ItemsIn (· ∈ ts) is
  | [], _ => trivial
  | .mk inner _ _ _ _ _ _ :: is, h => ⟨entriesIn_of_from inner h.1.2, itemsIn_of_from is h.2⟩
end

/-- **the range of `Document(lines)`**: for every token lists, every list of lines and every gas -/
theorem parseLines_in (cfg : Document.Cfg) (gas : Nat) (lines : List Str) (d : Doc)
    (h : parseLines cfg gas lines = .ok d) : BlocksIn (· ∈ cfg.block.types) (InlinesIn (· ∈ cfg.span)) d.kids := by
  obtain ⟨buf, st, hb, hk, _⟩ := Pipeline.parseLines_ok h
  exact mkBlocks_in (fun _ _ hs => tokenizeInner_in hs) _ (entriesIn_of_from _ (blockPhase_from cfg.block gas lines buf st hb)) _ hk

theorem parse_in (cfg : Document.Cfg) (gas : Nat) (t : Str) (d : Doc) (h : parse cfg gas t = .ok d) :
    BlocksIn (· ∈ cfg.block.types) (InlinesIn (· ∈ cfg.span)) d.kids :=
  parseLines_in cfg gas _ d h

end Mistletoe.Range
