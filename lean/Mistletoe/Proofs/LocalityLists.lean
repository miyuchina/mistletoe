/-
  C05 with lists among A's blocks: instances of `C05_blank_line_independent_full` and `C05_prefix`
  (`Props/C05.lean`, proved in `Proofs/Locality.lean`) whose `A` contains lists, and the inputs on
  which `List.read`, before it tested the next marker first, violated the property.
-/
import Mistletoe.Proofs.Locality
import Mistletoe.Proofs.BlockTotal
import Mistletoe.Props.C05
namespace Mistletoe.Props.C05
open Mistletoe Mistletoe.Py Mistletoe.Scan Mistletoe.Block

/-! ### Non-vacuity -/

/-- A = a tight two-item list, then (after a blank line) a paragraph -/
def listA : List Str := [L "- a\n", L "- b\n", L "\n", L "para\n"]
/-- A = a list with a nested list, a list of another marker type, an ordered list, then a quote -/
def listA2 : List Str := [L "- a\n", L "  - n\n", L "* b\n", L "1. c\n", L "\n", L "> q\n"]
def listB : List Str := [L "- x\n"]

attribute [lit] listA listA2 listB

example : digestR (blockPhase cfg0 40 listA) = some ([(5, 1, 1), (13, 1, 1), (9, 1, 1), (13, 2, 2), (9, 2, 2), (9, 4, 4)], true, 0) := by
  decide_lit
example : digestR (blockPhase cfg0 40 listB) = some ([(5, 1, 1), (13, 1, 1), (9, 1, 1)], false, 0) := by decide_lit
example : digestR (blockPhase cfg0 91 (listA ++ [['\n']] ++ listB)) =
    some ([(5, 1, 1), (13, 1, 1), (9, 1, 1), (13, 2, 2), (9, 2, 2), (9, 4, 4), (5, 6, 6), (13, 6, 6), (9, 6, 6)], true, 0) := by
  decide_lit

def okClosedL : Res (Buf × St) → Bool
  | .ok (b, st) => (match b.entries.getLast? with | some e => closedE e | none => true) && st.defs.isEmpty &&
      b.entries.any (fun e => !noList e)
  | .err _ => false

theorem okClosedL_spec (b : Buf) (st : St) (h : okClosedL (.ok (b, st)) = true) :
    lastClosed b.entries ∧ st.defs = [] ∧ ∃ e ∈ b.entries, noList e = false := by
  simp only [okClosedL, Bool.and_eq_true, List.isEmpty_iff, List.any_eq_true, Bool.not_eq_true'] at h
  exact ⟨lastClosed_of_check _ h.1.1, h.1.2, h.2⟩

/-- instance of `C05_blank_line_independent_full` with a list among A's blocks (which the `_partial`
    theorem of `Props/C05.lean` excludes): its hypotheses hold for `A`, `listB` (kernel-evaluated) -/
theorem C05_full_instance (A : List Str) (hcA : okClosedL (blockPhase cfg0 40 A) = true)
    (hnA : ∀ s ∈ A, NlEnd s) :
    ∃ bA bB stB, blockPhase cfg0 40 A = .ok (bA, {}) ∧ (∃ e ∈ bA.entries, noList e = false) ∧
      blockPhase cfg0 40 listB = .ok (bB, stB) ∧
      blockPhase cfg0 91 (A ++ [['\n']] ++ listB) =
        .ok ({ entries := bA.entries ++ shiftEntries (A.length + 1) bB.entries, loose := true }, stB) := by
  have hlB : (digestR (blockPhase cfg0 40 listB)).map (·.1.length) = some 3 := by decide_lit
  have hnB : ∀ s ∈ listB, NlEnd s := nlEnd_of_checks listB (by decide)
  cases hA : blockPhase cfg0 40 A with
  | err e => rw [hA] at hcA; cases hcA
  | ok rA =>
    obtain ⟨bA, stA⟩ := rA
    cases hB : blockPhase cfg0 40 listB with
    | err e => rw [hB] at hlB; cases hlB
    | ok rB =>
      obtain ⟨bB, stB⟩ := rB
      rw [hA] at hcA
      obtain ⟨hlast, hdef, hlist⟩ := okClosedL_spec bA stA hcA
      cases blockPhase_st_init cfg0 40 A bA stA hA hdef
      exact ⟨bA, bB, stB, rfl, hlist, rfl,
        C05_blank_line_independent_full cfg0 (by decide) A listB 40 40 bA bB _ stB hA hlast rfl hB hnA hnB⟩

example := C05_full_instance listA (by decide_lit) (nlEnd_of_checks listA (by decide))
example := C05_full_instance listA2 (by decide_lit) (nlEnd_of_checks listA2 (by decide))

/-- instance of `C05_prefix`: whatever follows the blank line after `listA2` -/
example (rest : List Line) : ∃ bA stA g', 30 ≤ g' ∧ tokenizeBlock cfg0 40 (numbered 0 listA2) 1 {} = .ok (bA, stA) ∧
    tokenizeBlock cfg0 70 (numbered 0 listA2 ++ { s := ['\n'], origin := 7 } :: rest) 1 {} =
      tokLoop cfg0 g' { lines := numbered 0 listA2 ++ { s := ['\n'], origin := 7 } :: rest, pos := 7, start := 1 } stA
        bA.entries.reverse true := by
  have hcA : okClosedL (blockPhase cfg0 40 listA2) = true := by decide_lit
  cases hA : blockPhase cfg0 40 listA2 with
  | err e => rw [hA] at hcA; cases hcA
  | ok rA =>
    obtain ⟨bA, stA⟩ := rA
    rw [hA] at hcA
    obtain ⟨hlast, _, _⟩ := okClosedL_spec bA stA hcA
    obtain ⟨g', hg, heq⟩ := C05_prefix cfg0 (by decide) (numbered 0 listA2) { s := ['\n'], origin := 7 } rfl rest 1 {} 40
      bA stA hA hlast (numbered_nlEnd 0 listA2 (nlEnd_of_checks listA2 (by decide))) 30 (by decide)
    exact ⟨bA, stA, g', hg, hA, heq⟩

/-! ### The inputs on which the former `List.read` violated C05

  Before the repair, `List.read` read the item behind a marker of another type and discarded it
  (`lines.set_pos(anchor)`), keeping the link reference definitions `Footnote.read` had registered
  while the item's content was tokenized.  In `formerA1` the discarded item starts at "* * *" (after an
  empty item the next marker is taken without the interrupt test) and runs lazily to the end of A — and,
  in the joined document, on through the blank line into B, where `[foo]: /url` (indented code when B
  stands alone) is a definition three list levels deep.  With the former code the joined document had
  `footnotes == {'foo': ('/url', '')}` and A's paragraph contained a Link, although neither part
  defines a link reference; `formerA2` does the same through `ListItem.pattern`'s `\s+` (a form feed
  after the marker; `List.pattern` wants `[ \t]+`, so the dispatcher reads a paragraph there).
  With the repaired `List.read` the last component (number of definitions registered) is 0 and the theorem applies. -/

def formerA1 : List Str := [L "- \n", L "\n", L "* * *\n", L "para [foo]\n"]
def formerB1 : List Str := [L "      [foo]: /url\n"]
def formerA2 : List Str := [L "- a\n", L "*\x0cx [foo]\n"]
def formerB2 : List Str := [L "    [foo]: /url\n"]

attribute [lit] formerA1 formerB1 formerA2 formerB2

theorem former_counterexample_1 :
    digestR (blockPhase cfg0 40 formerA1) = some ([(5, 1, 1), (13, 1, 1), (4, 3, 3), (9, 4, 4)], false, 0) ∧
    digestR (blockPhase cfg0 40 formerB1) = some ([(0, 1, 1)], false, 0) ∧
    digestR (blockPhase cfg0 91 (formerA1 ++ [['\n']] ++ formerB1)) =
      some ([(5, 1, 1), (13, 1, 1), (4, 3, 3), (9, 4, 4), (0, 6, 6)], true, 0) := by
  refine ⟨?_, ?_, ?_⟩ <;> decide_lit

theorem former_counterexample_2 :
    digestR (blockPhase cfg0 40 formerA2) = some ([(5, 1, 1), (13, 1, 1), (9, 1, 1), (9, 2, 2)], false, 0) ∧
    digestR (blockPhase cfg0 40 formerB2) = some ([(0, 1, 1)], false, 0) ∧
    digestR (blockPhase cfg0 91 (formerA2 ++ [['\n']] ++ formerB2)) =
      some ([(5, 1, 1), (13, 1, 1), (9, 1, 1), (9, 2, 2), (0, 4, 4)], true, 0) := by
  refine ⟨?_, ?_, ?_⟩ <;> decide_lit

end Mistletoe.Props.C05
