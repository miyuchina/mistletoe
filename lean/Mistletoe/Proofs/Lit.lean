/-
  String literals under kernel evaluation.  The kernel evaluates `"…".toList` by decoding the UTF-8 bytes of the
  literal with a well-founded recursion, in time quadratic in the number of characters: for the expected outputs of
  the examples that is far more work than running the model.  But definitional equality, in the elaborator and in
  the kernel, reads a literal as `String.ofList [c₁, …, cₙ]` when it meets an application of `String.ofList`; so
  rewriting with `String.toList_ofList` puts the explicit list in place of `"…".toList` and nothing is decoded.
-/
import Mistletoe.Proofs.LitAttr

/-- `decide +kernel` on a goal with string literals: unfold the definitions tagged `lit`, replace every `"…".toList`
by its list of characters (`rw`, one literal at a time: `simp` does not match a literal against `String.ofList _`),
evaluate. -/
macro "decide_lit" : tactic =>
  `(tactic| ((try simp only [lit]); (repeat rw [String.toList_ofList]); decide +kernel))
