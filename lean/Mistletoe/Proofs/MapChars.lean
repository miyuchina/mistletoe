/-
  The per-character escapers (`Escape.mapChars`: an ASCII table and a function for the rest) keep every property of
  strings that holds of `[]` and survives `++`, once the table entries and the images above ASCII have it
  (`mapChars_all`): the safety lemmas of the URL and LaTeX escapers are instances.  `escape_html_text` is given in
  closed form, character by character (`escChar`, `escapeHtmlText_eq`: the one sweep over its four probed tables);
  what is proved about it is proved about `escChar` (`escapeHtmlText_id`: it is the identity wherever `escChar` is).
  Whatever the table, `mapChars` is a `flatMap`: `mapChars_nil`, `mapChars_append`, `mapChars_id`.
-/
import Mistletoe.Model.Escape
namespace Mistletoe.Escape
open Mistletoe

theorem getD_mem_of_lt {α} (l : List α) (i : Nat) (d : α) (h : i < l.length) : l.getD i d ∈ l := by
  rw [← List.getElem_eq_getD (h := h) d]; exact List.getElem_mem h

theorem hexDigit_mem (n : Nat) : hexDigit n ∈ hexDigits := by
  unfold hexDigit
  apply getD_mem_of_lt
  have : hexDigits.length = 16 := by decide +kernel
  omega

theorem flatMap_all {P : Str → Prop} (nil : P []) (append : ∀ {a b : Str}, P a → P b → P (a ++ b))
    {α} (f : α → Str) : ∀ (l : List α), (∀ x ∈ l, P (f x)) → P (l.flatMap f)
  | [], _ => nil
  | x :: xs, h => by
    rw [List.flatMap_cons]
    exact append (h x List.mem_cons_self) (flatMap_all nil append f xs fun y hy => h y (List.mem_cons_of_mem _ hy))

theorem mapChars_all {P : Str → Prop} (nil : P []) (append : ∀ {a b : Str}, P a → P b → P (a ++ b))
    {tbl : List Str} {above : Char → Str} (hlen : tbl.length = 128) (htbl : ∀ e ∈ tbl, P e)
    (habove : ∀ c, ¬ c.toNat < 128 → P (above c)) (s : Str) : P (mapChars tbl above s) := by
  refine flatMap_all nil append _ s fun c _ => ?_
  by_cases hc : c.toNat < 128
  · rw [if_pos hc]
    exact htbl _ (getD_mem_of_lt tbl c.toNat [c] (by omega))
  · rw [if_neg hc]
    exact habove c hc

/-- what `escape_html_text` writes for one character under the two quote options -/
def escChar (dq sq : Bool) (c : Char) : Str :=
  if c = '&' then ['&', 'a', 'm', 'p', ';']
  else if c = '<' then ['&', 'l', 't', ';']
  else if c = '>' then ['&', 'g', 't', ';']
  else if c = '"' ∧ dq = true then ['&', 'q', 'u', 'o', 't', ';']
  else if c = '\'' ∧ sq = true then ['&', '#', 'x', '2', '7', ';']
  else [c]

theorem escChar_of_ge (dq sq : Bool) (c : Char) (h : ¬ c.toNat < 128) : escChar dq sq c = [c] := by
  have ne : ∀ k : Char, k.toNat < 128 → c ≠ k := fun k hk e => h (e ▸ hk)
  simp only [escChar, ne '&' (by decide), ne '<' (by decide), ne '>' (by decide), ne '"' (by decide),
    ne '\'' (by decide), false_and, if_false]

theorem mapChars_eq_escChar (dq sq : Bool) (tbl : List Str) (hlen : tbl.length = 128)
    (htbl : tbl.zipIdx.all (fun p => p.1 == escChar dq sq (Char.ofNat p.2)) = true) (s : Str) :
    mapChars tbl ident s = s.flatMap (escChar dq sq) := by
  unfold mapChars
  congr 1
  funext c
  by_cases hc : c.toNat < 128
  · have he : tbl[c.toNat]? = some tbl[c.toNat] := List.getElem?_eq_getElem (by omega)
    have := List.all_eq_true.mp htbl (_, c.toNat) (List.mem_zipIdx_iff_getElem?.mpr he)
    rw [Char.ofNat_toNat] at this
    rw [if_pos hc, List.getD_eq_getElem?_getD, he]
    exact eq_of_beq this
  · rw [if_neg hc, escChar_of_ge dq sq c hc]; rfl

/-- **the four probed tables of `escape_html_text` in closed form** (one sweep over each table) -/
theorem escapeHtmlText_eq (dq sq : Bool) (s : Str) : escapeHtmlText dq sq s = s.flatMap (escChar dq sq) := by
  cases dq <;> cases sq <;> exact mapChars_eq_escChar _ _ _ (by decide +kernel) (by decide +kernel) s

theorem flatMap_id {α} {f : α → List α} : ∀ (l : List α), (∀ x ∈ l, f x = [x]) → l.flatMap f = l
  | [], _ => rfl
  | x :: l, h => by
    rw [List.flatMap_cons, h x List.mem_cons_self, flatMap_id l fun y hy => h y (List.mem_cons_of_mem _ hy)]
    rfl

theorem mapChars_nil (tbl : List Str) (above : Char → Str) : mapChars tbl above [] = [] := rfl

theorem mapChars_append (tbl : List Str) (above : Char → Str) (a b : Str) :
    mapChars tbl above (a ++ b) = mapChars tbl above a ++ mapChars tbl above b := List.flatMap_append

theorem mapChars_id {tbl : List Str} {above : Char → Str} (s : Str) (h : ∀ c ∈ s, mapChars tbl above [c] = [c]) :
    mapChars tbl above s = s :=
  flatMap_id s fun c hc => by simpa [mapChars] using h c hc

theorem escapeHtmlText_append (dq sq : Bool) (a b : Str) :
    escapeHtmlText dq sq (a ++ b) = escapeHtmlText dq sq a ++ escapeHtmlText dq sq b := mapChars_append _ _ a b

theorem escapeHtmlText_id (dq sq : Bool) (s : Str) (h : ∀ c ∈ s, escChar dq sq c = [c]) : escapeHtmlText dq sq s = s := by
  rw [escapeHtmlText_eq]
  exact flatMap_id s h

theorem escChar_id (dq sq : Bool) (c : Char) (h1 : c ≠ '&') (h2 : c ≠ '<') (h3 : c ≠ '>')
    (h4 : c = '"' → dq = false) (h5 : c = '\'' → sq = false) : escChar dq sq c = [c] := by
  have h4' : ¬ (c = '"' ∧ dq = true) := fun h => by simp [h4 h.1] at h
  have h5' : ¬ (c = '\'' ∧ sq = true) := fun h => by simp [h5 h.1] at h
  simp only [escChar, h1, h2, h3, h4', h5', if_false]

end Mistletoe.Escape
