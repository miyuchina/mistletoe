/-
  C07 — the call order of `append_footnotes` IS document order.

  `Props/C07.lean` proves "first definition wins" over the list `st.defs` of definitions in the order
  the block phase hands them to `append_footnotes`, and that every inline tokenization of the document
  sees the one table `footnotesOf st.defs` (`C07_two_phase`).  Here the missing link: `st.defs` is
  exactly the sequence of matches of the definition entries (`.footnote` / `.linkRefDefs`) of the parse
  buffer read in document pre-order, descending into block quotes and list items (`defsOfEntries`).
  So the table is a function of that pre-order sequence alone: where a definition sits (before or after
  a use, at top level or nested) cannot matter, and the winner for a label is the first definition in
  document order whose normalised label equals it.

  Proof: `Proofs/BlockState.lean`, the simultaneous induction `all_s` on what a run does to the state.
-/
import Mistletoe.Proofs.BlockState
import Mistletoe.Model.Document
import Mistletoe.Proofs.ConfigValues
import Mistletoe.Props.C07
import Mistletoe.Proofs.Lit
namespace Mistletoe.Block
open Mistletoe Mistletoe.Py Mistletoe.Scan

/-- **`tokenize_block` registers exactly the definitions of the buffer it returns, in document
    pre-order** (at every nesting depth: the nested calls for quotes and list items included). -/
theorem tokenizeBlock_defs (cfg : Cfg) (gas : Nat) (lines : List Line) (start : Nat) (st : St) (b : Buf) (st' : St)
    (h : tokenizeBlock cfg gas lines start st = .ok (b, st')) :
    st'.defs = st.defs ++ defsOfEntries b.entries :=
  ((all_s cfg gas).1 lines start st b st' h).1

theorem tokLoop_defs (cfg : Cfg) (gas : Nat) (fw : FW) (st : St) (acc : List Entry) (loose : Bool) (b : Buf) (st' : St)
    (d0 : List FnMatch) (h : tokLoop cfg gas fw st acc loose = .ok (b, st'))
    (hacc : st.defs = d0 ++ defsOfEntries acc.reverse) : st'.defs = d0 ++ defsOfEntries b.entries :=
  ((all_s cfg gas).2.1 fw st acc loose b st' { st with defs := d0 } h ⟨hacc, id⟩).1

theorem tryTypes_defs (cfg : Cfg) (gas : Nat) (fw : FW) (st : St) (l : Line) (ts : List BTok) (e : Entry) (fw' : FW)
    (st' : St) (h : tryTypes cfg gas fw st l ts = .ok (some (e, fw', st'))) :
    st'.defs = st.defs ++ defsOfEntry e :=
  ((all_s cfg gas).2.2.1 fw st l ts e fw' st' h).1

theorem readList_defs (cfg : Cfg) (gas : Nat) (fw : FW) (st : St) (ld) (nm) (acc : List Item)
    (r : List Item × FW × St) (d0 : List FnMatch) (h : readList cfg gas fw st ld nm acc = .ok r)
    (hacc : st.defs = d0 ++ defsOfItems acc.reverse) : r.2.2.defs = d0 ++ defsOfItems r.1 :=
  ((all_s cfg gas).2.2.2 fw st ld nm acc r { st with defs := d0 } h ⟨hacc, id⟩).1

theorem blockPhase_defs (cfg : Cfg) (gas : Nat) (lines : List Str) (b : Buf) (st : St)
    (h : blockPhase cfg gas lines = .ok (b, st)) : st.defs = defsOfEntries b.entries := by
  have := tokenizeBlock_defs cfg gas _ 1 {} b st h
  simpa using this

end Mistletoe.Block

namespace Mistletoe.Props.C07
open Mistletoe Mistletoe.Py Mistletoe.Footnotes Mistletoe.Block Mistletoe.Document

/-- **The table is built from the definitions of the parse tree in document order.**  If
    `Document(lines)` returns `d`, the definitions the block phase registered (`st.defs`, in
    `append_footnotes` call order) are exactly the matches of the definition entries of the parse
    buffer in pre-order, quotes and list items included; and `d.footnotes` is the first-wins table over
    that sequence. -/
theorem C07_table_is_document_order (cfg : Document.Cfg) (gas : Nat) (lines : List Str) (d : Doc)
    (h : parseLines cfg gas lines = .ok d) :
    ∃ buf st, blockPhase cfg.block gas lines = .ok (buf, st) ∧
      st.defs = defsOfEntries buf.entries ∧
      d.footnotes = Document.footnotesOf (defsOfEntries buf.entries) := by
  obtain ⟨buf, st, hb, hf, _⟩ := C07_two_phase cfg gas lines d h
  have hd := blockPhase_defs cfg.block gas lines buf st hb
  exact ⟨buf, st, hb, hd, by rw [hf, hd]⟩

/-- **Position independence**: the table depends on nothing but the pre-order sequence of definition
    matches.  Two documents (whatever their configurations, gas, other content, and wherever their
    definitions sit: top level, quote, list item, before or after uses) whose parse buffers carry the
    same sequence of definitions have the same `footnotes` table. -/
theorem C07_position_independent (cfg₁ cfg₂ : Document.Cfg) (gas₁ gas₂ : Nat) (lines₁ lines₂ : List Str)
    (d₁ d₂ : Doc) (buf₁ buf₂ : Buf) (st₁ st₂ : St)
    (h₁ : parseLines cfg₁ gas₁ lines₁ = .ok d₁) (h₂ : parseLines cfg₂ gas₂ lines₂ = .ok d₂)
    (hb₁ : blockPhase cfg₁.block gas₁ lines₁ = .ok (buf₁, st₁))
    (hb₂ : blockPhase cfg₂.block gas₂ lines₂ = .ok (buf₂, st₂))
    (hsame : defsOfEntries buf₁.entries = defsOfEntries buf₂.entries) :
    d₁.footnotes = d₂.footnotes := by
  obtain ⟨b₁, s₁, hb₁', _, hf₁⟩ := C07_table_is_document_order cfg₁ gas₁ lines₁ d₁ h₁
  obtain ⟨b₂, s₂, hb₂', _, hf₂⟩ := C07_table_is_document_order cfg₂ gas₂ lines₂ d₂ h₂
  rw [hb₁] at hb₁'; rw [hb₂] at hb₂'
  cases hb₁'; cases hb₂'
  rw [hf₁, hf₂, hsame]

/-- the table built from the matches `ms` answers with the first of them whose label is `lbl` after normalisation -/
theorem resolve_footnotesOf (ms : List FnMatch) (lbl : Str) :
    resolve (Document.footnotesOf ms) lbl =
      (ms.find? (fun m => normalizeLabel m.label == normalizeLabel lbl)).map
        (fun m => (Unescape.escStrip false (strip m.dest), Unescape.escStrip false m.title)) := by
  unfold Document.footnotesOf
  rw [C07_first_wins, List.find?_map, Option.map_map]
  rfl

/-- **First in document order wins.**  If `Document(lines)` returns `d`, a reference with label `lbl`
    resolves, in `d.footnotes`, to the (unescaped) destination and title of the FIRST match, in the
    pre-order sequence of the definition entries of the parse buffer, whose label equals `lbl` after
    normalisation (whitespace collapsing and case folding); it resolves to nothing exactly when there is
    no such definition anywhere in the document. -/
theorem C07_first_in_document_order (cfg : Document.Cfg) (gas : Nat) (lines : List Str) (d : Doc)
    (h : parseLines cfg gas lines = .ok d) (lbl : Str) :
    ∃ buf st, blockPhase cfg.block gas lines = .ok (buf, st) ∧
      resolve d.footnotes lbl =
        ((defsOfEntries buf.entries).find? (fun m => normalizeLabel m.label == normalizeLabel lbl)).map
          (fun m => (Unescape.escStrip false (strip m.dest), Unescape.escStrip false m.title)) := by
  obtain ⟨buf, st, hb, _, hf⟩ := C07_table_is_document_order cfg gas lines d h
  exact ⟨buf, st, hb, hf ▸ resolve_footnotesOf _ lbl⟩

/-- **No definition in the document ⇒ the reference does not resolve** (it stays literal text). -/
theorem C07_unresolved_in_document (cfg : Document.Cfg) (gas : Nat) (lines : List Str) (d : Doc)
    (h : parseLines cfg gas lines = .ok d) (lbl : Str) :
    ∃ buf st, blockPhase cfg.block gas lines = .ok (buf, st) ∧
      ((∀ m ∈ defsOfEntries buf.entries, normalizeLabel m.label ≠ normalizeLabel lbl) →
        resolve d.footnotes lbl = none) := by
  obtain ⟨buf, st, hb, hr⟩ := C07_first_in_document_order cfg gas lines d h lbl
  refine ⟨buf, st, hb, fun hno => ?_⟩
  rw [hr]
  have : (defsOfEntries buf.entries).find? (fun m => normalizeLabel m.label == normalizeLabel lbl) = none := by
    rw [List.find?_eq_none]
    intro m hm
    simpa using hno m hm
  simp [this]

/-! ### Non-vacuity: a use BEFORE both definitions; the first definition sits inside a block quote
    inside a list item; a duplicate label (other case) follows at top level; `[bar]` has no definition.

    ```
    [foo] use          line 1
                       line 2
    - > [Foo]: /nested 't1'      line 3
                       line 4
    [FOO]: /top        line 5
                       line 6
    [bar]              line 7
    ```
    Real code: `Document(text).footnotes == {'foo': ('/nested', 't1')}` (HTML renderer and Markdown
    renderer token lists alike), `[foo]` renders as `<a href="/nested" title="t1">foo</a>`, `[bar]` stays. -/

/-- the `HtmlRenderer` token lists, as regenerated from /repo (`Config.html`) -/
def demoCfg : Document.Cfg :=
  match Config.html with
  | some c => c
  | none => { block := { types := [] }, span := [] }

/-- the `MarkdownRenderer` token lists, as regenerated from /repo (`Config.markdown`):
    `LinkReferenceDefinitionBlock` and `BlankLine` in place of `Footnote` -/
def demoCfgMd : Document.Cfg :=
  match Config.markdown with
  | some c => c
  | none => { block := { types := [] }, span := [] }

theorem demoCfg_eq : demoCfg = ⟨⟨Config.htmlBlockList, true⟩, Config.htmlSpanList⟩ := by rw [demoCfg, Config.html_eq]
theorem demoCfgMd_eq : demoCfgMd = ⟨⟨[.linkRefDefBlock, .blankLine, .htmlBlock, .blockCode, .heading, .quote, .codeFence,
    .thematicBreak, .list, .table, .paragraph], true⟩, Config.htmlSpanList⟩ := by rw [demoCfgMd, Config.markdown_eq]

example : demoCfg.block.types = [.htmlBlock, .blockCode, .heading, .quote, .codeFence, .thematicBreak, .list, .table, .footnote, .paragraph] := by
  rw [demoCfg_eq]; decide +kernel
example : demoCfgMd.block.types = [.linkRefDefBlock, .blankLine, .htmlBlock, .blockCode, .heading, .quote, .codeFence, .thematicBreak, .list, .table, .paragraph] := by
  rw [demoCfgMd_eq]

def demoLines : List Str :=
  ["[foo] use\n", "\n", "- > [Foo]: /nested 't1'\n", "\n", "[FOO]: /top\n", "\n", "[bar]\n"].map String.toList

/-- `lines_to_chars demoLines` puts the explicit character lists in place of `demoLines`.  The literals are converted
    in a hypothesis `demoLines = l`, not in the goal: under `parseLines` the kernel would check the step by running the parser. -/
macro "lines_to_chars " x:ident : tactic => `(tactic| (
  generalize e : $x = l
  simp only [$x:ident, List.map_cons, List.map_nil] at e
  repeat rw [String.toList_ofList] at e
  subst e))

/-- the shape of the buffer: paragraph, list [item [quote [definition]]], definition, paragraph — the
    nested definition is two containers deep -/
example : (match blockPhase demoCfg.block 60 demoLines with
    | .ok (b, _) => b.entries.map (fun e => match e with
        | .list [.mk [.quote [.footnote ms _ _] _ _ _] _ _ _ _ _ _] _ _ => ms.map (·.dest)
        | .footnote ms _ _ => ms.map (·.dest)
        | _ => [])
    | .err _ => []) = [[], ["/nested".toList], ["/top".toList], []] := by rw [demoCfg_eq]; lines_to_chars demoLines; decide_lit

/-- the pre-order sequence of definitions: the nested one first, the top-level duplicate second; and it
    is the sequence the block phase registered -/
example : (match blockPhase demoCfg.block 60 demoLines with
    | .ok (b, st) => if st.defs = defsOfEntries b.entries then (defsOfEntries b.entries).map (fun m => (m.label, m.dest, m.title)) else []
    | .err _ => []) =
    [("Foo".toList, "/nested".toList, "t1".toList), ("FOO".toList, "/top".toList, [])] := by rw [demoCfg_eq]; lines_to_chars demoLines; decide_lit

/-- the same under the Markdown renderer's token list (`.linkRefDefs` entries) -/
example : (match blockPhase demoCfgMd.block 60 demoLines with
    | .ok (b, st) => if st.defs = defsOfEntries b.entries then (defsOfEntries b.entries).map (fun m => (m.label, m.dest, m.title)) else []
    | .err _ => []) =
    [("Foo".toList, "/nested".toList, "t1".toList), ("FOO".toList, "/top".toList, [])] := by rw [demoCfgMd_eq]; lines_to_chars demoLines; decide_lit

/-- the next two examples as one evaluation (each evaluation of `normalize_label` first walks the whole case-folding
    table, which the kernel does once per declaration) -/
theorem demo_table :
    (match Document.parseLines demoCfg 60 demoLines with
      | .ok d => (d.footnotes, resolve d.footnotes "foo".toList, resolve d.footnotes "bar".toList)
      | .err _ => ([], none, none)) =
      ([("foo".toList, "/nested".toList, "t1".toList)], some ("/nested".toList, "t1".toList), none) ∧
    (match Document.parseLines demoCfgMd 60 demoLines with
      | .ok d => d.footnotes
      | .err _ => []) = [("foo".toList, "/nested".toList, "t1".toList)] := by
  rw [demoCfg_eq, demoCfgMd_eq]; lines_to_chars demoLines; decide +kernel

/-- the document's table has the single key `foo`, bound to the NESTED (earlier in document order)
    definition; the use on line 1 (before both definitions) resolves to it; `[bar]` does not resolve -/
example : (match Document.parseLines demoCfg 60 demoLines with
    | .ok d => (d.footnotes, resolve d.footnotes "foo".toList, resolve d.footnotes "bar".toList)
    | .err _ => ([], none, none)) =
    ([("foo".toList, "/nested".toList, "t1".toList)], some ("/nested".toList, "t1".toList), none) := demo_table.1

example : (match Document.parseLines demoCfgMd 60 demoLines with
    | .ok d => d.footnotes
    | .err _ => []) = [("foo".toList, "/nested".toList, "t1".toList)] := demo_table.2

/-- `C07_table_is_document_order` and `C07_first_in_document_order` apply to the demo (the hypothesis
    `parseLines … = .ok d` is satisfiable) -/
example : ∃ d, Document.parseLines demoCfg 60 demoLines = .ok d ∧
    ∃ buf st, blockPhase demoCfg.block 60 demoLines = .ok (buf, st) ∧
      st.defs = defsOfEntries buf.entries ∧
      d.footnotes = Document.footnotesOf (defsOfEntries buf.entries) := by
  cases h : Document.parseLines demoCfg 60 demoLines with
  | err e =>
    -- the table computed above is not the one of the error case
    have := demo_table.1
    rw [h] at this
    cases this
  | ok d => exact ⟨d, rfl, C07_table_is_document_order demoCfg 60 demoLines d h⟩

/-- position independence on an instance: the same two definitions, both at top level and BEFORE the
    use, give the same table as the demo -/
def demoLinesFlat : List Str :=
  ["[Foo]: /nested 't1'\n", "[FOO]: /top\n", "\n", "[foo] use\n"].map String.toList

example : (match blockPhase demoCfg.block 60 demoLines, blockPhase demoCfg.block 60 demoLinesFlat with
    | .ok (b₁, _), .ok (b₂, _) => decide (defsOfEntries b₁.entries = defsOfEntries b₂.entries)
    | _, _ => false) = true := by
  rw [demoCfg_eq]; lines_to_chars demoLines; lines_to_chars demoLinesFlat; decide +kernel

example : (match Document.parseLines demoCfg 60 demoLines, Document.parseLines demoCfg 60 demoLinesFlat with
    | .ok d₁, .ok d₂ => decide (d₁.footnotes = d₂.footnotes)
    | _, _ => false) = true := by
  rw [demoCfg_eq]; lines_to_chars demoLines; lines_to_chars demoLinesFlat; decide +kernel

end Mistletoe.Props.C07
