/-
  C09 (Markdown round trip) for the blocks `Blk3`: prose paragraphs, ATX headings, thematic breaks, fenced and indented code
  blocks (`Blk2`, `Proofs/MdRoundCode.lean`), SETEXT HEADINGS and HTML BLOCKS in the renderer's normal form:

  * setext heading `Blk3.setext lines ind c len`: one or more inert prose lines (as for a paragraph), then the underline
    `ind` spaces (0-3) + `len ≥ 1` copies of `c` (`=`: level 1, `-`: level 2) + "\n".  `render_setext_heading` writes the
    content lines and `token.underline`, which `SetextHeading.__init__` set to `lines.pop().rstrip()`: indentation and
    length of the underline are kept, whitespace behind it is not (hence none in the normal form).  The facts about the
    block scanners that `Proofs/ComposeCode.lean` asks of an underline (`UlOk`) are PROVED from this shape (`ulOk_line`).
  * HTML block `Blk3.html lines`: the first line has at most three spaces, then `<`, and `HtmlBlock.start` answers 6 or 7
    (`_end_cond = None`); every line is one complete non-blank line; nothing else is asked of the content lines (they
    are not parsed).  `HtmlBlock.read` keeps the lines up to the next blank line, the token holds them joined without
    the last "\n", `render_html_block` splits at "\n".  `htmlStart_tag`: every line `<name…` / `</name…` with a name of
    `span_token._tags` (any letter case) followed by `>`, `/>`, a space or the line end is a start of condition 6.
    The lemmas about the model that this takes stand here: `HtmlBlock.read` for `_end_cond = None` (`readHtmlBlock_run`,
    `html_step`), the lazy `(.+?)` of `HtmlBlock.predefined` (`predefTail_name`), and `str.casefold` below `µ`
    (`casefoldChar_ascii`, `casefold_ascii`: upper-case letters become lower-case, nothing else changes).

  Per kind one record of what the document chain needs (`setext_laws`: in every parser state whose `Paragraph.parse_setext`
  is on; `html_laws`), collected for the blocks of the fragment by `blk3_laws`; `MdRoundDoc.doc_roundtrip` at `frag3` makes
  the document of them — at the top level, and inside `k` block quotes for documents without setext headings (finding
  `setext-in-quote`: `Quote.read` switches the setext rule off).  The theorems from the `str`, under `Config.markdown`:
  Props/C09_Setext.lean.
-/
import Mistletoe.Proofs.ComposeCode
import Mistletoe.Proofs.MdRoundDoc
import Mistletoe.Proofs.Lit
namespace Mistletoe.MdRound
open Mistletoe Mistletoe.Py Mistletoe.Scan Mistletoe.Wrap Mistletoe.Markdown Mistletoe.InertInline Mistletoe.MdRoundDoc
open Mistletoe.Block
open Mistletoe.Props.C14 (inertLine markdownTypes numbered numbered_cons numbered_append numbered_s numbered_mem)
open Mistletoe.Strip (rstrip_snoc_nl rstrip_of_last)
open Mistletoe.ComposeC (UlOk setext_step)

def ulLine (n : Nat) (c : Char) (m : Nat) : Str := List.replicate n ' ' ++ List.replicate m c ++ ['\n']

def ulCh (c : Char) : Prop := c = '=' ∨ c = '-'

theorem ulLine_succ (n : Nat) (c : Char) (k : Nat) :
    ulLine n c (k + 1) = List.replicate n ' ' ++ c :: (List.replicate k c ++ ['\n']) := by
  simp [ulLine, List.replicate_succ]

theorem ulCh_ne (c : Char) (hc : ulCh c) :
    c ≠ ' ' ∧ c ≠ '\t' ∧ c ≠ '\n' ∧ c ≠ '#' ∧ c ≠ '>' ∧ c ≠ '`' ∧ c ≠ '~' ∧ c ≠ '<' ∧ c ≠ '|' ∧ pyIsSpace c = false ∧
      isLineSep c = false := by
  rcases hc with rfl | rfl <;> decide

theorem ul_setext (n : Nat) (hn : n < 4) (c : Char) (hc : ulCh c) (k : Nat) : setext (ulLine n c (k + 1)) = true := by
  obtain ⟨h1, _, h3, _⟩ := ulCh_ne c hc
  rw [ulLine_succ]
  unfold setext
  rw [upTo3_rep n c _ h1 hn]
  have hs : span (· == c) (c :: (List.replicate k c ++ ['\n'])) = _ := span_replicate c (k + 1) ['\n'] (by simpa using h3.symm)
  rcases hc with rfl | rfl
  · simp only [List.head?_cons, beq_self_eq_true, if_true, hs]
    simp [span, atEnd]
  · have : ((some '-' : Option Char) == some '=') = false := by decide
    simp only [List.head?_cons, this, Bool.false_eq_true, if_false, hs]
    simp [span, atEnd]

/-- `-` alone begins an EMPTY list item, which does not interrupt a paragraph; `--…` and `=…` are no list markers -/
theorem ul_list (n : Nat) (hn : n < 4) (c : Char) (hc : ulCh c) (k : Nat) : listInterrupts (ulLine n c (k + 1)) = false := by
  rcases hc with rfl | rfl
  · rw [ulLine_succ]
    unfold listInterrupts parseMarker Scan.listItem
    rw [upTo3_rep n '=' _ (by decide) hn]
    have : listMarker ('=' :: (List.replicate k '=' ++ ['\n'])) = none := by
      unfold listMarker
      simp [span, show isDigit '=' = false by decide]
    simp only [this]
  · cases k with
    | zero =>
      obtain rfl | rfl | rfl | rfl : n = 0 ∨ n = 1 ∨ n = 2 ∨ n = 3 := by omega
      all_goals decide
    | succ j =>
      rw [ulLine_succ]
      unfold listInterrupts parseMarker Scan.listItem
      rw [upTo3_rep n '-' _ (by decide) hn]
      have : listMarker ('-' :: (List.replicate (j + 1) '-' ++ ['\n'])) = some (['-'], List.replicate (j + 1) '-' ++ ['\n']) := by
        unfold listMarker; simp
      simp only [this]
      simp [List.replicate_succ, atEnd, span, ws, show pyIsSpace '-' = false by decide]

theorem ul_last (n : Nat) (c : Char) (k : Nat) : (List.replicate n ' ' ++ List.replicate (k + 1) c).getLast? = some c := by
  simp [List.replicate_succ']

theorem ul_rstrip (n : Nat) (c : Char) (hc : ulCh c) (k : Nat) :
    rstrip (ulLine n c (k + 1)) = List.replicate n ' ' ++ List.replicate (k + 1) c := by
  rw [ulLine, rstrip_snoc_nl]
  refine rstrip_of_last _ (fun x hx => ?_)
  rw [ul_last] at hx
  cases hx
  exact (ulCh_ne c hc).2.2.2.2.2.2.2.2.2.1

/-- the level `SetextHeading.__init__` computes: `1 if self.underline.endswith('=') else 2` -/
def ulLevel (c : Char) : Nat := if c = '=' then 1 else 2

theorem ulOk_line (n : Nat) (hn : n < 4) (c : Char) (hc : ulCh c) (k : Nat) : UlOk (ulLevel c) (ulLine n c (k + 1)) := by
  obtain ⟨h1, h2, h3, h4, h5, h6, h7, h8, h9, h10, h11⟩ := ulCh_ne c hc
  have hs := ulLine_succ n c k
  have hmem : ∀ x ∈ List.replicate n ' ' ++ List.replicate (k + 1) c, x = ' ' ∨ x = c := by
    intro x hx
    rcases List.mem_append.mp hx with hx | hx
    · exact Or.inl (List.mem_replicate.mp hx).2
    · exact Or.inr (List.mem_replicate.mp hx).2
  refine ⟨⟨List.replicate n ' ' ++ List.replicate (k + 1) c, rfl, ?_, ?_⟩, ?_, hs ▸ isBlank_rep n c _ h10, hs ▸ heading_rep n c _ hn h1 h4,
    hs ▸ quoteStart_rep n c _ h1 h5, hs ▸ codeFenceStart_rep n c _ hn h1 h6 h7, ul_list n hn c hc k, ?_, ul_setext n hn c hc k, ?_, ?_⟩
  · intro x hx
    rcases hmem x hx with rfl | rfl
    · decide
    · exact h11
  · intro hx
    rcases hmem _ hx with e | e
    · revert e; decide
    · exact h2 e.symm
  · have : '|' ∉ ulLine n c (k + 1) := by
      intro hx
      simp only [ulLine, List.mem_append, List.mem_singleton] at hx
      rcases hx with hx | hx
      · rcases hmem _ (List.mem_append.mpr hx) with e | e
        · revert e; decide
        · exact h9 e.symm
      · revert hx; decide
    simpa using this
  · rw [ulLine_succ]; exact htmlBlockStart_rep n c _ h10 h8
  · rw [ul_rstrip n c hc k, ul_last]
    rcases hc with rfl | rfl <;> decide
  · rcases hc with rfl | rfl
    · exact Or.inl rfl
    · exact Or.inr rfl

/-! ### `HtmlBlock.read` for start conditions 6 and 7 (`_end_cond = None`): the lines up to the next blank line -/

theorem htmlBlockLoop_run (post : List Line) (start : Nat) (hb : ∀ b, post.head? = some b → isBlank b.s = true)
    (cs pre : List Line) (buf : List Str) (fuel : Nat) (h : ∀ x ∈ cs, isBlank x.s = false) (hf : cs.length < fuel) :
    htmlBlockLoop none fuel ⟨pre ++ (cs ++ post), pre.length, start⟩ buf =
      ((cs.map (·.s)).reverse ++ buf, ⟨(pre ++ cs) ++ post, (pre ++ cs).length, start⟩) := by
  rw [htmlBlockLoop_eq, loop_run (htmlStep none) (· :: ·) post start (fun b s h' => by simp [htmlStep, hb b h']) cs pre buf fuel
    (fun x hx s => by simp [htmlStep, h x hx]) hf, foldl_cons_map]

theorem readHtmlBlock_run (cs pre post : List Line) (start : Nat) (hb : ∀ b, post.head? = some b → isBlank b.s = true)
    (h : ∀ x ∈ cs, isBlank x.s = false) :
    readHtmlBlock ⟨pre ++ (cs ++ post), pre.length, start⟩ none =
      (cs.map (·.s), ⟨(pre ++ cs) ++ post, (pre ++ cs).length, start⟩) := by
  unfold readHtmlBlock
  rw [htmlBlockLoop_run post start hb cs pre [] _ h (by simp [FW.remaining]; omega)]
  simp

/-- an HTML block of start condition 6 or 7 as one round of the loop, under every list of types in which `HtmlBlock` is the
    first that opens on `<`: `read` takes the lines up to the blank line (or the end) -/
theorem html_step (cfg : Cfg) (hf : cfg.types.find? (opens · '<') = some .htmlBlock) (n : Nat) (hn : n < 4) (t : Str)
    (rest : List Str) (r : Nat) (hst : htmlBlockStart (List.replicate n ' ' ++ '<' :: t) = .ok (some (r, none)))
    (hnb : ∀ l ∈ (List.replicate n ' ' ++ '<' :: t) :: rest, isBlank l = false) (k : Nat) (st : St) :
    Step cfg cfg.types.length (fun post => ∀ b, post.head? = some b → isBlank b.s = true)
      (numbered k ((List.replicate n ' ' ++ '<' :: t) :: rest))
      (fun ln => [.htmlBlock ((List.replicate n ' ' ++ '<' :: t) :: rest) ln (k + 1)]) 1 st st false := by
  generalize hs : List.replicate n ' ' ++ '<' :: t = l0 at hst hnb ⊢
  refine Step.one fun pre post start g acc loose hb hg => ?_
  have hrd := readHtmlBlock_run (numbered k (l0 :: rest)) pre post start hb (fun x hx => hnb _ (numbered_mem _ _ _ hx))
  rw [numbered_s, numbered_cons] at hrd
  rw [numbered_cons]
  simp only [List.cons_append] at hrd ⊢
  refine tokLoop_first (peek_at pre _ (numbered (k + 1) rest ++ post) start) (fun _ => declines_first hs.symm hn (by decide))
    (fun _ _ => ?_) hf hg acc loose
  rw [tryTypes_hit_htmlBlock hst, hrd]

inductive Blk3 where
  | blk2 (b : Blk2)
  | setext (lines : List Str) (ind : Nat) (c : Char) (len : Nat)
  | html (lines : List Str)

def Blk3.lines : Blk3 → List Str
  | .blk2 b => b.lines
  | .setext ls n c m => ls ++ [ulLine n c m]
  | .html ls => ls

/-- `HtmlBlock.start(line)` returns 6 or 7 (the two start conditions with `_end_cond = None`) -/
def htmlOpen (s : Str) : Bool :=
  match htmlBlockStart s with
  | .ok (some (_, none)) => true
  | _ => false

/-- the first line of an HTML block in normal form: at most three spaces, then `<`, and `HtmlBlock.start` answers
    6 (a tag name of `span_token._tags`) or 7 (a complete open or closing tag alone on its line) -/
def htmlFirstOk (s : Str) : Bool :=
  decide (countLeading ' ' s ≤ 3) && (s.drop (countLeading ' ' s)).head? == some '<' && htmlOpen s

/-- a line of an HTML block: one complete line, not blank (a blank line ends the block) -/
def htmlLineOk (l : Str) : Bool := oneLine l && !isBlank l

/-- normal form (decidable).  `Blk2`: `Blk2.ok`.  Setext heading: the text lines as for a paragraph (`Blk.para`); the
    underline has at most three spaces of indentation, then one or more `=` (level 1) or `-` (level 2), and nothing
    behind them (`SetextHeading.__init__` keeps `lines.pop().rstrip()`).  HTML block: the first line `htmlFirstOk`,
    every line `htmlLineOk`; the content lines are otherwise arbitrary (they are not parsed). -/
def Blk3.ok : Blk3 → Bool
  | .blk2 b => b.ok
  | .setext ls n c m => (Blk.para ls).ok && decide (n ≤ 3) && decide (1 ≤ m) && (c == '=' || c == '-')
  | .html ls => (match ls.head? with | some s => htmlFirstOk s | none => false) && ls.all htmlLineOk

def Blk3.isICode : Blk3 → Bool
  | .blk2 b => b.isICode
  | _ => false

def Blk3.isSetext : Blk3 → Bool
  | .setext .. => true
  | _ => false

/-- no two indented code blocks next to each other (the parser reads them as one block) -/
def adjOk3 : Blk3 → List Blk3 → Bool
  | _, [] => true
  | it, it' :: rest => !(it.isICode && it'.isICode) && adjOk3 it' rest

def itemsLines3 : Blk3 → List Blk3 → List Str
  | it, [] => it.lines
  | it, it' :: rest => it.lines ++ ['\n'] :: itemsLines3 it' rest

structure SetextOk (ls : List Str) (n : Nat) (c : Char) (m : Nat) : Prop where
  para : BlkParaFacts ls
  ind : n < 4
  ch : ulCh c
  len : ∃ k, m = k + 1

theorem setextOk_of (ls : List Str) (n : Nat) (c : Char) (m : Nat) (h : (Blk3.setext ls n c m).ok = true) : SetextOk ls n c m := by
  simp only [Blk3.ok, Bool.and_eq_true, decide_eq_true_eq, Bool.or_eq_true, beq_iff_eq] at h
  obtain ⟨⟨⟨h1, h2⟩, h3⟩, h4⟩ := h
  exact ⟨blkParaFacts_of ls h1, by omega, h4, ⟨m - 1, by omega⟩⟩

structure HtmlOk (ls : List Str) : Prop where
  first : ∃ n t rest r, n < 4 ∧ ls = (List.replicate n ' ' ++ '<' :: t) :: rest ∧
    htmlBlockStart (List.replicate n ' ' ++ '<' :: t) = .ok (some (r, none))
  one : ∀ l ∈ ls, oneLine l = true
  nb : ∀ l ∈ ls, isBlank l = false

theorem htmlOk_of (ls : List Str) (h : (Blk3.html ls).ok = true) : HtmlOk ls := by
  simp only [Blk3.ok, Bool.and_eq_true, List.all_eq_true, htmlLineOk, Bool.not_eq_eq_eq_not, Bool.not_true] at h
  obtain ⟨h1, h2⟩ := h
  refine ⟨?_, fun l hl => (h2 l hl).1, fun l hl => (h2 l hl).2⟩
  cases ls with
  | nil => simp at h1
  | cons s rest =>
    simp only [List.head?_cons, htmlFirstOk, Bool.and_eq_true, decide_eq_true_eq, beq_iff_eq] at h1
    obtain ⟨⟨a, b⟩, c⟩ := h1
    have hsplit := countLeading_split s
    obtain ⟨t, ht⟩ : ∃ t, s.drop (countLeading ' ' s) = '<' :: t := by
      cases hd : s.drop (countLeading ' ' s) with
      | nil => rw [hd] at b; simp at b
      | cons x t => rw [hd] at b; simp at b; exact ⟨t, by rw [b]⟩
    rw [ht] at hsplit
    have hopen : ∃ r, htmlBlockStart s = .ok (some (r, none)) := by
      unfold htmlOpen at c
      split at c
      · rename_i r heq; exact ⟨r, heq⟩
      · cases c
    obtain ⟨r, hr⟩ := hopen
    exact ⟨countLeading ' ' s, t, rest, r, by omega, by rw [← hsplit], by rw [← hsplit]; exact hr⟩

open Mistletoe.Document (mkBlock)

theorem html_ne (ls : List Str) (f : HtmlOk ls) : ls ≠ [] := by
  obtain ⟨n, t, rest, r, _, h, _⟩ := f.first
  rw [h]; simp

section
variable (cfg : Document.Cfg) (fn : Footnotes.Table) (o : Opts) (st : St) (hty : cfg.block.types = markdownTypes)
include fn o st hty

def setextTok (ls : List Str) (n : Nat) (c : Char) (m : Nat) : Tok :=
  ⟨fun ln og => .setext (ls ++ [ulLine n c m]) ln og,
   fun ln => .setextHeading (ulLevel c) (List.replicate n ' ' ++ List.replicate m c) (proseInlines (ls.map strip)) ln,
   ls.map strip ++ [List.replicate n ' ' ++ List.replicate m c]⟩

theorem setext_laws (ht : ∀ t ∈ cfg.span, inertClass t = true) (hc : cfg.span.count .lineBreak = 1)
    (ls : List Str) (n : Nat) (c : Char) (m : Nat) (f : SetextOk ls n c m) (hs : st.setext = true) :
    Laws cfg fn o st (ls ++ [ulLine n c m]) false (setextTok ls n c m) := by
  obtain ⟨k', rfl⟩ := f.len
  obtain ⟨s, q', rfl⟩ := List.exists_cons_of_ne_nil f.para.ne
  have hq := Mistletoe.Props.C14.inertLine_quiet _ (f.para.inert s (by simp))
  refine {
    step := ?_, flush := fun _ => ⟨s, q' ++ [ulLine n c (k' + 1)], rfl, hq.nb, hq.bc⟩, one := ?_, ne := (by simp),
    mkB := fun ln og => ?_, render := fun ln => ?_, text := ?_ }
  · exact fun k => (setext_step cfg.block (mdTypes_par _ hty) s q' _ (ulLevel c)
      (fun l hl => Mistletoe.Props.C14.inertLine_quiet _ (f.para.inert l hl)) (ulOk_line n f.ind c f.ch k') k st hs).mono (Nat.le_refl _)
      (fun post hp b hb => by rw [hp.1 b hb]; decide)
  · intro l hl
    simp only [List.mem_append, List.mem_singleton] at hl
    rcases hl with hl | rfl
    · exact f.para.one l hl
    · apply oneLine_text
      intro x hx
      rcases List.mem_append.mp hx with hx | hx
      · rw [(List.mem_replicate.mp hx).2]; decide
      · rw [(List.mem_replicate.mp hx).2]; exact (ulCh_ne c f.ch).2.2.2.2.2.2.2.2.2.2
  · rw [setextTok, ← ul_rstrip n c f.ch k']
    exact mkBlock_setext_prose cfg fn ht hc _ _ _ ln og f.para.para
      (by simp only [ul_rstrip n c f.ch k', ul_last, ulLevel, Option.some_beq_some, beq_iff_eq])
  · simp only [setextTok, renderBlock, spanToLines_prose _ (strip_lines_ok _ f.para.prose)]
  · simp only [setextTok, List.map_append, strip_nl_lines _ (fun l hl => ⟨f.para.prose l hl, f.para.flush l hl⟩)]
    rfl

def htmlTok (ls : List Str) : Tok :=
  ⟨fun ln og => .htmlBlock ls ln og, fun ln => .htmlBlock ls.flatten.dropLast ln, ls.map List.dropLast⟩

theorem html_laws (ls : List Str) (f : HtmlOk ls) : Laws cfg fn o st ls false (htmlTok ls) := by
  refine {
    step := ?_, flush := fun _ => ?_, one := f.one, ne := html_ne ls f, mkB := fun ln og => ?_, render := fun ln => ?_,
    text := dropLast_nl_lines ls (fun l hl => nlEnd_of_oneLine l (f.one l hl)) }
  · obtain ⟨n, t, rest, r, hn, rfl, hst⟩ := f.first
    exact fun k => (html_step cfg.block (by rw [hty]; rfl) n hn t rest r hst f.nb k st).mono (Nat.le_refl _)
      (fun post hp b hb => by rw [hp.1 b hb]; decide)
  · obtain ⟨n, t, rest, r, hn, rfl, _⟩ := f.first
    exact ⟨_, rest, rfl, f.nb _ (by simp), blockCodeStart_rep n '<' t hn (by decide) (by decide)⟩
  · obtain ⟨u, e, hune, hun⟩ := flatten_last ls (html_ne ls f) (fun t h =>
      ⟨nlEnd_of_oneLine t (f.one t (List.mem_of_mem_getLast? h)),
        fun e => absurd (f.nb t (List.mem_of_mem_getLast? h)) (by rw [e]; decide)⟩)
    simp only [htmlTok, mkBlock, e, rstripChar_text _ u hune hun, List.dropLast_concat]
  · have h1 := splitNl_lines ls (html_ne ls f) (fun t ht => nlEnd_of_oneLine t (f.one t ht))
    simp only [htmlTok, renderBlock, h1]

def blk3Tok : Blk3 → Tok
  | .blk2 b => blk2Tok b
  | .setext ls n c m => setextTok ls n c m
  | .html ls => htmlTok ls

theorem blk3_laws (ht : ∀ t ∈ cfg.span, inertClass t = true) (hc : cfg.span.count .lineBreak = 1) (b : Blk3) (hok : b.ok = true)
    (hs : b.isSetext = true → st.setext = true) : Laws cfg fn o st b.lines b.isICode (blk3Tok b) := by
  cases b with
  | blk2 b => exact blk2_laws cfg fn o st hty ht hc b hok
  | setext ls n c m => exact setext_laws cfg fn o st hty ht hc ls n c m (setextOk_of ls n c m hok) (hs rfl)
  | html ls => exact html_laws cfg fn o st hty ls (htmlOk_of ls hok)

end

def frag3 : Frag Blk3 := { lines := Blk3.lines, isICode := Blk3.isICode, tok := blk3Tok, adj := adjOk3, docLines := itemsLines3 }

/-! ### start condition 6 from the shape of the line -/

/-- a tag name of `span_token._tags`, in any letter case (letters and digits only) -/
def tagName (name : Str) : Bool :=
  !name.isEmpty && name.all isAlnum && Gen.Tables.tags.contains (String.ofList (Footnotes.casefold name))

/-- what follows the tag name on a line of start condition 6: `>`, `/>`, a space, or the end of the line -/
def tagEnd : Str → Bool
  | '>' :: _ => true
  | ' ' :: _ => true
  | '\n' :: _ => true
  | '/' :: '>' :: _ => true
  | _ => false

theorem alnum_ne (c : Char) (h : isAlnum c = true) : c ≠ '\n' ∧ c ≠ '>' ∧ c ≠ ' ' ∧ c ≠ '/' ∧ c ≠ '!' ∧ c ≠ '?' := by
  refine ⟨?_, ?_, ?_, ?_, ?_, ?_⟩ <;> (rintro rfl; revert h; decide)

/-- `predefTail` stops in front of what `tagEnd` accepts -/
theorem predefTail_cons (c : Char) (rest acc : Str) (hc : c ≠ '\n') :
    predefTail (c :: rest) acc = if tagEnd rest = true then some (c :: acc).reverse else predefTail rest (c :: acc) := by
  rw [predefTail]
  simp only [hc, if_false]
  split <;> simp [tagEnd]

theorem tagEnd_alnum (c : Char) (t : Str) (h : isAlnum c = true) : tagEnd (c :: t) = false := by
  have hc := alnum_ne c h
  unfold tagEnd
  split <;> simp_all

/-- the lazy `(.+?)` of `HtmlBlock.predefined` stops at the end of an alphanumeric name -/
theorem predefTail_name (r : Str) (hr : tagEnd r = true) : ∀ (name acc : Str), name ≠ [] → (∀ c ∈ name, isAlnum c = true) →
    predefTail (name ++ r) acc = some (acc.reverse ++ name)
  | [], _, h, _ => absurd rfl h
  | [c], acc, _, ha => by
    rw [List.singleton_append, predefTail_cons c r acc (alnum_ne c (ha c (by simp))).1, if_pos hr]
    simp
  | c :: c2 :: more, acc, _, ha => by
    have ih := predefTail_name r hr (c2 :: more) (c :: acc) (by simp) (fun x hx => ha x (List.mem_cons_of_mem _ hx))
    rw [List.cons_append, predefTail_cons c _ acc (alnum_ne c (ha c (by simp))).1, List.cons_append,
      tagEnd_alnum c2 _ (ha c2 (by simp)), if_neg (by simp), ← List.cons_append, ih]
    simp

theorem tagName_facts (name : Str) (h : tagName name = true) :
    name ≠ [] ∧ (∀ c ∈ name, isAlnum c = true) ∧ Gen.Tables.tags.contains (String.ofList (Footnotes.casefold name)) = true := by
  simp only [tagName, Bool.and_eq_true, Bool.not_eq_eq_eq_not, Bool.not_true, List.isEmpty_eq_false_iff, List.all_eq_true] at h
  exact ⟨h.1.1, h.1.2, h.2⟩

/-- `str.casefold` below `µ` (the first key of the table after `Z`): upper-case letters become lower-case, nothing else
    changes.  Evaluating `casefoldChar` on a character without an entry walks through the whole table; this does it once. -/
theorem casefoldChar_ascii (c : Char) (h : c.toNat < 181) :
    Footnotes.casefoldChar c = [if 65 ≤ c.toNat ∧ c.toNat ≤ 90 then Char.ofNat (c.toNat + 32) else c] := by
  by_cases hu : 65 ≤ c.toNat ∧ c.toNat ≤ 90
  · have hup : ∀ n, n < 26 → Footnotes.casefoldChar (Char.ofNat (65 + n)) = [Char.ofNat (65 + n + 32)] := by decide +kernel
    have := hup (c.toNat - 65) (by omega)
    rw [show 65 + (c.toNat - 65) = c.toNat by omega, Char.ofNat_toNat] at this
    rw [this, if_pos hu]
  · have hkeys : Gen.Python.casefold.all (fun e => (65 ≤ e.1 && e.1 ≤ 90) || 181 ≤ e.1) = true := by decide +kernel
    have : Gen.Python.casefold.find? (fun e => e.1 == c.toNat) = none := by
      rw [List.find?_eq_none]
      intro e he heq
      have := List.all_eq_true.1 hkeys e he
      simp only [beq_iff_eq] at heq
      simp only [heq, Bool.or_eq_true, Bool.and_eq_true, decide_eq_true_eq] at this
      omega
    simp only [Footnotes.casefoldChar, this, if_neg hu]

theorem casefold_ascii (s : Str) (h : ∀ c ∈ s, c.toNat < 181) :
    Footnotes.casefold s = s.map (fun c => if 65 ≤ c.toNat ∧ c.toNat ≤ 90 then Char.ofNat (c.toNat + 32) else c) := by
  induction s with
  | nil => rfl
  | cons c s ih =>
    have := ih (fun x hx => h x (List.mem_cons_of_mem _ hx))
    simp only [Footnotes.casefold] at this ⊢
    simp only [List.flatMap_cons, this, casefoldChar_ascii c (h c (by simp)), List.map_cons, List.singleton_append]

theorem multi_names : ∀ t ∈ ["pre", "script", "style", "textarea"].map String.toList,
    t ≠ [] ∧ (∀ c ∈ t, isAlnum c = true) ∧ Gen.Tables.tags.contains (String.ofList (Footnotes.casefold t)) = false := by
  have hascii : ∀ t ∈ ["pre", "script", "style", "textarea"].map String.toList, ∀ c ∈ t, c.toNat < 181 := by decide +kernel
  intro t ht
  rw [casefold_ascii t (hascii t ht)]
  revert t
  decide +kernel

/-- rule 1 (`<pre`, `<script`, `<style`, `<textarea`) does not fire on a name of the table -/
theorem multiblock_tag (name r : Str) (hn : tagName name = true) (hr : tagEnd r = true) : multiblock ('<' :: (name ++ r)) = none := by
  obtain ⟨hne, ha, ht⟩ := tagName_facts name hn
  have hp := predefTail_name r hr name [] hne ha
  unfold multiblock
  simp only
  rw [List.find?_eq_none]
  intro t htm
  simp only [Bool.and_eq_true, not_and]
  intro hpre hd
  -- the line is `t ++ rest'` with a delimiter at the head of rest'
  have hx : t ++ (name ++ r).drop t.length = name ++ r := List.prefix_iff_eq_append.mp (List.isPrefixOf_iff_prefix.mp hpre)
  have hte : tagEnd ((name ++ r).drop t.length) = true := by
    cases hdr : (name ++ r).drop t.length with
    | nil => rw [hdr] at hd; simp at hd
    | cons c rest' =>
      rw [hdr] at hd
      simp only [Bool.or_eq_true, beq_iff_eq] at hd
      rcases hd with (rfl | rfl) | rfl <;> rfl
  have htl := multi_names t htm
  have hp2 := predefTail_name _ hte t [] htl.1 htl.2.1
  rw [hx, hp] at hp2
  simp only [List.reverse_nil, List.nil_append, Option.some.injEq] at hp2
  rw [hp2, htl.2.2] at ht
  cases ht

/-- **a line `<name…` or `</name…` with a tag name of the table is a start of condition 6** (at most three spaces of
    indentation; after the name: `>`, `/>`, a space or the line end) -/
theorem htmlStart_tag (n : Nat) (hn : n < 4) (slash : Bool) (name r : Str) (h1 : tagName name = true) (h2 : tagEnd r = true) :
    htmlBlockStart (List.replicate n ' ' ++ '<' :: ((if slash then ['/'] else []) ++ (name ++ r))) = .ok (some (6, none)) := by
  obtain ⟨hne, ha, ht⟩ := tagName_facts name h1
  obtain ⟨c, more, rfl⟩ := List.exists_cons_of_ne_nil hne
  have hc := alnum_ne c (ha c (by simp))
  have hp := predefTail_name r h2 (c :: more) [] (by simp) ha
  simp only [List.reverse_nil, List.nil_append, List.cons_append] at hp
  have hn' : ¬ 4 ≤ n := by omega
  have ht' : String.ofList (Footnotes.casefold (c :: more)) ∈ Gen.Tables.tags := by simpa using ht
  -- rules 1 to 5 do not fire (`multiblock`; the character after `<` is neither `!` nor `?`), rule 6 finds the name
  cases slash with
  | false =>
    have hm := multiblock_tag (c :: more) r h1 h2
    have hpd : predefined ('<' :: c :: (more ++ r)) = some (c :: more) := by
      unfold predefined
      split
      · rename_i h; simp only [List.cons.injEq, true_and] at h; exact absurd h.1 hc.2.2.2.1
      · rename_i h; simp only [List.cons.injEq, true_and] at h; rw [← h]; exact hp
      · rename_i h; exact absurd rfl (h _)
    simp only [List.cons_append] at hm
    simp [htmlBlockStart, lstrip_rep n '<' _ (by decide), hn', hm, startsWith, isPrefix_ne _ _ _ _ hc.2.2.2.2.1,
      isPrefix_ne _ _ _ _ hc.2.2.2.2.2, htmlRest, hpd, ht']
  | true =>
    have hm : multiblock ('<' :: '/' :: c :: (more ++ r)) = none := by
      unfold multiblock
      simp only
      rw [List.find?_eq_none]
      intro t htm
      simp only [List.map_cons, List.map_nil, List.mem_cons, List.mem_nil_iff, or_false] at htm
      rcases htm with rfl | rfl | rfl | rfl <;> simp [List.isPrefixOf]
    have hpd : predefined ('<' :: '/' :: c :: (more ++ r)) = some (c :: more) := by simp only [predefined, hp]
    simp [htmlBlockStart, lstrip_rep n '<' _ (by decide), hn', hm, startsWith, htmlRest, hpd, ht']

theorem htmlFirstOk_tag (n : Nat) (hn : n < 4) (slash : Bool) (name r : Str) (h1 : tagName name = true) (h2 : tagEnd r = true) :
    htmlFirstOk (List.replicate n ' ' ++ '<' :: ((if slash then ['/'] else []) ++ (name ++ r))) = true := by
  have hs := htmlStart_tag n hn slash name r h1 h2
  have hcl := countLeading_rep n '<' ((if slash then ['/'] else []) ++ (name ++ r)) (by decide)
  simp only [htmlFirstOk, hcl, htmlOpen, hs, List.drop_left' (List.length_replicate ..), List.head?_cons, Bool.and_eq_true,
    decide_eq_true_eq, beq_self_eq_true, and_true]
  omega

example : htmlFirstOk "<div class=\"x\">\n".toList = true :=
  htmlFirstOk_tag 0 (by decide) false "div".toList " class=\"x\">\n".toList
    (by rw [tagName, casefold_ascii _ (by decide +kernel)]; decide +kernel) (by decide)
example : htmlFirstOk "  </BlockQuote>\n".toList = true :=
  htmlFirstOk_tag 2 (by decide) true "BlockQuote".toList ">\n".toList
    (by rw [tagName, casefold_ascii _ (by decide +kernel)]; decide +kernel) (by decide)

/-- an HTML block whose first line `s` is a tag line of start condition 6 is in normal form by `htmlStart_tag`: what is left
    to evaluation is the shape of `s`, the name (below `µ`) in the table of tags, and that the lines are complete lines -/
theorem html_ok_tag (s : Str) (rest : List Str) (n : Nat) (slash : Bool) (name r : Str)
    (h : s = List.replicate n ' ' ++ '<' :: ((if slash then ['/'] else []) ++ (name ++ r)) ∧ n < 4 ∧ tagEnd r = true ∧
      (s :: rest).all htmlLineOk = true ∧ (∀ c ∈ name, c.toNat < 181) ∧ (!name.isEmpty && name.all isAlnum && Gen.Tables.tags.contains
        (String.ofList (name.map (fun c => if 65 ≤ c.toNat ∧ c.toNat ≤ 90 then Char.ofNat (c.toNat + 32) else c)))) = true) :
    (Blk3.html (s :: rest)).ok = true := by
  obtain ⟨hs, hn, hr, hl, ha, ht⟩ := h
  have h1 : tagName name = true := by rw [tagName, casefold_ascii name ha]; exact ht
  simp only [Blk3.ok, List.head?_cons, hs ▸ htmlFirstOk_tag n hn slash name r h1 hr, hl, Bool.and_self]

end Mistletoe.MdRound

namespace Mistletoe.MdRoundSetext
open Mistletoe Mistletoe.Py Mistletoe.Inline Mistletoe.InertInline Mistletoe.MdRound
open Mistletoe.Block
open Mistletoe.Props.C14 (inertLine markdownTypes)

open Mistletoe.MdRoundCode (L mdCfg mdCfg_ok)
attribute [lit] L

/-- a level-1 setext heading, a paragraph, a two-line level-2 setext heading (its underline `---` is NOT a thematic
    break here), an HTML block of start condition 6 whose content line looks like emphasis, a fenced code block -/
def doc1 : Blk3 := .setext [L "Title\n"] 0 '=' 5
def doc1rest : List Blk3 :=
  [.blk2 (.blk (.para [L "para\n"])), .setext [L "Two\n", L "lines\n"] 0 '-' 3,
   .html [L "<div class=\"x\">\n", L "*not em*\n", L "</div>\n"], .blk2 (.fence (L "```") (L "") [L "code\n"])]

def text1 : Str := L "Title\n=====\n\npara\n\nTwo\nlines\n---\n\n<div class=\"x\">\n*not em*\n</div>\n\n```\ncode\n```\n"
attribute [lit] doc1 doc1rest text1

theorem doc1_ok : doc1.ok = true ∧ (∀ x ∈ doc1rest, x.ok = true) ∧ adjOk3 doc1 doc1rest = true := by
  refine ⟨by decide_lit, ?_, by decide_lit⟩
  simp only [doc1rest, List.forall_mem_cons]
  exact ⟨by decide_lit, by decide_lit,
    html_ok_tag _ _ 0 false (L "div") (L " class=\"x\">\n") (by decide_lit),
    by decide_lit, fun _ h => nomatch h⟩

example : (itemsLines3 doc1 doc1rest).flatten = text1 := by decide_lit

/-- the theorem applies … -/
example : ∃ d, Document.parseLines mdCfg 22 (itemsLines3 doc1 doc1rest) = .ok d ∧
    Markdown.renderRes {} d = .ok (itemsLines3 doc1 doc1rest).flatten := by
  obtain ⟨d, h1, _, h2, _⟩ := MdRoundDoc.doc_roundtrip frag3 (·.ok = true) mdCfg mdCfg_ok.1 {} rfl doc1 doc1rest
    doc1_ok.1 doc1_ok.2.1 doc1_ok.2.2 0 0 (Or.inl rfl)
    (fun st hst x h => blk3_laws mdCfg _ {} st mdCfg_ok.1 mdCfg_ok.2.1 mdCfg_ok.2.2 x h (fun _ => by rw [hst rfl]))
  exact ⟨d, h1, h2⟩

/-- … and the kernel evaluation of parser and renderer on that text agrees (so does the real code, run on /repo) -/
example : (Document.parse mdCfg 22 text1).bind (fun d => Markdown.renderRes {} d) = .ok text1 := by decide_lit

/-- underlines indented by one to three spaces and of length one (`-` alone: an empty list item cannot interrupt a
    paragraph); HTML blocks of start condition 6 (closing tag, indented, upper case, unfinished tag) and 7 (a complete
    tag that is not in the table); an indented code block next to them -/
def doc2 : Blk3 := .setext [L "a & b\n"] 3 '-' 1
def doc2rest : List Blk3 :=
  [.html [L "</DIV>\n", L "    indented, not code\n", L "# not a heading\n"], .setext [L "x\n"] 1 '=' 1,
   .blk2 (.icode [L "    code\n"]), .html [L "  <td\n"], .html [L "<my-tag a=\"1\">\n", L "- not a list\n"],
   .blk2 (.icode [L "    more code\n"]), .setext [L "last\n"] 0 '-' 2]

attribute [lit] doc2 doc2rest

theorem doc2_ok : doc2.ok = true ∧ (∀ x ∈ doc2rest, x.ok = true) ∧ adjOk3 doc2 doc2rest = true := by
  refine ⟨by decide_lit, ?_, by decide_lit⟩
  simp only [doc2rest, List.forall_mem_cons]
  -- `<my-tag a="1">` is a start of condition 7: no lemma, evaluation
  exact ⟨html_ok_tag _ _ 0 true (L "DIV") (L ">\n") (by decide_lit), by decide_lit, by decide_lit,
    html_ok_tag _ _ 2 false (L "td") (L "\n") (by decide_lit), by decide_lit, by decide_lit,
    by decide_lit, fun _ h => nomatch h⟩

def text2 : Str :=
  L "a & b\n   -\n\n</DIV>\n    indented, not code\n# not a heading\n\nx\n =\n\n    code\n\n  <td\n\n<my-tag a=\"1\">\n- not a list\n\n    more code\n\nlast\n--\n"
attribute [lit] text2

example : (itemsLines3 doc2 doc2rest).flatten = text2 := by decide_lit

example : ∃ d, Document.parseLines mdCfg 28 (itemsLines3 doc2 doc2rest) = .ok d ∧
    Markdown.renderRes {} d = .ok (itemsLines3 doc2 doc2rest).flatten := by
  obtain ⟨d, h1, _, h2, _⟩ := MdRoundDoc.doc_roundtrip frag3 (·.ok = true) mdCfg mdCfg_ok.1 {} rfl doc2 doc2rest
    doc2_ok.1 doc2_ok.2.1 doc2_ok.2.2 0 0 (Or.inl rfl)
    (fun st hst x h => blk3_laws mdCfg _ {} st mdCfg_ok.1 mdCfg_ok.2.1 mdCfg_ok.2.2 x h (fun _ => by rw [hst rfl]))
  exact ⟨d, h1, h2⟩

example : (Document.parse mdCfg 28 text2).bind (fun d => Markdown.renderRes {} d) = .ok text2 := by decide_lit

/-- HTML blocks inside two block quotes -/
def doc3 : Blk3 := .html [L "<div>\n", L "*x*\n"]
def doc3rest : List Blk3 := [.blk2 (.blk (.para [L "text\n"])), .html [L "</div>\n"]]
attribute [lit] doc3 doc3rest

theorem doc3_ok : doc3.ok = true ∧ (∀ x ∈ doc3rest, x.ok = true) ∧ adjOk3 doc3 doc3rest = true ∧
    (∀ x ∈ doc3 :: doc3rest, x.isSetext = false) ∧ (∀ l ∈ itemsLines3 doc3 doc3rest, '\t' ∉ l) := by
  refine ⟨?_, ?_, by decide_lit, by decide_lit, by decide_lit⟩
  · exact html_ok_tag _ _ 0 false (L "div") (L ">\n") (by decide_lit)
  · simp only [doc3rest, List.forall_mem_cons]
    exact ⟨by decide_lit, html_ok_tag _ _ 0 true (L "div") (L ">\n") (by decide_lit),
      fun _ h => nomatch h⟩

example : ∃ d, Document.parseLines mdCfg 34 (qStrs 2 (itemsLines3 doc3 doc3rest)) = .ok d ∧
    Markdown.renderRes {} d = .ok (qStrs 2 (itemsLines3 doc3 doc3rest)).flatten := by
  obtain ⟨d, h1, _, h2, _⟩ := MdRoundDoc.doc_roundtrip frag3 (fun x => x.ok = true ∧ x.isSetext = false) mdCfg mdCfg_ok.1 {} rfl
    doc3 doc3rest ⟨doc3_ok.1, doc3_ok.2.2.2.1 _ (by simp)⟩
    (fun x hx => ⟨doc3_ok.2.1 x hx, doc3_ok.2.2.2.1 x (List.mem_cons_of_mem _ hx)⟩) doc3_ok.2.2.1 0 2 (Or.inr doc3_ok.2.2.2.2)
    (fun st _ x h => blk3_laws mdCfg _ {} st mdCfg_ok.1 mdCfg_ok.2.1 mdCfg_ok.2.2 x h.1 (fun e => by rw [h.2] at e; cases e))
  exact ⟨d, h1, h2⟩

example : (qStrs 2 (itemsLines3 doc3 doc3rest)).flatten = L "> > <div>\n> > *x*\n> > \n> > text\n> > \n> > </div>\n" := by
  decide_lit

example : (Document.parse mdCfg 34 (L "> > <div>\n> > *x*\n> > \n> > text\n> > \n> > </div>\n")).bind
    (fun d => Markdown.renderRes {} d) = .ok (L "> > <div>\n> > *x*\n> > \n> > text\n> > \n> > </div>\n") := by decide_lit

/-! ### setext headings at quote depth 1 (recorded finding `setext-in-quote`)

  `Quote.read` parses its content with `Paragraph.parse_setext` off.  Behind "> ", text + `===` is ONE paragraph of two
  lines, and text + `---` is a paragraph and a thematic break: no `SetextHeading` token, so the quoted theorem cannot
  (and does not) cover setext blocks.  The text itself is still reproduced byte for byte, and it re-parses the same
  way: the round trip does not change the meaning, the tree is just not the one `frag3.docBlocks` describes. -/

def quoteKinds (r : Res Doc) : List String :=
  match r with
  | .ok { kids := [.quote kids _], .. } =>
    kids.map (fun b => match b with
      | .paragraph .. => "Paragraph" | .setextHeading .. => "SetextHeading" | .thematicBreak .. => "ThematicBreak" | _ => "other")
  | _ => []

def topKinds (r : Res Doc) : List String :=
  match r with
  | .ok d => d.kids.map (fun b => match b with
      | .paragraph .. => "Paragraph" | .setextHeading .. => "SetextHeading" | .thematicBreak .. => "ThematicBreak"
      | .htmlBlock .. => "HtmlBlock" | .blankLine .. => "BlankLine" | _ => "other")
  | _ => []

example : topKinds (Document.parse mdCfg 22 (L "Title\n===\n")) = ["SetextHeading"] := by decide_lit
example : quoteKinds (Document.parse mdCfg 22 (L "> Title\n> ===\n")) = ["Paragraph"] := by decide_lit
example : quoteKinds (Document.parse mdCfg 22 (L "> Title\n> ---\n")) = ["Paragraph", "ThematicBreak"] := by decide_lit
example : (Document.parse mdCfg 22 (L "> Title\n> ===\n")).bind (fun d => Markdown.renderRes {} d) = .ok (L "> Title\n> ===\n") := by
  decide_lit
example : (Document.parse mdCfg 22 (L "> Title\n> ---\n")).bind (fun d => Markdown.renderRes {} d) = .ok (L "> Title\n> ---\n") := by
  decide_lit

/-! ### what the normal form excludes (model and implementation agree; run on /repo)

  * whitespace behind the underline is dropped (`lines.pop().rstrip()`): the text changes, the meaning does not;
  * an underline indented by four or more spaces is a paragraph continuation line; the renderer strips the
    indentation and the result IS a setext heading — an instance of the class "continuation lines indented ≥ 4" the
    property text already lists (`'Foo\n    ***'`): the meaning changes (`<p>Title\n===</p>` becomes `<h1>Title</h1>`);
  * a whitespace-only line inside an HTML block ends it (`line.strip() == ''`); it is then a `BlankLine`, written
    back empty. -/
example : (Document.parse mdCfg 22 (L "Title\n==  \n")).bind (fun d => Markdown.renderRes {} d) = .ok (L "Title\n==\n") := by
  decide_lit
example : topKinds (Document.parse mdCfg 22 (L "Title\n    ===\n")) = ["Paragraph"] ∧
    (Document.parse mdCfg 22 (L "Title\n    ===\n")).bind (fun d => Markdown.renderRes {} d) = .ok (L "Title\n===\n") := by
  decide_lit
example : (Blk3.setext [L "Title\n"] 4 '=' 3).ok = false := by decide_lit
example : (Blk3.html [L "<div>\n", L "  \n", L "x\n"]).ok = false := by
  have h : [L "<div>\n", L "  \n", L "x\n"].all htmlLineOk = false := by decide_lit
  simp only [Blk3.ok, h, Bool.and_false]
example : topKinds (Document.parse mdCfg 22 (L "<div>\n  \nx\n")) = ["HtmlBlock", "BlankLine", "Paragraph"] ∧
    (Document.parse mdCfg 22 (L "<div>\n  \nx\n")).bind (fun d => Markdown.renderRes {} d) = .ok (L "<div>\n\nx\n") := by
  decide_lit
/-- a line that only LOOKS like a tag is not an HTML block start (`<x y` is neither a table name nor a complete tag) -/
example : (Blk3.html [L "<x y\n"]).ok = false ∧ (Blk3.html [L "<pre>\n"]).ok = false := by
  decide_lit

end Mistletoe.MdRoundSetext
