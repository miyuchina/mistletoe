/-
  C14 with literal backslashes: the property theorems for `inertBody4` and their test vectors.  `inertBody4` is
  `inertBody3` with a `\` allowed when the next character exists, is not ASCII punctuation (`EscapeSequence`) and is not
  "\n" (hard `LineBreak`): `C:\dir`, `a \ b`, `\a`.  The condition and the proof that it is `Silent` are in
  Proofs/InertWide.lean (namespace `Mistletoe.InertInline3`).

  End to end: `C14W.C14_prose_text4` (Props/C14_Wide.lean: `prose_text_of_silent` at `inertBody4_silent`); its test vectors are here.
-/
import Mistletoe.Proofs.InertInline2

namespace Mistletoe.Props.C14
open Mistletoe Mistletoe.Py Mistletoe.Scan Mistletoe.Block Mistletoe.Inline Mistletoe.InertInline Mistletoe.InertInline2
open Mistletoe.InertInline3
open Mistletoe.Html Mistletoe.Escape

def inertText4 (s : Str) : Bool := inertBody4 s && !s.contains '\n'

/-- **`find_core_tokens` finds nothing under `inertBody4`** (empty table of definitions): the `escaped`
    flag set by a literal backslash only skips a character that has no special meaning -/
theorem C14_core_inert4 (s : Str) (h : inertBody4 s = true) : Core.findCoreTokens s [] = .ok ([], []) :=
  (inertBody4_silent s h).core

/-- **The analogue of `C14_inline_inert3` for `inertBody4`**: for every list of covered classes, no
    class finds a match, `html.unescape` is the identity on the text, and `tokenize_inner` returns
    `[RawText(text)]` — backslashes included. -/
theorem C14_inline_inert4 (types : List STok) (s : Str)
    (ht : ∀ t ∈ types, inertClass t = true) (h : inertText4 s = true) :
    findAll s types [] = .ok [] ∧ Unescape.unescape true s = s ∧
      (s ≠ [] → tokenizeInner types [] s = .ok [.rawText s]) := by
  simp only [inertText4, Bool.and_eq_true] at h
  exact (inertBody4_silent s h.1).inline types ht (not_contains_nl s h.2)

/-- **Several lines** (the analogue of `C14_inline_lines3`): only raw text and soft line breaks -/
theorem C14_inline_lines4 (types : List STok) (ts : List Str)
    (ht : ∀ t ∈ types, inertClass t = true) (hc : types.count .lineBreak = 1) (hne : ts ≠ [])
    (hl : ∀ t ∈ ts, t ≠ [] ∧ '\n' ∉ t ∧ t.getLast? ≠ some ' ')
    (hb : inertBody4 (Document.joinNl ts) = true) :
    tokenizeInner types [] (Document.joinNl ts) = .ok (proseInlines ts) :=
  (inertBody4_silent _ hb).lines types ht hc hne hl


theorem escapeHtmlText_backslash (dq sq : Bool) : escapeHtmlText dq sq ['\\'] = ['\\'] := by
  cases dq <;> cases sq <;> decide +kernel

/-! ### Non-vacuity -/

/-- accepted by `inertBody4`, rejected by `inertBody3`: literal backslashes (before a letter, a digit,
    a space, a non-ASCII character, a tab) -/
example : [L "C:\\dir and a \\ b", L "\\a \\1 \\é", L "a\\\tb \\日", L "*a\\ *b and [x\\y] z"].map
    (fun s => (inertBody4 s, inertBody3 s)) = List.replicate 4 (true, false) := by decide_lit

/-- rejected: backslash escapes (`\*`, `\\`, `` \` ``, `\<`, `\]`, `\&`), a backslash before a newline
    (hard line break), a backslash at the end of the text; and what `inertBody3` rejects for another
    reason stays rejected (`*\a*` is emphasis around a literal backslash) -/
example : [L "a\\*b", L "x\\\ny", L "\\\\", L "a\\", L "\\`x", L "\\<a>", L "[a\\](b)", L "\\&amp;", L "\\", L "*\\a*",
    L "[a](b\\c)", L "`\\a`"].map inertBody4 = List.replicate 12 false := by decide_lit

example : htmlOf (L "C:\\dir and a \\ b\n") = .ok (L "<p>C:\\dir and a \\ b</p>\n") := by decide_lit
example : htmlOf (L "\\a \\1 \\é\n") = .ok (L "<p>\\a \\1 \\é</p>\n") := by decide_lit
example : htmlOf (L "*a\\ *b and [x\\y] z\n") = .ok (L "<p>*a\\ *b and [x\\y] z</p>\n") := by decide_lit
/-- … whereas these are markup -/
example : htmlOf (L "a\\*b\n") = .ok (L "<p>a*b</p>\n") := by decide_lit
example : htmlOf (L "x\\\ny\n") = .ok (L "<p>x<br />\ny</p>\n") := by decide_lit
example : htmlOf (L "\\\\\n") = .ok (L "<p>\\</p>\n") := by decide_lit
example : htmlOf (L "*\\a*\n") = .ok (L "<p><em>\\a</em></p>\n") := by decide_lit

/-- through the theorem: one `RawText` holding exactly the text -/
example : tokenizeInner htmlSpanTypes [] (L "C:\\dir and a \\ b") = .ok [.rawText (L "C:\\dir and a \\ b")] :=
  (C14_inline_inert4 htmlSpanTypes _ htmlSpanTypes_inert (by decide_lit)).2.2 (by decide_lit)
example : tokenizeInner htmlSpanTypes [] (L "\\a \\1 \\é") = .ok [.rawText (L "\\a \\1 \\é")] :=
  (C14_inline_inert4 htmlSpanTypes _ htmlSpanTypes_inert (by decide_lit)).2.2 (by decide_lit)

def prose4 : List Str := [L "  C:\\dir and a \\ b\n", L "\\a \\1 \\é [x\\y] 2* 3*\n", L "end\\ of it\n"]
attribute [lit] prose4

theorem prose4_lines_ok : ∀ l ∈ prose4, inertLine l = true ∧ proseLine l = true := by decide_lit
theorem prose4_text_ok : inertBody4 (Document.joinNl (prose4.map strip)) = true := by decide_lit
example : inertBody3 (Document.joinNl (prose4.map strip)) = false := by decide_lit

/-- instance of `C14_prose_text4` (the right-hand sides are literal) -/
example : Document.parse cfgHtml 14 (L "  C:\\dir and a \\ b\n\\a \\1 \\é [x\\y] 2* 3*\nend\\ of it\n") =
    .ok { kids := [.paragraph [.rawText (L "C:\\dir and a \\ b"), .lineBreak [] true,
                               .rawText (L "\\a \\1 \\é [x\\y] 2* 3*"), .lineBreak [] true,
                               .rawText (L "end\\ of it")] 1], footnotes := [] } := by
  have text : L "  C:\\dir and a \\ b\n\\a \\1 \\é [x\\y] 2* 3*\nend\\ of it\n" = prose4.flatten := by decide_lit
  have lines : prose4.map strip = [L "C:\\dir and a \\ b", L "\\a \\1 \\é [x\\y] 2* 3*", L "end\\ of it"] := by decide_lit
  have h := (prose_text_of_silent cfgHtml (by decide) htmlSpanTypes_inert (by decide) prose4 (by decide) (by decide_lit)
    prose4_lines_ok (inertBody4_silent _ prose4_text_ok) 0).1
  rw [lines] at h
  rw [text]
  exact h

example : ∃ d, Document.parse cfgHtml 14 prose4.flatten = .ok d ∧ render {} d =
    L "<p>C:\\dir and a \\ b\n\\a \\1 \\é [x\\y] 2* 3*\nend\\ of it</p>\n" := by
  obtain ⟨h1, h2⟩ := prose_text_of_silent cfgHtml (by decide) htmlSpanTypes_inert (by decide) prose4 (by decide)
    (by decide_lit) prose4_lines_ok (inertBody4_silent _ prose4_text_ok) 0
  exact ⟨_, h1, by rw [h2]; decide_lit⟩

end Mistletoe.Props.C14
