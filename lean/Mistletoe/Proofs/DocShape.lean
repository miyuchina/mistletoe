/-
  C12, clause "containers hold only the kinds of children their documentation states … scalar
  attributes are in range": the KIND discipline of the token tree, as a decidable predicate on the
  AST (`Block.shapeOk`, `Doc.shapeOk`) and a theorem about every parsed document, for every
  configuration.

  In `Model/Ast.lean` inline tokens cannot contain blocks (typing) and code/HTML blocks carry their one
  raw text as a field; but the child lists of `.list`, `.listItem`, `.quote`, `.table`, `.tableRow` and
  of the document are plain `List Block`.  `shapeOk` says what they hold:

  * `.list`: at least one child, every child a `.listItem`, and `start` read off the first child's
    leader (`leaderStartOk`): the leader is a list marker (`isMarker`: `-`, `+`, `*`, or 1–9 digits and
    `.`/`)`), a bullet ↔ `start = none`, an ordered marker ↔ `start = some (int(digits))` (< 10^9);
  * `.listItem`, `.quote`, document: no child is a `.listItem`, `.tableRow`, `.tableCell` (`isFlow`);
  * `.table`: `header` holds at most one block; every block of `header`/`rows` is a `.tableRow`;
  * `.tableRow`: every child is a `.tableCell` (whose children are inline by typing);
  * `.heading`: 1 ≤ level ≤ 6; `.setextHeading`: level 1 or 2;
  * `.linkRefDefBlock`: every child is a `.linkRefDef`;
  * recursively for all children.  Since every container constrains the kind of every child,
    `.listItem` occurs only directly under `.list`, `.tableRow` only under `.table`, `.tableCell` only
    under `.tableRow`.
-/
import Mistletoe.Proofs.Range
import Mistletoe.Proofs.ConfigValues
import Mistletoe.Proofs.Lit
namespace Mistletoe
open Mistletoe.Py

/-! ## The predicate -/

def Block.isListItem : Block → Bool
  | .listItem .. => true
  | _ => false
def Block.isTableRow : Block → Bool
  | .tableRow .. => true
  | _ => false
def Block.isTableCell : Block → Bool
  | .tableCell .. => true
  | _ => false
/-- a block that may be a child of Document / Quote / ListItem: anything but the three kinds that
    exist only inside their own container -/
def Block.isFlow (b : Block) : Bool := !(b.isListItem || b.isTableRow || b.isTableCell)

def Inline.isLinkRefDef : Inline → Bool
  | .linkRefDef .. => true
  | _ => false

/-- `List.start` against the leader of the first item (`List.__init__`: `leader = self.children[0].leader;
    self.start = int(leader[:-1]) if len(leader) != 1 else None`): the leader is a list marker; a bullet ↔ no
    start; for an ordered marker `start` is the value of its digits (`parseNat` = `int`), hence below 10^9. -/
def leaderStartOk (leader : Str) (start : Option Nat) : Bool :=
  isMarker leader &&
    (if leader.length == 1 then start.isNone
     else match start with
       | some n => n == parseNat leader.dropLast && decide (n < 1000000000)
       | none => false)

/-- `start` agrees with the first child's leader (false when there is no first `.listItem`) -/
def listStartOk (start : Option Nat) : List Block → Bool
  | .listItem leader _ _ _ _ _ :: _ => leaderStartOk leader start
  | _ => false

mutual
def Block.shapeOk : Block → Bool
  | .paragraph _ _ => true
  | .heading level _ _ _ => decide (1 ≤ level) && decide (level ≤ 6)
  | .setextHeading level _ _ _ => level == 1 || level == 2
  | .quote kids _ => kids.all Block.isFlow && shapeOkL kids
  | .blockCode _ _ => true
  | .codeFence _ _ _ _ _ _ => true
  | .list _ start items _ =>
    !items.isEmpty && items.all Block.isListItem && listStartOk start items && shapeOkL items
  | .listItem _ _ _ _ kids _ => kids.all Block.isFlow && shapeOkL kids
  | .table _ header rows _ =>
    decide (header.length ≤ 1) && header.all Block.isTableRow && rows.all Block.isTableRow
      && shapeOkL header && shapeOkL rows
  | .tableRow _ cells _ => cells.all Block.isTableCell && shapeOkL cells
  | .tableCell _ _ _ => true
  | .thematicBreak _ _ => true
  | .htmlBlock _ _ => true
  | .blankLine _ => true
  | .linkRefDefBlock defs _ => defs.all Inline.isLinkRefDef
def shapeOkL : List Block → Bool
  | [] => true
  | b :: bs => b.shapeOk && shapeOkL bs
end

def Doc.shapeOk (d : Doc) : Bool := d.kids.all Block.isFlow && shapeOkL d.kids

theorem shapeOkL_iff (bs : List Block) : shapeOkL bs = true ↔ ∀ b ∈ bs, b.shapeOk = true := by
  induction bs with
  | nil => simp [shapeOkL]
  | cons b bs ih => simp [shapeOkL, ih]

/-! ## `int(leader[:-1])` is below 10^9 -/

theorem digitVal_le (c : Char) : digitVal c ≤ 9 := by
  unfold digitVal
  split
  · have := Nat.mod_lt (c.toNat - (by assumption : Nat × Nat).1) (by decide : 10 > 0)
    omega
  · omega

theorem parseNat_fold_lt : ∀ (s : Str) (n : Nat),
    s.foldl (fun n c => n * 10 + digitVal c) n + 1 ≤ (n + 1) * 10 ^ s.length
  | [], n => by simp
  | c :: s, n => by
    have ih := parseNat_fold_lt s (n * 10 + digitVal c)
    have hd := digitVal_le c
    simp only [List.foldl_cons, List.length_cons]
    have h1 : (n * 10 + digitVal c + 1) * 10 ^ s.length ≤ ((n + 1) * 10) * 10 ^ s.length :=
      Nat.mul_le_mul_right _ (by omega)
    have h2 : (n + 1) * 10 ^ (s.length + 1) = ((n + 1) * 10) * 10 ^ s.length := by
      rw [Nat.pow_succ, Nat.mul_assoc, Nat.mul_comm (10 ^ s.length) 10]
    omega

theorem parseNat_lt (s : Str) : parseNat s < 10 ^ s.length := by
  have := parseNat_fold_lt s 0
  unfold parseNat
  omega

theorem parseNat_lt_of_len (s : Str) (h : s.length ≤ 9) : parseNat s < 1000000000 := by
  have h1 := parseNat_lt s
  have h2 : 10 ^ s.length ≤ 10 ^ 9 := Nat.pow_le_pow_right (by decide) h
  have : (10 : Nat) ^ 9 = 1000000000 := by decide
  omega

/-- on ASCII digits `digitVal` is the usual value, so `parseNat` reads an ASCII numeral in base ten
    (other `\d` characters - Unicode decimal digits - are read as `int` reads them) -/
theorem digitVal_ascii (c : Char) (h1 : 48 ≤ c.toNat) (h2 : c.toNat ≤ 57) : digitVal c = c.toNat - 48 := by
  unfold digitVal Gen.Python.decimalDigits
  rw [List.find?_cons_of_pos (by simp [h1, h2])]
  simp only
  omega

theorem parseNat_snoc (s : Str) (c : Char) : parseNat (s ++ [c]) = parseNat s * 10 + digitVal c := by
  simp [parseNat, List.foldl_append]

example : parseNat "3".toList = 3 ∧ parseNat "123456789".toList = 123456789 ∧ parseNat "007".toList = 7 := by
  decide +kernel

/-- for a list marker, the `start` that `List.__init__` computes agrees with it -/
theorem leaderStartOk_mk (leader : Str) (h : isMarker leader = true) :
    leaderStartOk leader (if leader.length != 1 then some (parseNat leader.dropLast) else none) = true := by
  unfold leaderStartOk
  rw [h]
  by_cases h1 : leader.length = 1
  · simp [h1]
  · have hlen : leader.dropLast.length ≤ 9 := by
      unfold isMarker at h
      simp only [beq_iff_eq, h1, if_false, Bool.and_eq_true, decide_eq_true_eq] at h
      exact h.1.2
    have hlt := parseNat_lt_of_len _ hlen
    simp [h1, hlt]

end Mistletoe

namespace Mistletoe.Block
open Mistletoe Mistletoe.Py Mistletoe.Scan

/-! ## Every leader in a parse buffer is a list marker

  `EntryWF` (DocTotal) records what the constructors need of a leader (`LeaderOk`); the kind discipline wants
  the marker itself.  Every leader is a marker `listMarker` returned (`blockPhase_from`, no hypothesis on the
  lines is needed), so `LdEntry P` holds for any property `P` of those markers; here `P` is `isMarker`
  (`listMarker_isMarker`, DocTotal). -/

section Leaders
variable (P : Str → Prop)

mutual
/-- every item at any depth has a leader satisfying `P` -/
def LdEntry : Entry → Prop
  | .blockCode _ _ _ => True
  | .heading _ _ _ _ _ => True
  | .quote inner _ _ _ => LdEntries inner
  | .codeFence _ _ _ _ _ _ _ => True
  | .thematicBreak _ _ _ => True
  | .list items _ _ => LdItems items
  | .table _ _ _ _ => True
  | .footnote _ _ _ => True
  | .linkRefDefs _ _ _ => True
  | .paragraph _ _ _ => True
  | .setext _ _ _ => True
  | .htmlBlock _ _ _ => True
  | .blankLine _ _ => True
def LdEntries : List Entry → Prop
  | [] => True
  | e :: es => LdEntry e ∧ LdEntries es
def LdItem : Item → Prop
  | .mk inner _ _ _ leader _ _ => P leader ∧ LdEntries inner
def LdItems : List Item → Prop
  | [] => True
  | i :: is => LdItem i ∧ LdItems is
end

end Leaders

def MarkerP (ld : Str) : Prop := isMarker ld = true

mutual
theorem ldEntry_of_from {ts : List BTok} : ∀ (e : Entry), EntryFrom ts e → LdEntry MarkerP e
  | .blockCode _ _ _, _ => trivial
  | .heading _ _ _ _ _, _ => trivial
  | .quote inner _ _ _, h => ldEntries_of_from inner h
  | .codeFence _ _ _ _ _ _ _, _ => trivial
  | .thematicBreak _ _ _, _ => trivial
  | .list items _ _, h => ldItems_of_from items h.2
  | .table _ _ _ _, _ => trivial
  | .footnote _ _ _, _ => trivial
  | .linkRefDefs _ _ _, _ => trivial
  | .paragraph _ _ _, _ => trivial
  | .setext _ _ _, _ => trivial
  | .htmlBlock _ _ _, _ => trivial
  | .blankLine _ _, _ => trivial
theorem ldEntries_of_from {ts : List BTok} : ∀ (es : List Entry), EntriesFrom ts es → LdEntries MarkerP es
  | [], _ => trivial
  | e :: es, h => ⟨ldEntry_of_from e h.1, ldEntries_of_from es h.2⟩
theorem ldItems_of_from {ts : List BTok} : ∀ (is : List Item), ItemsFrom ts is → LdItems MarkerP is
  | [], _ => trivial
  | .mk inner _ _ _ _ _ _ :: is, ⟨⟨⟨r, r1, hm⟩, hi⟩, his⟩ =>
    ⟨⟨listMarker_isMarker r _ r1 hm, ldEntries_of_from inner hi⟩, ldItems_of_from is his⟩
end

/-- **every leader in the buffer of the block phase, at every depth, is a list marker** (for every list of
    lines, complete or not) -/
theorem blockPhase_markers (cfg : Cfg) (gas : Nat) (lines : List Str) (b : Buf) (st : St)
    (h : blockPhase cfg gas lines = .ok (b, st)) : LdEntries MarkerP b.entries :=
  ldEntries_of_from _ (blockPhase_from cfg gas lines b st h)

end Mistletoe.Block

namespace Mistletoe.Document
open Mistletoe Mistletoe.Py Mistletoe.Scan Mistletoe.Block Mistletoe.Inline

/-! ## The block token constructors produce well-shaped trees -/

theorem cellsIn_shape {I : List Inline → Prop} : ∀ {cs : List Mistletoe.Block}, Range.CellsIn I cs →
    cs.all Block.isTableCell = true ∧ shapeOkL cs = true
  | [], _ => ⟨rfl, rfl⟩
  | _ :: _, h => by
    obtain ⟨⟨_, _, _, rfl, _⟩, hcs⟩ := Range.cellsIn_cons h
    obtain ⟨h1, h2⟩ := cellsIn_shape hcs
    simp [Block.isTableCell, shapeOkL, Block.shapeOk, h1, h2]

theorem rowsIn_shape {I : List Inline → Prop} : ∀ {rs : List Mistletoe.Block}, Range.RowsIn I rs →
    rs.all Block.isTableRow = true ∧ shapeOkL rs = true
  | [], _ => ⟨rfl, rfl⟩
  | _ :: _, h => by
    obtain ⟨⟨_, _, _, rfl, hc⟩, hrs⟩ := Range.rowsIn_cons h
    obtain ⟨h1, h2⟩ := cellsIn_shape hc
    obtain ⟨h3, h4⟩ := rowsIn_shape hrs
    simp [Block.isTableRow, shapeOkL, Block.shapeOk, h1, h2, h3, h4]

theorem linkRefDefs_shape (ms : List FnMatch) : (ms.map linkRefDef).all Inline.isLinkRefDef = true := by
  simp [List.all_map, linkRefDef, Inline.isLinkRefDef]

mutual
/-- `token_type(result)` on a well-formed entry: a well-shaped flow block -/
theorem mkBlock_shape (cfg : Cfg) (fn : Footnotes.Table) :
    ∀ (e : Entry), EntryWF e → LdEntry MarkerP e → ∀ (b : Mistletoe.Block), mkBlock cfg fn e = .ok (some b) →
      b.shapeOk = true ∧ b.isFlow = true
  | .blockCode ls ln og, _, _, b, h => by
    simp only [mkBlock] at h; cases h; exact ⟨rfl, rfl⟩
  | .heading lvl content closing ln og, hw, hm, b, h => by
    simp only [EntryWF] at hw
    obtain ⟨kids, _, ⟨⟩⟩ := mkBlock_heading_ok h
    exact ⟨by simp [Block.shapeOk, hw.1, hw.2], rfl⟩
  | .quote inner lo ln og, hw, hm, b, h => by
    simp only [EntryWF] at hw
    obtain ⟨kids, hk, ⟨⟩⟩ := mkBlock_quote_ok h
    obtain ⟨h1, h2⟩ := mkBlocks_shape cfg fn inner hw (by simpa only [LdEntry] using hm) kids hk
    exact ⟨by simp [Block.shapeOk, h1, h2], rfl⟩
  | .codeFence ls p ld info lang ln og, _, _, b, h => by
    simp only [mkBlock] at h; cases h; exact ⟨rfl, rfl⟩
  | .thematicBreak line ln og, _, _, b, h => by
    simp only [mkBlock] at h; cases h; exact ⟨rfl, rfl⟩
  | .list items ln og, hw, hm, b, h => by
    simp only [EntryWF] at hw
    have ih := mkItems_shape cfg fn items hw.2 (by simpa only [LdEntry] using hm)
    obtain ⟨inner, lo, ind, pre, leader, iln, iog, rest, its, rfl, hk, ⟨⟩⟩ := mkBlock_list_ok h
    obtain ⟨_, h2, h3⟩ := ih its hk
    obtain ⟨kids, more, _, _, rfl⟩ := mkItems_cons_ok hk
    have hld : isMarker leader = true := by
      simp only [LdEntry, LdItems, LdItem] at hm
      exact hm.1.1
    have hs := leaderStartOk_mk leader hld
    refine ⟨?_, rfl⟩
    simp only [bne_iff_ne, ne_eq, ite_not] at hs
    simp [Block.shapeOk, listStartOk, hs, h2, h3]
  | .table lines sl ln og, hw, hm, b, h => by
    simp only [EntryWF] at hw
    obtain ⟨_, _, _, hlines, _, hdash⟩ := hw
    obtain ⟨l0, l1, rest, rfl, ⟨_, align, header, rows, hal, hh, hr, ⟨⟩⟩ | ⟨hno, _⟩⟩ := mkBlock_table_ok h
    · have hI : ∀ (s : Str) (ks : List Inline), inl cfg fn s = .ok ks → True := fun _ _ _ => trivial
      have hA := Range.mapRes_parseAlign_in hal
      obtain ⟨h1, h2⟩ := rowsIn_shape (List.forall_mem_cons.2 ⟨Range.tableRow_in hI hA hh, Range.rowsIn_nil⟩)
      obtain ⟨h3, h4⟩ := rowsIn_shape (Range.tableRows_in hI rest hA (sl + 2) rows hr)
      exact ⟨by simp [Block.shapeOk, h1, h2, h3, h4], rfl⟩
    · cases hlines
      rw [hdash] at hno
      cases hno
  | .footnote ms ln og, _, _, b, h => by
    simp only [mkBlock] at h; cases h
  | .linkRefDefs ms ln og, _, _, b, h => by
    simp only [mkBlock] at h; cases h
    exact ⟨by simp only [Block.shapeOk]; exact linkRefDefs_shape ms, rfl⟩
  | .paragraph lines ln og, _, _, b, h => by
    obtain ⟨kids, _, ⟨⟩⟩ := mkBlock_paragraph_ok h
    exact ⟨rfl, rfl⟩
  | .setext lines ln og, _, _, b, h => by
    obtain ⟨last, kids, _, _, ⟨⟩⟩ := mkBlock_setext_ok h
    refine ⟨?_, rfl⟩
    simp only [Block.shapeOk]
    split <;> rfl
  | .htmlBlock lines ln og, _, _, b, h => by
    simp only [mkBlock] at h; cases h; exact ⟨rfl, rfl⟩
  | .blankLine ln og, _, _, b, h => by
    simp only [mkBlock] at h; cases h; exact ⟨rfl, rfl⟩
/-- `make_tokens(parse_buffer)` on a well-formed buffer: well-shaped flow blocks only -/
theorem mkBlocks_shape (cfg : Cfg) (fn : Footnotes.Table) :
    ∀ (es : List Entry), EntriesWF es → LdEntries MarkerP es → ∀ (bs : List Mistletoe.Block), mkBlocks cfg fn es = .ok bs →
      bs.all Block.isFlow = true ∧ shapeOkL bs = true
  | [], _, _, bs, h => by
    simp only [mkBlocks] at h; cases h; exact ⟨rfl, rfl⟩
  | e :: es, hw, hm, bs, h => by
    simp only [LdEntries] at hm
    simp only [EntriesWF] at hw
    obtain ⟨b, more, hb, hmo, rfl⟩ := mkBlocks_cons_ok h
    obtain ⟨h3, h4⟩ := mkBlocks_shape cfg fn es hw.2 hm.2 more hmo
    cases b with
    | none => exact ⟨h3, h4⟩
    | some x =>
      obtain ⟨h1, h2⟩ := mkBlock_shape cfg fn e hw.1 hm.1 x hb
      simp [shapeOkL, h1, h2, h3, h4]
/-- the `ListItem` constructors: `.listItem`s only, each well-shaped -/
theorem mkItems_shape (cfg : Cfg) (fn : Footnotes.Table) :
    ∀ (is : List Item), ItemsWF is → LdItems MarkerP is → ∀ (bs : List Mistletoe.Block), mkItems cfg fn is = .ok bs →
      bs.isEmpty = is.isEmpty ∧ bs.all Block.isListItem = true ∧ shapeOkL bs = true
  | [], _, _, bs, h => by
    simp only [mkItems] at h; cases h; exact ⟨rfl, rfl, rfl⟩
  | .mk inner lo ind pre ld ln og :: rest, hw, hm, bs, h => by
    simp only [LdItems, LdItem] at hm
    simp only [ItemsWF, ItemWF] at hw
    obtain ⟨kids, more, hk, hmo, rfl⟩ := mkItems_cons_ok h
    obtain ⟨h1, h2⟩ := mkBlocks_shape cfg fn inner hw.1.2 hm.1.2 kids hk
    obtain ⟨_, h3, h4⟩ := mkItems_shape cfg fn rest hw.2 hm.2 more hmo
    simp [shapeOkL, Block.shapeOk, Block.isListItem, h1, h2, h3, h4]
end

end Mistletoe.Document

namespace Mistletoe.Props.C12
open Mistletoe Mistletoe.Block Mistletoe.Lines

/-- **C12 (kinds of children, scalar ranges)**: every document the model parses from complete lines is
    well-shaped, whatever the block- and span-token lists, the flags and the gas. -/
theorem C12_parsed_shape (cfg : Document.Cfg) (gas : Nat) (lines : List Str) (d : Doc)
    (h : Document.parseLines cfg gas lines = .ok d) (hl : ∀ s ∈ lines, NlEnd s) : d.shapeOk = true := by
  obtain ⟨buf, st, hb, hk, _⟩ := Pipeline.parseLines_ok h
  obtain ⟨h1, h2⟩ := Document.mkBlocks_shape cfg _ buf.entries (blockPhase_wf cfg.block gas lines buf st hl hb)
    (blockPhase_markers cfg.block gas lines buf st hb) _ hk
  simp [Doc.shapeOk, h1, h2]

/-- the same for `Document(text)` given one `str`: no hypothesis on the text -/
theorem C12_parsed_shape_str (cfg : Document.Cfg) (gas : Nat) (t : Str) (d : Doc)
    (h : Document.parse cfg gas t = .ok d) : d.shapeOk = true :=
  C12_parsed_shape cfg gas _ d h (Props.C13.normalize_str_nlEnd t)

/-! ### Non-vacuity -/

namespace ShapeSample

/-- the default configuration (no renderer active), literally -/
def cfgD : Document.Cfg :=
  { block := { types := [.blockCode, .heading, .quote, .codeFence, .thematicBreak, .list, .table, .footnote, .paragraph] },
    span := [.escapeSequence, .strikethrough, .autoLink, .coreTokens, .inlineCode, .lineBreak] }

/-- it is the configuration regenerated from /repo (`Config.default`) -/
example : (match Config.default with
    | some c => c.block.types == cfgD.block.types && c.block.tableInterrupt == cfgD.block.tableInterrupt && c.span == cfgD.span
    | none => false) = true := by rw [Config.default_eq]; rfl

/-- `Doc.shapeOk` of a parse result (`none`: the parse did not return) -/
def shapeOfParse : Res Doc → Option Bool
  | .ok d => some d.shapeOk
  | .err _ => none

/-- an ordered list starting at 3 whose first item holds a nested bullet list, a table with one body row, a
    quote holding a heading and a paragraph, a fenced code block, a setext heading -/
def sampleText : Str :=
  "3. a\n   - b\n   - c\n4. d\n\n| h | k |\n|---|:-:|\n| 1 | *2* |\n\n> # Q\n> r\n\n```py\ncode\n```\nT\n=\n".toList

example : shapeOfParse (Document.parse cfgD 60 sampleText) = some true := by unfold sampleText; decide_lit

mutual
/-- the kinds of a tree in pre-order: one letter per token, child lists in parentheses; a list shows its
    `start` as `#` and that many `+`, an item its leader in brackets, a heading its level as that many `+` -/
def skel : Mistletoe.Block → Str
  | .paragraph _ _ => ['p']
  | .heading n _ _ _ => 'h' :: List.replicate n '+'
  | .setextHeading n _ _ _ => 's' :: List.replicate n '+'
  | .quote ks _ => 'q' :: '(' :: skelL ks ++ [')']
  | .blockCode _ _ => ['c']
  | .codeFence _ _ _ _ _ _ => ['f']
  | .list _ s ks _ =>
    'l' :: (match s with | some n => '#' :: List.replicate n '+' | none => []) ++ '(' :: skelL ks ++ [')']
  | .listItem ld _ _ _ ks _ => 'i' :: '[' :: ld ++ ']' :: '(' :: skelL ks ++ [')']
  | .table _ hd rs _ => 't' :: '(' :: skelL hd ++ [')', '('] ++ skelL rs ++ [')']
  | .tableRow _ cs _ => 'r' :: '(' :: skelL cs ++ [')']
  | .tableCell _ _ _ => ['d']
  | .thematicBreak _ _ => ['-']
  | .htmlBlock _ _ => ['x']
  | .blankLine _ => ['_']
  | .linkRefDefBlock _ _ => ['=']
def skelL : List Mistletoe.Block → Str
  | [] => []
  | b :: bs => skel b ++ skelL bs
end
def skelOfParse : Res Doc → Str
  | .ok d => skelL d.kids
  | .err _ => []

/-- what was parsed: list(start 3)[item "3."[paragraph, list(no start)[item "-"[p], item "-"[p]]], item "4."[p]],
    table[header row[2 cells]][row[2 cells]], quote[heading 1, paragraph], code fence, setext heading 1 -/
example : skelOfParse (Document.parse cfgD 60 sampleText) =
    "l#+++(i[3.](pl(i[-](p)i[-](p)))i[4.](p))t(r(dd))(r(dd))q(h+p)fs+".toList := by unfold sampleText; decide_lit

/-- the predicate is not trivially true: a list holding a paragraph, a quote holding a list item, a table row
    outside a table, a heading of level 7, a start that disagrees with the first marker, an empty list -/
example : (Block.list false none [.paragraph [] 1] 1).shapeOk = false := by decide
example : (Block.quote [.listItem ['-'] 0 2 false [] 1] 1).shapeOk = false := by decide
example : Doc.shapeOk ⟨[.tableRow [none] [] 1], []⟩ = false := by decide
example : (Block.heading 7 [] [] 1).shapeOk = false := by decide
example : (Block.list false (some 4) [.listItem ['3', '.'] 0 3 false [] 1] 1).shapeOk = false := by decide +kernel
example : (Block.list false none [.listItem ['3', '.'] 0 3 false [] 1] 1).shapeOk = false := by decide +kernel
example : (Block.list false (some 3) [.listItem ['-'] 0 2 false [] 1] 1).shapeOk = false := by decide +kernel
example : (Block.list false (some 3) [.listItem ['3', '.'] 0 3 false [] 1] 1).shapeOk = true := by decide +kernel
example : (Block.list false none [] 1).shapeOk = false := by decide
/-- a leader that is no list marker -/
example : (Block.list false none [.listItem ['x'] 0 2 false [] 1] 1).shapeOk = false := by decide +kernel
example : (Block.list false (some 3) [.listItem ['3', ':'] 0 3 false [] 1] 1).shapeOk = false := by decide +kernel
example : (Block.list false (some 3) [.listItem ['3', ')'] 0 3 false [] 1] 1).shapeOk = true := by decide +kernel
example : (Block.table [none] [.tableRow [none] [] 1, .tableRow [none] [] 1] [] 1).shapeOk = false := by decide
example : (Block.table [none] [] [.tableRow [none] [.paragraph [] 1] 1] 1).shapeOk = false := by decide
example : (Block.setextHeading 3 [] [] 1).shapeOk = false := by decide

example (d : Doc) (h : Document.parse cfgD 60 sampleText = .ok d) : d.shapeOk = true :=
  C12_parsed_shape_str cfgD 60 sampleText d h

end ShapeSample

end Mistletoe.Props.C12

section Audit
open Mistletoe.Props.C12
#print axioms C12_parsed_shape
#print axioms C12_parsed_shape_str
end Audit
