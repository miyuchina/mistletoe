/-
  C01, block phase: the block-parser model never produces an error other than `.fuel`, and the
  fuels are sufficient (inner loops: the fuels the readers pass; outer gas: an explicit bound).
  First the readers one by one: on complete lines none raises, each stays in its buffer and consumes a line, and
  `Footnote.read` ends every definition behind a newline.  Then the outer gas: the induction over the four mutually
  recursive functions says both at once (`all_e`: a failing run reports `.fuel` and had less than `gasBound`), the gas
  does not matter once it suffices (`all_m`), and the block phase of `Document(lines)` is total (`blockPhase_total`).
  Last: `Document(text)` for a `str` hands the tokenizer complete lines (`Props.C13.normalize_str_nlEnd`), so all of this holds
  of every text.
-/
import Mistletoe.Proofs.Block
import Mistletoe.Proofs.Lines
namespace Mistletoe.Block
open Mistletoe Mistletoe.Py Mistletoe.Scan

/-! ## The readers do not raise, stay in their buffer and move on -/

theorem pyIsSpace_sp : pyIsSpace ' ' = true := by decide
theorem pyIsSpace_gt : pyIsSpace '>' = false := by decide

theorem nlEnd_lstrip (s : Str) (h : NlEnd s) (hne : lstrip s ≠ []) : NlEnd (lstrip s) :=
  nlEnd_suffix _ _ h (Strip.lstrip_suffix s) hne

/-- HtmlBlock.start: `stripped[2]` exists on a complete line that starts with "<!" -/
theorem htmlBlockStart_noerr (s : Str) (h : NlEnd s) (e : Err) : htmlBlockStart s ≠ .err e := by
  have key : startsWith "<!".toList (lstrip s) = true → ∃ c, (lstrip s)[2]? = some c := by
    intro hsw
    have hne : lstrip s ≠ [] := by intro e0; rw [e0] at hsw; simp [startsWith] at hsw
    have hn := nlEnd_getLast _ (nlEnd_lstrip s h hne)
    generalize lstrip s = t at hsw hn
    match t, hsw, hn with
    | [], hsw, _ => simp [startsWith] at hsw
    | [_], hsw, _ => simp [startsWith] at hsw
    | [a, b], hsw, hn =>
      simp [startsWith] at hsw
      simp at hn
      rw [hn] at hsw; exact absurd hsw.2 (by decide)
    | _ :: _ :: c :: _, _, _ => exact ⟨c, rfl⟩
  -- the tests are taken one by one with `by_cases`: `split` is slow on this definition
  unfold htmlBlockStart
  simp only
  by_cases h4 : s.length - (lstrip s).length ≥ 4
  · rw [if_pos h4]; exact nofun
  rw [if_neg h4]
  cases multiblock (lstrip s) with
  | some tag => exact nofun
  | none =>
    show (if _ then _ else _) ≠ _
    by_cases h1 : startsWith "<!--".toList (lstrip s) = true
    · rw [if_pos h1]; exact nofun
    rw [if_neg h1]
    by_cases h2 : startsWith "<?".toList (lstrip s) = true
    · rw [if_pos h2]; exact nofun
    rw [if_neg h2]
    by_cases h3 : startsWith "<!".toList (lstrip s) = true
    · obtain ⟨c, hc⟩ := key h3
      rw [if_pos h3, hc]
      show (if _ then _ else _) ≠ _
      split
      · exact nofun
      · split <;> exact nofun
    · rw [if_neg h3]; exact nofun

theorem replaceTab_ne_nil (s : Str) (h : s ≠ []) : replaceFirst ['>', '\t'] [' ', ' ', ' '] s ≠ [] := by
  cases s with
  | nil => exact absurd rfl h
  | cons c rest =>
    simp only [replaceFirst]
    split <;> simp

/-- Quote.convert_leading_tabs: the loop variable is bound on every non-empty string -/
theorem convertLeadingTabs_ok (s : Str) (h : s ≠ []) : ∃ t, convertLeadingTabs s = .ok t := by
  unfold convertLeadingTabs
  simp only
  have := replaceTab_ne_nil s h
  split
  · rename_i he; simp at he; exact absurd he this
  · split
    · exact ⟨_, rfl⟩
    · exact ⟨_, rfl⟩

theorem lstrip_of_lstripSp : ∀ (s : Str), startsWith ['>'] (lstripSp s) = true → ∃ r, lstrip s = '>' :: r
  | [], h => by simp [lstripSp, startsWith] at h
  | c :: rest, h => by
    by_cases hc : c = ' '
    · subst hc
      simp only [lstripSp] at h
      simp only [lstrip, pyIsSpace_sp, if_true]
      exact lstrip_of_lstripSp rest h
    · have : lstripSp (c :: rest) = c :: rest := by
        unfold lstripSp
        split
        · rename_i heq; cases heq; exact absurd rfl hc
        · rfl
      rw [this] at h
      simp [startsWith] at h
      subst h
      exact ⟨rest, by simp [lstrip, pyIsSpace_gt]⟩

theorem quoteStart_lstrip (s : Str) (h : quoteStart s = true) : ∃ r, lstrip s = '>' :: r := by
  unfold quoteStart at h
  simp only at h
  split at h
  · cases h
  · exact lstrip_of_lstripSp s h

/-! ### check_interrupts_paragraph never raises on a complete line -/

theorem interruptsOne_noerr (cfg : Cfg) (fw : FW) (l : Line) (t : BTok) (e : Err)
    (hp : fw.peek = some l) (hl : NlEnd l.s) : interruptsOne cfg fw t ≠ .err e := by
  intro h
  unfold interruptsOne at h
  rw [hp] at h
  simp only at h
  cases t <;> simp only at h <;> try (cases h)
  split at h
  · rename_i e' he; exact htmlBlockStart_noerr _ hl _ he
  · cases h
  · cases h

theorem anyInterrupt_noerr (cfg : Cfg) (fw : FW) (l : Line) (skip : BTok) (sk : Bool) (e : Err)
    (hp : fw.peek = some l) (hl : NlEnd l.s) : ∀ (ts : List BTok), anyInterrupt cfg fw skip sk ts ≠ .err e
  | [] => by simp [anyInterrupt]
  | t :: ts => by
    simp only [anyInterrupt]
    split
    · exact anyInterrupt_noerr cfg fw l skip sk e hp hl ts
    · split
      · rename_i e' he; exact absurd he (interruptsOne_noerr cfg fw l t e' hp hl)
      · simp
      · exact anyInterrupt_noerr cfg fw l skip sk e hp hl ts

/-! ### the inner loops: no raise, and the fuel the readers pass is sufficient -/

theorem quoteLoop_noerr (cfg : Cfg) : ∀ (fuel : Nat) (fw : FW) (buf : List Line) (fl : QFlags) (e : Err),
    AllNlEnd fw.lines → fw.remaining < fuel → quoteLoop cfg fuel fw buf fl ≠ .err e
  | 0, _, _, _, _, _, hf => by omega
  | fuel + 1, fw, buf, fl, e, hl, hf => by
    intro h
    simp only [quoteLoop] at h
    split at h
    · cases h
    · rename_i l hp
      have hln := hl l (peek_mem fw l hp)
      have hrem := remaining_next fw l hp
      split at h
      · cases h
      · rename_i hblank
        split at h
        · rename_i e' he; exact anyInterrupt_noerr cfg fw l _ _ e' hp hln _ he
        · cases h
        · have hne : lstrip l.s ≠ [] := Strip.lstrip_ne_nil _ (by simpa using hblank)
          split at h
          · rename_i e' he
            obtain ⟨t, ht⟩ := convertLeadingTabs_ok _ hne
            rw [ht] at he; cases he
          · rename_i stripped hcv
            have hst : NlEnd stripped := (convertLeadingTabs_cut hln (Strip.lstrip_suffix _) (lstrip_head_ne_sp_tab _) hcv).1.nlEnd hln
            split at h
            · exact nlEnd_ne_nil _ hst rfl
            · rename_i c0 tl
              split at h
              · split at h
                · rename_i hc0 _ h1
                  cases tl with
                  | nil =>
                    have := nlEnd_getLast _ hst
                    simp at this
                    rw [this] at hc0; exact absurd hc0 (by decide)
                  | cons d t2 => simp at h1
                · exact quoteLoop_noerr cfg fuel fw.next _ _ e hl (by omega) h
              · split at h
                · cases h
                · exact quoteLoop_noerr cfg fuel fw.next _ _ e hl (by omega) h

/-- Quote.read up to the nested call, entered as `tokenize_block` enters it -/
theorem quoteLines_noerr (cfg : Cfg) (fw : FW) (l0 : Line) (e : Err) (hl : AllNlEnd fw.lines)
    (hp : fw.peek = some l0) (hq : quoteStart l0.s = true) : quoteLines cfg fw l0 ≠ .err e := by
  intro h
  obtain ⟨r, hr⟩ := quoteStart_lstrip _ hq
  have hrem := remaining_next fw l0 hp
  unfold quoteLines at h
  split at h
  · rename_i e' he
    obtain ⟨t, ht⟩ := convertLeadingTabs_ok (lstrip l0.s) (by rw [hr]; simp)
    rw [ht] at he; cases he
  · rename_i t hcv
    split at h
    · rename_i hso
      rw [hr] at hcv
      obtain ⟨r', hr'⟩ := convertLeadingTabs_head (hl l0 (peek_mem fw l0 hp)) (hr ▸ Strip.lstrip_suffix l0.s) hcv
      rw [hr'] at hso
      simp [splitOnce] at hso
    · simp only at h
      split at h
      · rename_i e' he
        exact quoteLoop_noerr cfg _ fw.next _ _ e' hl (by omega) he
      · cases h

theorem itemLoop_noerr (cfg : Cfg) (prepend : Nat) : ∀ (fuel : Nat) (fw : FW) (buf : List Line) (nl : Nat) (e : Err),
    AllNlEnd fw.lines → fw.remaining < fuel → itemLoop cfg prepend fuel fw buf nl ≠ .err e
  | 0, _, _, _, _, _, hf => by omega
  | fuel + 1, fw, buf, nl, e, hl, hf => by
    intro h
    simp only [itemLoop] at h
    split at h
    · cases h
    · rename_i l hp
      have hln := hl l (peek_mem fw l hp)
      have hrem := remaining_next fw l hp
      split at h
      · rename_i cont hcont
        split at h
        · rename_i hem
          have := nlEnd_ne_nil _ ((parseContinuation_cut hln hcont).nlEnd hln)
          simp at hem; exact this hem
        · exact itemLoop_noerr cfg prepend fuel fw.next _ _ e hl (by omega) h
      · split at h
        · rename_i e' he; exact anyInterrupt_noerr cfg fw l _ _ e' hp hln _ he
        · cases h
        · split at h
          · cases h
          · split at h
            · cases h
            · exact itemLoop_noerr cfg prepend fuel fw.next _ _ e hl (by omega) h

/-! ### List.start implies ListItem.parse_marker matches -/

theorem ws_sp_tab (c : Char) (h : (c == ' ' || c == '\t') = true) : ws c = true := by
  simp only [Bool.or_eq_true, beq_iff_eq] at h
  rcases h with rfl | rfl <;> decide

theorem listStart_listItem (s : Str) (h : listStart s = true) : (listItem s).isSome = true := by
  unfold listStart at h
  unfold listItem
  split at h
  · cases h
  · rename_i n r hu
    simp only
    split at h
    · cases h
    · rename_i m r1 hm
      simp only at h
      by_cases he : atEnd r1 = true
      · simp [he]
      · simp only [he, Bool.false_eq_true, if_false]
        have hne : (span (fun c => c == ' ' || c == '\t') r1).1 ≠ [] := by
          intro hnil
          have h2 := span_fst_nil _ r1 hnil
          rw [h2, hnil] at h
          simp [he] at h
        have := span_fst_ne_nil_mono _ ws ws_sp_tab r1 hne
        split
        · rename_i hw; simp at hw; exact absurd hw this
        · rfl

theorem listStart_parseMarker (s : Str) (h : listStart s = true) : (parseMarker s).isSome = true := by
  have := listStart_listItem s h
  unfold parseMarker
  split
  · rename_i hn; rw [hn] at this; cases this
  · simp only; split <;> rfl

theorem skipBlanks_remaining (fuel : Nat) (fw : FW) (n : Nat) : (skipBlanks fuel fw n).1.remaining ≤ fw.remaining := by
  have := skipBlanks_inv fuel fw n
  simp only [FW.remaining, this.1.1]
  have := this.2.1
  omega

/-- `ListItem.read` up to the nested call; `hprev`: absent a `prev_marker`, the line carries a list marker -/
theorem itemLines_noerr (cfg : Cfg) (fw : FW) (prev) (e : Err) (hl : AllNlEnd fw.lines)
    (hpk : fw.peek.isSome = true) (hprev : prev = none → ∃ l, fw.peek = some l ∧ (parseMarker l.s).isSome = true) :
    itemLines cfg fw prev ≠ .err e := by
  intro h
  unfold itemLines at h
  split at h
  · rename_i hn; rw [hn] at hpk; cases hpk
  · rename_i l0 hp
    have hrem := remaining_next fw l0 hp
    simp only at h
    split at h
    · rename_i hmk
      cases prev with
      | some m => simp at hmk
      | none =>
        obtain ⟨l, hl', hm⟩ := hprev rfl
        rw [hp] at hl'; cases hl'
        simp only at hmk
        rw [hmk] at hm; cases hm
    · split at h
      · split at h
        · cases h
        · split at h
          · rename_i e' he
            have h1 := skipBlanks_remaining (fw.remaining + 1) fw.next 1
            have h2 := (skipBlanks_inv (fw.remaining + 1) fw.next 1).1.1
            exact itemLoop_noerr cfg _ _ _ _ _ e' (by rw [h2]; exact hl) (by omega) he
          · cases h
      · split at h
        · rename_i e' he
          exact itemLoop_noerr cfg _ _ fw.next _ _ e' hl (by omega) he
        · cases h

/-! ### Footnote.read / Paragraph.read -/

theorem shiftWhitespace_le (s : Str) (i : Nat) (h : i ≤ s.length) : shiftWhitespace s i ≤ s.length := by
  unfold shiftWhitespace
  have := (List.takeWhile_sublist (l := s.drop i) coreWs).length_le
  simp only [List.length_drop] at this
  omega

theorem shiftWhitespace_ge (s : Str) (i : Nat) : i ≤ shiftWhitespace s i := by
  unfold shiftWhitespace; omega

theorem matchLinkDest_noerr (s : Str) (off : Nat) (e : Err) (h : off < s.length) : matchLinkDest s off ≠ .err e := by
  intro he
  unfold matchLinkDest at he
  split at he
  · rename_i hn
    have := List.getElem?_eq_none_iff.mp hn
    omega
  · split at he
    · cases he
    · split at he
      · cases he
      · cases he
      · split at he <;> cases he

/-- Footnote.match_reference never indexes out of range -/
theorem matchReference_noerr (s : Str) (off : Nat) (e : Err) : matchReference s off ≠ .err e := by
  intro h
  unfold matchReference at h
  cases hlab : matchLinkLabel s off with
  | none => rw [hlab] at h; cases h
  | some r =>
    obtain ⟨a, labelEnd, label⟩ := r
    rw [hlab] at h
    dsimp only at h
    by_cases hf : (!follows s (labelEnd - 1) ':') = true
    · rw [if_pos hf] at h; cases h
    rw [if_neg hf] at h
    by_cases hds : (shiftWhitespace s (labelEnd + 1) == s.length) = true
    · rw [if_pos hds] at h; cases h
    rw [if_neg hds] at h
    have hlt : labelEnd + 1 ≤ s.length := by
      have : s[labelEnd - 1 + 1]? ≠ none := by
        intro hn; simp [follows, hn] at hf
      have : labelEnd - 1 + 1 < s.length :=
        Nat.lt_of_not_le (fun hh => this (List.getElem?_eq_none_iff.mpr hh))
      omega
    have hle := shiftWhitespace_le s (labelEnd + 1) hlt
    have hne : shiftWhitespace s (labelEnd + 1) ≠ s.length := by simpa using hds
    cases hdest : matchLinkDest s (shiftWhitespace s (labelEnd + 1)) with
    | err e' => exact matchLinkDest_noerr s _ e' (by omega) hdest
    | ok d =>
      rw [hdest] at h
      cases d with
      | none => cases h
      | some d =>
        obtain ⟨a2, destEnd, dest⟩ := d
        dsimp only at h
        split at h
        · cases h
        · split at h
          · cases h
          · split at h <;> cases h

theorem paragraphLoop_noerr (cfg : Cfg) (so : Bool) : ∀ (fuel : Nat) (fw : FW) (buf : List Str) (e : Err),
    AllNlEnd fw.lines → fw.remaining < fuel → paragraphLoop cfg so fuel fw buf ≠ .err e
  | 0, _, _, _, _, hf => by omega
  | fuel + 1, fw, buf, e, hl, hf => by
    intro h
    simp only [paragraphLoop] at h
    split at h
    · cases h
    · rename_i l hp
      have hln := hl l (peek_mem fw l hp)
      have hrem := remaining_next fw l hp
      split at h
      · cases h
      · split at h
        · rename_i e' he; exact anyInterrupt_noerr cfg fw l _ _ e' hp hln _ he
        · cases h
        · split at h
          · cases h
          · split at h
            · cases h
            · exact paragraphLoop_noerr cfg so fuel fw.next _ e hl (by omega) h

theorem readParagraph_noerr (cfg : Cfg) (so : Bool) (fw : FW) (l : Line) (e : Err) (hl : AllNlEnd fw.lines)
    (hp : fw.peek = some l) : readParagraph cfg so fw l.s ≠ .err e := by
  intro h
  have hrem := remaining_next fw l hp
  unfold readParagraph at h
  split at h
  · rename_i e' he
    exact paragraphLoop_noerr cfg so _ fw.next _ e' hl (by omega) he
  · cases h

/-! ### every `read` that returns a token consumes at least one line -/

theorem blockCodeLoop_pos (fuel : Nat) (fw : FW) (buf : List Str) (tb p : Nat) (h : p + tb ≤ fw.pos) :
    p + (blockCodeLoop fuel fw buf tb).2.1 ≤ (blockCodeLoop fuel fw buf tb).2.2.pos := by
  simp only [blockCodeLoop_eq]
  exact loop_inv codeStep (fun fw st => p + st.2 ≤ fw.pos)
    (fun fw l s s' _ h hs => by show p + s'.2 ≤ fw.pos + 1; rcases codeStep_push hs with h0 | ⟨h0, _⟩ <;> omega) fuel fw (buf, tb) h

theorem blockCodeStart_nl : blockCodeStart ['\n'] = false := by decide

theorem blockCodeStart_not_blank (s : Str) (hs : blockCodeStart s = true) : isBlank s = false := by
  unfold blockCodeStart at hs
  cases h : isBlank s with
  | false => rfl
  | true => rw [h] at hs; cases hs

theorem readBlockCode_adv (fw : FW) (l : Line) (hp : fw.peek = some l) (hs : blockCodeStart l.s = true) :
    fw.pos < (readBlockCode fw).2.pos := by
  have hn : fw.next.pos = fw.pos + 1 := rfl
  have hnb := blockCodeStart_not_blank l.s hs
  unfold readBlockCode
  simp only [blockCodeLoop, hp, hs, hnb]
  have := blockCodeLoop_pos fw.remaining fw.next [blockCodeStrip l.s 0] 0 (fw.pos + 1) (by rw [hn]; omega)
  generalize blockCodeLoop _ _ _ _ = r at this ⊢
  obtain ⟨b, t, f⟩ := r
  simp only [Bool.not_true, Bool.false_eq_true, if_false] at this ⊢
  omega

theorem readCodeFence_adv (fw : FW) (m : FenceMatch) : fw.pos < (readCodeFence fw m).2.pos := by
  unfold readCodeFence
  rw [codeFenceLoop_eq]
  exact Nat.lt_of_lt_of_le (Nat.lt_succ_self fw.pos) (loop_pos _ (fw.remaining + 1) fw.next [])

theorem readTable_adv (fw : FW) (r) (h : readTable fw = some r) : fw.pos < r.2.2.pos := by
  obtain ⟨l0, _, _, _, hfw, _⟩ := readTable_ok h
  rw [hfw, tableLoop_eq]
  exact Nat.lt_of_lt_of_le (Nat.lt_succ_self fw.pos) (loop_pos _ (fw.remaining + 1) fw.next _)

theorem htmlBlockStart_blank (s : Str) (h : isBlank s = true) : htmlBlockStart s = .ok none := by
  unfold htmlBlockStart
  rw [Strip.isBlank_lstrip s h]
  simp only
  by_cases h4 : s.length - ([] : Str).length ≥ 4
  · rw [if_pos h4]
  · rw [if_neg h4]; decide

theorem readHtmlBlock_adv (fw : FW) (l : Line) (ec : Option Str) (rule : Nat) (hp : fw.peek = some l)
    (hs : htmlBlockStart l.s = .ok (some (rule, ec))) : fw.pos < (readHtmlBlock fw ec).2.pos := by
  have hnb : isBlank l.s = false := by
    cases hb : isBlank l.s with
    | false => rfl
    | true => rw [htmlBlockStart_blank _ hb] at hs; cases hs
  unfold readHtmlBlock
  rw [htmlBlockLoop_eq]
  refine loop_adv _ _ fw [] l hp ?_
  cases ec with
  | some e => simp only [htmlStep]; split <;> simp
  | none => simp [htmlStep, hnb]

theorem paragraphLoop_pos (cfg : Cfg) (so : Bool) : ∀ (fuel : Nat) (fw : FW) (buf : List Str) (r),
    paragraphLoop cfg so fuel fw buf = .ok r → fw.pos ≤ r.2.2.pos
  | 0, _, _, _, h => by simp [paragraphLoop] at h
  | fuel + 1, fw, buf, r, h => by
    rcases paragraphLoop_ok h with rfl | ⟨l, _, _, rfl | h'⟩
    · exact Nat.le_refl _
    · exact Nat.le_succ _
    · exact Nat.le_trans (Nat.le_succ _) (paragraphLoop_pos cfg so fuel _ _ r h')

theorem readParagraph_adv (cfg : Cfg) (so : Bool) (fw : FW) (l0 : Str) (r) (h : readParagraph cfg so fw l0 = .ok r) :
    fw.pos < r.2.2.pos := by
  have hn : fw.next.pos = fw.pos + 1 := rfl
  obtain ⟨buf, heq, _⟩ := readParagraph_ok h
  have := paragraphLoop_pos cfg so _ _ _ _ heq
  simp only at this; omega

theorem allNlEnd_zipIdx (lines : List Str) (k : Nat) (hl : ∀ s ∈ lines, NlEnd s) :
    AllNlEnd ((lines.zipIdx k).map (fun (s, i) => ({ s := s, origin := i + 1 } : Line))) := by
  intro l hm
  simp only [List.mem_map] at hm
  obtain ⟨⟨s, i⟩, hmem, rfl⟩ := hm
  exact hl s (List.mem_zipIdx hmem |>.2.2 ▸ List.getElem_mem _)

/-! ### Footnote.read: every matched definition ends after a newline, strictly further on -/

theorem ite_some_inj {α} {c : Prop} [Decidable c] {x y : α} (h : (if c then some x else none) = some y) : x = y := by
  split at h <;> simp_all

theorem mllGo_lt (s : Str) (off : Nat) : ∀ (rest : Str) (i : Nat) (st : Option Nat) (esc : Bool) (a) (e : Nat) (lab : Str),
    mllGo s off rest i st esc = some (a, e, lab) → i < e
  | [], _, _, _, _, _, _, h => by simp [mllGo] at h
  | c :: rest, i, st, esc, a, e, lab, h => by
    -- the statement after the if/elif chain: give up, or go on with the next character
    have next : ∀ st' esc', (if (st'.isNone && !(c == ' ' && i - off < 3)) = true then none
        else mllGo s off rest (i + 1) st' esc') = some (a, e, lab) → i < e := by
      intro st' esc' h'
      by_cases hc : (st'.isNone && !(c == ' ' && i - off < 3)) = true
      · rw [if_pos hc] at h'; cases h'
      · rw [if_neg hc] at h'; have := mllGo_lt s off rest (i + 1) _ _ a e lab h'; omega
    simp only [mllGo] at h
    by_cases h1 : esc = true
    · rw [if_pos h1] at h; exact next _ _ h
    rw [if_neg h1] at h
    by_cases h2 : c = '\\'
    · rw [if_pos h2] at h; exact next _ _ h
    rw [if_neg h2] at h
    by_cases h3 : c = '['
    · rw [if_pos h3] at h
      cases st with
      | none => exact next _ _ h
      | some _ => cases h
    rw [if_neg h3] at h
    by_cases h4 : c = ']'
    · rw [if_pos h4] at h
      have := ite_some_inj h
      simp only [Prod.mk.injEq] at this
      omega
    · rw [if_neg h4] at h; exact next _ _ h

theorem mldAngle_lt (s : Str) (off : Nat) : ∀ (rest : Str) (i : Nat) (esc : Bool) (a e : Nat) (d : Str),
    mldAngle s off rest i esc = some (a, e, d) → i < e
  | [], _, _, _, _, _, h => by simp [mldAngle] at h
  | c :: rest, i, esc, a, e, d, h => by
    simp only [mldAngle] at h
    split at h
    · have := mldAngle_lt s off rest (i + 1) _ a e d h; omega
    · split at h
      · cases h
      · split at h
        · cases h; omega
        · have := mldAngle_lt s off rest (i + 1) _ a e d h; omega

theorem mldPlain_le : ∀ (rest : Str) (i : Nat) (esc : Bool) (cnt : Int) (j : Nat) (c : Int),
    mldPlain rest i esc cnt = some (some (j, c)) → i ≤ j + 1 ∧ (rest ≠ [] → i ≤ j)
  | [], i, _, _, j, c, h => by
    simp only [mldPlain] at h
    cases h
    exact ⟨by omega, fun h => absurd rfl h⟩
  | x :: rest, i, esc, cnt, j, c, h => by
    have ih : ∀ esc' cnt', mldPlain rest (i + 1) esc' cnt' = some (some (j, c)) → i ≤ j + 1 ∧ (x :: rest ≠ [] → i ≤ j) :=
      fun esc' cnt' h' => have := (mldPlain_le rest (i + 1) esc' cnt' j c h').1; ⟨by omega, fun _ => by omega⟩
    rw [mldPlain] at h
    by_cases h1 : (x = '\\' && !esc) = true
    · rw [if_pos h1] at h; exact ih _ _ h
    rw [if_neg h1] at h
    by_cases h2 : coreWs x = true
    · rw [if_pos h2] at h; cases h; exact ⟨by omega, fun _ => Nat.le_refl _⟩
    rw [if_neg h2] at h
    by_cases h3 : (!esc) = true
    · rw [if_pos h3] at h; exact ih _ _ h
    rw [if_neg h3] at h
    by_cases h4 : isControl x = true
    · rw [if_pos h4] at h; cases h
    · rw [if_neg h4] at h; exact ih _ _ h

theorem matchLinkDest_le (s : Str) (off : Nat) (a e : Nat) (d : Str) (hlt : off < s.length)
    (h : matchLinkDest s off = .ok (some (a, e, d))) : off ≤ e := by
  unfold matchLinkDest at h
  split at h
  · cases h
  · split at h
    · simp only [Res.ok.injEq] at h
      have := mldAngle_lt s off _ _ _ a e d h; omega
    · split at h
      · cases h
      · cases h
      · rename_i i cnt heq
        split at h
        · cases h
        · cases h
          have hne : s.drop off ≠ [] := by
            intro hh; have := List.drop_eq_nil_iff.mp hh; omega
          exact (mldPlain_le _ _ _ _ _ _ heq).2 hne

theorem mltGo_lt (s : Str) (off : Nat) (cl : Char) : ∀ (rest : Str) (i : Nat) (esc : Bool) (a e : Nat) (d : Str),
    mltGo s off cl rest i esc = some (a, e, d) → i < e
  | [], _, _, _, _, _, h => by simp [mltGo] at h
  | c :: rest, i, esc, a, e, d, h => by
    simp only [mltGo] at h
    split at h
    · have := mltGo_lt s off cl rest (i + 1) _ a e d h; omega
    · split at h
      · cases h; omega
      · have := mltGo_lt s off cl rest (i + 1) _ a e d h; omega

theorem matchLinkTitle_lt (s : Str) (off : Nat) (a e : Nat) (d : Str) (h : matchLinkTitle s off = some (a, e, d)) : off < e := by
  unfold matchLinkTitle at h
  split at h
  · cases h
  · simp only at h
    split at h
    · cases h
    · have := mltGo_lt s off _ _ _ _ a e d h; omega

theorem drop_cons_get {α} : ∀ (s : List α) (i : Nat) (c : α) (rest : List α), s.drop i = c :: rest → s[i]? = some c ∧ s.drop (i + 1) = rest
  | [], _, _, _, h => by simp at h
  | x :: xs, 0, c, rest, h => by simp at h; simp [h]
  | x :: xs, i + 1, c, rest, h => by
    simp only [List.drop_succ_cons] at h
    have := drop_cons_get xs i c rest h
    simpa using this

theorem lineEndGo_spec (s : Str) : ∀ (rest : Str) (i n : Nat), s.drop i = rest → lineEndGo s rest i = some n →
    i < n ∧ s[n - 1]? = some '\n'
  | [], _, _, _, h => by simp [lineEndGo] at h
  | c :: rest, i, n, hd, h => by
    have hg := drop_cons_get s i c rest hd
    simp only [lineEndGo] at h
    split at h
    · rename_i hc
      cases h
      subst hc
      exact ⟨by omega, by simpa using hg.1⟩
    · split at h
      · have := lineEndGo_spec s rest (i + 1) n hg.2 h
        exact ⟨by omega, this.2⟩
      · cases h

theorem takeWhile_stop {α} (p : α → Bool) : ∀ (l : List α), (l.takeWhile p).length < l.length →
    ∃ x, l[(l.takeWhile p).length]? = some x ∧ p x = false
  | [], h => by simp at h
  | x :: xs, h => by
    by_cases hx : p x = true
    · simp only [List.takeWhile_cons, hx, if_true, List.length_cons] at h ⊢
      have := takeWhile_stop p xs (by omega)
      simpa using this
    · simp only [List.takeWhile_cons, hx, Bool.false_eq_true, if_false, List.length_nil] 
      exact ⟨x, by simp, by simpa using hx⟩

theorem findNl_spec (s : Str) (a b k : Nat) (h : findNl s a b = some k) : s[a + k]? = some '\n' := by
  unfold findNl at h
  simp only at h
  split at h
  · rename_i hlt
    cases h
    obtain ⟨x, hx, hpx⟩ := takeWhile_stop _ _ hlt
    have hxe : x = '\n' := by simpa using hpx
    subst hxe
    unfold slice at hx
    rw [List.getElem?_take] at hx
    split at hx
    · rw [List.getElem?_drop] at hx; exact hx
    · cases hx
  · cases h

/-- **what a returning `Footnote.match_reference` read**: a label followed by ':', a destination, then nothing more on the
    line (also when what looked like a title is not followed by the end of the line), or a title and the end of the line -/
theorem matchReference_some {s : Str} {off next : Nat} {m : FnMatch} (h : matchReference s off = .ok (some (next, m))) :
    ∃ a labelEnd label a2 destEnd dest dt,
      matchLinkLabel s off = some (a, labelEnd, label) ∧ follows s (labelEnd - 1) ':' = true ∧
      shiftWhitespace s (labelEnd + 1) ≠ s.length ∧
      matchLinkDest s (shiftWhitespace s (labelEnd + 1)) = .ok (some (a2, destEnd, dest)) ∧
      ((∃ eol, findNl s destEnd (shiftWhitespace s destEnd) = some eol ∧ next = destEnd + eol + 1 ∧
          m = { label := label, dest := dest, title := [], destType := dt, titleDelim := none }) ∨
       (∃ a3 titleEnd title, matchLinkTitle s (shiftWhitespace s destEnd) = some (a3, titleEnd, title) ∧
          lineEndGo s (s.drop titleEnd) titleEnd = some next ∧
          m = { label := label, dest := dest, title := title, destType := dt,
                titleDelim := if shiftWhitespace s destEnd < titleEnd then s[shiftWhitespace s destEnd]? else none })) := by
  unfold matchReference at h
  cases hlab : matchLinkLabel s off with
  | none => rw [hlab] at h; cases h
  | some r =>
    obtain ⟨a, labelEnd, label⟩ := r
    rw [hlab] at h
    dsimp only at h
    by_cases hf : (!follows s (labelEnd - 1) ':') = true
    · rw [if_pos hf] at h; cases h
    rw [if_neg hf] at h
    by_cases hds : (shiftWhitespace s (labelEnd + 1) == s.length) = true
    · rw [if_pos hds] at h; cases h
    rw [if_neg hds] at h
    cases hdest : matchLinkDest s (shiftWhitespace s (labelEnd + 1)) with
    | err e' => rw [hdest] at h; cases h
    | ok d =>
      rw [hdest] at h
      cases d with
      | none => cases h
      | some d =>
        obtain ⟨a2, destEnd, dest⟩ := d
        dsimp only at h
        refine ⟨a, labelEnd, label, a2, destEnd, dest,
          if s[shiftWhitespace s (labelEnd + 1)]? == some '<' then "angle_uri".toList else "uri".toList,
          rfl, by simpa using hf, by simpa using hds, hdest, ?_⟩
        split at h
        · cases h
        · split at h
          · simp only [Res.ok.injEq] at h
            split at h
            · rename_i eol heol
              cases h
              exact .inl ⟨eol, heol, rfl, rfl⟩
            · cases h
          · rename_i a3 titleEnd title htitle
            split at h
            · rename_i nx hle2
              cases h
              exact .inr ⟨a3, titleEnd, title, htitle, hle2, rfl⟩
            · simp only [Res.ok.injEq] at h
              split at h
              · rename_i eol heol
                cases h
                exact .inl ⟨eol, heol, rfl, rfl⟩
              · cases h

theorem matchReference_spec (s : Str) (off next : Nat) (m : FnMatch) (h : matchReference s off = .ok (some (next, m))) :
    off < next ∧ s[next - 1]? = some '\n' := by
  obtain ⟨a, labelEnd, label, a2, destEnd, dest, _, hlab, hf, hne, hdest, hrest⟩ := matchReference_some h
  have h1 : off < labelEnd := mllGo_lt s off _ _ _ _ _ _ _ hlab
  have hlt : labelEnd + 1 ≤ s.length := by
    have : s[labelEnd - 1 + 1]? ≠ none := by
      intro hn; simp [follows, hn] at hf
    have : labelEnd - 1 + 1 < s.length :=
      Nat.lt_of_not_le (fun hh => this (List.getElem?_eq_none_iff.mpr hh))
    omega
  have hle := shiftWhitespace_le s (labelEnd + 1) hlt
  have hge := shiftWhitespace_ge s (labelEnd + 1)
  have h2 := matchLinkDest_le s _ _ _ _ (by omega) hdest
  have h3 := shiftWhitespace_ge s destEnd
  rcases hrest with ⟨eol, heol, rfl, _⟩ | ⟨a3, titleEnd, title, htitle, hle2, _⟩
  · have := findNl_spec s _ _ _ heol
    exact ⟨by omega, by simpa using this⟩
  · have h4 := matchLinkTitle_lt s _ _ _ _ htitle
    have := lineEndGo_spec s _ _ _ rfl hle2
    exact ⟨by omega, this.2⟩

/-- the `while offset < len(string) - 1` loop of Footnote.read: `len(string) + 2` rounds suffice -/
theorem footnoteRefs_noerr (s : Str) : ∀ (fuel off : Nat) (acc : List FnMatch) (e : Err),
    1 ≤ fuel → s.length + 1 ≤ fuel + off → footnoteRefs s fuel off acc ≠ .err e
  | 0, _, _, _, h, _ => by omega
  | fuel + 1, off, acc, e, _, hb => by
    intro h
    simp only [footnoteRefs] at h
    split at h
    · split at h
      · rename_i e' he; exact matchReference_noerr s off e' he
      · cases h
      · rename_i next m hm
        have := (matchReference_spec s off next m hm).1
        exact footnoteRefs_noerr s fuel next _ e (by omega) (by omega) h
    · cases h

theorem readFootnote_noerr (fw : FW) (e : Err) : readFootnote fw ≠ .err e := by
  intro h
  unfold readFootnote at h
  simp only at h
  split at h
  · rename_i e' he
    exact footnoteRefs_noerr _ _ 0 [] e' (by omega) (by omega) he
  · cases h

theorem footnoteRefs_back (s : Str) : ∀ (fuel off : Nat) (acc : List FnMatch) (ms) (k : Nat),
    footnoteRefs s fuel off acc = .ok (ms, some k) → (acc ≠ [] → count '\n' (s.drop off) < count '\n' s) → ms ≠ [] →
    k < count '\n' s
  | 0, _, _, _, _, h, _, _ => by simp [footnoteRefs] at h
  | fuel + 1, off, acc, ms, k, h, hq, hms => by
    simp only [footnoteRefs] at h
    split at h
    · split at h
      · cases h
      · cases h
        exact hq (by intro hh; apply hms; simp [hh])
      · rename_i next m hm
        have hsp := matchReference_spec s off next m hm
        refine footnoteRefs_back s fuel next _ ms k h (fun _ => ?_) hms
        have := count_drop_lt '\n' s (next - 1) hsp.2
        have e : next - 1 + 1 = next := by omega
        rw [e] at this; exact this
    · cases h

theorem readFootnote_adv {fw fw' : FW} {ms : List FnMatch} {l : Line} (hf : readFootnote fw = .ok (ms, fw'))
    (hms : ms.isEmpty = false) (hl : AllNlEnd fw.lines) (hp : fw.peek = some l) (hnb : isBlank l.s = false) : fw.pos < fw'.pos := by
  have hcount := footnoteLines_count (fw.remaining + 1) fw hl
  have hpos := (footnoteLines_first hl hp hnb).1
  unfold readFootnote at hf
  simp only at hf
  split at hf
  · cases hf
  · rename_i ms' back hrefs
    cases hf
    cases back with
    | none => simp only; omega
    | some k =>
      -- fewer lines are handed back than the text has newlines
      have := footnoteRefs_back _ _ _ _ _ _ hrefs (fun hh => absurd rfl hh) (by intro hh; rw [hh] at hms; simp at hms)
      simp only
      omega

/-! ### every token moves the cursor forward inside its buffer -/

theorem readList_fwd (cfg : Cfg) : ∀ (gas : Nat) (fw : FW) (st : St) (ld) (nm) (acc : List Item) (p0 : Nat) (r),
    readList cfg gas fw st ld nm acc = .ok r → (ld = none → p0 ≤ fw.pos) → (ld ≠ none → p0 < fw.pos) →
    Same fw r.2.1 ∧ p0 < r.2.1.pos
  | 0, _, _, _, _, _, _, _, h, _, _ => by simp [readList] at h
  | gas + 1, fw, st, ld, nm, acc, p0, r, h, h1, h2 => by
    rcases readList_ok h with ⟨hom, rfl⟩ | ⟨il, item, st', hil, _, hr⟩
    · obtain ⟨d, m, hd, _, _⟩ := otherMarkerType_some hom
      exact ⟨Same.refl fw, h2 (by rw [hd]; simp)⟩
    have hio := itemLines_fwd cfg fw nm il hil
    have hpos : p0 < il.fw.pos := by
      have := hio.2
      cases ld with
      | none => have := h1 rfl; omega
      | some x => have := h2 (by simp); omega
    rcases hr with ⟨_, rfl⟩ | ⟨_, h⟩
    · exact ⟨hio.1, hpos⟩
    · have := readList_fwd cfg gas il.fw _ _ _ _ p0 r h (by intro hh; cases hh) (fun _ => hpos)
      exact ⟨hio.1.trans this.1, this.2⟩

/-- on complete lines, the types that pass the line on leave the cursor where it is (`handedBack_later`), and the one that
    takes it has read at least that line -/
theorem tryTypes_fwd (cfg : Cfg) : ∀ (gas : Nat) (fw : FW) (st : St) (l : Line) (ts : List BTok) (e : Entry) (fw' : FW) (st' : St),
    AllNlEnd fw.lines → fw.peek = some l → tryTypes cfg gas fw st l ts = .ok (some (e, fw', st')) →
    Same fw fw' ∧ fw.pos < fw'.pos
  | 0, _, _, _, _, _, _, _, _, _, h => by simp [tryTypes] at h
  | gas + 1, _, _, _, [], _, _, _, _, _, h => by simp [tryTypes] at h
  | gas + 1, fw, st, l, t :: ts, e, fw', st', hl, hp, h => by
    have hn : fw.next.pos = fw.pos + 1 := rfl
    rcases tryTypes_some h with ⟨_, _, h⟩ | ⟨ms, fwf, _, _, hsw, hf, hms, h⟩ | ⟨rule, ec, hst⟩ | ⟨hst⟩ | ⟨_, _, _, _, hh⟩ |
      ⟨qls, qstart, _, b, stb, _, hq, _⟩ | ⟨m, _⟩ | _ | ⟨items, _, _, _, hrl⟩ | ⟨b, sl, _, _, ht⟩ |
      ⟨ms, _, hsw, hf, hms⟩ | ⟨ms, _, hsw, hf, hms⟩ | ⟨b, _, _, hpp⟩ | ⟨b, _, _, hpp⟩ | _
    · exact tryTypes_fwd cfg gas fw st l ts e fw' st' hl hp h
    · exact tryTypes_fwd cfg gas fw st l ts e fw' st' hl hp (handedBack_later hsw hf hms hl hp h)
    · exact ⟨readHtmlBlock_same fw _, readHtmlBlock_adv fw l ec rule hp hst⟩
    · exact ⟨readBlockCode_same fw, readBlockCode_adv fw l hp hst⟩
    · obtain ⟨_, _, _, _, rfl⟩ := readHeading_ok hh
      exact ⟨same_next fw, Nat.lt_succ_self _⟩
    · exact quoteLines_fwd cfg fw l _ hq
    · exact ⟨readCodeFence_same fw _, readCodeFence_adv fw m⟩
    · exact ⟨same_next fw, Nat.lt_succ_self _⟩
    · exact readList_fwd cfg gas fw st none none [] fw.pos _ hrl (fun _ => Nat.le_refl _) (fun hh => absurd rfl hh)
    · exact ⟨(readTable_same fw _ ht).1, readTable_adv fw _ ht⟩
    · exact ⟨readFootnote_same fw ms _ hf, readFootnote_adv hf hms hl hp (startsWith_lstrip_nb _ hsw)⟩
    · exact ⟨readFootnote_same fw ms _ hf, readFootnote_adv hf hms hl hp (startsWith_lstrip_nb _ hsw)⟩
    · exact ⟨readParagraph_same cfg _ fw l.s _ hpp, readParagraph_adv cfg _ fw l.s _ hpp⟩
    · exact ⟨readParagraph_same cfg _ fw l.s _ hpp, readParagraph_adv cfg _ fw l.s _ hpp⟩
    · exact ⟨same_next fw, Nat.lt_succ_self _⟩

/-! ## The outer gas

  The weight `lw` of a buffer (Block.lean: a tab weighs 4) strictly decreases into nested buffers (`quoteLines_lw`,
  `itemLines_lw`), so a gas quadratic in it suffices. -/

theorem cw_le (c : Char) : cw c ≤ 4 := by unfold cw; split <;> omega

theorem dropSp_sw (after : Str) : sw (match after with | ' ' :: r => r | r => r) ≤ sw after := by
  split
  · simp only [sw]; omega
  · exact Nat.le_refl _

/-! ### The explicit gas bound

  Every call of one of the four functions costs one unit.  A nested buffer weighs at least one less than the buffer it is cut
  from (`quoteLines_lw`, `itemLines_lw`), so with `K = gasK cfg W` for a buffer of weight `W` every nested call is paid by
  `gasBound nested ≤ W · K = gasBase` (`nested_bound`).  On top of `gasBase`, with `W` also bounding the number of lines
  (`length_le_lw`):
  * `List.read`: one unit per item, and each item takes at least a line (`itemLines_fwd`): the lines that remain, `+ 1` (`ListE`);
  * `tryTypes`: one unit per type passed over; then `Quote` (its nested call) or `List` (the lines that remain `+ 1 ≤ W + 1`),
    and its own unit: `|ts| + W + 2` (`TryE`);
  * the loop: one unit per round, and each round takes at least a line (`tryTypes_fwd`); then `tryTypes` on all the types:
    the lines that remain `+ |types| + W + 3` (`LoopE`);
  * `tokenize_block`: its own unit on top of the loop at the first line: `W · K + W + |types| + W + 4 = (W + 1) · K` (`TokE`),
    which is where `K = 2 · W + |types| + 4` comes from. -/

def gasK (cfg : Cfg) (W : Nat) : Nat := 2 * W + cfg.types.length + 4

/-- enough gas for `tokenize_block` on `lines`: quadratic in the weight of the buffer (number of
    characters, a tab counting 4), linear in the number of token types -/
def gasBound (cfg : Cfg) (lines : List Line) : Nat := (lw lines + 1) * gasK cfg (lw lines)

def gasBase (cfg : Cfg) (fw : FW) : Nat := lw fw.lines * gasK cfg (lw fw.lines)

theorem gasBound_eq (cfg : Cfg) (lines : List Line) :
    gasBound cfg lines = lw lines * gasK cfg (lw lines) + gasK cfg (lw lines) := by
  unfold gasBound; rw [Nat.succ_mul]

theorem nested_bound (cfg : Cfg) (buf : List Line) (fw : FW) (h : lw buf + 1 ≤ lw fw.lines) :
    gasBound cfg buf ≤ gasBase cfg fw :=
  Nat.mul_le_mul h (by unfold gasK; omega)

theorem gasBase_same (cfg : Cfg) (a b : FW) (h : Same a b) : gasBase cfg b = gasBase cfg a := by
  unfold gasBase; rw [h.1]

/-! ### On complete lines a run fails only for want of gas, and then it had less than the bound -/

def TokE (cfg : Cfg) (gas : Nat) : Prop :=
  ∀ (lines : List Line) (start : Nat) (st : St) (e : Err), AllNlEnd lines →
    tokenizeBlock cfg gas lines start st = .err e → e = .fuel ∧ gas < gasBound cfg lines

def LoopE (cfg : Cfg) (gas : Nat) : Prop :=
  ∀ (fw : FW) (st : St) (acc : List Entry) (loose : Bool) (e : Err), AllNlEnd fw.lines →
    tokLoop cfg gas fw st acc loose = .err e →
    e = .fuel ∧ gas < gasBase cfg fw + (fw.lines.length - fw.pos) + cfg.types.length + lw fw.lines + 3

def TryE (cfg : Cfg) (gas : Nat) : Prop :=
  ∀ (fw : FW) (st : St) (l : Line) (ts : List BTok) (e : Err), AllNlEnd fw.lines → fw.peek = some l →
    tryTypes cfg gas fw st l ts = .err e → e = .fuel ∧ gas < gasBase cfg fw + ts.length + lw fw.lines + 2

def ListE (cfg : Cfg) (gas : Nat) : Prop :=
  ∀ (fw : FW) (st : St) (ld) (nm) (acc : List Item) (e : Err), AllNlEnd fw.lines → fw.peek.isSome = true →
    (nm = none → ∃ l, fw.peek = some l ∧ (parseMarker l.s).isSome = true) →
    MarkerAt fw nm → readList cfg gas fw st ld nm acc = .err e → e = .fuel ∧ gas < gasBase cfg fw + (fw.lines.length - fw.pos) + 1

theorem list_e (cfg : Cfg) (gas : Nat) (hT : TokE cfg gas) (hL : ListE cfg gas) : ListE cfg (gas + 1) := by
  intro fw st ld nm acc e hl hpk hnm hmk h
  obtain ⟨l0, hp0⟩ := peek_of_isSome fw hpk
  have hlt := peek_lt fw l0 hp0
  rcases readList_err h with he | ⟨il, hil, hr⟩
  · exact absurd he (itemLines_noerr cfg fw nm _ hl hpk hnm)
  have hio := itemLines_fwd cfg fw nm il hil
  have hnl := itemLines_nl cfg fw nm il hil hl (hmk.ok hl)
  have hnp := itemLines_next_marker cfg fw nm il hil
  have hw := itemLines_lw cfg fw nm il hil hl hmk
  rcases hr with he | ⟨item, st', m0, _, hm0, h⟩
  · obtain ⟨buf, _, _, _, _, _, _, _, _, rfl, he2⟩ := readItem_err he
    have := nested_bound cfg buf fw hw
    have := hT _ _ _ _ hnl.1 he2
    exact ⟨this.1, by omega⟩
  · have hl' : AllNlEnd il.fw.lines := by rw [hio.1.1]; exact hl
    have hb' := gasBase_same cfg fw il.fw hio.1
    have hlen : il.fw.lines.length = fw.lines.length := by rw [hio.1.1]
    obtain ⟨l, hl1, hl2⟩ := hnp m0 hm0
    have := hL il.fw st' _ il.next _ e hl' (by simp [hl1]) (fun hh => by rw [hh] at hm0; cases hm0) hnp h
    have := hio.2
    rw [hb', hlen] at *
    exact ⟨‹_ ∧ _›.1, by omega⟩

theorem try_e (cfg : Cfg) (gas : Nat) (hT : TokE cfg gas) (hL : ListE cfg gas) (hY : TryE cfg gas) : TryE cfg (gas + 1) := by
  intro fw st l ts e hl hp h
  cases ts with
  | nil => simp [tryTypes] at h
  | cons t ts =>
    have hln := hl l (peek_mem fw l hp)
    have hlt := peek_lt fw l hp
    have hlenW := length_le_lw fw.lines hl
    simp only [List.length_cons]
    have ih := fun (h2 : tryTypes cfg gas fw st l ts = .err e) =>
      have := hY fw st l ts e hl hp h2
      (⟨this.1, by omega⟩ : e = .fuel ∧ gas + 1 < gasBase cfg fw + (ts.length + 1) + lw fw.lines + 2)
    rcases tryTypes_err h with h | ⟨ms, fwf, hsw, hf, hms, h⟩ | he | ⟨hq, he⟩ | ⟨qls, qstart, fwq, hql, he⟩ | ⟨hls, he⟩ |
      ⟨_, he⟩ | he
    · exact ih h
    · exact ih (handedBack_later hsw hf hms hl hp h)
    · exact absurd he (htmlBlockStart_noerr _ hln _)
    · exact absurd he (quoteLines_noerr cfg fw l _ hl hp hq)
    · have hb : gasBound cfg qls ≤ gasBase cfg fw := nested_bound cfg qls fw (quoteLines_lw cfg fw l _ hql hl hp)
      have := hT qls _ _ _ (quoteLines_nl cfg fw l _ hql hl hp) he
      exact ⟨this.1, by omega⟩
    · have := hL fw st none none [] _ hl (by simp [hp]) (fun _ => ⟨l, hp, listStart_parseMarker _ hls⟩)
        (.none fw) he
      exact ⟨this.1, by omega⟩
    · exact absurd he (readFootnote_noerr fw _)
    · exact absurd he (readParagraph_noerr cfg _ fw l _ hl hp)

theorem tokLoop_e (cfg : Cfg) (gas : Nat) (hY : TryE cfg gas) (hP : LoopE cfg gas) : LoopE cfg (gas + 1) := by
  intro fw st acc loose e hl h
  obtain ⟨l, hp, he | ⟨en, fw2, st2, ht, h⟩ | ⟨_, h⟩⟩ := tokLoop_err h
  all_goals have hlt := peek_lt fw l hp
  · have := hY fw st l cfg.types e hl hp he
    exact ⟨this.1, by omega⟩
  · have hf := tryTypes_fwd cfg gas fw st l cfg.types en fw2 st2 hl hp ht
    have hpos := hf.2
    have := hP fw2 st2 _ loose e (by rw [hf.1.1]; exact hl) h
    rw [gasBase_same cfg fw fw2 hf.1, hf.1.1] at this
    exact ⟨this.1, by omega⟩
  · have := hP fw.next st acc true e hl h
    have hn : fw.next.pos = fw.pos + 1 := rfl
    have e1 : fw.next.lines = fw.lines := rfl
    rw [gasBase_same cfg fw fw.next (same_next fw), e1, hn] at this
    exact ⟨this.1, by omega⟩

theorem tok_e (cfg : Cfg) (gas : Nat) (hP : LoopE cfg gas) : TokE cfg (gas + 1) := by
  intro lines start st e hl h
  simp only [tokenizeBlock] at h
  have hlenW := length_le_lw lines hl
  have := hP _ _ _ _ e hl h
  refine ⟨this.1, ?_⟩
  have := this.2
  rw [gasBound_eq]
  simp only [gasBase] at this
  unfold gasK at *
  omega

theorem all_e (cfg : Cfg) : ∀ (gas : Nat), TokE cfg gas ∧ LoopE cfg gas ∧ TryE cfg gas ∧ ListE cfg gas
  | 0 => by
    refine ⟨?_, ?_, ?_, ?_⟩
    · intro lines start st e _ h; cases h; exact ⟨rfl, by rw [gasBound_eq]; unfold gasK; omega⟩
    · intro fw st acc loose e _ h; cases h; exact ⟨rfl, by omega⟩
    · intro fw st l ts e _ _ h; cases h; exact ⟨rfl, by omega⟩
    · intro fw st ld nm acc e _ _ _ _ h; cases h; exact ⟨rfl, by omega⟩
  | gas + 1 => by
    obtain ⟨hT, hP, hY, hL⟩ := all_e cfg gas
    exact ⟨tok_e cfg gas hP, tokLoop_e cfg gas hY hP, try_e cfg gas hT hL hY, list_e cfg gas hT hL⟩

/-- **tokenize_block never raises** on complete lines: the only error the model can report is
    running out of the structural `gas`. -/
theorem tokenizeBlock_no_raise (cfg : Cfg) (gas : Nat) (lines : List Line) (start : Nat) (st : St) (e : Err)
    (hl : AllNlEnd lines) (h : tokenizeBlock cfg gas lines start st = .err e) : e = .fuel :=
  ((all_e cfg gas).1 lines start st e hl h).1

theorem blockPhase_no_raise (cfg : Cfg) (gas : Nat) (lines : List Str) (e : Err)
    (hl : ∀ s ∈ lines, NlEnd s) (h : blockPhase cfg gas lines = .err e) : e = .fuel :=
  tokenizeBlock_no_raise cfg gas _ 1 {} e (allNlEnd_zipIdx lines 0 hl) h

theorem tokenizeBlock_enough_gas (cfg : Cfg) (gas : Nat) (lines : List Line) (start : Nat) (st : St)
    (hg : gasBound cfg lines ≤ gas) (hl : AllNlEnd lines) : tokenizeBlock cfg gas lines start st ≠ .err .fuel :=
  fun h => absurd ((all_e cfg gas).1 lines start st _ hl h).2 (by omega)

/-- **tokenize_block terminates and returns** on complete lines, given `gasBound` gas -/
theorem tokenizeBlock_total (cfg : Cfg) (gas : Nat) (lines : List Line) (start : Nat) (st : St)
    (hg : gasBound cfg lines ≤ gas) (hl : AllNlEnd lines) : ∃ r, tokenizeBlock cfg gas lines start st = .ok r := by
  cases h : tokenizeBlock cfg gas lines start st with
  | ok r => exact ⟨r, rfl⟩
  | err e =>
    have := tokenizeBlock_no_raise cfg gas lines start st e hl h
    subst this
    exact absurd h (tokenizeBlock_enough_gas cfg gas lines start st hg hl)

/-! ### The gas is irrelevant once it suffices

  (for `List.read` take `(all_m cfg g).2.2.2`, one step; no `_mono` form is stated) -/

def TokM (cfg : Cfg) (gas : Nat) : Prop :=
  ∀ (lines : List Line) (start : Nat) (st : St) (r), tokenizeBlock cfg gas lines start st = .ok r →
    tokenizeBlock cfg (gas + 1) lines start st = .ok r

def LoopM (cfg : Cfg) (gas : Nat) : Prop :=
  ∀ (fw : FW) (st : St) (acc : List Entry) (loose : Bool) (r), tokLoop cfg gas fw st acc loose = .ok r →
    tokLoop cfg (gas + 1) fw st acc loose = .ok r

def TryM (cfg : Cfg) (gas : Nat) : Prop :=
  ∀ (fw : FW) (st : St) (l : Line) (ts : List BTok) (r), tryTypes cfg gas fw st l ts = .ok r →
    tryTypes cfg (gas + 1) fw st l ts = .ok r

def ListM (cfg : Cfg) (gas : Nat) : Prop :=
  ∀ (fw : FW) (st : St) (ld) (nm) (acc : List Item) (r), readList cfg gas fw st ld nm acc = .ok r →
    readList cfg (gas + 1) fw st ld nm acc = .ok r

theorem tok_m (cfg : Cfg) (gas : Nat) (hP : LoopM cfg gas) : TokM cfg (gas + 1) := by
  intro lines start st r h
  simp only [tokenizeBlock] at h ⊢
  exact hP _ _ _ _ _ h

theorem tokLoop_m (cfg : Cfg) (g : Nat) (hY : TryM cfg g) (hP : LoopM cfg g) : LoopM cfg (g + 1) := by
  intro fw st acc loose r h
  simp only [tokLoop] at h ⊢
  cases hp : fw.peek with
  | none => simp only [hp] at h ⊢; exact h
  | some l =>
    simp only [hp] at h ⊢
    cases ht : tryTypes cfg g fw st l cfg.types with
    | err e => simp [ht] at h
    | ok o =>
      simp only [ht, hY _ _ _ _ _ ht] at h ⊢
      cases o with
      | none => exact hP _ _ _ _ _ h
      | some x => exact hP _ _ _ _ _ h

theorem readItem_m (cfg : Cfg) (g : Nat) (hT : TokM cfg g) (st : St) (il : ItemLines) (r)
    (h : readItem cfg g st il = .ok r) : readItem cfg (g + 1) st il = .ok r := by
  cases il with
  | empty => exact h
  | lines buf cs =>
    simp only [readItem] at h ⊢
    cases hb : tokenizeBlock cfg g buf cs st with
    | err e => simp [hb] at h
    | ok bb => simp only [hb, hT _ _ _ _ hb] at h ⊢; exact h

theorem list_m (cfg : Cfg) (g : Nat) (hT : TokM cfg g) (hL : ListM cfg g) : ListM cfg (g + 1) := by
  intro fw st ld nm acc r h
  rw [readList_succ] at h ⊢
  by_cases hom : otherMarkerType ld nm = true
  · simpa only [hom, if_true] using h
  simp only [hom, Bool.false_eq_true, if_false] at h ⊢
  cases hil : itemLines cfg fw nm with
  | err e => simp [hil] at h
  | ok il =>
    simp only [hil] at h ⊢
    cases hi : readItem cfg g st il with
    | err e => simp [hi] at h
    | ok x =>
      simp only [hi, readItem_m cfg g hT st il x hi] at h ⊢
      cases hn : il.next with
      | none => simpa only [hn] using h
      | some m => simp only [hn] at h ⊢; exact hL _ _ _ _ _ _ h

theorem try_m (cfg : Cfg) (g : Nat) (hT : TokM cfg g) (hL : ListM cfg g) (hY : TryM cfg g) : TryM cfg (g + 1) := by
  intro fw st l ts r h
  cases ts with
  | nil => simpa [tryTypes] using h
  | cons t ts =>
    -- a type that declines, declines whatever the gas; one that accepts returns the same when the nested calls do
    rcases tryTypes_some h with ⟨_, hd, h⟩ | ⟨ms, fwf, _, ht, hsw, hf, hms, h⟩ | ⟨rule, ec, hst⟩ | hst | ⟨lvl, c, cl, fw', hh⟩ |
      ⟨qls, qstart, fw', b, stb, hqs, hq, hb⟩ | ⟨m, hm⟩ | hst | ⟨items, fw', st', hls, hrl⟩ | ⟨b, sl, fw', hbar, ht⟩ |
      ⟨ms, fw', hsw, hf, hms⟩ | ⟨ms, fw', hsw, hf, hms⟩ | ⟨b, fw', hnb, hpp⟩ | ⟨b, fw', hnb, hpp⟩ | hst
    · rw [tryTypes_decline hd]; exact hY _ _ l ts _ h
    · rw [tryTypes_handedBack ht hsw hf hms]; exact hY _ _ l ts _ h
    · exact tryTypes_hit_htmlBlock hst
    · exact tryTypes_hit_blockCode hst
    · exact tryTypes_hit_heading hh
    · rw [tryTypes_hit_quote hqs hq, hT _ _ _ _ hb]; rfl
    · exact tryTypes_hit_codeFence hm
    · exact tryTypes_hit_thematicBreak hst
    · exact tryTypes_hit_list hls (hL _ _ _ _ _ _ hrl)
    · exact tryTypes_hit_table hbar ht
    · exact tryTypes_hit_def (.inl rfl) hsw hf hms
    · exact tryTypes_hit_def (.inr rfl) hsw hf hms
    · exact tryTypes_hit_setext hnb hpp
    · exact tryTypes_hit_paragraph hnb hpp
    · exact tryTypes_hit_blankLine hst

theorem all_m (cfg : Cfg) : ∀ (gas : Nat), TokM cfg gas ∧ LoopM cfg gas ∧ TryM cfg gas ∧ ListM cfg gas
  | 0 => by
    refine ⟨?_, ?_, ?_, ?_⟩
    · intro lines start st r h; simp [tokenizeBlock] at h
    · intro fw st acc loose r h; simp [tokLoop] at h
    · intro fw st l ts r h; simp [tryTypes] at h
    · intro fw st ld nm acc r h; simp [readList] at h
  | gas + 1 => by
    obtain ⟨hT, hP, hY, hL⟩ := all_m cfg gas
    exact ⟨tok_m cfg gas hP, tokLoop_m cfg gas hY hP, try_m cfg gas hT hL hY, list_m cfg gas hT hL⟩

theorem tokenizeBlock_mono (cfg : Cfg) (lines : List Line) (start : Nat) (st : St) (r) :
    ∀ (g g' : Nat), g ≤ g' → tokenizeBlock cfg g lines start st = .ok r → tokenizeBlock cfg g' lines start st = .ok r := by
  intro g g' hle h
  obtain ⟨k, rfl⟩ := Nat.exists_eq_add_of_le hle
  induction k with
  | zero => exact h
  | succ k ih => exact (all_m cfg (g + k)).1 lines start st r (ih (Nat.le_add_right _ _))

theorem tokLoop_mono (cfg : Cfg) (fw : FW) (st : St) (acc : List Entry) (loose : Bool) (r) :
    ∀ (g g' : Nat), g ≤ g' → tokLoop cfg g fw st acc loose = .ok r → tokLoop cfg g' fw st acc loose = .ok r := by
  intro g g' hle h
  induction hle with
  | refl => exact h
  | step _ ih => exact (all_m cfg _).2.1 _ _ _ _ _ ih

theorem tryTypes_mono (cfg : Cfg) (fw : FW) (st : St) (l : Line) (ts : List BTok) (r) :
    ∀ (g g' : Nat), g ≤ g' → tryTypes cfg g fw st l ts = .ok r → tryTypes cfg g' fw st l ts = .ok r := by
  intro g g' hle h
  induction hle with
  | refl => exact h
  | step _ ih => exact (all_m cfg _).2.2.1 _ _ _ _ _ ih

/-! ### The block phase of `Document(lines)` -/

/-- the buffer `Document.__init__` hands to `tokenize_block` (ghost origins attached) -/
def docBuf (lines : List Str) : List Line := lines.zipIdx.map (fun (s, i) => { s := s, origin := i + 1 })

theorem blockPhase_eq (cfg : Cfg) (gas : Nat) (lines : List Str) :
    blockPhase cfg gas lines = tokenizeBlock cfg gas (docBuf lines) 1 {} := rfl

theorem lw_zipIdx : ∀ (ls : List Str) (k : Nat),
    lw ((ls.zipIdx k).map (fun (s, i) => ({ s := s, origin := i + 1 } : Line))) = (ls.map sw).sum
  | [], _ => rfl
  | x :: xs, k => by
    simp only [List.zipIdx_cons, List.map_cons, lw, List.sum_cons, lw_zipIdx xs (k + 1)]

theorem lw_docBuf (lines : List Str) : lw (docBuf lines) = (lines.map sw).sum := lw_zipIdx lines 0

theorem blockPhase_total (cfg : Cfg) (gas : Nat) (lines : List Str) (hl : ∀ s ∈ lines, NlEnd s)
    (hg : gasBound cfg (docBuf lines) ≤ gas) : ∃ r, blockPhase cfg gas lines = .ok r :=
  tokenizeBlock_total cfg gas _ 1 {} hg (allNlEnd_zipIdx lines 0 hl)

theorem blockPhase_gas_mono (cfg : Cfg) (lines : List Str) (r) (g g' : Nat) (hle : g ≤ g')
    (h : blockPhase cfg g lines = .ok r) : blockPhase cfg g' lines = .ok r :=
  tokenizeBlock_mono cfg _ 1 {} r g g' hle h

end Mistletoe.Block

namespace Mistletoe.Props.C13
open Mistletoe Mistletoe.Block Mistletoe.Lines

/-! ### `Document.__init__` hands the tokenizer complete lines -/

theorem complete_of_noNl (b : Str) (h : '\n' ∉ b) : NlEnd (complete b) := by
  unfold complete
  have : endsWithNl b = false := by
    induction b with
    | nil => rfl
    | cons c rest ih =>
      have hc : c ≠ '\n' := fun e => h (by simp [e])
      have hr : '\n' ∉ rest := fun e => h (List.mem_cons_of_mem _ e)
      cases rest with
      | nil => simp [endsWithNl, hc]
      | cons d r => rw [endsWithNl_cons_cons]; exact ih hr
  simp only [this, Bool.false_eq_true, if_false]
  exact ⟨b, rfl, h⟩

theorem complete_of_nl (b : Str) (h : '\n' ∉ b) : NlEnd (complete (b ++ ['\n'])) := by
  unfold complete
  simp only [endsWithNl_snoc, if_true]
  exact ⟨b, rfl, h⟩

theorem splitlines_complete : ∀ (t acc : Str), '\n' ∉ acc → ∀ x ∈ (splitlinesAux t acc).map complete, NlEnd x
  | [], acc, ha => by
    unfold splitlinesAux
    split
    · intro x hx; cases hx
    · intro x hx
      simp only [List.map_cons, List.map_nil, List.mem_singleton] at hx
      subst hx
      exact complete_of_noNl _ (by simpa using ha)
  | c :: rest, acc, ha => by
    unfold splitlinesAux
    split
    · rename_i hc
      split
      · rename_i rest'
        intro x hx
        simp only [List.map_cons, List.mem_cons] at hx
        rcases hx with rfl | hx
        · have : ('\n' :: '\r' :: acc).reverse = (acc.reverse ++ ['\r']) ++ ['\n'] := by simp
          rw [this]
          exact complete_of_nl _ (by simp only [List.mem_append, List.mem_reverse, List.mem_singleton, not_or]; exact ⟨ha, by decide⟩)
        · exact splitlines_complete rest' [] (by simp) x hx
      · intro x hx
        simp only [List.map_cons, List.mem_cons] at hx
        rcases hx with rfl | hx
        · exact complete_of_noNl _ (by simp only [List.mem_reverse, List.mem_cons, not_or]; exact ⟨by decide, ha⟩)
        · exact splitlines_complete rest [] (by simp) x hx
    · split
      · intro x hx
        simp only [List.map_cons, List.mem_cons] at hx
        rcases hx with rfl | hx
        · by_cases hn : c = '\n'
          · subst hn
            have : ('\n' :: acc).reverse = acc.reverse ++ ['\n'] := by simp
            rw [this]
            exact complete_of_nl _ (by simpa using ha)
          · exact complete_of_noNl _ (by simp only [List.mem_reverse, List.mem_cons, not_or]; exact ⟨fun e => hn e.symm, ha⟩)
        · exact splitlines_complete rest [] (by simp) x hx
      · rename_i hsep
        have hn : c ≠ '\n' := by
          intro e; subst e; exact hsep (by decide)
        exact splitlines_complete rest (c :: acc) (by simp only [List.mem_cons, not_or]; exact ⟨fun e => hn e.symm, ha⟩)
termination_by t => t.length
decreasing_by all_goals (subst_vars; simp only [List.length_cons]; omega)

/-- every line `Document(text)` (a `str`) hands to the tokenizer ends with its only '\n' -/
theorem normalize_str_nlEnd (t : Str) : ∀ x ∈ normalize (.str t), NlEnd x :=
  splitlines_complete t [] (by simp)

end Mistletoe.Props.C13
