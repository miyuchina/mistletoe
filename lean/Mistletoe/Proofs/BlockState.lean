/-
  What a returning run of the block phase does to the state `St`, one simultaneous induction over the shared `gas` of
  `tokenizeBlock` / `tokLoop` / `tryTypes` / `readList` (`all_s`): the link reference definitions of what it returns are
  appended to `St.defs`, in document pre-order through block quotes and list items (`defsOfEntries`), and
  `Paragraph.parse_setext`, if `True` at the start, is `True` again (`Quote.read` switches it off for the nested
  call only).  `Grows st st' ds` says both.  `Proofs/DefOrder.lean` reads off the order of the definitions (C07),
  `Proofs/Locality.lean` and C05 that a top-level read leaves `parse_setext` on.
-/
import Mistletoe.Proofs.Block
namespace Mistletoe.Block
open Mistletoe Mistletoe.Py Mistletoe.Scan

mutual
/-- the link reference definitions registered by one buffer entry, in document order -/
def defsOfEntry : Entry → List FnMatch
  | .blockCode _ _ _ => []
  | .heading _ _ _ _ _ => []
  | .quote inner _ _ _ => defsOfEntries inner
  | .codeFence _ _ _ _ _ _ _ => []
  | .thematicBreak _ _ _ => []
  | .list items _ _ => defsOfItems items
  | .table _ _ _ _ => []
  | .footnote ms _ _ => ms
  | .linkRefDefs ms _ _ => ms
  | .paragraph _ _ _ => []
  | .setext _ _ _ => []
  | .htmlBlock _ _ _ => []
  | .blankLine _ _ => []
def defsOfEntries : List Entry → List FnMatch
  | [] => []
  | e :: es => defsOfEntry e ++ defsOfEntries es
def defsOfItem : Item → List FnMatch
  | .mk inner _ _ _ _ _ _ => defsOfEntries inner
def defsOfItems : List Item → List FnMatch
  | [] => []
  | i :: is => defsOfItem i ++ defsOfItems is
end

theorem defsOfEntries_append : ∀ (a b : List Entry), defsOfEntries (a ++ b) = defsOfEntries a ++ defsOfEntries b
  | [], b => by simp [defsOfEntries]
  | x :: xs, b => by
    simp only [List.cons_append, defsOfEntries, List.append_assoc]
    rw [defsOfEntries_append xs b]

theorem defsOfItems_append : ∀ (a b : List Item), defsOfItems (a ++ b) = defsOfItems a ++ defsOfItems b
  | [], b => by simp [defsOfItems]
  | x :: xs, b => by
    simp only [List.cons_append, defsOfItems, List.append_assoc]
    rw [defsOfItems_append xs b]

theorem defsOfEntries_snoc (a : List Entry) (e : Entry) :
    defsOfEntries (e :: a).reverse = defsOfEntries a.reverse ++ defsOfEntry e := by
  rw [List.reverse_cons, defsOfEntries_append]
  simp [defsOfEntries]

theorem defsOfItems_snoc (a : List Item) (i : Item) :
    defsOfItems (i :: a).reverse = defsOfItems a.reverse ++ defsOfItem i := by
  rw [List.reverse_cons, defsOfItems_append]
  simp [defsOfItems]

def Grows (st st' : St) (ds : List FnMatch) : Prop := st'.defs = st.defs ++ ds ∧ (st.setext = true → st'.setext = true)

theorem Grows.nil (st : St) : Grows st st [] := ⟨by simp, id⟩

theorem Grows.trans {a b c : St} {x y : List FnMatch} (h1 : Grows a b x) (h2 : Grows b c y) : Grows a c (x ++ y) :=
  ⟨by rw [h2.1, h1.1, List.append_assoc], fun h => h2.2 (h1.2 h)⟩

def TokS (cfg : Cfg) (gas : Nat) : Prop :=
  ∀ (lines : List Line) (start : Nat) (st : St) (b : Buf) (st' : St),
    tokenizeBlock cfg gas lines start st = .ok (b, st') → Grows st st' (defsOfEntries b.entries)

def LoopS (cfg : Cfg) (gas : Nat) : Prop :=
  ∀ (fw : FW) (st : St) (acc : List Entry) (loose : Bool) (b : Buf) (st' : St) (s0 : St),
    tokLoop cfg gas fw st acc loose = .ok (b, st') → Grows s0 st (defsOfEntries acc.reverse) →
    Grows s0 st' (defsOfEntries b.entries)

def TryS (cfg : Cfg) (gas : Nat) : Prop :=
  ∀ (fw : FW) (st : St) (l : Line) (ts : List BTok) (e : Entry) (fw' : FW) (st' : St),
    tryTypes cfg gas fw st l ts = .ok (some (e, fw', st')) → Grows st st' (defsOfEntry e)

def ListS (cfg : Cfg) (gas : Nat) : Prop :=
  ∀ (fw : FW) (st : St) (ld) (nm) (acc : List Item) (r : List Item × FW × St) (s0 : St),
    readList cfg gas fw st ld nm acc = .ok r → Grows s0 st (defsOfItems acc.reverse) → Grows s0 r.2.2 (defsOfItems r.1)

theorem defsOfItems_lastTight : ∀ (items : List Item), defsOfItems (lastTight items).reverse = defsOfItems items.reverse
  | [] => rfl
  | .mk .. :: xs => by
    simp only [lastTight]
    rw [defsOfItems_snoc, defsOfItems_snoc]
    simp [defsOfItem]

theorem list_s (cfg : Cfg) (gas : Nat) (hT : TokS cfg gas) (hL : ListS cfg gas) : ListS cfg (gas + 1) := by
  intro fw st ld nm acc r s0 h hacc
  rcases readList_ok h with ⟨_, rfl⟩ | ⟨il, item, st', _, hit, hr⟩
  · rw [defsOfItems_lastTight]; exact hacc
  have hk : Grows st st' (defsOfItem item) := by
    rcases readItem_ok hit with ⟨_, _, _, _, _, _, _, _, rfl, rfl⟩ | ⟨_, _, _, _, _, _, _, _, _, b, _, hb, rfl⟩
    · exact Grows.nil _
    · exact hT _ _ _ _ _ hb
  have hacc' : Grows s0 st' (defsOfItems (item :: acc).reverse) := by
    rw [defsOfItems_snoc]; exact hacc.trans hk
  rcases hr with ⟨_, rfl⟩ | ⟨_, h⟩
  · rw [defsOfItems_lastTight]; exact hacc'
  · exact hL il.fw st' _ _ _ r s0 h hacc'

theorem try_s (cfg : Cfg) (gas : Nat) (hT : TokS cfg gas) (hL : ListS cfg gas) (hY : TryS cfg gas) : TryS cfg (gas + 1) := by
  intro fw st l ts e fw' st' h
  cases ts with
  | nil => simp [tryTypes] at h
  | cons t ts =>
    -- only the nested `tokenizeBlock`, `readList` and the two readers of definitions touch the state
    have hdefs : ∀ ms, Grows st { st with defs := st.defs ++ ms } ms := fun ms => ⟨rfl, id⟩
    rcases tryTypes_some h with ⟨_, _, h⟩ | ⟨ms, fwf, _, _, _, _, hms, h⟩ | _ | _ | _ |
      ⟨_, _, _, b, stb, _, _, hb⟩ | _ | _ | ⟨items, _, _, _, hrl⟩ | _ | ⟨ms, _, _, _, _⟩ | ⟨ms, _, _, _, _⟩ | _ | _ | _
    · exact hY fw st l ts e fw' st' h
    · -- `Footnote.read` found nothing: `st.defs ++ [] = st.defs`
      have hnil : ms = [] := by simpa using hms
      subst hnil
      exact (hdefs []).trans (hY fwf _ l ts e fw' st' h)
    · exact Grows.nil st
    · exact Grows.nil st
    · exact Grows.nil st
    · -- the nested call runs with `parse_setext = False`; it is set again afterwards
      exact ⟨(hT _ _ _ _ _ hb).1, fun _ => rfl⟩
    · exact Grows.nil st
    · exact Grows.nil st
    · exact hL fw st none none [] _ st hrl (Grows.nil st)
    · exact Grows.nil st
    · exact hdefs ms
    · exact hdefs ms
    · exact Grows.nil st
    · exact Grows.nil st
    · exact Grows.nil st

theorem tokLoop_s (cfg : Cfg) (gas : Nat) (hY : TryS cfg gas) (hPl : LoopS cfg gas) : LoopS cfg (gas + 1) := by
  intro fw st acc loose b st' s0 h hacc
  rcases tokLoop_ok h with ⟨_, rfl, rfl⟩ | ⟨l, _, ⟨e, fw2, st2, ht, h⟩ | ⟨_, h⟩⟩
  · exact hacc
  · refine hPl fw2 st2 _ loose b st' s0 h ?_
    rw [defsOfEntries_snoc]; exact hacc.trans (hY fw st l cfg.types e fw2 st2 ht)
  · exact hPl fw.next st acc true b st' s0 h hacc

theorem tok_s (cfg : Cfg) (gas : Nat) (hPl : LoopS cfg gas) : TokS cfg (gas + 1) := by
  intro lines start st b st' h
  simp only [tokenizeBlock] at h
  exact hPl _ _ _ _ _ _ st h (Grows.nil st)

theorem all_s (cfg : Cfg) : ∀ (gas : Nat), TokS cfg gas ∧ LoopS cfg gas ∧ TryS cfg gas ∧ ListS cfg gas
  | 0 => by
    refine ⟨?_, ?_, ?_, ?_⟩
    · intro lines start st b st' h; simp [tokenizeBlock] at h
    · intro fw st acc loose b st' s0 h; simp [tokLoop] at h
    · intro fw st l ts e fw' st' h; simp [tryTypes] at h
    · intro fw st ld nm acc r s0 h; simp [readList] at h
  | gas + 1 => by
    obtain ⟨hT, hPl, hY, hL⟩ := all_s cfg gas
    exact ⟨tok_s cfg gas hPl, tokLoop_s cfg gas hY hPl, try_s cfg gas hT hL hY, list_s cfg gas hT hL⟩

theorem tokenizeBlock_setext (cfg : Cfg) (gas : Nat) (lines : List Line) (start : Nat) (st : St) (r : Buf × St)
    (hs : st.setext = true) (h : tokenizeBlock cfg gas lines start st = .ok r) : r.2.setext = true :=
  ((all_s cfg gas).1 lines start st r.1 r.2 h).2 hs
end Mistletoe.Block
