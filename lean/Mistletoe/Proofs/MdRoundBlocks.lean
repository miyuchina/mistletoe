/-
  C09 (Markdown round trip) for the blocks `Blk`: prose paragraphs, ATX headings "# text" and thematic breaks ("***",
  "---", "___") in the renderer's normal form, in documents where single empty lines separate them, under the Markdown
  renderer's token list (`markdownTypes`: `LinkReferenceDefinitionBlock`, `BlankLine`, … — every "\n" line is a
  `BlankLine` token).

  Which token type takes a line is read off its first character (`declines_first`, `tokLoop_first`).  The composition
  itself: C05's concatenation theorem needs `BlankLine ∉ types`, so the `while line is not None` loop is followed directly,
  as in `tokLoop_doc` (`Proofs/Inert.lean`): one step per block here (`tokLoop_blk_step`), the loop over a document in
  `Proofs/MdRoundDoc.lean`.  `readHeading_line` (`Heading.read` on the plain spelling `# text`) also serves C03
  (`Compose.headLine_atx`).
-/
import Mistletoe.Proofs.MdRound
namespace Mistletoe.MdRound
open Mistletoe Mistletoe.Py Mistletoe.Scan Mistletoe.Block Mistletoe.Wrap Mistletoe.Markdown Mistletoe.InertInline
open Mistletoe.Props.C14 (inertLine markdownTypes numbered numbered_cons numbered_s numbered_mem)

/-- `Compose.hashes` is the same function, declared for the C03 trees -/
def hashes (n : Nat) : Str := List.replicate n '#'

theorem span_replicate (c : Char) (n : Nat) (rest : Str) (h : rest.head? ≠ some c) :
    span (· == c) (List.replicate n c ++ rest) = (List.replicate n c, rest) :=
  span_prefix _ _ _ (fun x hx => by rw [(List.mem_replicate.mp hx).2]; simp)
    (fun x hx => by simpa using fun e : x = c => h (e ▸ hx))

theorem closingSeq_noHash (q : Str) (h : '#' ∉ q) : closingSeq q = none := by
  unfold closingSeq
  simp only
  split
  · rfl
  · have hsuf := span_suffix ws q
    have hq : '#' ∉ (span ws q).2 := fun e => h (hsuf.subset e)
    have : (span (· == '#') (span ws q).2).1 = [] := by
      cases hr : (span ws q).2 with
      | nil => rfl
      | cons c r =>
        have : c ≠ '#' := fun e => hq (by rw [hr, e]; simp)
        simp [span, this]
    simp [this]

/-- `(.*?)(\n|\s+?#+\s*?$)` on a text without `#` and without newline: the whole text, then "\n" -/
theorem headingTail_plain : ∀ (t acc : Str), '#' ∉ t → '\n' ∉ t →
    headingTail (t ++ ['\n']) acc = some (acc.reverse ++ t, ['\n'])
  | [], acc, _, _ => by simp [headingTail]
  | c :: rest, acc, h1, h2 => by
    have hc : c ≠ '\n' := fun e => h2 (by simp [e])
    have hcs : closingSeq (c :: (rest ++ ['\n'])) = none := by
      apply closingSeq_noHash
      intro e
      rcases List.mem_cons.mp e with e | e
      · exact h1 (by rw [← e]; simp)
      · rcases List.mem_append.mp e with e | e
        · exact h1 (List.mem_cons_of_mem _ e)
        · simp at e
    simp only [List.cons_append, headingTail, hc, if_false, hcs]
    rw [headingTail_plain rest (c :: acc) (fun e => h1 (List.mem_cons_of_mem _ e)) (fun e => h2 (List.mem_cons_of_mem _ e))]
    simp

theorem heading_line (lv : Nat) (t : Str) (h1 : 1 ≤ lv) (h6 : lv ≤ 6) (hh : '#' ∉ t) (hn : '\n' ∉ t) :
    Scan.heading (hashes lv ++ ' ' :: t ++ ['\n']) = some { level := lv, g2 := some t, g3 := some ['\n'] } := by
  obtain ⟨m, rfl⟩ : ∃ m, lv = m + 1 := ⟨lv - 1, by omega⟩
  have hup : upTo3Spaces (hashes (m + 1) ++ ' ' :: t ++ ['\n']) = some (0, hashes (m + 1) ++ ' ' :: t ++ ['\n']) := by
    simp [upTo3Spaces, hashes, List.replicate_succ, countLeading]
  unfold Scan.heading
  rw [hup]
  have hsp : span (· == '#') (hashes (m + 1) ++ ' ' :: t ++ ['\n']) = (hashes (m + 1), ' ' :: (t ++ ['\n'])) := by
    have := span_replicate '#' (m + 1) (' ' :: (t ++ ['\n'])) (by simp)
    simpa [hashes] using this
  simp only [hsp]
  have hl : (hashes (m + 1)).length = m + 1 := by simp [hashes]
  have hc : ¬ ((hashes (m + 1)).length < 1 || (hashes (m + 1)).length > 6) = true := by
    rw [hl]; simp; omega
  rw [if_neg hc]
  have hws : ws ' ' = true := by decide
  simp only [hl]
  simp
  exact ⟨hws, by rw [headingTail_plain t [] hh hn]; simp⟩

theorem readHeading_line (fw : FW) (lv : Nat) (t : Str) (h1 : 1 ≤ lv) (h6 : lv ≤ 6) (hh : '#' ∉ t) (hn : '\n' ∉ t)
    (hs : strip t = t) (hne : t ≠ []) :
    readHeading fw (hashes lv ++ ' ' :: t ++ ['\n']) = some (lv, t, [], fw.next) := by
  unfold readHeading
  rw [heading_line lv t h1 h6 hh hn]
  simp only [Option.getD_some, hs, show strip ['\n'] = [] by decide]
  have : (!t.isEmpty && t.all (· == '#')) = false := by
    cases t with
    | nil => exact absurd rfl hne
    | cons c r =>
      have : c ≠ '#' := fun e => hh (by simp [e])
      simp [this]
  simp [this]

structure HeadOk (lv : Nat) (t : Str) : Prop where
  h1 : 1 ≤ lv
  h6 : lv ≤ 6
  ne : t ≠ []
  inert : inertText t = true
  nohash : '#' ∉ t
  stripped : strip t = t
  /-- no proof reads this: where quotes need tab-free lines the theorems ask for them outright (`hnt`) -/
  notab : '\t' ∉ t
  nosep : ∀ c ∈ t, isLineSep c = false

theorem headOk_nonl {lv : Nat} {t : Str} (h : HeadOk lv t) : '\n' ∉ t := nosep_nonl t h.nosep

theorem hr_lead (c : Char) (hc : c = '*' ∨ c = '-' ∨ c = '_') : LeadChar c := by
  rcases hc with rfl | rfl | rfl <;> exact leadChar_of _ (by decide)

theorem hr_thematicBreak (c : Char) (hc : c = '*' ∨ c = '-' ∨ c = '_') : Scan.thematicBreak [c, c, c, '\n'] = true := by
  rcases hc with rfl | rfl | rfl <;> decide

/-- a block of the fragment: prose paragraph, ATX heading `# text`, thematic break `ccc`.  The functions on it are spelt
    `item…` (`itemEntry`, `itemBlock`, `itemOut`, `itemsLines`, `itemBlocks`): an item of a document, not of a list -/
inductive Blk where
  | para (lines : List Str)
  | heading (level : Nat) (text : Str)
  | hr (c : Char)

def Blk.lines : Blk → List Str
  | .para ls => ls
  | .heading lv t => [hashes lv ++ ' ' :: t ++ ['\n']]
  | .hr c => [[c, c, c, '\n']]

def itemsLines : Blk → List Blk → List Str
  | it, [] => it.lines
  | it, it' :: rest => it.lines ++ ['\n'] :: itemsLines it' rest

/-- normal form (decidable).  Paragraph: as `normalPara` (Props/C09.lean).  Heading: level 1…6; the text is
    non-empty, inline-inert on one line, without `#`, without whitespace at either end, without tab or
    line-boundary character.  Thematic break: three `*`, `-` or `_`. -/
def Blk.ok : Blk → Bool
  | .para q => !q.isEmpty && q.all (fun l => inertLine l && proseLine l && lstrip l == l && oneLine l)
      && inertBody (Document.joinNl (q.map strip))
  | .heading lv t => decide (1 ≤ lv) && decide (lv ≤ 6) && !t.isEmpty && inertText t && !t.contains '#' && strip t == t
      && !t.contains '\t' && t.all (fun c => !isLineSep c)
  | .hr c => c == '*' || c == '-' || c == '_'

/-- the facts `Blk.ok` packs for a paragraph: the fields of `Props.C09.ParaFacts`, which stands above this file (Props/C09.lean
    imports it) and copies them (`normalPara_facts`) -/
structure BlkParaFacts (q : List Str) : Prop where
  ne : q ≠ []
  inert : ∀ l ∈ q, inertLine l = true
  prose : ∀ l ∈ q, proseLine l = true
  flush : ∀ l ∈ q, lstrip l = l
  one : ∀ l ∈ q, oneLine l = true
  body : inertBody (Document.joinNl (q.map strip)) = true

theorem blkParaFacts_of (q : List Str) (h : (Blk.para q).ok = true) : BlkParaFacts q := by
  simp only [Blk.ok, Bool.and_eq_true, Bool.not_eq_eq_eq_not, Bool.not_true, List.all_eq_true, beq_iff_eq] at h
  obtain ⟨⟨h1, h2⟩, h3⟩ := h
  exact ⟨(by intro e; rw [e] at h1; cases h1), fun l hl => (h2 l hl).1.1.1, fun l hl => (h2 l hl).1.1.2,
    fun l hl => (h2 l hl).1.2, fun l hl => (h2 l hl).2, h3⟩

theorem BlkParaFacts.para {q : List Str} (f : BlkParaFacts q) : ProsePara q := ⟨f.ne, f.prose, f.body⟩

theorem headOk_of (lv : Nat) (t : Str) (h : (Blk.heading lv t).ok = true) : HeadOk lv t := by
  simp only [Blk.ok, Bool.and_eq_true, decide_eq_true_eq, Bool.not_eq_eq_eq_not, Bool.not_true, beq_iff_eq,
    List.all_eq_true, List.isEmpty_eq_false_iff] at h
  obtain ⟨⟨⟨⟨⟨⟨⟨a, b⟩, c⟩, d⟩, e⟩, f⟩, g⟩, i⟩ := h
  exact ⟨a, b, c, d, by simpa using e, f, by simpa using g, i⟩

theorem hrOk_of (c : Char) (h : (Blk.hr c).ok = true) : c = '*' ∨ c = '-' ∨ c = '_' := by
  simpa [Blk.ok, or_assoc] using h

/-- a heading line: `Heading` takes it under every list in which it comes before `Table` and `Paragraph` -/
theorem tokLoop_heading_step (cfg : Cfg) (hf : cfg.types.find? (opens · '#') = some .heading) (g : Nat)
    (hg : cfg.types.length ≤ g) (l : Line) (lv : Nat) (t : Str)
    (hl : l.s = hashes lv ++ ' ' :: t ++ ['\n']) (hk : HeadOk lv t)
    (pre post : List Line) (start : Nat) (st : St) (acc : List Entry) (loose : Bool) :
    tokLoop cfg (g + 1) ⟨pre ++ l :: post, pre.length, start⟩ st acc loose =
      tokLoop cfg g ⟨(pre ++ [l]) ++ post, (pre ++ [l]).length, start⟩ st
        (.heading lv t [] (start + pre.length) l.origin :: acc) loose := by
  obtain ⟨m, rfl⟩ : ∃ m, lv = m + 1 := ⟨lv - 1, by have := hk.h1; omega⟩
  have hs : l.s = List.replicate 0 ' ' ++ '#' :: (hashes m ++ ' ' :: t ++ ['\n']) := by
    rw [hl]; simp [hashes, List.replicate_succ]
  have hr := readHeading_line ⟨pre ++ l :: post, pre.length, start⟩ (m + 1) t hk.h1 hk.h6 hk.nohash
    (headOk_nonl hk) hk.stripped hk.ne
  rw [← hl, FW.next_at] at hr
  exact tokLoop_first (peek_at ..) (fun _ => declines_first hs (by decide) (by decide)) (fun _ _ => tryTypes_hit_heading hr)
    hf hg acc loose

/-- a thematic break: `ThematicBreak` takes it under every list in which it comes before `List`, `Table` and `Paragraph` -/
theorem tokLoop_hr_step (cfg : Cfg) (c : Char) (hf : cfg.types.find? (opens · c) = some .thematicBreak) (g : Nat)
    (hg : cfg.types.length ≤ g) (l : Line) (hl : l.s = [c, c, c, '\n']) (hc : c = '*' ∨ c = '-' ∨ c = '_')
    (pre post : List Line) (start : Nat) (st : St) (acc : List Entry) (loose : Bool) :
    tokLoop cfg (g + 1) ⟨pre ++ l :: post, pre.length, start⟩ st acc loose =
      tokLoop cfg g ⟨(pre ++ [l]) ++ post, (pre ++ [l]).length, start⟩ st
        (.thematicBreak [c, c, c, '\n'] (start + pre.length) l.origin :: acc) loose := by
  have h := tokLoop_first (cfg := cfg) (st := st) (peek_at pre l post start)
    (fun _ => declines_first (n := 0) hl (by decide) (hr_lead c hc).nsp)
    (fun _ _ => tryTypes_hit_thematicBreak (by rw [hl]; exact hr_thematicBreak c hc)) hf hg acc loose
  rwa [FW.next_at, hl] at h

def itemEntry (ln og : Nat) : Blk → Entry
  | .para ls => .paragraph ls ln og
  | .heading lv t => .heading lv t [] ln og
  | .hr c => .thematicBreak [c, c, c, '\n'] ln og

theorem mdTypes_par (cfg : Cfg) (hty : cfg.types = markdownTypes) : BTok.paragraph ∈ cfg.types := by rw [hty]; decide
theorem mdTypes_len (cfg : Cfg) (hty : cfg.types = markdownTypes) : cfg.types.length = 11 := by rw [hty]; rfl
theorem mdTypes_bl (cfg : Cfg) (hty : cfg.types = markdownTypes) : cfg.types.contains .blankLine = true := by rw [hty]; decide

theorem blk_lines_ne (it : Blk) (hok : it.ok = true) : it.lines ≠ [] := by
  cases it with
  | para q => exact (blkParaFacts_of q hok).ne
  | heading lv t => simp [Blk.lines]
  | hr c => simp [Blk.lines]

theorem tokLoop_blk_step (cfg : Cfg) (hty : cfg.types = markdownTypes) (it : Blk) (hok : it.ok = true) (g : Nat)
    (hg : cfg.types.length ≤ g) (pre post : List Line) (k : Nat) (hb : ∀ b, post.head? = some b → b.s = ['\n'])
    (start : Nat) (st : St) (acc : List Entry) (loose : Bool) :
    tokLoop cfg (g + 1) ⟨pre ++ (numbered k it.lines ++ post), pre.length, start⟩ st acc loose =
      tokLoop cfg g ⟨(pre ++ numbered k it.lines) ++ post, (pre ++ numbered k it.lines).length, start⟩ st
        (itemEntry (start + pre.length) (k + 1) it :: acc) loose := by
  cases it with
  | para q =>
    have f := blkParaFacts_of q hok
    cases q with
    | nil => exact absurd rfl f.ne
    | cons s q' =>
      simp only [Blk.lines, numbered_cons]
      have hq : ∀ x ∈ numbered (k + 1) q', ContQuiet x.s := fun x hx =>
        contQuiet_of_quiet _ (Mistletoe.Props.C14.inertLine_quiet _ (f.inert _ (List.mem_cons_of_mem _ (numbered_mem _ _ _ hx))))
      have h1 := tokLoop_para_step cfg (mdTypes_par cfg hty) g hg
        { s := s, origin := k + 1 } (numbered (k + 1) q') pre post start st acc loose
        (Mistletoe.Props.C14.inertLine_quiet _ (f.inert s (by simp))) hq
        (by intro b hb'; rw [hb b hb']; decide)
      simp only [List.cons_append] at h1 ⊢
      rw [h1]
      simp only [itemEntry, List.map_cons, numbered_s]
  | heading lv t =>
    have hk := headOk_of lv t hok
    have h1 := tokLoop_heading_step cfg (by rw [hty]; rfl) g hg
      { s := hashes lv ++ ' ' :: t ++ ['\n'], origin := k + 1 } lv t rfl hk pre post start st acc loose
    simp only [Blk.lines, Mistletoe.Props.C14.numbered, itemEntry] at h1 ⊢
    exact h1
  | hr c =>
    have hc := hrOk_of c hok
    have h1 := tokLoop_hr_step cfg c (by rw [hty]; rcases hc with rfl | rfl | rfl <;> rfl) g hg { s := [c, c, c, '\n'], origin := k + 1 } rfl hc pre post start st acc loose
    simp only [Blk.lines, Mistletoe.Props.C14.numbered, itemEntry] at h1 ⊢
    exact h1

open Mistletoe.Document (mkBlock stripNl)

def itemBlock (ln : Nat) : Blk → Mistletoe.Block
  | .para ls => .paragraph (proseInlines (ls.map strip)) ln
  | .heading lv t => .heading lv [] [.rawText t] ln
  | .hr c => .thematicBreak [c, c, c] ln

def itemBlocks (ln : Nat) : Blk → List Blk → List Mistletoe.Block
  | it, [] => [itemBlock ln it]
  | it, it' :: rest =>
    itemBlock ln it :: .blankLine (ln + it.lines.length) :: itemBlocks (ln + it.lines.length + 1) it' rest

theorem stripNl_hr (c : Char) (hc : c = '*' ∨ c = '-' ∨ c = '_') : stripNl [c, c, c, '\n'] = [c, c, c] := by
  rcases hc with rfl | rfl | rfl <;> decide

theorem mkBlock_itemEntry (cfg : Document.Cfg) (fn : Footnotes.Table)
    (ht : ∀ t ∈ cfg.span, inertClass t = true) (hc : cfg.span.count .lineBreak = 1)
    (it : Blk) (hok : it.ok = true) (ln og : Nat) :
    mkBlock cfg fn (itemEntry ln og it) = .ok (some (itemBlock ln it)) := by
  cases it with
  | para q => exact mkBlock_prose cfg fn q ln og ht hc (blkParaFacts_of q hok).para
  | heading lv t => exact mkBlock_heading_inert cfg fn ht lv t _ ln og (headOk_of lv t hok).inert (headOk_of lv t hok).ne
  | hr c =>
    simp only [itemEntry, itemBlock, mkBlock, stripNl_hr c (hrOk_of c hok)]

def itemOut : Blk → List Str
  | .para ls => ls.map strip
  | .heading lv t => [hashes lv ++ ' ' :: t]
  | .hr c => [[c, c, c]]

theorem renderBlock_itemBlock (o : Opts) (it : Blk) (hok : it.ok = true) (ln : Nat) :
    renderBlock o none (itemBlock ln it) = .ok (itemOut it) := by
  cases it with
  | para q =>
    simp only [itemBlock, itemOut, renderBlock, spanToLines_prose _ (strip_lines_ok q (blkParaFacts_of q hok).prose)]
  | heading lv t =>
    have hk := headOk_of lv t hok
    have h1 : spanToLines [.rawText t] none = .ok [t] := by
      have := spanToLines_prose [t] (by intro x hx; simp only [List.mem_singleton] at hx; subst hx; exact ⟨hk.ne, headOk_nonl hk⟩)
      simpa [proseInlines] using this
    have hne : t.isEmpty = false := by cases t with | nil => exact absurd rfl hk.ne | cons _ _ => rfl
    simp only [itemBlock, itemOut, renderBlock, firstLine, h1, hne, hashes]
    simp
  | hr c => simp only [itemBlock, itemOut, renderBlock]

theorem itemOut_lines (it : Blk) (hok : it.ok = true) : (itemOut it).map (· ++ ['\n']) = it.lines := by
  cases it with
  | para q =>
    have f := blkParaFacts_of q hok
    exact strip_nl_lines q (fun l hl => ⟨f.prose l hl, f.flush l hl⟩)
  | heading lv t => simp [itemOut, Blk.lines]
  | hr c => simp [itemOut, Blk.lines]

theorem blk_oneLine (it : Blk) (hok : it.ok = true) : ∀ l ∈ it.lines, oneLine l = true := by
  cases it with
  | para q => exact (blkParaFacts_of q hok).one
  | heading lv t =>
    have hk := headOk_of lv t hok
    intro l hl
    simp only [Blk.lines, List.mem_singleton] at hl
    subst hl
    refine oneLine_text (hashes lv ++ ' ' :: t) (fun c hc => ?_)
    rcases List.mem_append.mp hc with hc | hc
    · rw [(List.mem_replicate.mp hc).2]; decide
    · rcases List.mem_cons.mp hc with rfl | hc
      · decide
      · exact hk.nosep c hc
  | hr c =>
    intro l hl
    simp only [Blk.lines, List.mem_singleton] at hl
    subst hl
    rcases hrOk_of c hok with rfl | rfl | rfl <;> decide

end Mistletoe.MdRound
