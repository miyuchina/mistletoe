/-
  C03 for the tree `Compose.T`: paragraphs, ATX headings, thematic breaks and block quotes (any depth).  A document written
  out from such a tree parses to that tree and renders to the HTML written directly from the tree.

  Here: the tree, and what the dispatcher does on the lines of one node — C14 for a paragraph (inert lines form one
  paragraph; inert text is one RawText), C04 for a quote (lines behind "> " are one Quote around the parse of the unmarked
  lines), the dispatch on a `#` line / a `***` line.  The block phase of a whole tree (siblings: C05) and `Document(text)`
  are in `Proofs/Compose2.lean`, on the claims of `Proofs/ComposeGen.lean`; the statements of C03 in `Props/C03.lean`.
-/
import Mistletoe.Props.C05
import Mistletoe.Proofs.MdRound
namespace Mistletoe.Compose
open Mistletoe Mistletoe.Py Mistletoe.Scan Mistletoe.Block
open Mistletoe.Props.C14 (defaultTypes inertLine numbered numbered_cons numbered_append numbered_length numbered_mem numbered_s)
open Mistletoe.InertInline (inertBody inertText proseLine oneLine proseInlines inertClass)

/-- A tree of CommonMark constructs (the fragment covered here).
    * `para ls`: a paragraph given by its source lines (each with its indentation of at most three
      spaces and its final "\n");
    * `heading level text line`: an ATX heading given by its level, its text and its source line (any
      spelling: `## text`, `  ## text ##`, `##   text   #####   `, …; `atx level text` is the plain one);
    * `hr line`: a thematic break given by its source line (any spelling: `***`, `- - -`, `  _____`, …);
    * `quote bare kids`: a block quote; `bare = false`: every line is written behind "> ", `bare = true`:
      behind ">" (allowed when no line of the content begins with a space). -/
inductive T where
  | para (lines : List Str)
  | heading (level : Nat) (text : Str) (line : Str)
  | hr (line : Str)
  | quote (bare : Bool) (kids : List T)

def hashes (n : Nat) : Str := List.replicate n '#'

def atx (lv : Nat) (t : Str) : Str := hashes lv ++ ' ' :: t ++ ['\n']

/-- what `Heading.start` + `Heading.read` extract from a line: level, content, closing sequence -/
def headContent (line : Str) : Option (Nat × Str × Str) :=
  match Scan.heading line with
  | none => none
  | some m =>
    let c := strip (m.g2.getD [])
    some (m.level, if !c.isEmpty && c.all (· == '#') then [] else c, strip (m.g3.getD []))

/-- the `closing_sequence` attribute the heading token gets (it does not reach the HTML) -/
def closingOf (line : Str) : Str := match headContent line with | some (_, _, cl) => cl | none => []

/-- the line is an ATX heading of this level and text for the dispatcher: `Heading`'s pattern matches with
    that level and content, and neither `HtmlBlock` nor `BlockCode` (consulted before it) starts on it -/
def headLine (lv : Nat) (t : Str) (line : Str) : Bool :=
  (match headContent line with | some (l, c, _) => l == lv && c == t | none => false)
  && (match htmlBlockStart line with | .ok none => true | _ => false) && !blockCodeStart line

/-- the quote marker used by the writer: "> " before every line, blank separator lines included ("> \n") -/
def qsp (s : Str) : Str := '>' :: ' ' :: s
def qbare (s : Str) : Str := '>' :: s

/-- the line is a thematic break for the dispatcher: `ThematicBreak.start` matches and none of the token types
    consulted before it (`HtmlBlock`, `BlockCode`, `Heading`, `Quote`, `CodeFence`) starts on it -/
def hrLine (s : Str) : Bool :=
  Scan.thematicBreak s && (match htmlBlockStart s with | .ok none => true | _ => false) && !blockCodeStart s
  && (Scan.heading s).isNone && !quoteStart s && (codeFenceStart s).isNone

mutual
def write : T → List Str
  | .para ls => ls
  | .heading _ _ line => [line]
  | .hr line => [line]
  | .quote bare kids => (writes kids).map (if bare then qbare else qsp)
/-- siblings, separated by exactly one "\n" line -/
def writes : List T → List Str
  | [] => []
  | t :: rest =>
    match rest with
    | [] => write t
    | _ :: _ => write t ++ ['\n'] :: writes rest
end

open Mistletoe.Document (joinNl) in
mutual
/-- well-formedness (decidable).
    * paragraph: at least one line; every line is block-inert (`inertLine`: no block construct starts on
      it — this also excludes setext underlines, thematic breaks, list markers, `>`; up to three spaces of
      indentation are allowed), has the shape indentation + text + "\n" without whitespace before the
      "\n" (`proseLine`), contains no other line-boundary character (`oneLine`) and no tab; the stripped
      lines joined by "\n" are inline-inert (`inertBody`);
    * heading: the text is non-empty and inline-inert on one line (`inertText`); the line is an ATX heading
      of that level and text for the dispatcher (`headLine`), ends in its only "\n", contains no tab;
    * thematic break: the line is a thematic break for the dispatcher (`hrLine`), ends in its only "\n",
      contains no tab;
    * quote: at least one child, all well-formed; with the bare marker, no written line of the content
      begins with a space. -/
def T.ok : T → Bool
  | .para ls => !ls.isEmpty && ls.all (fun l => inertLine l && proseLine l && oneLine l && !l.contains '\t')
      && inertBody (joinNl (ls.map strip))
  | .heading lv t line => !t.isEmpty && inertText t && headLine lv t line && oneLine line && !line.contains '\t'
  | .hr line => hrLine line && oneLine line && !line.contains '\t'
  | .quote bare kids => !kids.isEmpty && T.oks kids && (!bare || (writes kids).all (fun s => s.head? != some ' '))
def T.oks : List T → Bool
  | [] => true
  | t :: ts => t.ok && T.oks ts
end

def isQuote : T → Bool
  | .quote _ _ => true
  | _ => false

mutual
/-- the parse-buffer entry expected for a node whose first line is line `n` (ghost origin = line number) -/
def entryOf (n : Nat) : T → Entry
  | .para ls => .paragraph ls n n
  | .heading lv t line => .heading lv t (closingOf line) n n
  | .hr line => .thematicBreak line n n
  | .quote _ kids => .quote (entriesOf n kids) (decide (1 < kids.length)) n n
def entriesOf (n : Nat) : List T → List Entry
  | [] => []
  | t :: rest => entryOf n t :: entriesOf (n + (write t).length + 1) rest
end

mutual
/-- 14 = what `tokenize_para` asks (`C14_single_paragraph_default`), taken for a heading (`tokenize_heading` asks 6) and
    a thematic break (`tokenize_hr`: 9) as well; 6 = `tokenize_quoted` (C04); 11 = `types.length + 1`, what
    `tokenizeBlock_concat` adds between two siblings (`ComposeG.sibs_cons_closed`); `needs [] = 2` is never reached
    (`ts ≠ []`). -/
def need : T → Nat
  | .para _ => 14
  | .heading _ _ _ => 14
  | .hr _ => 14
  | .quote _ kids => needs kids + 6
def needs : List T → Nat
  | [] => 2
  | t :: rest =>
    match rest with
    | [] => need t
    | _ :: _ => need t + (needs rest + 11)
end

theorem writes_cons2 (t t' : T) (r : List T) : writes (t :: t' :: r) = write t ++ ['\n'] :: writes (t' :: r) := by
  simp [writes]

theorem writes_single (t : T) : writes [t] = write t := by simp [writes]

theorem needs_cons2 (t t' : T) (r : List T) : needs (t :: t' :: r) = need t + (needs (t' :: r) + 11) := by
  simp [needs]

/-! ### Leaves: the dispatch on a `#` line and on a `***` / `---` / `___` line -/

def dcfg (ti : Bool) : Cfg := { types := defaultTypes, tableInterrupt := ti }

theorem readHeading_content (fw : FW) (line : Str) :
    readHeading fw line = (headContent line).map (fun r => (r.1, r.2.1, r.2.2, fw.next)) := by
  unfold readHeading headContent
  cases Scan.heading line <;> rfl

theorem htmlBlockStart_none {s : Str} (h : (match htmlBlockStart s with | .ok none => true | _ => false) = true) :
    htmlBlockStart s = .ok none := by
  split at h
  · assumption
  · cases h

theorem tokenize_heading (ti : Bool) (lv : Nat) (t line : Str) (hl : headLine lv t line = true)
    (og start : Nat) (st : St) (g : Nat) :
    tokenizeBlock (dcfg ti) (g + 6) [{ s := line, origin := og }] start st =
      .ok ({ entries := [.heading lv t (closingOf line) start og], loose := false }, st) := by
  simp only [headLine, Bool.and_eq_true, Bool.not_eq_eq_eq_not, Bool.not_true] at hl
  obtain ⟨⟨f3, f1⟩, f2⟩ := hl
  cases hc : headContent line with
  | none => rw [hc] at f3; cases f3
  | some r =>
    obtain ⟨l', c, cl⟩ := r
    simp only [hc, Bool.and_eq_true, beq_iff_eq] at f3
    obtain ⟨rfl, rfl⟩ := f3
    have hcl : closingOf line = cl := by simp only [closingOf, hc]
    rw [hcl]
    exact tokenize_single (dcfg ti) _ start st st (g + 3) _
      ((tryTypes_skip (l := { s := line, origin := og }) [.htmlBlock, .blockCode] (declines_cons (htmlBlockStart_none f1) (declines_cons f2 declines_nil)) _ _).trans
        (tryTypes_hit_heading (by rw [readHeading_content, hc]; rfl)))

theorem tokenize_hr (ti : Bool) (line : Str) (hl : hrLine line = true) (og start : Nat) (st : St) (g : Nat) :
    tokenizeBlock (dcfg ti) (g + 9) [{ s := line, origin := og }] start st =
      .ok ({ entries := [.thematicBreak line start og], loose := false }, st) := by
  simp only [hrLine, Bool.and_eq_true, Bool.not_eq_eq_eq_not, Bool.not_true, Option.isNone_iff_eq_none] at hl
  obtain ⟨⟨⟨⟨⟨f6, f1⟩, f2⟩, f3⟩, f4⟩, f5⟩ := hl
  exact tokenize_single (dcfg ti) _ start st st (g + 6) _
    ((tryTypes_skip (l := { s := line, origin := og }) [.htmlBlock, .blockCode, .heading, .quote, .codeFence]
      (declines_cons (htmlBlockStart_none f1) (declines_cons f2 (declines_cons f3 (declines_cons f4 (declines_cons f5 declines_nil))))) _ _).trans
      (tryTypes_hit_thematicBreak f6))

/-! ### What well-formedness gives about the written lines -/

def LineOk (s : Str) : Prop := ∃ body, s = body ++ ['\n'] ∧ (∀ c ∈ body, isLineSep c = false) ∧ '\t' ∉ body

theorem lineOk_notab {s : Str} (h : LineOk s) : '\t' ∉ s := by
  obtain ⟨body, rfl, _, ht⟩ := h
  simp only [List.mem_append, List.mem_singleton, not_or]
  exact ⟨ht, by decide⟩

theorem lineOk_oneLine {s : Str} (h : LineOk s) : oneLine s = true := by
  obtain ⟨body, rfl, hb, _⟩ := h
  exact InertInline.oneLine_text body hb

theorem lineOk_nlEnd {s : Str} (h : LineOk s) : NlEnd s := InertInline.nlEnd_of_oneLine s (lineOk_oneLine h)

theorem lineOk_of (l : Str) (h1 : oneLine l = true) (h2 : l.contains '\t' = false) : LineOk l := by
  simp only [oneLine, Bool.and_eq_true, beq_iff_eq, List.all_eq_true, Bool.not_eq_eq_eq_not, Bool.not_true] at h1
  obtain ⟨body, rfl⟩ := List.getLast?_eq_some_iff.mp h1.1
  refine ⟨body, rfl, by simpa using h1.2, ?_⟩
  intro hm
  have : (body ++ ['\n']).contains '\t' = true := by simp [hm]
  rw [h2] at this; cases this

theorem lineOk_nl : LineOk ['\n'] := ⟨[], rfl, by simp, by simp⟩

theorem lineOk_append (p s : Str) (hp : ∀ c ∈ p, isLineSep c = false ∧ c ≠ '\t') (h : LineOk s) : LineOk (p ++ s) := by
  obtain ⟨body, rfl, hb, ht⟩ := h
  refine ⟨p ++ body, by simp, ?_, ?_⟩
  · intro c hc
    rcases List.mem_append.mp hc with hc | hc
    · exact (hp c hc).1
    · exact hb c hc
  · intro hc
    rcases List.mem_append.mp hc with hc | hc
    · exact (hp _ hc).2 rfl
    · exact ht hc

theorem lineOk_sep (a b : List Str) (ha : ∀ s ∈ a, LineOk s) (hb : ∀ s ∈ b, LineOk s) : ∀ s ∈ a ++ ['\n'] :: b, LineOk s := by
  intro s hs
  rcases List.mem_append.mp hs with hs | hs
  · exact ha s hs
  · rcases List.mem_cons.mp hs with rfl | hs
    · exact lineOk_nl
    · exact hb s hs

theorem lineOk_quoted (bare : Bool) (ls : List Str) (h : ∀ s ∈ ls, LineOk s) :
    ∀ s ∈ ls.map (if bare then qbare else qsp), LineOk s := by
  simp only [List.mem_map]
  rintro s ⟨s0, hs0, rfl⟩
  cases bare
  · exact lineOk_append ['>', ' '] s0 (by decide) (h s0 hs0)
  · exact lineOk_append ['>'] s0 (by decide) (h s0 hs0)

theorem lineOk_atx (lv : Nat) (t : Str) (hsep : ∀ c ∈ t, isLineSep c = false) (ht : '\t' ∉ t) :
    LineOk (atx lv t) := by
  have := lineOk_append (hashes lv ++ [' ']) _
    (fun c hc => by
      rcases List.mem_append.mp hc with hc | hc
      · rw [(List.mem_replicate.mp hc).2]; decide
      · rw [List.mem_singleton.mp hc]; decide)
    ⟨t, rfl, hsep, ht⟩
  simpa [atx] using this

structure HeadOk (lv : Nat) (t line : Str) : Prop where
  ne : t ≠ []
  inert : inertText t = true
  head : headLine lv t line = true
  line : LineOk line

theorem headOk_of (lv : Nat) (t line : Str) (h : (T.heading lv t line).ok = true) : HeadOk lv t line := by
  simp only [T.ok, Bool.and_eq_true, Bool.not_eq_eq_eq_not, Bool.not_true, List.isEmpty_eq_false_iff] at h
  obtain ⟨⟨⟨⟨a, b⟩, c⟩, d⟩, e⟩ := h
  exact ⟨a, b, c, lineOk_of line d e⟩

open Mistletoe.Document (joinNl) in
structure ParaOk (ls : List Str) : Prop where
  ne : ls ≠ []
  inert : ∀ l ∈ ls, inertLine l = true
  prose : ∀ l ∈ ls, proseLine l = true
  line : ∀ l ∈ ls, LineOk l
  body : inertBody (joinNl (ls.map strip)) = true

theorem paraOk_of (ls : List Str) (h : (T.para ls).ok = true) : ParaOk ls := by
  simp only [T.ok, Bool.and_eq_true, Bool.not_eq_eq_eq_not, Bool.not_true, List.all_eq_true,
    List.isEmpty_eq_false_iff] at h
  obtain ⟨⟨a, b⟩, c⟩ := h
  exact ⟨a, fun l hl => (b l hl).1.1.1, fun l hl => (b l hl).1.1.2, fun l hl => lineOk_of l (b l hl).1.2 (b l hl).2, c⟩

theorem ParaOk.prosePara {ls : List Str} (h : ParaOk ls) : MdRound.ProsePara ls := ⟨h.ne, h.prose, h.body⟩

theorem hrOk_of (line : Str) (h : (T.hr line).ok = true) : hrLine line = true ∧ LineOk line := by
  simp only [T.ok, Bool.and_eq_true, Bool.not_eq_eq_eq_not, Bool.not_true] at h
  exact ⟨h.1.1, lineOk_of line h.1.2 h.2⟩

theorem quoteOk_of (bare : Bool) (kids : List T) (h : (T.quote bare kids).ok = true) :
    kids ≠ [] ∧ T.oks kids = true ∧ (bare = true → ∀ s ∈ writes kids, s.head? ≠ some ' ') := by
  simp only [T.ok, Bool.and_eq_true, Bool.not_eq_eq_eq_not, Bool.not_true, List.isEmpty_eq_false_iff,
    Bool.or_eq_true, List.all_eq_true, bne_iff_ne, ne_eq] at h
  refine ⟨h.1.1, h.1.2, ?_⟩
  intro hb
  rcases h.2 with h2 | h2
  · rw [hb] at h2; cases h2
  · exact h2

theorem oks_cons (t : T) (ts : List T) (h : T.oks (t :: ts) = true) : t.ok = true ∧ T.oks ts = true := by
  simpa [T.oks] using h

mutual
theorem write_lineOk : ∀ (t : T), t.ok = true → (∀ s ∈ write t, LineOk s) ∧ write t ≠ []
  | .para ls, h => by
    have := paraOk_of ls h
    exact ⟨this.line, this.ne⟩
  | .heading lv t line, h => by
    have := headOk_of lv t line h
    simp only [write, List.mem_singleton]
    constructor
    · intro s hs; rw [hs]; exact this.line
    · simp
  | .hr line, h => by
    simp only [write, List.mem_singleton]
    constructor
    · intro s hs; rw [hs]; exact (hrOk_of line h).2
    · simp
  | .quote bare kids, h => by
    obtain ⟨hne, hk, _⟩ := quoteOk_of bare kids h
    have ih := writes_lineOk kids hk
    exact ⟨lineOk_quoted bare _ ih.1, by simpa [write] using ih.2 hne⟩
theorem writes_lineOk : ∀ (ts : List T), T.oks ts = true → (∀ s ∈ writes ts, LineOk s) ∧ (ts ≠ [] → writes ts ≠ [])
  | [], _ => by simp [writes]
  | t :: rest, h => by
    obtain ⟨h1, h2⟩ := oks_cons t rest h
    have iht := write_lineOk t h1
    have ihr := writes_lineOk rest h2
    cases rest with
    | nil => simpa [writes] using iht
    | cons t' r =>
      rw [writes_cons2]
      exact ⟨lineOk_sep _ _ iht.1 ihr.1, fun _ => by simp⟩
end

/-! ### The block phase of a written tree -/

theorem numbered_sh (ls : List Str) (k j : Nat) : numbered (k + j) ls = (numbered k ls).map (Line.sh j) :=
  Props.C05.numbered_sh ls k j

theorem numbered_allNlEnd (k : Nat) (ls : List Str) (h : ∀ s ∈ ls, LineOk s) : AllNlEnd (numbered k ls) :=
  fun l hl => lineOk_nlEnd (h _ (numbered_mem k ls l hl))

mutual
theorem shift_entryOf (j : Nat) : ∀ (n : Nat) (t : T), shiftEntry j (entryOf n t) = entryOf (n + j) t
  | n, .para ls => by simp [entryOf, shiftEntry]
  | n, .heading lv t line => by simp [entryOf, shiftEntry]
  | n, .hr line => by simp [entryOf, shiftEntry]
  | n, .quote _ kids => by simp [entryOf, shiftEntry, shift_entriesOf j n kids]
theorem shift_entriesOf (j : Nat) : ∀ (n : Nat) (ts : List T), shiftEntries j (entriesOf n ts) = entriesOf (n + j) ts
  | n, [] => by simp [entriesOf, shiftEntries]
  | n, t :: rest => by
    simp only [entriesOf, shiftEntries, shift_entryOf j n t, shift_entriesOf j _ rest]
    congr 2; omega
end

/-- the state after the siblings: `Quote.read` switches `Paragraph.parse_setext` back on when it returns -/
def after (st : St) (b : Bool) : St := { setext := st.setext || b, defs := st.defs }

theorem after_false (st : St) : after st false = st := by cases st; simp [after]

theorem after_after (st : St) (a b : Bool) : after (after st a) b = after st (a || b) := by
  simp [after, Bool.or_assoc]

theorem closed_entryOf (n : Nat) : ∀ (t : T), closedE (entryOf n t) = true
  | .para _ => rfl
  | .heading _ _ _ => rfl
  | .hr _ => rfl
  | .quote _ _ => rfl

/-- C14 for written lines -/
theorem tokenize_para (ti : Bool) (ls : List Str) (hne : ls ≠ []) (hi : ∀ l ∈ ls, inertLine l = true) (k : Nat) (st : St) (g : Nat) :
    tokenizeBlock (dcfg ti) (g + 14) (numbered k ls) (k + 1) st =
      .ok ({ entries := [.paragraph ls (k + 1) (k + 1)], loose := false }, st) := by
  obtain ⟨s, r, rfl⟩ := List.exists_cons_of_ne_nil hne
  have := Props.C14.C14_single_paragraph_default ti { s := s, origin := k + 1 } (numbered (k + 1) r)
    (fun l hm => hi _ (numbered_mem k (s :: r) l (by rw [numbered_cons]; exact hm))) (k + 1) st g
  rw [← numbered_cons, numbered_s] at this
  exact this

/-- C04 for written lines: the lines of a content behind "> ", or behind ">" when none of them begins with a space,
    are one `Quote` entry around the parse of the content with `Paragraph.parse_setext` off -/
theorem tokenize_quoted (ti bare : Bool) (ls : List Str) (hne : ls ≠ []) (hok : ∀ s ∈ ls, LineOk s)
    (hbare : bare = true → ∀ s ∈ ls, s.head? ≠ some ' ') (k : Nat) (st st' : St) (g : Nat) (b : Buf)
    (ih : tokenizeBlock (dcfg ti) g (numbered k ls) (k + 1) { st with setext := false } = .ok (b, st')) :
    tokenizeBlock (dcfg ti) (g + 6) (numbered k (ls.map (if bare then qbare else qsp))) (k + 1) st =
      .ok ({ entries := [.quote b.entries b.loose (k + 1) (k + 1)], loose := false }, { st' with setext := true }) :=
  (Props.C04.tokenizeBlock_quoted_numbered (dcfg ti) [.htmlBlock, .blockCode, .heading] _ rfl (by decide) (by decide) _ k ls hne
    (fun s hs => ⟨lineOk_notab (hok s hs), by
      cases bare with
      | false => exact .inl rfl
      | true =>
        obtain ⟨c, r, rfl⟩ := List.exists_cons_of_ne_nil (nlEnd_ne_nil s (lineOk_nlEnd (hok s hs)))
        exact .inr ⟨rfl, c, r, rfl, fun e => hbare rfl _ hs (e ▸ rfl)⟩⟩) st g).trans
    (congrArg (wrapQuote (k + 1) (k + 1)) ih)

/-! ### The block token constructors on the expected entries -/

open Mistletoe.Document (joinNl mkBlock mkBlocks)

mutual
def blockOf (n : Nat) : T → Mistletoe.Block
  | .para ls => .paragraph (proseInlines (ls.map strip)) n
  | .heading lv t line => .heading lv (closingOf line) [.rawText t] n
  | .hr line => .thematicBreak (Document.stripNl line) n
  | .quote _ kids => .quote (blocksOf n kids) n
def blocksOf (n : Nat) : List T → List Mistletoe.Block
  | [] => []
  | t :: rest => blockOf n t :: blocksOf (n + (write t).length + 1) rest
end

mutual
theorem mkBlock_entryOf (cfg : Document.Cfg) (fn : Footnotes.Table) (ht : ∀ t ∈ cfg.span, inertClass t = true)
    (hc : cfg.span.count .lineBreak = 1) : ∀ (t : T), t.ok = true → ∀ (n : Nat),
    mkBlock cfg fn (entryOf n t) = .ok (some (blockOf n t))
  | .para ls, h, n => MdRound.mkBlock_prose cfg fn ls n n ht hc (paraOk_of ls h).prosePara
  | .heading lv t line, h, n =>
    MdRound.mkBlock_heading_inert cfg fn ht lv t _ n n (headOk_of lv t line h).inert (headOk_of lv t line h).ne
  | .hr line, h, n => by
    simp only [entryOf, blockOf, mkBlock]
  | .quote bare kids, h, n => by
    obtain ⟨_, hk, _⟩ := quoteOk_of bare kids h
    simp only [entryOf, blockOf, mkBlock, mkBlocks_entriesOf cfg fn ht hc kids hk n]
theorem mkBlocks_entriesOf (cfg : Document.Cfg) (fn : Footnotes.Table) (ht : ∀ t ∈ cfg.span, inertClass t = true)
    (hc : cfg.span.count .lineBreak = 1) : ∀ (ts : List T), T.oks ts = true → ∀ (n : Nat),
    mkBlocks cfg fn (entriesOf n ts) = .ok (blocksOf n ts)
  | [], _, _ => by simp [entriesOf, blocksOf, mkBlocks]
  | t :: rest, h, n => by
    obtain ⟨h1, h2⟩ := oks_cons t rest h
    simp only [entriesOf, blocksOf, mkBlocks, mkBlock_entryOf cfg fn ht hc t h1 n,
      mkBlocks_entriesOf cfg fn ht hc rest h2 _]
end

/-! ### HTML written directly from the tree -/

open Mistletoe.Html Mistletoe.Escape
open Mistletoe.InertInline (flat_prose)
open Mistletoe.Pipeline (flat_append)

def paraHtml (q : Quotes) (ls : List Str) : Str :=
  "<p>".toList ++ escapeHtmlText q.dq q.sq (joinNl (ls.map strip)) ++ "</p>".toList
def headHtml (q : Quotes) (lv : Nat) (t : Str) : Str :=
  '<' :: 'h' :: natDigits lv ++ ['>'] ++ escapeHtmlText q.dq q.sq t ++ '<' :: '/' :: 'h' :: natDigits lv ++ ['>']
def hrHtml : Str := "<hr />".toList
/-- `<blockquote>`, newline, the children (each already followed by a newline), `</blockquote>` -/
def quoteHtml (inner : Str) : Str :=
  ['<', 'b', 'l', 'o', 'c', 'k', 'q', 'u', 'o', 't', 'e', '>', '\n'] ++ inner ++
    ['<', '/', 'b', 'l', 'o', 'c', 'k', 'q', 'u', 'o', 't', 'e', '>']

mutual
def htmlNode (q : Quotes) : T → Str
  | .para ls => paraHtml q ls
  | .heading lv t _ => headHtml q lv t
  | .hr _ => hrHtml
  | .quote _ kids => quoteHtml (htmlKids q kids)
def htmlKids (q : Quotes) : List T → Str
  | [] => []
  | t :: rest => htmlNode q t ++ '\n' :: htmlKids q rest
end

def htmlOf (o : Opts) (ts : List T) : Str := htmlKids o.q ts

theorem flat_cons (e : Ev) (es : List Ev) : flat (e :: es) = flatEv e ++ flat es := by simp [flat]
theorem flat_nil : flat [] = [] := rfl
theorem flatEv_nl : flatEv nl = ['\n'] := rfl

/-! `s`: inside an item of a tight list. -/

theorem flat_render_para (q : Quotes) (s : Bool) (ts : List Str) (n : Nat) :
    flat (renderBlock q s (.paragraph (proseInlines ts) n)) =
      if s then escapeHtmlText q.dq q.sq (joinNl ts) else "<p>".toList ++ escapeHtmlText q.dq q.sq (joinNl ts) ++ "</p>".toList := by
  rw [Pipeline.flat_paragraph, flat_prose]

theorem flat_render_heading (q : Quotes) (s : Bool) (lv : Nat) (cl t : Str) (n : Nat) :
    flat (renderBlock q s (.heading lv cl [.rawText t] n)) = headHtml q lv t := by
  simp only [headHtml, renderBlock, renderInlines, renderInline, flat_cons, flat_nil,
    flatEv, flatAttrs, List.append_nil, List.append_assoc, List.cons_append, List.nil_append]

theorem flat_render_hr (q : Quotes) (s : Bool) (x : Str) (n : Nat) : flat (renderBlock q s (.thematicBreak x n)) = hrHtml := by
  simp only [renderBlock, hrHtml]
  decide

theorem flat_render_quote (q : Quotes) (s : Bool) (kids : List Mistletoe.Block) (n : Nat) :
    flat (renderBlock q s (.quote kids n)) = quoteHtml (flat (renderAfterEach q false kids)) := by
  have h1 : flat [Ev.otag "blockquote".toList [], nl] = ['<', 'b', 'l', 'o', 'c', 'k', 'q', 'u', 'o', 't', 'e', '>', '\n'] := by
    decide +kernel
  have h2 : flat [Ev.ctag "blockquote".toList] = ['<', '/', 'b', 'l', 'o', 'c', 'k', 'q', 'u', 'o', 't', 'e', '>'] := by
    decide +kernel
  simp only [renderBlock, flat_append, h1, h2, quoteHtml]

mutual
theorem flat_blockOf (q : Quotes) : ∀ (t : T) (n : Nat), flat (renderBlock q false (blockOf n t)) = htmlNode q t
  | .para ls, n => flat_render_para q false (ls.map strip) n
  | .heading lv t line, n => flat_render_heading q false lv _ t n
  | .hr line, n => flat_render_hr q false _ n
  | .quote _ kids, n => by simp only [blockOf, htmlNode, flat_render_quote, flat_afterEach q kids n]
theorem flat_afterEach (q : Quotes) : ∀ (ts : List T) (n : Nat),
    flat (renderAfterEach q false (blocksOf n ts)) = htmlKids q ts
  | [], _ => rfl
  | t :: rest, n => by
    simp only [blocksOf, htmlKids, Pipeline.flat_afterEach_cons, flat_blockOf q t n, flat_afterEach q rest _]
end

theorem quoteHtml_ne (x : Str) : quoteHtml x ≠ [] := by simp [quoteHtml]

theorem htmlNode_ne (q : Quotes) : ∀ (t : T), htmlNode q t ≠ []
  | .para _ => by simp [htmlNode, paraHtml]
  | .heading _ _ _ => by simp [htmlNode, headHtml]
  | .hr _ => by simp [htmlNode, hrHtml]
  | .quote _ _ => by simp only [htmlNode]; exact quoteHtml_ne _

theorem render_kids (o : Opts) (b : Mistletoe.Block) (bs : List Mistletoe.Block) (fn : List (Str × Str × Str))
    (hb : flat (renderBlock o.q false b) ≠ []) :
    render o { kids := b :: bs, footnotes := fn } = flat (renderAfterEach o.q false (b :: bs)) :=
  (Pipeline.render_cons o b bs fn hb).trans (Pipeline.flat_sep_afterEach o.q false (b :: bs) (List.cons_ne_nil _ _))

/-! ### The bundled HTML configuration -/

/-- the configuration the HTML renderer installs in the working tree (regenerated from /repo) has the
    default block token list and a span token list of covered classes with `LineBreak` once -/
theorem html_config (cfg : Document.Cfg) (h : Config.html = some cfg) :
    cfg.block = dcfg cfg.block.tableInterrupt ∧ (∀ t ∈ cfg.span, inertClass t = true) ∧ cfg.span.count .lineBreak = 1 := by
  have h2 := Props.C14.C14_config_covered cfg (Or.inl h)
  rw [Config.html_eq] at h
  cases h
  exact ⟨rfl, h2.2.1, h2.2.2⟩

/-- `HtmlRenderer(**opts).render(Document(text))` for a text on which `Document` succeeds with the HTML renderer's token
    lists (default block tokens, inert span classes with `LineBreak` once): the rendering of that document -/
theorem renderHtml_of_parse (o : Opts) (gas : Nat) (text : Str) (d : Doc)
    (h : ∀ cfg, cfg.block = dcfg cfg.block.tableInterrupt → (∀ t ∈ cfg.span, inertClass t = true) →
      cfg.span.count .lineBreak = 1 → Document.parse cfg gas text = .ok d) :
    Config.renderHtml o gas text = some (render o d) := by
  obtain ⟨hb, ht, hcnt⟩ := html_config _ Config.html_eq
  exact Pipeline.renderHtml_of_parse Config.html_eq o (h _ hb ht hcnt)

/-! ### The tree without its spelling -/

/-- the abstract tree: what the HTML depends on -/
inductive A where
  | para (text : Str)
  | heading (level : Nat) (text : Str)
  | hr
  | quote (kids : List A)

mutual
/-- forget the spelling: indentation and line layout of paragraphs are kept only as the stripped lines
    joined by "\n"; the spelling of headings, thematic breaks and quote markers is dropped -/
def shape : T → A
  | .para ls => .para (joinNl (ls.map strip))
  | .heading lv t _ => .heading lv t
  | .hr _ => .hr
  | .quote _ kids => .quote (shapes kids)
def shapes : List T → List A
  | [] => []
  | t :: rest => shape t :: shapes rest
end

mutual
def htmlA (q : Quotes) : A → Str
  | .para text => "<p>".toList ++ escapeHtmlText q.dq q.sq text ++ "</p>".toList
  | .heading lv t => headHtml q lv t
  | .hr => hrHtml
  | .quote kids => quoteHtml (htmlAs q kids)
def htmlAs (q : Quotes) : List A → Str
  | [] => []
  | a :: rest => htmlA q a ++ '\n' :: htmlAs q rest
end

mutual
theorem htmlNode_shape (q : Quotes) : ∀ (t : T), htmlNode q t = htmlA q (shape t)
  | .para ls => by simp only [htmlNode, shape, htmlA, paraHtml]
  | .heading lv t _ => by simp only [htmlNode, shape, htmlA]
  | .hr _ => by simp only [htmlNode, shape, htmlA]
  | .quote _ kids => by simp only [htmlNode, shape, htmlA, htmlKids_shapes q kids]
theorem htmlKids_shapes (q : Quotes) : ∀ (ts : List T), htmlKids q ts = htmlAs q (shapes ts)
  | [] => by simp only [htmlKids, shapes, htmlAs]
  | t :: rest => by simp only [htmlKids, shapes, htmlAs, htmlNode_shape q t, htmlKids_shapes q rest]
end
end Mistletoe.Compose
