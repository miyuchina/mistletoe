/-
  C14 with a `<` that starts neither a tag nor an autolink: the property theorems for `inertBody5` and their test
  vectors.  `inertBody5` is `inertBody4` with a `<` allowed wherever no tag and no autolink can be completed (no `>`
  further on in the paragraph, or a word / a slash after the `<` that completes neither: `ltNext5`).  The condition and
  the proof that it is `Silent` are in Proofs/InertWide.lean (namespace `Mistletoe.InertInline5`).

  Two other kinds of harmless text are already inside `inertBody3` / `inertBody4`, shown by evaluation
  (`C14_bracket_amp_covered`): a `]` with no `[` before it (`brOkG` looks at `(` / `[` after a `]` only once a `[` was
  seen: `a] (b)`, `x](y)`), and a `&` that begins no character reference or an unknown named one (`ampOk2`: `AT&T`,
  `a & b`, `&x;`).

  End to end: `C14W.C14_prose_text5` (Props/C14_Wide.lean: `prose_text_of_silent` at `inertBody5_silent`) and `C14_prose_html5`.
-/
import Mistletoe.Proofs.InertInline3

namespace Mistletoe.Props.C14
open Mistletoe Mistletoe.Py Mistletoe.Scan Mistletoe.Block Mistletoe.Inline Mistletoe.InertInline Mistletoe.InertInline2
open Mistletoe.InertInline3 Mistletoe.InertInline5
open Mistletoe.Html Mistletoe.Escape

def inertText5 (s : Str) : Bool := inertBody5 s && !s.contains '\n'

/-- **No `>`, no HTML span and no autolink.**  Every alternative of `HtmlSpan.pattern` (open tag, closing tag, comment,
    processing instruction, declaration, CDATA section) and both alternatives of `AutoLink.pattern` need a `>` after
    the `<` they start at (`prev`: the character before the `<`, for the look-behinds). -/
theorem C14_lt_needs_gt (prev : Option Char) (rest : Str) (h : '>' ∉ rest) :
    InlineScan.htmlSpanAt prev ('<' :: rest) = none ∧ InlineScan.autoLinkAt prev ('<' :: rest) = none :=
  ⟨htmlSpanAt_gt prev rest h, autoLinkAt_none_of prev '<' rest (by decide) fun _ => autoLinkBody_gt rest h⟩

/-- **`<` + word that is no tag name in tag position and no autolink start**: the scanners fail at it although a `>` may
    follow (`if i<n; then j>0`) -/
theorem C14_lt_word (prev : Option Char) (rest : Str) (h : ltWord rest = true) :
    InlineScan.htmlSpanAt prev ('<' :: rest) = none ∧ InlineScan.autoLinkBody rest = none := by
  refine ⟨htmlSpanAt_word prev rest h, ?_⟩
  obtain ⟨c, r, rfl, _, _, h1, h2⟩ := ltWord_of rest h
  exact autoLinkBody_word c r h1 h2

/-- **`find_core_tokens` finds nothing under `inertBody5`** (empty table of definitions) -/
theorem C14_core_inert5 (s : Str) (h : inertBody5 s = true) : Core.findCoreTokens s [] = .ok ([], []) :=
  (inertBody5_silent s h).core

/-- **The analogue of `C14_inline_inert4` for `inertBody5`**: for every list of covered classes, no class finds a
    match, `html.unescape` is the identity on the text, and `tokenize_inner` returns `[RawText(text)]`. -/
theorem C14_inline_inert5 (types : List STok) (s : Str)
    (ht : ∀ t ∈ types, inertClass t = true) (h : inertText5 s = true) :
    findAll s types [] = .ok [] ∧ Unescape.unescape true s = s ∧
      (s ≠ [] → tokenizeInner types [] s = .ok [.rawText s]) := by
  simp only [inertText5, Bool.and_eq_true] at h
  exact inline_inert5 types s ht h.1 (not_contains_nl s h.2)

/-- **Several lines** (the analogue of `C14_inline_lines4`): only raw text and soft line breaks -/
theorem C14_inline_lines5 (types : List STok) (ts : List Str)
    (ht : ∀ t ∈ types, inertClass t = true) (hc : types.count .lineBreak = 1) (hne : ts ≠ [])
    (hl : ∀ t ∈ ts, t ≠ [] ∧ '\n' ∉ t ∧ t.getLast? ≠ some ' ')
    (hb : inertBody5 (Document.joinNl ts) = true) :
    tokenizeInner types [] (Document.joinNl ts) = .ok (proseInlines ts) :=
  (inertBody5_silent _ hb).lines types ht hc hne hl


/-- `Config.renderHtml` from a statement about the regenerated HTML configuration; 14 = |`Config.htmlBlockList`| + 4 -/
theorem renderHtml_of_config (text : Str) (d : Doc) (out : Opts → Str) (gas : Nat)
    (h : ∀ cfg, Config.html = some cfg →
      Document.parse cfg (gas + (cfg.block.types.length + 4)) text = .ok d ∧ ∀ o : Opts, render o d = out o) (o : Opts) :
    Config.renderHtml o (gas + 14) text = some (out o) := by
  obtain ⟨hp, hr⟩ := h _ Config.html_eq
  exact (Pipeline.renderHtml_of_parse Config.html_eq o hp).trans (congrArg some (hr o))

/-- **`HtmlRenderer(**opts).render(Document(text))` on such prose**: with the token lists the HTML renderer installs in
    the working tree and 14 or more units of gas, `Config.renderHtml` returns `<p>` + escaped text + `</p>` + newline,
    for every option set -/
theorem C14_prose_html5 (ls : List Str) (hne : ls ≠ []) (h1 : ∀ l ∈ ls, oneLine l = true)
    (hl : ∀ l ∈ ls, inertLine l = true ∧ proseLine l = true)
    (hi : inertBody5 (Document.joinNl (ls.map strip)) = true) (o : Opts) (gas : Nat) :
    Config.renderHtml o (gas + 14) ls.flatten =
      some ("<p>".toList ++ escapeHtmlText o.dq o.sq (Document.joinNl (ls.map strip)) ++ "</p>\n".toList) :=
  renderHtml_of_config ls.flatten _
    (fun o => "<p>".toList ++ escapeHtmlText o.dq o.sq (Document.joinNl (ls.map strip)) ++ "</p>\n".toList) gas
    (fun cfg hcfg => by
      obtain ⟨hpar, ht, hc⟩ := C14_config_covered cfg (Or.inl hcfg)
      exact prose_text_of_silent cfg hpar ht hc ls hne h1 hl (inertBody5_silent _ hi) gas) o

/-! ### two other kinds of harmless text are inside `inertBody3` / `inertBody4` already -/

/-- a `]` with no `[` before it, although `(` or `[` follows (no bracket delimiter is on the stack: `brOkG` tests what
    follows a `]` only after a `[` was seen); a `&` that begins no character reference (`AT&T`, `a & b`, `k=v&w=z`,
    `&copy` without `;`) or an unknown named one (`&x;` - a known name such as `&amp;` is rejected) -/
theorem C14_bracket_amp_covered :
    [L "a] (b)", L "x](y)", L "a] [b", L "a][b] c", L "AT&T", L "a & b", L "&x;", L "k=v&w=z", L "&copy 5 < 6 & 7 > 2"].map
      (fun s => (inertBody3 s, inertBody4 s)) = List.replicate 9 (true, true) ∧
    inertBody5 (L "&amp;") = false ∧ inertBody5 (L "[a](b)") = false := by decide_lit

/-! ### Non-vacuity -/

/-- accepted by `inertBody5`, rejected by `inertBody4`: a `<` directly before a letter, `/`, `!`, `?` or an e-mail
    local part, when no `>` follows; a word after `<` that cannot be a tag in spite of a later `>`; `</3` -/
example : [L "a <b c", L "x<y z", L "1 <a href", L "a <b", L "see <http://x.y and <!-- or <?php", L "a<=/...@home1)x",
    L "if i<n; then j>0", L "a <b, c> d", L "x </3 > y", L "a <b\nc d", L "a<b 50% > c", L "a <b\n-> c"].map
    (fun s => (inertBody5 s, inertBody4 s)) = List.replicate 12 (true, false) := by decide_lit

/-- rejected: tags, autolinks, comments, and `x<y and y>z` (`<y and y>` IS an open tag with the attributes `and`,
    `y`); a tag spanning two lines; what `inertBody4` rejects for another reason stays rejected -/
example : [L "x<y and y>z", L "a <b> c", L "a </b> c", L "<http://x.y>", L "<a@b.c>", L "a <!-- x --> b", L "a <?x?> b",
    L "a <!X y> b", L "a <b c='x<y' d> e", L "a <b\nc d> e", L "x <b/> y", L "x <b /> y", L "a <b c > d", L "*a <b*", L "a <b `c`",
    L "a <b &amp;"].map inertBody5 = List.replicate 16 false := by decide_lit

example : htmlOf (L "a <b c\n") = .ok (L "<p>a &lt;b c</p>\n") := by decide_lit
example : htmlOf (L "1 <a href\n") = .ok (L "<p>1 &lt;a href</p>\n") := by decide_lit
example : htmlOf (L "a] (b)\n") = .ok (L "<p>a] (b)</p>\n") := by decide_lit
example : htmlOf (L "5 < 6 & 7 > 2\n") = .ok (L "<p>5 &lt; 6 &amp; 7 &gt; 2</p>\n") := by decide_lit
example : htmlOf (L "if i<n; then j>0\n") = .ok (L "<p>if i&lt;n; then j&gt;0</p>\n") := by decide_lit
example : htmlOf (L "a<b 50% > c\n") = .ok (L "<p>a&lt;b 50% &gt; c</p>\n") := by decide_lit
/-- … whereas these are markup (raw HTML passes through; an autolink becomes a link) -/
example : htmlOf (L "x<y and y>z\n") = .ok (L "<p>x<y and y>z</p>\n") := by decide_lit
example : htmlOf (L "a <b\nc d> e\n") = .ok (L "<p>a <b\nc d> e</p>\n") := by decide_lit
example : htmlOf (L "a <b@c.d> e\n") = .ok (L "<p>a <a href=\"mailto:b@c.d\">b@c.d</a> e</p>\n") := by decide_lit

/-- through the theorem: one `RawText` holding exactly the text -/
example : tokenizeInner htmlSpanTypes [] (L "a <b c and x<y z") = .ok [.rawText (L "a <b c and x<y z")] :=
  (C14_inline_inert5 htmlSpanTypes _ htmlSpanTypes_inert (by decide_lit)).2.2 (by decide_lit)
example : tokenizeInner htmlSpanTypes [] (L "if i<n; then j>0") = .ok [.rawText (L "if i<n; then j>0")] :=
  (C14_inline_inert5 htmlSpanTypes _ htmlSpanTypes_inert (by decide_lit)).2.2 (by decide_lit)

def prose5 : List Str := [L "  5 < 6 & 7 > 2, a] (b) and x](y)\n", L "if i<n; then j>0, AT&T </3\n", L "a <b c, x<y z, 1 <a href\n"]
attribute [lit] prose5

theorem prose5_lines_ok : ∀ l ∈ prose5, inertLine l = true ∧ proseLine l = true := by decide_lit
theorem prose5_text_ok : inertBody5 (Document.joinNl (prose5.map strip)) = true := by decide_lit
example : inertBody4 (Document.joinNl (prose5.map strip)) = false := by decide_lit

/-- instance of `C14_prose_text5` (the right-hand sides are literal) -/
example : Document.parse cfgHtml 14 (L "  5 < 6 & 7 > 2, a] (b) and x](y)\nif i<n; then j>0, AT&T </3\na <b c, x<y z, 1 <a href\n") =
    .ok { kids := [.paragraph [.rawText (L "5 < 6 & 7 > 2, a] (b) and x](y)"), .lineBreak [] true,
                               .rawText (L "if i<n; then j>0, AT&T </3"), .lineBreak [] true,
                               .rawText (L "a <b c, x<y z, 1 <a href")] 1], footnotes := [] } := by
  have text : L "  5 < 6 & 7 > 2, a] (b) and x](y)\nif i<n; then j>0, AT&T </3\na <b c, x<y z, 1 <a href\n" = prose5.flatten := by
    decide_lit
  have lines : prose5.map strip =
      [L "5 < 6 & 7 > 2, a] (b) and x](y)", L "if i<n; then j>0, AT&T </3", L "a <b c, x<y z, 1 <a href"] := by decide_lit
  have h := (prose_text_of_silent cfgHtml (by decide) htmlSpanTypes_inert (by decide) prose5 (by decide) (by decide_lit)
    prose5_lines_ok (inertBody5_silent _ prose5_text_ok) 0).1
  rw [lines] at h
  rw [text]
  exact h

/-- instance of `C14_prose_html5`: the regenerated HTML configuration, default options -/
example : Config.renderHtml {} 14 prose5.flatten =
    some (L "<p>5 &lt; 6 &amp; 7 &gt; 2, a] (b) and x](y)\nif i&lt;n; then j&gt;0, AT&amp;T &lt;/3\na &lt;b c, x&lt;y z, 1 &lt;a href</p>\n") := by
  rw [C14_prose_html5 prose5 (by decide) (by decide_lit) prose5_lines_ok prose5_text_ok {} 0]
  decide_lit

end Mistletoe.Props.C14
