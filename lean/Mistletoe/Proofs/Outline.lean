/-
  Lemmas for C19: the list lines `TocRenderer.toc` builds for an outline parse to a list nested
  exactly as the outline.

  An outline is a forest `List O` (`O.node text kids`); `flatten lv` lists it in pre-order with
  levels (`kids` one level deeper); `build` / `toForest` rebuild the forest from a heading list and
  `isOutline` says nothing is left over (`isOutline_iff`: exactly the flattenings of non-empty forests).
  `lns col n forest` are the toc lines as the tokenizer sees them: the node at depth d is the line
  `col + 4·d` spaces, "- ", its text, "\n", with consecutive ghost origins from `n`.

  Parse (`list_ok`, `item_ok`, by induction on the forest, `O.forest_induction`; `need*` is the gas used):
  * `ListItem.read` on a node's line takes the marker (indentation `col` ≤ 3, content offset `col + 2`),
    then every line of the node's descendants (indented by ≥ `col + 4` ≥ the offset: `parse_continuation`
    strips `col + 2` columns, leaving the kids' lines at indentation 2), and stops at the next sibling's
    line (less indentation than the offset, a marker, no interrupt) or at the end of the buffer;
  * the item's nested `tokenize_block` reads one `Paragraph` with the title (the kids' first line
    interrupts it: `List.check_interrupts_paragraph`), then a `List` for the kids — recursively;
  * `List.read` loops over the siblings with the same leader "-"; nothing is loose (no blank lines).

  (`Model/Toc.lean` brings the AST type `Mistletoe.Block` into scope, whose constructors `Block.heading`, … live in
  this namespace; the scanners of the same name are therefore written `Scan.heading`, `Scan.thematicBreak`, ….)
-/
import Mistletoe.Proofs.Wrap
import Mistletoe.Model.Toc
import Mistletoe.Proofs.ConfigValues
import Mistletoe.Proofs.Lit
namespace Mistletoe.Block
open Mistletoe Mistletoe.Py Mistletoe.Scan

/-! ### The lines of a table of contents -/

def dashLine (col : Nat) (t : Str) : Str := List.replicate col ' ' ++ '-' :: ' ' :: (t ++ ['\n'])

def PlainTitle (t : Str) : Prop := ∃ c r, t = c :: r ∧ isAlpha c = true ∧ '\n' ∉ r

def plainTitle (t : Str) : Bool :=
  match t with
  | c :: r => isAlpha c && !r.contains '\n'
  | [] => false

theorem plainTitle_iff (t : Str) : plainTitle t = true ↔ PlainTitle t := by
  cases t with
  | nil => simp [plainTitle, PlainTitle]
  | cons c r =>
    simp only [plainTitle, PlainTitle, Bool.and_eq_true, Bool.not_eq_eq_eq_not, Bool.not_true, List.cons.injEq]
    constructor
    · rintro ⟨h1, h2⟩; exact ⟨c, r, ⟨rfl, rfl⟩, h1, by intro hm; simp [hm] at h2⟩
    · rintro ⟨c', r', ⟨rfl, rfl⟩, h1, h2⟩; exact ⟨h1, by simpa using h2⟩

theorem dash_lead : LeadChar '-' := leadChar_of _ (by decide)

theorem alpha_plainChar (c : Char) (h : isAlpha c = true) : PlainChar c := plainChar_of c (alpha_plain c h)

section Dash
variable {t : Str} (ht : PlainTitle t) (col : Nat) (hcol : col < 4)
include ht

theorem title_quiet : Quiet (t ++ ['\n']) := by
  obtain ⟨c, r, rfl, hc, _⟩ := ht
  have := quiet_of_plain 0 c (r ++ ['\n']) (by omega) (alpha_plainChar c hc)
  simpa using this

theorem title_nonblank : isBlank (t ++ ['\n']) = false := (title_quiet ht).nb

include hcol in
theorem dash_thematicBreak : Scan.thematicBreak (dashLine col t) = false := by
  obtain ⟨c, r, rfl, hc, _⟩ := ht
  have hp := alpha_plainChar c hc
  unfold Scan.thematicBreak dashLine
  rw [leadN_upTo3 dash_lead col hcol]
  simp [ws, hp.nsp, hp.n_dash]

include hcol in
theorem dash_noEarly : NoEarly (dashLine col t) :=
  leadN_noEarly dash_lead col hcol _ (dash_thematicBreak ht col hcol)

include hcol in
omit ht in
theorem dash_listStart : listStart (dashLine col t) = true :=
  listStart_first_at ['-'] (listLeader_bullet '-' (Or.inl rfl)) col hcol 1 (by omega) (t ++ ['\n'])

include hcol in
theorem dash_parseMarker : parseMarker (dashLine col t) = some (col, col + 2, ['-'], t ++ ['\n']) := by
  obtain ⟨c, r, rfl, hc, _⟩ := ht
  exact parseMarker_first_at ['-'] (listLeader_bullet '-' (Or.inl rfl)) col hcol 1 (by omega) (by omega) c (r ++ ['\n'])
    (alpha_plainChar c hc).nsp

include hcol in
theorem dash_listInterrupts : listInterrupts (dashLine col t) = true := by
  unfold listInterrupts
  rw [dash_parseMarker ht col hcol]
  simp [title_nonblank ht, show isDigit '-' = false by decide]

theorem title_noNl : '\n' ∉ t := by
  obtain ⟨c, r, rfl, hc, hr⟩ := ht
  simp only [List.mem_cons, not_or]
  exact ⟨fun e => (alpha_plainChar c hc).n_nl e.symm, hr⟩

theorem dash_contLine : ContLine (dashLine col t) :=
  ⟨col, '-', ' ' :: t, by simp [dashLine], by decide, by simp [title_noNl ht]⟩

/-- a descendant's line behind the item's content offset -/
theorem dash_continuation (W : Nat) : parseContinuation (dashLine (W + col) t) W = some (dashLine col t) := by
  have := parseContinuation_indented W (dashLine col t) (dash_contLine ht col)
  have e : List.replicate W ' ' ++ dashLine col t = dashLine (W + col) t := by
    simp [dashLine, ← List.replicate_append_replicate]
  rw [e] at this; exact this

omit ht in
/-- a sibling's line is not indented enough to continue the item -/
theorem dash_noContinuation (W : Nat) (h : col < W) : parseContinuation (dashLine col t) W = none :=
  parseContinuation_short col W '-' _ h (by decide) (by decide) (by decide)

theorem dash_delimiterRow : delimiterRow (dashLine col t) = false := by
  obtain ⟨c, r, rfl, hc, _⟩ := ht
  have hp := alpha_plainChar c hc
  unfold delimiterRow dashLine
  simp only [span_ws_rep col '-' _ (show pyIsSpace '-' = false by decide)]
  have h1 : span ws ('-' :: ' ' :: (c :: r ++ ['\n'])) = ([], '-' :: ' ' :: (c :: r ++ ['\n'])) := by
    simp [span, ws, show pyIsSpace '-' = false by decide]
  have h2 : alignCol ('-' :: ' ' :: (c :: r ++ ['\n'])) = some (['-'], ' ' :: (c :: r ++ ['\n'])) := by
    simp [alignCol, span]
  show (match alignCol (span ws ('-' :: ' ' :: (c :: r ++ ['\n']))).snd with
    | some (_, r3) => delimRest ((List.replicate col ' ' ++ '-' :: ' ' :: (c :: r ++ ['\n'])).length + 1) r3
    | none => false) = false
  simp only [h1, h2]
  simp [delimRest, span, ws, hp.nsp, show pyIsSpace ' ' = true by decide, hp.n_bar]

/-- `Paragraph.read`: a kid's line ends the paragraph of the title (`List.check_interrupts_paragraph`) -/
theorem anyInterrupt_dash_para (cfg : Cfg) (fw : FW) (l : Line) (hp : fw.peek = some l) (hl : l.s = dashLine col t) (hcol : col < 4) :
    ∀ ts, .list ∈ ts → anyInterrupt cfg fw .thematicBreak false ts = .ok true
  | [], hm => by simp at hm
  | x :: ts, hm => by
    have hn := dash_noEarly ht col hcol
    have ih : x ≠ .list → anyInterrupt cfg fw .thematicBreak false ts = .ok true := by
      intro hne
      refine anyInterrupt_dash_para cfg fw l hp hl hcol ts ?_
      rcases List.mem_cons.mp hm with h | h
      · exact absurd h.symm hne
      · exact h
    have hone : ∃ b, interruptsOne cfg fw x = .ok b ∧ (x = .list → b = true) := by
      unfold interruptsOne
      rw [hp]
      cases x <;> simp [hl, hn.html, dash_listInterrupts ht col hcol]
    obtain ⟨b, hb, hbl⟩ := hone
    simp only [anyInterrupt]
    split
    · rename_i hcond
      exact ih (by rintro rfl; simp [hasInterrupt] at hcond)
    · rw [hb]
      cases b with
      | true => rfl
      | false => exact ih (fun e => by have := hbl e; cases this)

end Dash

/-! ### Outlines -/

/-- an outline: a heading with the headings below it -/
inductive O where
  | node (text : Str) (kids : List O)

mutual
def sizeO : O → Nat
  | .node _ kids => size kids + 1
def size : List O → Nat
  | [] => 0
  | o :: os => sizeO o + size os
end

theorem O.forest_induction {P : List O → Prop} (nil : P [])
    (cons : ∀ t kids os, P kids → P os → P (.node t kids :: os)) : ∀ os, P os :=
  @O.rec_1 (fun o => ∀ os, P os → P (o :: os)) P (fun t kids ih os h => cons t kids os ih h) nil (fun _ os ih1 ih2 => ih1 os ih2)

mutual
def flattenO (lv : Nat) : O → List (Nat × Str)
  | .node t kids => (lv, t) :: flatten (lv + 1) kids
def flatten (lv : Nat) : List O → List (Nat × Str)
  | [] => []
  | o :: os => flattenO lv o ++ flatten lv os
end

mutual
def okO : O → Bool
  | .node t kids => plainTitle t && oks kids
def oks : List O → Bool
  | [] => true
  | o :: os => okO o && oks os
end

mutual
def olinesO (col : Nat) : O → List Str
  | .node t kids => dashLine col t :: olines (col + 4) kids
def olines (col : Nat) : List O → List Str
  | [] => []
  | o :: os => olinesO col o ++ olines col os
end

mutual
def lnsO (col n : Nat) : O → List Line
  | .node t kids => { s := dashLine col t, origin := n } :: lns (col + 4) (n + 1) kids
def lns (col n : Nat) : List O → List Line
  | [] => []
  | o :: os => lnsO col n o ++ lns col (n + sizeO o) os
end

mutual
/-- the item of a heading found on line `n` at indentation `ind`: a paragraph with the title and, if there are
    headings below it, one list of their items (they follow on the next line, at indentation 2 inside the item) -/
def expItem (ind n : Nat) : O → Item
  | .node t kids =>
    .mk (.paragraph [t ++ ['\n']] n n ::
          (if kids.isEmpty then [] else [.list (expItems 2 (n + 1) kids) (n + 1) (n + 1)]))
      false ind (ind + 2) ['-'] n n
def expItems (ind n : Nat) : List O → List Item
  | [] => []
  | o :: os => expItem ind n o :: expItems ind (n + sizeO o) os
end

def expInner (n : Nat) : O → List Entry
  | .node t kids =>
    .paragraph [t ++ ['\n']] n n :: (if kids.isEmpty then [] else [.list (expItems 2 (n + 1) kids) (n + 1) (n + 1)])

/-- the lines `ListItem.read` hands to the nested tokenizer for `o` -/
def itemBuf (n : Nat) : O → List Line
  | .node t kids => { s := t ++ ['\n'], origin := n } :: lns 2 (n + 1) kids

def O.text : O → Str
  | .node t _ => t

theorem lns_length (col n : Nat) : ∀ (os : List O), (lns col n os).length = size os := by
  intro os
  induction os using O.forest_induction generalizing col n with
  | nil => rfl
  | cons t kids os h1 h2 => simp only [lns, lnsO, size, sizeO, List.length_append, List.length_cons, h1, h2]
theorem lnsO_length (col n : Nat) : ∀ (o : O), (lnsO col n o).length = sizeO o
  | .node t kids => by simp [lnsO, sizeO, lns_length]

theorem indented (W : Nat) : ∀ (os : List O) (col n : Nat), oks os = true → IndentedAll W (lns (W + col) n os) (lns col n os) := by
  intro os
  induction os using O.forest_induction with
  | nil => intros; trivial
  | cons t kids os h1 h2 =>
    intro col n h
    simp only [oks, okO, Bool.and_eq_true] at h
    simp only [lns, lnsO]
    refine indentedAll_append W (_ :: _) (_ :: _) _ _ ⟨⟨rfl, Or.inr ⟨dash_contLine ((plainTitle_iff t).mp h.1.1) col, ?_⟩⟩, ?_⟩ (h2 _ _ h.2)
    · simp [dashLine, ← List.replicate_append_replicate]
    · have := h1 (col + 4) (n + 1) h.1.2
      rw [show W + (col + 4) = W + col + 4 by omega] at this
      exact this
theorem indentedO (W : Nat) : ∀ (o : O) (col n : Nat), okO o = true → IndentedAll W (lnsO (W + col) n o) (lnsO col n o)
  | o, col, n, h => by simpa [lns, oks, h] using indented W [o] col n

theorem dashLine_ne_nl (c : Nat) (t : Str) : dashLine c t ≠ ['\n'] := by
  intro e
  have := congrArg List.length e
  simp [dashLine] at this
  omega

theorem lns_dash (col n : Nat) : ∀ (os : List O), ∀ l ∈ lns col n os, ∃ c t, l.s = dashLine c t := by
  intro os
  induction os using O.forest_induction generalizing col n with
  | nil => intro l hl; simp [lns] at hl
  | cons t kids os h1 h2 =>
    intro l hl
    simp only [lns, lnsO, List.mem_append, List.mem_cons] at hl
    rcases hl with (rfl | hl) | hl
    · exact ⟨col, t, rfl⟩
    · exact h1 _ _ l hl
    · exact h2 _ _ l hl

theorem trailNl_lns (col n : Nat) (os : List O) : trailNl 0 (lns col n os) = 0 := by
  refine trailNl_zero _ 0 ?_ (fun _ => rfl)
  intro l hl
  obtain ⟨c, t, h⟩ := lns_dash col n os l (List.mem_of_getLast? hl)
  rw [h]; exact dashLine_ne_nl c t

theorem oks_head {o : O} {os : List O} (h : oks (o :: os) = true) : PlainTitle o.text := by
  cases o; simp only [oks, okO, Bool.and_eq_true] at h; exact (plainTitle_iff _).mp h.1.1

def markerOf (col : Nat) (t : Str) : Nat × Nat × Str × Str := (col, col + 2, ['-'], t ++ ['\n'])

def nextOf (col : Nat) : List O → Option (Nat × Nat × Str × Str)
  | [] => none
  | o :: _ => some (markerOf col o.text)

/-- `ListItem.read` on the line of a heading: the nested tokenizer gets the title and the lines of the headings
    below it, re-indented to column 2; the next marker is the next sibling's, if there is one -/
theorem itemLines_node (cfg : Cfg) (col : Nat) (hcol : col < 4) (t : Str) (kids os : List O)
    (ht : plainTitle t = true) (hk : oks kids = true) (hos : oks os = true) (pre : List Line) (start : Nat)
    (prev : Option (Nat × Nat × Str × Str)) (hprev : prev = none ∨ prev = some (markerOf col t)) :
    itemLines cfg ⟨pre ++ lns col (start + pre.length) (.node t kids :: os), pre.length, start⟩ prev =
      .ok (.lines (itemBuf (start + pre.length) (.node t kids)) (start + pre.length) col (col + 2) ['-']
        (start + pre.length) (start + pre.length) (nextOf col os)
        ⟨pre ++ lns col (start + pre.length) (.node t kids :: os), pre.length + (size kids + 1), start⟩) := by
  have hT := (plainTitle_iff t).mp ht
  have hind : IndentedAll (col + 2) (lns (col + 4) (start + pre.length + 1) kids) (lns 2 (start + pre.length + 1) kids) := by
    have := indented (col + 2) kids 2 (start + pre.length + 1) hk
    rw [show col + 2 + 2 = col + 4 by omega] at this; exact this
  have hmk : prev = some (col, col + 2, ['-'], t ++ ['\n']) ∨
      (prev = none ∧ parseMarker (dashLine col t) = some (col, col + 2, ['-'], t ++ ['\n'])) := by
    rcases hprev with rfl | rfl
    · exact Or.inr ⟨rfl, dash_parseMarker hT col hcol⟩
    · exact Or.inl rfl
  have key := itemLines_read cfg col (col + 2) ['-'] (t ++ ['\n']) { s := dashLine col t, origin := start + pre.length }
    (lns (col + 4) (start + pre.length + 1) kids) (lns 2 (start + pre.length + 1) kids) [] []
    (lns col (start + pre.length + sizeO (.node t kids)) os) pre start prev hmk (title_nonblank hT) (indentedAllSp_of _ hind)
    (trailNl_lns _ _ _) trivial (fun _ h => nomatch h) (nextOf col os) (by
      cases os with
      | nil => exact .eof 0
      | cons o' os' =>
        cases o' with
        | node t' kids' =>
        have hT' : PlainTitle t' := oks_head hos
        exact .marker ⟨dashLine col t', _⟩ _ 0 (markerOf col t') (dash_noContinuation col (col + 2) (by omega))
          (dash_parseMarker hT' col hcol) (dash_noEarly hT' col hcol))
  simp only [lns_length] at key
  simpa [lns, lnsO, itemBuf] using key

/-! ### The parse -/

mutual
/-- gas that suffices for the item of `o` / for the list of `os`.  `List.read` spends one unit per item (`needL`).  An item
    costs `K = cfg.types.length + 4` on top of the list of its kids (`outline_item_step`): one unit for its nested
    `tokenize_block`, one for the round that reads the title (whose dispatcher is given `|types|`, `tryTypes_quiet`), and
    `tpre.length + 3 ≤ |types| + 2` for the round on the first kid (`tokLoop_outline`: the types before `List`, `List`
    itself, the round, the round that meets the end of the buffer) -/
def needO (K : Nat) : O → Nat
  | .node _ kids => needL K kids + K
def needL (K : Nat) : List O → Nat
  | [] => 0
  | o :: os => needO K o + needL K os + 1
end

/-- what is asked of the token-type list: `List` is consulted before `Table` and `Paragraph` -/
structure ListCfg (cfg : Cfg) (pre post : List BTok) : Prop where
  types : cfg.types = pre ++ .list :: post
  nl : .list ∉ pre
  np : .paragraph ∉ pre
  nt : .table ∉ pre
  par : .paragraph ∈ post

def ItemClaim (cfg : Cfg) (K : Nat) (o : O) : Prop :=
  ∀ gas, needO K o ≤ gas → ∀ (n : Nat) (st : St),
    tokenizeBlock cfg gas (itemBuf n o) n st = .ok ({ entries := expInner n o, loose := false }, st)

/-- `List.read` entered on the first line of `os` (no leader yet), or re-entered on a later sibling (leader "-",
    the marker handed on by the previous `ListItem.read`) -/
def LdNm (col : Nat) (os : List O) (ld : Option Str) (nm : Option (Nat × Nat × Str × Str)) : Prop :=
  (ld = none ∧ nm = none) ∨ (ld = some ['-'] ∧ nm = nextOf col os)

def ListClaim (cfg : Cfg) (K : Nat) (os : List O) : Prop :=
  ∀ col, col < 4 → ∀ gas, needL K os ≤ gas → ∀ (pre : List Line) (start : Nat) (st : St) (acc : List Item) ld nm, LdNm col os ld nm →
    readList cfg gas ⟨pre ++ lns col (start + pre.length) os, pre.length, start⟩ st ld nm acc =
      .ok (acc.reverse ++ expItems col (start + pre.length) os,
           ⟨pre ++ lns col (start + pre.length) os, pre.length + size os, start⟩, st)

theorem expItem_eq (col n : Nat) (o : O) : expItem col n o = .mk (expInner n o) false col (col + 2) ['-'] n n := by
  cases o; rfl

theorem outline_list_step (cfg : Cfg) (K : Nat) (o : O) (os : List O) (ho : okO o = true) (hos : oks os = true)
    (hI : ItemClaim cfg K o) (hL : os ≠ [] → ListClaim cfg K os) : ListClaim cfg K (o :: os) := by
  intro col hcol gas hg pre start st acc ld nm hln
  cases o with
  | node t kids =>
  simp only [okO, Bool.and_eq_true] at ho
  obtain ⟨g, rfl⟩ : ∃ g, gas = g + 1 := ⟨gas - 1, by simp only [needL] at hg; omega⟩
  have hg1 : needO K (.node t kids) ≤ g := by simp only [needL] at hg; omega
  have hg2 : needL K os ≤ g := by simp only [needL] at hg; omega
  have hprev : nm = none ∨ nm = some (markerOf col t) := by
    rcases hln with ⟨_, h⟩ | ⟨_, h⟩
    · exact Or.inl h
    · exact Or.inr h
  have hil := itemLines_node cfg col hcol t kids os ho.1 ho.2 hos pre start nm hprev
  have hom : otherMarkerType ld nm = false := by
    rcases hln with ⟨rfl, _⟩ | ⟨rfl, rfl⟩
    · exact otherMarkerType_none_left _
    · simp only [nextOf, otherMarkerType, markerOf]; decide
  have hld : ld.getD ['-'] = ['-'] := by rcases hln with ⟨rfl, _⟩ | ⟨rfl, _⟩ <;> rfl
  rw [readList_round hom hil, hI g hg1 (start + pre.length) st, hld]
  cases os with
  | nil => simp [nextOf, expItems, expItem_eq, size, sizeO]
  | cons o' os' =>
    have := hL (by simp) col hcol g hg2 (pre ++ lnsO col (start + pre.length) (.node t kids)) start st
      (expItem col (start + pre.length) (.node t kids) :: acc) (some ['-']) (nextOf col (o' :: os')) (Or.inr ⟨rfl, rfl⟩)
    simp only [List.length_append, lnsO_length, ← Nat.add_assoc, List.append_assoc] at this
    simp only [lns, size, sizeO, ← Nat.add_assoc, expItem_eq, nextOf, expItems] at this ⊢
    rw [this]; simp

theorem lns_head (col n : Nat) (o : O) (os : List O) :
    lns col n (o :: os) = { s := dashLine col o.text, origin := n } :: (lns col n (o :: os)).tail := by
  cases o; simp [lns, lnsO, O.text]

/-- the first of the lines of a forest is no delimiter row: `Table` does not take the line before it -/
theorem lns_noDelim (col n : Nat) (os : List O) (hok : oks os = true) :
    ∀ l', (lns col n os).head? = some l' → delimiterRow l'.s = false := by
  intro l' hl'
  cases os with
  | nil => simp [lns] at hl'
  | cons k ks =>
    rw [lns_head] at hl'
    simp only [List.head?_cons, Option.some.injEq] at hl'
    subst hl'
    exact dash_delimiterRow (oks_head hok) col

theorem tokLoop_outline (cfg : Cfg) (tpre tpost : List BTok) (hc : ListCfg cfg tpre tpost) (K : Nat) (o : O) (os : List O)
    (hok : oks (o :: os) = true) (hL : ListClaim cfg K (o :: os)) (col : Nat) (hcol : col < 4)
    (gas : Nat) (hg : needL K (o :: os) + tpre.length + 3 ≤ gas) (pre : List Line) (start : Nat) (st : St)
    (acc : List Entry) (loose : Bool) :
    tokLoop cfg gas ⟨pre ++ lns col (start + pre.length) (o :: os), pre.length, start⟩ st acc loose =
      .ok ({ entries := (Entry.list (expItems col (start + pre.length) (o :: os)) (start + pre.length) (start + pre.length) :: acc).reverse,
             loose := loose }, st) := by
  obtain ⟨g, rfl⟩ : ∃ g, gas = ((g + 1 + tpre.length) + 1) := ⟨gas - tpre.length - 2, by omega⟩
  have hT' := oks_head hok
  have hp : FW.peek ⟨pre ++ lns col (start + pre.length) (o :: os), pre.length, start⟩ =
      some { s := dashLine col o.text, origin := start + pre.length } := by
    rw [lns_head]; exact peek_at pre _ _ start
  have hend : FW.peek ⟨pre ++ lns col (start + pre.length) (o :: os), pre.length + size (o :: os), start⟩ = none := by
    have := peek_end (pre ++ lns col (start + pre.length) (o :: os)) start
    simpa [lns_length] using this
  rw [tokLoop_list hc.types hc.nl hc.np hc.nt hp (dash_noEarly hT' col hcol) (dash_listStart col hcol),
    hL col hcol g (by omega) pre start st [] none none (Or.inl ⟨rfl, rfl⟩),
    show g + 1 + tpre.length = (g + tpre.length) + 1 by omega]
  simp only [tokLoop, hend, List.reverse_nil, List.nil_append]

theorem paragraph_mem {cfg : Cfg} {tpre tpost : List BTok} (hc : ListCfg cfg tpre tpost) : BTok.paragraph ∈ cfg.types := by
  rw [hc.types]; simp [hc.par]

theorem list_mem {cfg : Cfg} {tpre tpost : List BTok} (hc : ListCfg cfg tpre tpost) : BTok.list ∈ cfg.types := by
  rw [hc.types]; simp

/-- `Paragraph.read` on the title: one line; the first line of the headings below (if any) interrupts it -/
theorem readParagraph_title (cfg : Cfg) (tpre tpost : List BTok) (hc : ListCfg cfg tpre tpost) (so : Bool) (t : Str)
    (n : Nat) (kids : List O) (hk : oks kids = true) :
    readParagraph cfg so ⟨itemBuf n (.node t kids), 0, n⟩ (t ++ ['\n']) =
      .ok ([t ++ ['\n']], false, ⟨itemBuf n (.node t kids), 1, n⟩) := by
  have key := fun he hb => readParagraph_read cfg so n ⟨t ++ ['\n'], n⟩ [] [] (lns 2 (n + 1) kids) none (fun _ h => nomatch h) he hb
  cases kids with
  | nil => simpa [itemBuf, lns] using key .eof (fun _ h => nomatch h)
  | cons k ks =>
    have hT' := oks_head hk
    rw [lns_head] at key
    have := key (.interrupt _ _ (leadN_nonblank dash_lead 2 _) fun fw hp =>
        anyInterrupt_dash_para hT' 2 cfg fw _ hp rfl (by omega) cfg.types (list_mem hc))
      (fun l' h => by simp at h; subst h; rw [dash_delimiterRow hT' 2]; rfl)
    rw [← lns_head] at this
    simpa [itemBuf] using this

theorem outline_item_step (cfg : Cfg) (tpre tpost : List BTok) (hc : ListCfg cfg tpre tpost) (t : Str) (kids : List O)
    (ho : okO (.node t kids) = true) (hL : kids ≠ [] → ListClaim cfg (cfg.types.length + 4) kids) :
    ItemClaim cfg (cfg.types.length + 4) (.node t kids) := by
  intro gas hg n st
  simp only [okO, Bool.and_eq_true] at ho
  have hT := (plainTitle_iff _).mp ho.1
  have hlen : tpre.length + 1 ≤ cfg.types.length := by rw [hc.types]; simp
  obtain ⟨g, rfl⟩ : ∃ g, gas = g + 1 + 1 + 1 := ⟨gas - 3, by simp only [needO] at hg; omega⟩
  have hgg : needL (cfg.types.length + 4) kids + cfg.types.length + 2 ≤ g + 1 := by simp only [needO] at hg; omega
  have hp : FW.peek ⟨itemBuf n (.node t kids), 0, n⟩ = some { s := t ++ ['\n'], origin := n } := rfl
  have htab : readTable ⟨itemBuf n (.node t kids), 0, n⟩ = none := by
    have := readTable_none [] { s := t ++ ['\n'], origin := n } (lns 2 (n + 1) kids) n (lns_noDelim 2 _ kids ho.2)
    simpa [itemBuf] using this
  have hR := readParagraph_title cfg tpre tpost hc st.setext t n kids ho.2
  have hY := tryTypes_quiet cfg ⟨itemBuf n (.node t kids), 0, n⟩ st { s := t ++ ['\n'], origin := n } _ _ (title_quiet hT) htab hR
    cfg.types (g + 1) (paragraph_mem hc) (by omega)
  rw [tokenizeBlock, tokLoop]
  simp only [hp, hY, Nat.add_zero]
  cases kids with
  | nil =>
    simp [tokLoop, FW.peek, itemBuf, lns, expInner]
  | cons k ks =>
    have := tokLoop_outline cfg tpre tpost hc _ k ks ho.2 (hL (by simp)) 2 (by omega) (g + 1) (by omega)
      [{ s := t ++ ['\n'], origin := n }] n st [.paragraph [t ++ ['\n']] n n] false
    simp only [List.length_singleton, List.singleton_append] at this
    simp only [itemBuf]
    rw [this]
    simp [expInner]

theorem list_ok (cfg : Cfg) (tpre tpost : List BTok) (hc : ListCfg cfg tpre tpost) :
    ∀ (os : List O), os ≠ [] → oks os = true → ListClaim cfg (cfg.types.length + 4) os := by
  intro os
  induction os using O.forest_induction with
  | nil => intro hne; exact absurd rfl hne
  | cons t kids os h1 h2 =>
    intro _ h
    simp only [oks, okO, Bool.and_eq_true] at h
    exact outline_list_step cfg _ _ os (by simp [okO, h.1]) h.2
      (outline_item_step cfg tpre tpost hc t kids (by simp [okO, h.1]) (fun hne => h1 hne h.1.2)) (fun hne => h2 hne h.2)
theorem item_ok (cfg : Cfg) (tpre tpost : List BTok) (hc : ListCfg cfg tpre tpost) :
    ∀ (o : O), okO o = true → ItemClaim cfg (cfg.types.length + 4) o
  | .node t kids, h =>
    outline_item_step cfg tpre tpost hc t kids h (fun hne => list_ok cfg tpre tpost hc kids hne
      (by simp only [okO, Bool.and_eq_true] at h; exact h.2))

/-! ### The final statements (C19) -/

theorem olines_length (col : Nat) : ∀ (os : List O), (olines col os).length = size os := by
  intro os
  induction os using O.forest_induction generalizing col with
  | nil => rfl
  | cons t kids os h1 h2 => simp only [olines, olinesO, size, sizeO, List.length_append, List.length_cons, h1, h2]
theorem lns_s (col n : Nat) : ∀ (os : List O), (lns col n os).map (·.s) = olines col os := by
  intro os
  induction os using O.forest_induction generalizing col n with
  | nil => rfl
  | cons t kids os h1 h2 => simp [lns, lnsO, olines, olinesO, h1, h2]
theorem lnsO_s (col n : Nat) : ∀ (o : O), (lnsO col n o).map (·.s) = olinesO col o
  | .node t kids => by simp [lnsO, olinesO, lns_s]

/-- the numbering `blockPhase` gives to the lines of a document: line `i` (from `k`) has origin `i + 1` -/
def numbered (k : Nat) (ss : List Str) : List Line :=
  (ss.zipIdx k).map (fun (s, i) => { s := s, origin := i + 1 })

theorem numbered_cons (k : Nat) (s : Str) (ss : List Str) :
    numbered k (s :: ss) = { s := s, origin := k + 1 } :: numbered (k + 1) ss := by
  simp [numbered, List.zipIdx_cons]

theorem numbered_append (k : Nat) (a b : List Str) : numbered k (a ++ b) = numbered k a ++ numbered (k + a.length) b := by
  simp [numbered, List.zipIdx_append]

theorem numberedL (col : Nat) : ∀ (os : List O) (k : Nat), numbered k (olines col os) = lns col (k + 1) os := by
  intro os
  induction os using O.forest_induction generalizing col with
  | nil => intro; rfl
  | cons t kids os h1 h2 =>
    intro k
    simp only [olines, olinesO, lns, lnsO, sizeO, List.cons_append, numbered_cons, numbered_append, olines_length, h1, h2]
    rw [show k + 1 + size kids + 1 = k + 1 + (size kids + 1) by omega]
theorem numberedO (col : Nat) : ∀ (o : O) (k : Nat), numbered k (olinesO col o) = lnsO col (k + 1) o
  | o, k => by simpa [lns, olines] using numberedL col [o] k

theorem blockPhase_olines (cfg : Cfg) (gas col : Nat) (os : List O) :
    blockPhase cfg gas (olines col os) = tokenizeBlock cfg gas (lns col 1 os) 1 {} := by
  have := numberedL col os 0
  simp only [numbered, Nat.zero_add] at this
  simp only [blockPhase, this]

theorem needL_eq (K : Nat) : ∀ (os : List O), needL K os = (K + 1) * size os := by
  intro os
  induction os using O.forest_induction with
  | nil => rfl
  | cons t kids os h1 h2 => simp only [needL, needO, size, sizeO, h1, h2, Nat.mul_add]; omega
theorem needO_eq (K : Nat) : ∀ (o : O), needO K o + 1 = (K + 1) * sizeO o
  | o => needL_eq K [o]

/-- **C19, the parse**: for a non-empty outline `os` with plain-word titles, under any block token list that asks
    `List` before `Table` and `Paragraph` (`ListCfg`), and with `needL … os + |types| + 4` gas
    (`= (|types| + 5) · size os + |types| + 4`, `needL_eq`), `tokenize_block` on the toc lines (numbered from any
    `n`, in any state `st`) returns exactly one entry: the `List` whose items are `expItems 0 n os` - one item per
    top-level heading, in order, each holding one `Paragraph` with the heading's title followed, iff the heading has
    headings below it, by one nested `List` of their items (recursively); nothing is loose; the state is unchanged.
    The same as `blockPhase` (`block_token.tokenize(lines)`: lines numbered from 1, fresh state). -/
theorem C19_outline_parses (cfg : Cfg) (tpre tpost : List BTok) (hc : ListCfg cfg tpre tpost) (os : List O) (hne : os ≠ [])
    (hok : oks os = true) (gas : Nat) (hg : needL (cfg.types.length + 4) os + cfg.types.length + 4 ≤ gas) :
    (∀ (n : Nat) (st : St), tokenizeBlock cfg gas (lns 0 n os) n st =
        .ok ({ entries := [.list (expItems 0 n os) n n], loose := false }, st))
    ∧ blockPhase cfg gas (olines 0 os) = .ok ({ entries := [.list (expItems 0 1 os) 1 1], loose := false }, {}) := by
  have key : ∀ (n : Nat) (st : St), tokenizeBlock cfg gas (lns 0 n os) n st =
      .ok ({ entries := [.list (expItems 0 n os) n n], loose := false }, st) := by
    intro n st
    cases os with
    | nil => exact absurd rfl hne
    | cons o os =>
      have hlen : tpre.length + 1 ≤ cfg.types.length := by rw [hc.types]; simp
      obtain ⟨g, rfl⟩ : ∃ g, gas = g + 1 := ⟨gas - 1, by omega⟩
      have := tokLoop_outline cfg tpre tpost hc _ o os hok (list_ok cfg tpre tpost hc _ hne hok) 0 (by omega) g (by omega) [] n st [] false
      simpa [tokenizeBlock] using this
  refine ⟨key, ?_⟩
  rw [blockPhase_olines]
  exact key 1 {}

/-! #### The connection with `TocRenderer.toc` (`Model/Toc.lean`) -/

theorem flatten_ge (lv : Nat) : ∀ (os : List O), ∀ h ∈ flatten lv os, lv ≤ h.1 := by
  intro os
  induction os using O.forest_induction generalizing lv with
  | nil => intro h hh; simp [flatten] at hh
  | cons t kids os h1 h2 =>
    intro h hh
    simp only [flatten, flattenO, List.mem_append, List.mem_cons] at hh
    rcases hh with (rfl | hh) | hh
    · exact Nat.le_refl _
    · have := h1 _ h hh; omega
    · exact h2 lv h hh
theorem flattenO_ge (lv : Nat) : ∀ (o : O), ∀ h ∈ flattenO lv o, lv ≤ h.1
  | o => by have := flatten_ge lv [o]; simp only [flatten, List.append_nil] at this; exact this

theorem foldl_min_eq (hs : List (Nat × Str)) (m : Nat) (h : ∀ x ∈ hs, m ≤ x.1) :
    hs.foldl (fun m x => min m x.1) m = m := by
  induction hs with
  | nil => rfl
  | cons x xs ih =>
    have hx := h x (List.mem_cons_self ..)
    simp only [List.foldl_cons, Nat.min_eq_left hx]
    exact ih (fun y hy => h y (List.mem_cons_of_mem _ hy))

theorem baseLevel_flatten (lv : Nat) (os : List O) (hne : os ≠ []) : Toc.baseLevel (flatten lv os) = lv := by
  cases os with
  | nil => exact absurd rfl hne
  | cons o os =>
    cases o with
    | node t kids =>
      simp only [flatten, flattenO, List.cons_append, Toc.baseLevel]
      refine foldl_min_eq _ lv ?_
      intro x hx
      rcases List.mem_append.mp hx with hx | hx
      · have := flatten_ge (lv + 1) kids x hx; omega
      · exact flatten_ge lv os x hx

theorem tocLineL (base : Nat) : ∀ (os : List O) (d : Nat), (flatten (base + d) os).map (Toc.tocLine base) = olines (4 * d) os := by
  intro os
  induction os using O.forest_induction with
  | nil => intro; rfl
  | cons t kids os h1 h2 =>
    intro d
    have ih := h1 (d + 1)
    rw [show 4 * (d + 1) = 4 * d + 4 by omega, ← Nat.add_assoc] at ih
    simp only [flatten, flattenO, olines, olinesO, List.map_append, List.map_cons, ih, h2]
    simp [Toc.tocLine, dashLine]
theorem tocLineO (base : Nat) : ∀ (o : O) (d : Nat), (flattenO (base + d) o).map (Toc.tocLine base) = olinesO (4 * d) o
  | o, d => by simpa [flatten, olines] using tocLineL base [o] d

/-- **C19, the lines**: the list lines `TocRenderer.toc` builds (`Toc.tocLines`) for the headings of an outline
    (`flatten lv os`: pre-order, `kids` one level deeper, top level `lv`) are the lines `olines 0 os` - the text of
    `lns 0 n os` for every numbering `n`; the base level is `lv`. -/
theorem C19_outline_lines (lv n : Nat) (os : List O) :
    Toc.tocLines (flatten lv os) = (lns 0 n os).map (·.s)
    ∧ Toc.tocLines (flatten lv os) = olines 0 os
    ∧ (os ≠ [] → Toc.baseLevel (flatten lv os) = lv) := by
  have key : Toc.tocLines (flatten lv os) = olines 0 os := by
    cases os with
    | nil => rfl
    | cons o os =>
      unfold Toc.tocLines
      rw [baseLevel_flatten lv (o :: os) (by simp)]
      exact tocLineL lv (o :: os) 0
  exact ⟨by rw [lns_s]; exact key, key, baseLevel_flatten lv os⟩

/-- **C19, nesting**: `block_token.tokenize` on the list lines `TocRenderer.toc` builds for the headings of a
    non-empty outline with plain-word titles gives one `List`, nested exactly as the outline. -/
theorem C19_outline_toc (cfg : Cfg) (tpre tpost : List BTok) (hc : ListCfg cfg tpre tpost) (lv : Nat) (os : List O) (hne : os ≠ [])
    (hok : oks os = true) (gas : Nat) (hg : (cfg.types.length + 5) * size os + cfg.types.length + 4 ≤ gas) :
    blockPhase cfg gas (Toc.tocLines (flatten lv os)) =
      .ok ({ entries := [.list (expItems 0 1 os) 1 1], loose := false }, {}) := by
  rw [(C19_outline_lines lv 0 os).2.1]
  exact (C19_outline_parses cfg tpre tpost hc os hne hok gas (by rw [needL_eq]; omega)).2

/-! #### Heading lists that are outlines -/

/-- recursive descent over a heading list: the forest of the headings from the front of `hs` that form an outline
    with top level `lv`, and the headings left over (`fuel`: one unit per heading suffices) -/
def build : Nat → Nat → List (Nat × Str) → List O × List (Nat × Str)
  | 0, _, hs => ([], hs)
  | _ + 1, _, [] => ([], [])
  | fuel + 1, lv, (l, t) :: rest =>
    if l = lv then
      let r1 := build fuel (lv + 1) rest
      let r2 := build fuel lv r1.2
      (.node t r1.1 :: r2.1, r2.2)
    else ([], (l, t) :: rest)

/-- the outline of a heading list (top level: the level of the first heading) -/
def toForest (hs : List (Nat × Str)) : List O :=
  match hs with
  | [] => []
  | h :: _ => (build hs.length h.1 hs).1

/-- the heading list is an outline: not empty, and the descent from the level of the first heading uses it up
    (`isOutline_iff`: exactly the flattenings of the non-empty forests; `isOutline_eq_levels`: no heading is shallower
    than the first one, and no heading is more than one level deeper than the heading before it) -/
def isOutline (hs : List (Nat × Str)) : Bool :=
  match hs with
  | [] => false
  | h :: _ => (build hs.length h.1 hs).2.isEmpty

theorem build_sound : ∀ (fuel lv : Nat) (hs : List (Nat × Str)),
    hs = flatten lv (build fuel lv hs).1 ++ (build fuel lv hs).2
  | 0, _, _ => by simp [build, flatten]
  | _ + 1, _, [] => by simp [build, flatten]
  | fuel + 1, lv, (l, t) :: rest => by
    simp only [build]
    split
    · rename_i h
      subst h
      have h1 := build_sound fuel (l + 1) rest
      have h2 := build_sound fuel l (build fuel (l + 1) rest).2
      simp only [flatten, flattenO, List.cons_append, List.append_assoc]
      rw [← h2, ← h1]
    · simp [flatten]

/-- what may follow the headings of a forest of top level `lv`: nothing, or a shallower heading -/
def RestOk (lv : Nat) (rest : List (Nat × Str)) : Prop := ∀ h, rest.head? = some h → h.1 < lv

theorem build_stop (fuel lv : Nat) (rest : List (Nat × Str)) (hr : RestOk lv rest) : build fuel lv rest = ([], rest) := by
  cases fuel with
  | zero => rfl
  | succ f =>
    cases rest with
    | nil => rfl
    | cons h rest =>
      obtain ⟨l, t⟩ := h
      have := hr (l, t) rfl
      simp only [build]
      rw [if_neg (by simp only at this; omega)]

theorem restOk_flatten (lv : Nat) (os : List O) (rest : List (Nat × Str)) (hr : RestOk lv rest) :
    RestOk (lv + 1) (flatten lv os ++ rest) := by
  intro h hh
  cases os with
  | nil =>
    simp only [flatten, List.nil_append] at hh
    have := hr h hh; omega
  | cons o os =>
    cases o with
    | node t kids =>
      simp only [flatten, flattenO, List.cons_append, List.head?_cons, Option.some.injEq] at hh
      subst hh; exact Nat.lt_succ_self _

theorem build_flatten : ∀ (os : List O) (fuel lv : Nat) (rest : List (Nat × Str)), size os ≤ fuel → RestOk lv rest →
    build fuel lv (flatten lv os ++ rest) = (os, rest) := by
  intro os
  induction os using O.forest_induction with
  | nil => intro fuel lv rest _ hr; simp only [flatten, List.nil_append]; exact build_stop fuel lv rest hr
  | cons t kids os h1 h2 =>
    intro fuel lv rest hf hr
    simp only [size, sizeO] at hf
    obtain ⟨f, rfl⟩ : ∃ f, fuel = f + 1 := ⟨fuel - 1, by omega⟩
    simp only [flatten, flattenO, List.cons_append, List.append_assoc, build, if_true]
    rw [h1 f (lv + 1) _ (by omega) (restOk_flatten lv os rest hr), h2 f lv rest (by omega) hr]
theorem build_flattenO : ∀ (o : O) (fuel lv : Nat) (tail : List (Nat × Str)), sizeO o ≤ fuel + 1 → RestOk (lv + 1) tail →
    build (fuel + 1) lv (flattenO lv o ++ tail) = (o :: (build fuel lv tail).1, (build fuel lv tail).2)
  | .node t kids, fuel, lv, tail, hf, hr => by
    simp only [sizeO] at hf
    simp only [flattenO, List.cons_append, build, if_true]
    rw [build_flatten kids fuel (lv + 1) tail (by omega) hr]

theorem flatten_length (lv : Nat) : ∀ (os : List O), (flatten lv os).length = size os := by
  intro os
  induction os using O.forest_induction generalizing lv with
  | nil => rfl
  | cons t kids os h1 h2 => simp only [flatten, flattenO, size, sizeO, List.length_append, List.length_cons, h1, h2]
theorem flattenO_length (lv : Nat) : ∀ (o : O), (flattenO lv o).length = sizeO o
  | .node t kids => by simp [flattenO, sizeO, flatten_length]

theorem toForest_flatten (lv : Nat) (os : List O) (hne : os ≠ []) :
    toForest (flatten lv os) = os ∧ isOutline (flatten lv os) = true := by
  cases os with
  | nil => exact absurd rfl hne
  | cons o os =>
    obtain ⟨t, tl, e⟩ : ∃ t tl, flatten lv (o :: os) = (lv, t) :: tl := by
      cases o with
      | node t kids => exact ⟨t, _, rfl⟩
    have hb := build_flatten (o :: os) (flatten lv (o :: os)).length lv [] (by rw [flatten_length]; exact Nat.le_refl _)
      (by intro h hh; cases hh)
    rw [List.append_nil] at hb
    unfold toForest isOutline
    rw [e] at hb ⊢
    simp only [List.length_cons] at hb
    simp [hb]

theorem isOutline_sound (hs : List (Nat × Str)) (h : isOutline hs = true) :
    toForest hs ≠ [] ∧ ∃ lv, hs.head?.map (·.1) = some lv ∧ hs = flatten lv (toForest hs) := by
  cases hs with
  | nil => simp [isOutline] at h
  | cons x xs =>
    have hs := build_sound (x :: xs).length x.1 (x :: xs)
    simp only [isOutline, List.isEmpty_iff] at h
    rw [h, List.append_nil] at hs
    simp only [toForest]
    refine ⟨?_, x.1, rfl, hs⟩
    intro e
    rw [e] at hs
    simp [flatten] at hs

theorem isOutline_iff (hs : List (Nat × Str)) : isOutline hs = true ↔ ∃ lv os, os ≠ [] ∧ hs = flatten lv os := by
  constructor
  · intro h
    obtain ⟨hne, lv, _, e⟩ := isOutline_sound hs h
    exact ⟨lv, _, hne, e⟩
  · rintro ⟨lv, os, hne, rfl⟩
    exact (toForest_flatten lv os hne).2

def levelsOk (base : Nat) : Nat → List (Nat × Str) → Bool
  | _, [] => true
  | prev, (l, _) :: rest => decide (base ≤ l) && decide (l ≤ prev + 1) && levelsOk base l rest

/-- the elementary description of an outline: not empty, no heading shallower than the first one, no heading more
    than one level deeper than the heading before it -/
def outlineLevels (hs : List (Nat × Str)) : Bool :=
  match hs with
  | [] => false
  | (l, _) :: rest => levelsOk l l rest

theorem levelsOk_head (base prev : Nat) (hs : List (Nat × Str)) (h : levelsOk base prev hs = true) :
    ∀ x, hs.head? = some x → base ≤ x.1 ∧ x.1 ≤ prev + 1 := by
  intro x hx
  cases hs with
  | nil => cases hx
  | cons y ys =>
    obtain ⟨l, t⟩ := y
    simp only [List.head?_cons, Option.some.injEq] at hx
    subst hx
    simp only [levelsOk, Bool.and_eq_true, decide_eq_true_eq] at h
    exact ⟨h.1.1, h.1.2⟩

theorem build_levels (base : Nat) : ∀ (fuel lv prev : Nat) (hs : List (Nat × Str)), levelsOk base prev hs = true →
    (∀ x, hs.head? = some x → x.1 ≤ lv) → hs.length ≤ fuel →
    RestOk lv (build fuel lv hs).2 ∧ (∃ prev', levelsOk base prev' (build fuel lv hs).2 = true) ∧
      (build fuel lv hs).2.length ≤ hs.length
  | 0, lv, prev, hs, hl, _, hf => by
    have : hs = [] := List.eq_nil_of_length_eq_zero (by omega)
    subst this
    exact ⟨(by intro h hh; cases hh), ⟨prev, rfl⟩, Nat.le_refl _⟩
  | _ + 1, lv, prev, [], _, _, _ => ⟨(by intro h hh; cases hh), ⟨prev, rfl⟩, Nat.le_refl _⟩
  | fuel + 1, lv, prev, (l, t) :: rest, hl, hh, hf => by
    have hle := hh (l, t) rfl
    simp only [build]
    split
    · rename_i e
      subst e
      have hl' : levelsOk base l rest = true := by
        simp only [levelsOk, Bool.and_eq_true] at hl; exact hl.2
      simp only [List.length_cons] at hf
      obtain ⟨a1, ⟨p1, b1⟩, c1⟩ := build_levels base fuel (l + 1) l rest hl'
        (fun x hx => (levelsOk_head base l rest hl' x hx).2) (by omega)
      obtain ⟨a2, b2, c2⟩ := build_levels base fuel l p1 (build fuel (l + 1) rest).2 b1
        (fun x hx => by have := a1 x hx; omega) (by omega)
      exact ⟨a2, b2, by simp only [List.length_cons]; omega⟩
    · rename_i e
      refine ⟨?_, ⟨prev, hl⟩, Nat.le_refl _⟩
      intro x hx
      simp only [List.head?_cons, Option.some.injEq] at hx
      subst hx
      simp only at hle ⊢; omega

theorem levelsOk_flatten (base : Nat) : ∀ (os : List O) (lv prev : Nat) (rest : List (Nat × Str)), base ≤ lv → lv ≤ prev + 1 →
    (∀ prev', lv ≤ prev' + 1 → levelsOk base prev' rest = true) → levelsOk base prev (flatten lv os ++ rest) = true := by
  intro os
  induction os using O.forest_induction with
  | nil => intro lv prev rest _ hp hc; simp only [flatten, List.nil_append]; exact hc prev hp
  | cons t kids os h1 h2 =>
    intro lv prev rest hb hp hc
    simp only [flatten, flattenO, List.cons_append, List.append_assoc, levelsOk, Bool.and_eq_true, decide_eq_true_eq]
    exact ⟨⟨hb, hp⟩, h1 (lv + 1) lv _ (by omega) (Nat.le_refl _) (fun p hp' => h2 lv p rest hb (by omega) hc)⟩
theorem levelsOk_flattenO (base : Nat) : ∀ (o : O) (lv prev : Nat) (rest : List (Nat × Str)), base ≤ lv → lv ≤ prev + 1 →
    (∀ prev', lv ≤ prev' + 1 → levelsOk base prev' rest = true) → levelsOk base prev (flattenO lv o ++ rest) = true
  | o, lv, prev, rest, hb, hp, hc => by simpa [flatten] using levelsOk_flatten base [o] lv prev rest hb hp hc

theorem isOutline_eq_levels (hs : List (Nat × Str)) : isOutline hs = outlineLevels hs := by
  cases h : outlineLevels hs with
  | true =>
    cases hs with
    | nil => simp [outlineLevels] at h
    | cons x xs =>
      obtain ⟨l, t⟩ := x
      simp only [outlineLevels] at h
      have hl : levelsOk l l ((l, t) :: xs) = true := by simp [levelsOk, h]
      obtain ⟨a, ⟨p, b⟩, _⟩ := build_levels l ((l, t) :: xs).length l l ((l, t) :: xs) hl
        (fun x hx => by simp only [List.head?_cons, Option.some.injEq] at hx; subst hx; exact Nat.le_refl _) (Nat.le_refl _)
      simp only [isOutline, List.isEmpty_iff]
      cases hr : (build ((l, t) :: xs).length l ((l, t) :: xs)).2 with
      | nil => rfl
      | cons y ys =>
        rw [hr] at a b
        have h1 := a y rfl
        have h2 := (levelsOk_head l p _ b y rfl).1
        omega
  | false =>
    cases ho : isOutline hs with
    | false => rfl
    | true =>
      obtain ⟨lv, os, hne, rfl⟩ := (isOutline_iff hs).mp ho
      cases os with
      | nil => exact absurd rfl hne
      | cons o os =>
        cases o with
        | node t kids =>
          have := levelsOk_flatten lv (.node t kids :: os) lv lv [] (Nat.le_refl _) (by omega) (fun _ _ => rfl)
          simp only [List.append_nil, flatten, flattenO, List.cons_append, levelsOk, Bool.and_eq_true] at this
          simp only [outlineLevels, flatten, flattenO, List.cons_append, this.2] at h
          cases h

theorem oks_of_flatten (lv : Nat) : ∀ (os : List O), (∀ h ∈ flatten lv os, plainTitle h.2 = true) → oks os = true := by
  intro os
  induction os using O.forest_induction generalizing lv with
  | nil => intro; rfl
  | cons t kids os h1 h2 =>
    intro h
    simp only [flatten, flattenO, List.mem_append, List.mem_cons] at h
    simp only [oks, okO, Bool.and_eq_true]
    exact ⟨⟨h (lv, t) (.inl (.inl rfl)), h1 _ (fun x hx => h x (.inl (.inr hx)))⟩, h2 lv (fun x hx => h x (.inr hx))⟩
theorem okO_of_flatten (lv : Nat) : ∀ (o : O), (∀ h ∈ flattenO lv o, plainTitle h.2 = true) → okO o = true
  | o => by have := oks_of_flatten lv [o]; simp only [flatten, List.append_nil, oks, Bool.and_true] at this; exact this

/-- **C19, nesting by level**: if the collected headings `hs` form an outline (`isOutline`: not empty, no heading
    shallower than the first, none more than one level deeper than the one before it - `isOutline_eq_levels`) and every
    text is a plain-word title, then `block_token.tokenize` on the list lines `TocRenderer.toc` builds
    (`Toc.tocLines hs`) gives exactly one `List`, and that list is nested exactly as the outline `toForest hs`:
    one item per heading, a heading's item holding a `Paragraph` with its text and - iff deeper headings follow
    it - one nested `List` with the items of the headings one level below it. -/
theorem C19_toc_nested (cfg : Cfg) (tpre tpost : List BTok) (hc : ListCfg cfg tpre tpost) (hs : List (Nat × Str))
    (ho : isOutline hs = true) (ht : ∀ h ∈ hs, plainTitle h.2 = true)
    (gas : Nat) (hg : (cfg.types.length + 5) * hs.length + cfg.types.length + 4 ≤ gas) :
    blockPhase cfg gas (Toc.tocLines hs) =
      .ok ({ entries := [.list (expItems 0 1 (toForest hs)) 1 1], loose := false }, {}) := by
  obtain ⟨hne, lv, _, e⟩ := isOutline_sound hs ho
  have hok : oks (toForest hs) = true := oks_of_flatten lv _ (by rw [← e]; exact ht)
  have hlen : hs.length = size (toForest hs) := by
    have := flatten_length lv (toForest hs)
    rw [← e] at this; exact this
  have := C19_outline_toc cfg tpre tpost hc lv (toForest hs) hne hok gas (by rw [← hlen]; exact hg)
  rw [← e] at this
  exact this

/-! #### Non-vacuity: a concrete outline (depth 3, six headings) -/

/-- `## Intro / ### Setup / #### Linux / ### Usage / ## Api / ### Core` -/
def sampleForest : List O :=
  [.node "Intro".toList [.node "Setup".toList [.node "Linux".toList []], .node "Usage".toList []],
   .node "Api".toList [.node "Core".toList []]]

def sampleHeadings : List (Nat × Str) :=
  [(2, "Intro".toList), (3, "Setup".toList), (4, "Linux".toList), (3, "Usage".toList), (2, "Api".toList), (3, "Core".toList)]

/-- the block token list while a `TocRenderer` is active (`Props.C19.C19_toc_config_current`) -/
def sampleCfg : Cfg :=
  { types := [.htmlBlock, .blockCode, .heading, .quote, .codeFence, .thematicBreak, .list, .table, .footnote, .paragraph] }

theorem sampleCfg_list : ListCfg sampleCfg [.htmlBlock, .blockCode, .heading, .quote, .codeFence, .thematicBreak]
    [.table, .footnote, .paragraph] := ⟨rfl, by decide, by decide, by decide, by decide⟩

/-- the list `TocRenderer.toc` returns for the sample (what /repo returns, too: line numbers 1..6, nested items at
    indentation 2 with content offset 4) -/
def sampleToc : Entry :=
  .list [
    .mk [.paragraph ["Intro\n".toList] 1 1,
         .list [
           .mk [.paragraph ["Setup\n".toList] 2 2,
                .list [.mk [.paragraph ["Linux\n".toList] 3 3] false 2 4 ['-'] 3 3] 3 3] false 2 4 ['-'] 2 2,
           .mk [.paragraph ["Usage\n".toList] 4 4] false 2 4 ['-'] 4 4] 2 2] false 0 2 ['-'] 1 1,
    .mk [.paragraph ["Api\n".toList] 5 5,
         .list [.mk [.paragraph ["Core\n".toList] 6 6] false 2 4 ['-'] 6 6] 6 6] false 0 2 ['-'] 5 5] 1 1

attribute [lit] sampleForest sampleHeadings sampleToc

theorem sampleForest_ok : oks sampleForest = true := by decide_lit
theorem sampleForest_of : toForest sampleHeadings = sampleForest := rfl
theorem sampleHeadings_plain : ∀ h ∈ sampleHeadings, plainTitle h.2 = true := by decide_lit
theorem sampleToc_eq : Entry.list (expItems 0 1 sampleForest) 1 1 = sampleToc := by
  simp only [lit]
  repeat rw [String.toList_ofList]
  rfl

example : oks sampleForest = true := sampleForest_ok
example : flatten 2 sampleForest = sampleHeadings := by decide_lit
example : isOutline sampleHeadings = true ∧ outlineLevels sampleHeadings = true := by decide
example : toForest sampleHeadings = sampleForest := sampleForest_of
example : (∀ h ∈ sampleHeadings, plainTitle h.2 = true) := sampleHeadings_plain
example : Toc.tocLines sampleHeadings =
    ["- Intro\n".toList, "    - Setup\n".toList, "        - Linux\n".toList, "    - Usage\n".toList, "- Api\n".toList,
     "    - Core\n".toList] := by decide_lit
example : Entry.list (expItems 0 1 sampleForest) 1 1 = sampleToc := sampleToc_eq
/-- a heading list that is not an outline: the second heading is two levels deeper than the first -/
example : isOutline [(2, "A".toList), (4, "B".toList)] = false := by decide

example : blockPhase sampleCfg 104 (olines 0 sampleForest) = .ok ({ entries := [sampleToc], loose := false }, {}) :=
  sampleToc_eq ▸ (C19_outline_parses sampleCfg _ _ sampleCfg_list sampleForest (by simp [sampleForest]) sampleForest_ok 104
    (by decide)).2

example : blockPhase sampleCfg 104 (Toc.tocLines sampleHeadings) = .ok ({ entries := [sampleToc], loose := false }, {}) :=
  sampleToc_eq ▸ sampleForest_of ▸ C19_toc_nested sampleCfg _ _ sampleCfg_list sampleHeadings (by decide) sampleHeadings_plain 104
    (by decide)

-- `termination_by structural`: left to itself Lean compiles the four by well-founded recursion, without a message
mutual
/-- equality test on the buffers that occur here (paragraphs and lists) -/
def sameEntry : Entry → Entry → Bool
  | .paragraph a l o, .paragraph a' l' o' => a == a' && l == l' && o == o'
  | .list is l o, .list is' l' o' => sameItems is is' && l == l' && o == o'
  | _, _ => false
termination_by structural a => a
def sameItems : List Item → List Item → Bool
  | [], [] => true
  | i :: is, i' :: is' => sameItem i i' && sameItems is is'
  | _, _ => false
termination_by structural a => a
def sameItem : Item → Item → Bool
  | .mk inner lo ind pre ld ln og, .mk inner' lo' ind' pre' ld' ln' og' =>
    sameEntries inner inner' && lo == lo' && ind == ind' && pre == pre' && ld == ld' && ln == ln' && og == og'
termination_by structural a => a
def sameEntries : List Entry → List Entry → Bool
  | [], [] => true
  | e :: es, e' :: es' => sameEntry e e' && sameEntries es es'
  | _, _ => false
termination_by structural a => a
end

def sameRes : Res (Buf × St) → List Entry → Bool
  | .ok (b, st), es => sameEntries b.entries es && !b.loose && st.setext && st.defs.isEmpty
  | .err _, _ => false

/-- the same by evaluating the model in the kernel, independently of the theorems: the block phase on the six toc
    lines returns the nested list -/
example : sameRes (blockPhase sampleCfg 104 (Toc.tocLines sampleHeadings)) [sampleToc] = true := by decide_lit

/-- the evaluation does tell nestings apart: the flat list of six items is not what comes out -/
example : sameRes (blockPhase sampleCfg 104 (Toc.tocLines sampleHeadings))
    [.list (expItems 0 1 (sampleHeadings.map (fun h => O.node h.2 []))) 1 1] = false := by decide_lit

end Mistletoe.Block
