/-
  The character loop of `find_core_tokens` as an iteration.  One pass through the body of the loop is a function
  (`stepWith link`, where `link` is what is called at a `]`: `find_link_image`, or its variant without bottoms), the
  loop is the iteration of that function (`loopWith`, `loopWith_of_succ`, `coreLoop_eq`), and everything said about
  the loop goes through three rules - an invariant is carried to the end (`loopWith_induct`, `loopWith_induct_split`),
  two loops whose steps agree where an invariant holds agree (`loopWith_congr`), a run followed piece by piece over a
  text of known shape is what the loop returns (`Reach`, `loopWith_reach`) - and through the statements of what a step
  does (`stepWith_code`, `stepWith_bs`, `stepWith_esc`, `stepWith_char`; `stepWith_rest`, `stepWith_endRun` between
  them).  Fuel is counted in the rules only; nothing else unfolds `coreLoop`, and `findCoreTokens_of_loop` is the one
  place where `find_core_tokens` itself is unfolded.
-/
import Mistletoe.Model.Core
namespace Mistletoe.Core
open Mistletoe Mistletoe.Py Mistletoe.Scan Mistletoe.InlineScan

/-- the delimiter run in progress is closed when the character differs or is escaped -/
def st1Of (s : Str) (i : Nat) (c : Char) (st : FState) : FState :=
  if st.inRun.isSome && (some c != st.inRun || st.escaped) then
    { pushDelim st (mkDelim st.start (if !st.escaped then i else i - 1) s) with inRun := none }
  else st

/-- a new delimiter run starts -/
def st2Of (i : Nat) (c : Char) (st1 : FState) : FState :=
  if st1.inRun.isNone && (c = '*' || c = '_') && !st1.escaped then { st1 with inRun := some c, start := i } else st1

/-- the loop body when a code span starts at `i` -/
def codeExpr {α} (K : Nat → FState → Res α) (s : Str) (i : Nat) (st : FState) (cm : CodeM) : Res α :=
  let st1 := if st.inRun.isSome then
      { pushDelim st (mkDelim st.start (if !st.escaped then i else i - 1) s) with inRun := none, escaped := false }
    else st
  K cm.stop { st1 with codes := cm :: st1.codes, code := codeSearch s cm.stop, inImage := false }

def retK (i : Nat) (st : FState) : Res (Nat × FState) := .ok (i, st)

/-- what is called at a `]`: offset, delimiters, matches -/
abbrev Link := Nat → List Delim → List CoreM → Res (Nat × List Delim × List CoreM)

/-- the loop body after the run bookkeeping, with the loop itself abstracted as `K` and the call at `]` as `link` -/
def tailWith {α} (link : Link) (K : Nat → FState → Res α) (s : Str) (i : Nat) (c : Char) (st2 : FState) : Res α :=
  if !st2.escaped then
    if c = '[' then
      if !st2.inImage then K (i + 1) (pushDelim st2 (mkDelim i (i + 1) s))
      else K (i + 1) { pushDelim st2 (mkDelim (i - 1) (i + 1) s) with inImage := false }
    else if c = '!' then K (i + 1) { st2 with inImage := true }
    else if c = ']' then
      match link i st2.ds st2.ms with
      | .err e => .err e
      | .ok (i', ds', ms') => K (i' + 1) { st2 with ds := ds', ms := ms', code := codeSearch s i' }
    else if st2.inImage then K (i + 1) { st2 with inImage := false }
    else K (i + 1) st2
  else K (i + 1) { st2 with escaped := false, inImage := false }

def linkOf (s : Str) (fn : Footnotes.Table) : Link := fun o ds ms => findLinkImage s o ds ms fn

/-- the loop body calls its continuation at most once, as the last thing it does -/
theorem tailWith_retK {α} (link : Link) (K : Nat → FState → Res α) (s : Str) (i : Nat) (c : Char) (st2 : FState) :
    tailWith link K s i c st2 =
      match tailWith link retK s i c st2 with
      | .err e => .err e
      | .ok (i', st') => K i' st' := by
  unfold tailWith
  cases st2.escaped
  · simp only [Bool.not_false, if_true]
    by_cases h1 : c = '['
    · simp only [h1, if_true]
      cases st2.inImage <;> rfl
    · simp only [h1, if_false]
      by_cases h2 : c = '!'
      · simp only [h2, if_true]; rfl
      · simp only [h2, if_false]
        by_cases h3 : c = ']'
        · simp only [h3, if_true]
          cases link i st2.ds st2.ms with
          | err e => rfl
          | ok r => rfl
        · simp only [h3, if_false]
          cases st2.inImage <;> rfl
  · rfl

/-- one iteration where no code span starts -/
def restWith (link : Link) (s : Str) (i : Nat) (c : Char) (st : FState) : Res (Nat × FState) :=
  if c = '\\' && !st.escaped then .ok (i + 1, { st with escaped := true })
  else tailWith link retK s i c (st2Of i c (st1Of s i c st))

def stepWith (link : Link) (s : Str) (i : Nat) (c : Char) (st : FState) : Res (Nat × FState) :=
  if (match st.code with | some cm => i == cm.start | none => false) then
    match st.code with
    | none => .err .type
    | some cm => codeExpr retK s i st cm
  else restWith link s i c st

def loopWith (step : Nat → Char → FState → Res (Nat × FState)) (s : Str) : Nat → Nat → FState → Res (Nat × FState)
  | 0, _, _ => .err .fuel
  | fuel + 1, i, st =>
    match s[i]? with
    | none => .ok (i, st)
    | some c =>
      match step i c st with
      | .err e => .err e
      | .ok (i', st') => loopWith step s fuel i' st'

/-- a loop with the body of `find_core_tokens`' loop (`link` at `]`) is the iteration of `stepWith link` -/
theorem loopWith_of_succ {link : Link} {s : Str} {L : Nat → Nat → FState → Res (Nat × FState)}
    (h0 : ∀ i st, L 0 i st = .err .fuel)
    (hs : ∀ fuel i st, L (fuel + 1) i st =
      match s[i]? with
      | none => .ok (i, st)
      | some c =>
        if (match st.code with | some cm => i == cm.start | none => false) then
          match st.code with
          | none => .err .type
          | some cm => codeExpr (L fuel) s i st cm
        else if c = '\\' && !st.escaped then L fuel (i + 1) { st with escaped := true }
        else tailWith link (L fuel) s i c (st2Of i c (st1Of s i c st))) :
    ∀ (fuel i : Nat) (st : FState), L fuel i st = loopWith (stepWith link s) s fuel i st
  | 0, i, st => h0 i st
  | fuel + 1, i, st => by
    have ih := loopWith_of_succ h0 hs fuel
    rw [hs, loopWith]
    cases s[i]? with
    | none => rfl
    | some c =>
      have hrest : (if c = '\\' && !st.escaped then L fuel (i + 1) { st with escaped := true }
            else tailWith link (L fuel) s i c (st2Of i c (st1Of s i c st))) =
          match restWith link s i c st with
          | .err e => .err e
          | .ok (i', st') => loopWith (stepWith link s) s fuel i' st' := by
        unfold restWith
        split
        · exact ih _ _
        · rw [tailWith_retK]
          cases tailWith link retK s i c (st2Of i c (st1Of s i c st)) with
          | err e => rfl
          | ok r => exact ih _ _
      simp only [stepWith]
      by_cases h : (match st.code with | some cm => i == cm.start | none => false) = true
      · rw [if_pos h, if_pos h]
        cases st.code with
        | none => rfl
        | some cm => exact ih _ _
      · rw [if_neg h, if_neg h]; exact hrest

theorem coreLoop_eq (s : Str) (fn : Footnotes.Table) (fuel i : Nat) (st : FState) :
    coreLoop s fn fuel i st = loopWith (stepWith (linkOf s fn) s) s fuel i st :=
  loopWith_of_succ (fun _ _ => rfl) (fun fuel i st => by rw [coreLoop]; rfl) fuel i st

section rules
variable {s : Str} {step step' : Nat → Char → FState → Res (Nat × FState)}

/-- `len(s) + 1 - i` iterations suffice from position `i`, since each moves forward inside the text. -/
theorem loopWith_induct (P : Nat → FState → Prop)
    (hstep : ∀ i c st, P i st → s[i]? = some c →
      ∃ i' st', step i c st = .ok (i', st') ∧ i < i' ∧ i' ≤ s.length ∧ P i' st') :
    ∀ (fuel i : Nat) (st : FState), P i st → i ≤ s.length → s.length + 1 ≤ fuel + i →
      ∃ st', loopWith step s fuel i st = .ok (s.length, st') ∧ P s.length st'
  | 0, i, st, _, hi, hf => by omega
  | fuel + 1, i, st, h, hi, hf => by
    rw [loopWith]
    cases hc : s[i]? with
    | none =>
      have : i = s.length := Nat.le_antisymm hi (List.getElem?_eq_none_iff.1 hc)
      subst this
      exact ⟨st, rfl, h⟩
    | some c =>
      obtain ⟨i', st', e, hlt, hle, h'⟩ := hstep i c st h hc
      simp only [e]
      exact loopWith_induct P hstep fuel i' st' h' hle (by omega)

/-- `loopWith_induct` over prefix and suffix for a step that moves one character, at the fuel `find_core_tokens` passes
    (`s.length + 2`) -/
theorem loopWith_induct_split (P : Str → Str → FState → Prop)
    (hstep : ∀ pre c suf st, s = pre ++ c :: suf → P pre (c :: suf) st →
      ∃ st', step pre.length c st = .ok (pre.length + 1, st') ∧ P (pre ++ [c]) suf st')
    (st : FState) (h : P [] s st) :
    ∃ st', loopWith step s (s.length + 2) 0 st = .ok (s.length, st') ∧ P s [] st' := by
  obtain ⟨st', e, h'⟩ := loopWith_induct (s := s) (step := step) (fun i st => P (s.take i) (s.drop i) st)
    (fun i c st h hc => by
      have hi := (List.getElem?_eq_some_iff.1 hc).1
      have hd : s.drop i = c :: s.drop (i + 1) := by
        rw [List.drop_eq_getElem_cons hi]; congr 1; exact (List.getElem?_eq_some_iff.1 hc).2
      obtain ⟨st', e, h'⟩ := hstep (s.take i) c (s.drop (i + 1)) st (by rw [← hd, List.take_append_drop]) (hd ▸ h)
      rw [List.length_take_of_le (Nat.le_of_lt hi)] at e
      exact ⟨i + 1, st', e, Nat.lt_succ_self i, hi, by rwa [List.take_add_one, hc]⟩)
    (s.length + 2) 0 st (by simpa using h) (Nat.zero_le _) (by omega)
  exact ⟨st', e, by simpa using h'⟩

theorem loopWith_congr (P : Nat → FState → Prop)
    (hstep : ∀ i c st, P i st → s[i]? = some c → step' i c st = step i c st ∧
      ∀ i' st', step i c st = .ok (i', st') → P i' st') :
    ∀ (fuel i : Nat) (st : FState), P i st → loopWith step s fuel i st = loopWith step' s fuel i st
  | 0, _, _, _ => rfl
  | fuel + 1, i, st, h => by
    rw [loopWith, loopWith]
    cases hc : s[i]? with
    | none => rfl
    | some c =>
      obtain ⟨e, h'⟩ := hstep i c st h hc
      simp only [e]
      cases hr : step i c st with
      | err e => rfl
      | ok r => exact loopWith_congr P hstep fuel r.1 r.2 (h' r.1 r.2 hr)

/-- The loop gets from position `i` in state `st` to position `i'` in state `st'`.  For following the loop over a text
    of known shape piece by piece; no fuel is counted. -/
inductive Reach (step : Nat → Char → FState → Res (Nat × FState)) (s : Str) : Nat → FState → Nat → FState → Prop
  | refl (i : Nat) (st : FState) : Reach step s i st i st
  | cons {i j i' : Nat} {c : Char} {st st1 st' : FState} : s[i]? = some c → step i c st = .ok (j, st1) → i < j →
      Reach step s j st1 i' st' → Reach step s i st i' st'

theorem Reach.trans {i j k : Nat} {st st1 st2 : FState} (h1 : Reach step s i st j st1) (h2 : Reach step s j st1 k st2) :
    Reach step s i st k st2 := by
  induction h1 with
  | refl => exact h2
  | cons hc e hlt _ ih => exact .cons hc e hlt (ih h2)

theorem Reach.one {i j : Nat} {c : Char} {st st1 : FState} (hc : s[i]? = some c) (e : step i c st = .ok (j, st1))
    (hlt : i < j) : Reach step s i st j st1 := .cons hc e hlt (.refl _ _)

theorem loopWith_reach {i : Nat} {st st' : FState} (h : Reach step s i st s.length st') :
    ∀ fuel, s.length + 1 ≤ fuel + i → loopWith step s fuel i st = .ok (s.length, st') := by
  generalize hn : s.length = n at h
  induction h with
  | refl i st =>
    intro fuel hf
    obtain ⟨f, rfl⟩ : ∃ f, fuel = f + 1 := ⟨fuel - 1, by omega⟩
    rw [loopWith, List.getElem?_eq_none (by omega)]
  | cons hc e hlt _ ih =>
    intro fuel hf
    have := (List.getElem?_eq_some_iff.1 hc).1
    obtain ⟨f, rfl⟩ : ∃ f, fuel = f + 1 := ⟨fuel - 1, by omega⟩
    rw [loopWith, hc]
    simp only [e]
    exact ih hn f (by omega)

end rules

def endRun (s : Str) (b : Nat) (st : FState) : FState :=
  if st.inRun.isSome then { pushDelim st (mkDelim st.start b s) with inRun := none } else st

theorem endRun_none {s : Str} {b : Nat} {st : FState} (h : st.inRun = none) : endRun s b st = st := by
  simp [endRun, h]

theorem endRun_some {s : Str} {b : Nat} {st : FState} {ch : Char} (h : st.inRun = some ch) :
    endRun s b st = { pushDelim st (mkDelim st.start b s) with inRun := none } := by
  simp [endRun, h]

/-- `find_core_tokens` from the result of its character loop: the pending run is closed (before a final backslash) and
    `process_emphasis` runs on what the loop has collected -/
theorem findCoreTokens_of_loop {s : Str} {fn : Footnotes.Table} {i : Nat} {st : FState}
    (h : coreLoop s fn (s.length + 2) 0 { code := codeSearch s 0 } = .ok (i, st)) :
    findCoreTokens s fn =
      match processEmphasis s none (endRun s (if !st.escaped then i else i - 1) st).ds st.ms with
      | .err e => .err e
      | .ok (_, ms) => .ok (ms.reverse, st.codes.reverse) := by
  unfold findCoreTokens endRun
  rw [h]
  obtain ⟨ds, ms, codes, escaped, inRun, inImage, start, code⟩ := st
  cases inRun <;> rfl

/-- no code span starts at `i` -/
def NoCode (st : FState) (i : Nat) : Prop := (match st.code with | some cm => i == cm.start | none => false) = false

theorem NoCode.of_none {st : FState} {i : Nat} (h : st.code = none) : NoCode st i := by simp [NoCode, h]

theorem NoCode.of_not {st : FState} {i : Nat} (h : ¬NoCode st i) : ∃ cm, st.code = some cm ∧ i = cm.start := by
  unfold NoCode at h
  cases hcm : st.code with
  | none => rw [hcm] at h; exact absurd rfl h
  | some cm => rw [hcm] at h; exact ⟨cm, rfl, by simpa using h⟩

section
variable {link : Link} {s : Str} {i : Nat} {st : FState}

/-- a code span starts at `i`: a pending run ends here (before an escaping backslash), and the loop goes on behind the
    span; `escaped` is reset only together with a run -/
theorem stepWith_code (c : Char) {cm : CodeM} (hcm : st.code = some cm) (hi : i = cm.start) :
    stepWith link s i c st = .ok (cm.stop, { endRun s (if !st.escaped then i else i - 1) st with
      escaped := st.inRun.isNone && st.escaped, codes := cm :: st.codes, code := codeSearch s cm.stop,
      inImage := false }) := by
  obtain ⟨ds, ms, codes, escaped, inRun, inImage, start, code⟩ := st
  subst hcm hi
  cases inRun <;> simp [stepWith, codeExpr, endRun, retK, pushDelim]

theorem stepWith_rest (c : Char) (hcode : NoCode st i) (h : ¬(c = '\\' ∧ st.escaped = false)) :
    stepWith link s i c st = tailWith link retK s i c (st2Of i c (st1Of s i c st)) := by
  rw [stepWith, hcode, if_neg Bool.false_ne_true, restWith, if_neg (by simpa using h)]

theorem stepWith_bs (hcode : NoCode st i) (he : st.escaped = false) :
    stepWith link s i '\\' st = .ok (i + 1, { st with escaped := true }) := by
  rw [stepWith, hcode, if_neg Bool.false_ne_true, restWith, if_pos (by simp [he])]

/-- the character after an escaping backslash: a pending run ended before the backslash -/
theorem stepWith_esc (c : Char) (hcode : NoCode st i) (he : st.escaped = true) :
    stepWith link s i c st = .ok (i + 1, { endRun s (i - 1) st with escaped := false, inImage := false }) := by
  rw [stepWith_rest c hcode (by simp [he])]
  obtain ⟨ds, ms, codes, escaped, inRun, inImage, start, code⟩ := st
  subst he
  cases inRun <;> simp [tailWith, st1Of, st2Of, endRun, retK, pushDelim]

/-- `hr` holds in every state the loop reaches (`FInv.run` in CoreTotal): a run in progress is a run of `*` or `_`. -/
theorem stepWith_char {c : Char} (hcode : NoCode st i) (he : st.escaped = false) (h1 : c ≠ '\\')
    (hr : st.inRun = some c → c = '*' ∨ c = '_') :
    stepWith link s i c st =
      if st.inRun = some c then .ok (i + 1, { st with inImage := false })
      else if c = '*' ∨ c = '_' then
        .ok (i + 1, { endRun s i st with inRun := some c, start := i, inImage := false })
      else if c = '[' then
        .ok (i + 1, { pushDelim (endRun s i st) (mkDelim (if st.inImage then i - 1 else i) (i + 1) s) with
          inImage := false })
      else if c = '!' then .ok (i + 1, { endRun s i st with inImage := true })
      else if c = ']' then
        match link i (endRun s i st).ds st.ms with
        | .err e => .err e
        | .ok (i', ds', ms') => .ok (i' + 1, { endRun s i st with ds := ds', ms := ms', code := codeSearch s i' })
      else .ok (i + 1, { endRun s i st with inImage := false }) := by
  rw [stepWith_rest c hcode (fun h => h1 h.1)]
  obtain ⟨ds, ms, codes, escaped, inRun, inImage, start, code⟩ := st
  subst he
  by_cases hd : c = '*' ∨ c = '_'
  · have h2 : c ≠ '[' := by rcases hd with rfl | rfl <;> decide
    have h3 : c ≠ '!' := by rcases hd with rfl | rfl <;> decide
    have h4 : c ≠ ']' := by rcases hd with rfl | rfl <;> decide
    cases inRun with
    | none => cases inImage <;> simp [tailWith, st1Of, st2Of, endRun, retK, h2, h3, h4, hd]
    | some ch =>
      by_cases hcc : ch = c
      · subst hcc; cases inImage <;> simp [tailWith, st1Of, st2Of, retK, h2, h3, h4]
      · have hne : (some c != some ch) = true := by simpa using fun e => hcc e.symm
        cases inImage <;> simp [tailWith, st1Of, st2Of, endRun, retK, pushDelim, h2, h3, h4, hd, hne, hcc]
  · have hd1 : c ≠ '*' := fun e => hd (Or.inl e)
    have hd2 : c ≠ '_' := fun e => hd (Or.inr e)
    have hns : inRun ≠ some c := fun e => hd (hr e)
    rw [if_neg hns, if_neg hd]
    have hne : ∀ ch, inRun = some ch → (some c != some ch) = true := fun ch e => by
      simpa using fun e' => hns (by rw [e, e'])
    by_cases h2 : c = '['
    · subst h2
      cases inRun with
      | none => cases inImage <;> simp [tailWith, st1Of, st2Of, endRun, retK, pushDelim]
      | some ch => cases inImage <;> simp [tailWith, st1Of, st2Of, endRun, retK, pushDelim, hne ch rfl]
    · by_cases h3 : c = '!'
      · subst h3
        cases inRun with
        | none => simp [tailWith, st1Of, st2Of, endRun, retK]
        | some ch => simp [tailWith, st1Of, st2Of, endRun, retK, pushDelim, hne ch rfl]
      · by_cases h4 : c = ']'
        · subst h4
          cases inRun with
          | none => simp [tailWith, st1Of, st2Of, endRun, retK]
          | some ch => simp [tailWith, st1Of, st2Of, endRun, retK, pushDelim, hne ch rfl]
        · cases inRun with
          | none => cases inImage <;> simp [tailWith, st1Of, st2Of, endRun, retK, hd1, hd2, h2, h3, h4]
          | some ch =>
            cases inImage <;> simp [tailWith, st1Of, st2Of, endRun, retK, pushDelim, hd1, hd2, h2, h3, h4, hne ch rfl]

theorem stepWith_endRun {c : Char} (hcode : NoCode st i) (he : st.escaped = false) (h1 : c ≠ '\\')
    (hr : st.inRun ≠ some c) : stepWith link s i c st = stepWith link s i c (endRun s i st) := by
  have hcode' : NoCode (endRun s i st) i := by unfold endRun; split <;> exact hcode
  rw [stepWith_rest c hcode (fun h => h1 h.1), stepWith_rest c hcode' (fun h => h1 h.1)]
  obtain ⟨ds, ms, codes, escaped, inRun, inImage, start, code⟩ := st
  subst he
  cases inRun with
  | none => simp [endRun]
  | some ch =>
    have hne : (some c != some ch) = true := by simpa using fun e => hr (by rw [e])
    simp [st1Of, endRun, pushDelim, hne]

end

end Mistletoe.Core
