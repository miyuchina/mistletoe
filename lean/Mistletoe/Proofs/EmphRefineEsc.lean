/-
  The model of `core_tokens.find_core_tokens` refines the specification of emphasis with backslash
  escapes (Spec/EmphasisEsc.lean: CommonMark 0.30 sections 2.4 and 6.2, and *process emphasis*).

  The statements; the proof is the one of Proofs/EmphRefine.lean, which treats the character loop on a text with
  backslashes (`loopWith_esc`) and `process_emphasis` (`processEmphasisNB_spec`).
-/
import Mistletoe.Proofs.EmphRefine
namespace Mistletoe.EmphRefineEsc
open Mistletoe Mistletoe.Py Mistletoe.Scan Mistletoe.InlineScan Mistletoe.Core Mistletoe.Spec Mistletoe.EmphRefine
open Mistletoe.Spec.EmphasisEsc

/-- **Refinement, first form (every text of the fragment with backslashes).**  `find_core_tokens(s,
    root)` returns exactly the emphasis nodes that *process emphasis* of the specification computes
    on the delimiter runs of `s` (runs of unescaped `*` / `_`, section 2.4 and 6.2), classified as
    opener / closer by mistletoe's own `is_opener` / `is_closer`; and no code span. -/
theorem C06_emphasis_is_process_esc (s : Str) (fn : Footnotes.Table) (hp : plainEsc s = true) :
    findCoreTokens s fn = .ok ((Emphasis.process (runsME s)).map (toCoreM s), []) :=
  findCoreTokens_runsME s fn (plainEsc_core hp)

/-- **Refinement (main theorem, with backslash escapes).**  For every text `s` without backtick,
    `[`, `]`, `<`, `&` (backslashes allowed) that contains none of the eight code points which
    `core_tokens.unicode_whitespace` wrongly counts as Unicode whitespace (`StdWs s`), and every
    table of link reference definitions, `find_core_tokens(s, root)` returns exactly
    `Spec.EmphasisEsc.emphasisEsc s`, mapped to the model's match record: same
    `start`/`ts`/`te`/`stop`, same kind, same order; and no code span.

    `_partial`: the hypothesis `StdWs s` is the one of `findCoreTokens_refines_spec_partial`
    (`EmphRefine.not_refines_deviant`: the statement is false without it, on a text without
    backslash already). -/
theorem findCoreTokens_refines_spec_esc_partial (s : Str) (fn : Footnotes.Table) (hp : plainEsc s = true)
    (hw : StdWs s) :
    findCoreTokens s fn = .ok ((emphasisEsc s).map (toCoreM s), []) := by
  rw [findCoreTokens_runsME s fn (plainEsc_core hp), runsME_eq s hw]
  rfl

/-- **C06: the emphasis structure is the specification's, backslash escapes included.**  For every
    inline text `s` without backtick, `[`, `]`, `<`, `&` (letters, spaces, punctuation, backslashes,
    runs of `*` and `_`, …) and without the eight deviant whitespace code points, and every table of
    link reference definitions: `find_core_tokens(s, root)` does not fail; it returns no code span;
    every match it returns is a `Strong` or an `Emphasis`; and the matches are, one for one and in
    the same order, the emphasis nodes that the CommonMark 0.30 delimiter algorithm computes for `s`
    (`Spec.EmphasisEsc.emphasisEsc`: backslash escapes of section 2.4, delimiter runs of unescaped
    `*` / `_`, left/right flanking from the neighbouring source characters, the restrictions on `_`,
    *process emphasis* with `openers_bottom`, the rule of three on original run lengths, strong iff
    both lengths ≥ 2): same opening delimiter `[start, ts)`, same closing delimiter `[te, stop)`,
    same kind.

    `_partial`: see `findCoreTokens_refines_spec_esc_partial` for the added hypothesis `StdWs s`. -/
theorem C06_emphasis_is_spec_esc_partial (s : Str) (fn : Footnotes.Table) (hp : plainEsc s = true) (hw : StdWs s) :
    ∃ ms, findCoreTokens s fn = .ok (ms, []) ∧
      ms = (emphasisEsc s).map (toCoreM s) ∧
      (∀ m ∈ ms, m.kind = .strong ∨ m.kind = .emphasis) ∧
      ms.map (fun m => (m.start, m.ts, m.te, m.stop, m.kind == .strong)) = spansEsc s :=
  ⟨_, findCoreTokens_refines_spec_esc_partial s fn hp hw, rfl, toCoreM_spans s _⟩

theorem emphasisEsc_plain (s : Str) (hp : Emphasis.plain s = true) : emphasisEsc s = Emphasis.emphasis s := by
  rw [emphasisEsc, runsEsc_plain s (plain_no_backslash hp)]
  rfl

/-- **every delimiter character of an emphasis node is an unescaped `*` or `_` of the text**: both delimiters of a
    node lie inside delimiter runs (`process_inRun`), and those are made of such characters (`runSpansEsc_spec`) -/
theorem emphasisEsc_delims (s : Str) : ∀ m ∈ emphasisEsc s, ∀ k,
    (m.openStart ≤ k ∧ k < m.openStop) ∨ (m.closeStart ≤ k ∧ k < m.closeStop) →
    ∃ c, s[k]? = some c ∧ Emphasis.isDelimChar c = true ∧ escapedAt s k = false := by
  have hrun : ∀ r ∈ runsEsc s, 1 ≤ r.count ∧ ∀ k, r.start ≤ k → k < r.start + r.count →
      ∃ c, s[k]? = some c ∧ Emphasis.isDelimChar c = true ∧ escapedAt s k = false := by
    intro r hr
    obtain ⟨x, hx, rfl⟩ := List.mem_map.1 hr
    obtain ⟨h1, h2, _, _, h5⟩ := runSpansEsc_spec s x hx
    exact ⟨h2, fun k h3 h4 => ⟨x.1, (h5 k h3 h4).1, h1, (h5 k h3 h4).2⟩⟩
  intro m hm k hk
  obtain ⟨⟨r1, hr1, h1, h2⟩, ⟨r2, hr2, h3, h4⟩⟩ := process_inRun (runsEsc s) (fun r h => (hrun r h).1) m hm
  rcases hk with hk | hk
  · exact (hrun r1 hr1).2 k (by omega) (by omega)
  · exact (hrun r2 hr2).2 k (by omega) (by omega)

/-! non-vacuity -/

example : findCoreTokens "a \\*b* *c\\* d*".toList [] =
    .ok ((emphasisEsc "a \\*b* *c\\* d*".toList).map (toCoreM "a \\*b* *c\\* d*".toList), []) :=
  findCoreTokens_refines_spec_esc_partial _ _ (by decide_lit) ((stdWs_iff _).1 (by decide_lit))

example : spansEsc "a \\*b* *c\\* d*".toList = [(7, 8, 13, 14, false)] := by decide_lit

/-- `\**a** _b\__ *c\`: an escaped `*` before a run, an escaped `_` inside, a final backslash -/
example : ∃ ms, findCoreTokens "\\**a** _b\\__ *c\\".toList [] = .ok (ms, []) ∧
    ms.map (fun m => (m.start, m.ts, m.te, m.stop, m.kind == .strong)) = [(2, 3, 4, 5, false), (7, 8, 11, 12, false)] := by
  obtain ⟨ms, h1, _, _, h4⟩ := C06_emphasis_is_spec_esc_partial "\\**a** _b\\__ *c\\".toList [] (by decide_lit)
    ((stdWs_iff _).1 (by decide_lit))
  refine ⟨ms, h1, ?_⟩
  rw [h4]
  decide_lit

end Mistletoe.EmphRefineEsc
