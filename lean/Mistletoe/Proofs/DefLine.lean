/-
  C07 — the BLOCK PHASE on link reference definitions (discharges the hypothesis `hbp` of
  `RefResolve.C07_shortcut_document_text`).

  A "simple definition" (`DefSpec`): `[label]: dest` or `[label]: dest "title"` on one line, where
    * the label (`lblCh`) has no backslash, `[`, `]`, line boundary character, and is not blank;
    * the destination (`RefResolve.urlCh`) consists of ASCII letters, digits, `/`, `.` and is not empty;
    * the title (`titleCh`), if any, has no backslash, `"`, line boundary character.
  Proved here, over the block-parser model (`Model/Block.lean`):
    1. `matchReference_at` (by stages, over cursors `At`) / `matchReference_def` / `footnoteRefs_defs` /
       `readFootnote_defs`: `Footnote.match_reference` reads such a line
       as exactly the match `(label, dest, title, "uri", '"' or None)` and `Footnote.read` reads a run of `k` such lines
       (up to a blank line or the end of the buffer) as exactly the `k` matches, in order, consuming exactly those lines;
    2. `tryTypes_def`, `tokLoop_def_step`, `blockPhase_def_para`: no token type other than `Footnote` /
       `LinkReferenceDefinitionBlock` / `Paragraph` starts on a line that begins with `[`; so the block phase of
       `k` definition lines, an empty line and an inert paragraph line gives one definition entry with the `k` matches,
       (the Markdown renderer's `BlankLine`,) one paragraph entry, and `st.defs` = the `k` matches;
    3. `C07_defs_document`: the HTML of that document; corollaries `C07_shortcut_document_text_full` (= `C07_shortcut_document_text`
       without `hbp`), `C07_shortcut_document_title`, `C07_first_of_run_wins` (two definitions, the first one wins).
-/
import Mistletoe.Proofs.RefResolve
import Mistletoe.Props.C14
namespace Mistletoe.DefLine
open Mistletoe Mistletoe.Py Mistletoe.Scan Mistletoe.Block Mistletoe.RefResolve

/-! ## Characters -/

def lblCh (c : Char) : Bool := c != '\\' && c != '[' && c != ']' && !isLineSep c

/-- title characters, inside double quotes -/
def titleCh (c : Char) : Bool := c != '\\' && c != '"' && !isLineSep c

theorem lblCh_of (c : Char) (h : lblCh c = true) : c ≠ '\\' ∧ c ≠ '[' ∧ c ≠ ']' ∧ isLineSep c = false := by
  simp only [lblCh, Bool.and_eq_true, bne_iff_ne, ne_eq, Bool.not_eq_eq_eq_not, Bool.not_true] at h
  exact ⟨h.1.1.1, h.1.1.2, h.1.2, h.2⟩

theorem titleCh_of (c : Char) (h : titleCh c = true) : c ≠ '\\' ∧ c ≠ '"' ∧ isLineSep c = false := by
  simp only [titleCh, Bool.and_eq_true, bne_iff_ne, ne_eq, Bool.not_eq_eq_eq_not, Bool.not_true] at h
  exact ⟨h.1.1, h.1.2, h.2⟩

/-- what the destination scanner and `splitlines` need to know about a URL-safe character -/
theorem urlCh_scan (c : Char) (h : urlCh c = true) :
    c ≠ '\\' ∧ coreWs c = false ∧ c ≠ '(' ∧ c ≠ ')' ∧ c ≠ '<' ∧ isLineSep c = false := by
  obtain ⟨_, h1, _, _, h2⟩ := urlCh_facts c h
  exact ⟨h1, h2⟩

/-! ## Cursors

  `At s pre suf`: the string `s` is `pre` (already read) followed by `suf` (still to read); the position is `pre.length`.
  A scanner lemma takes a cursor whose rest begins with the shape the scanner consumes and hands back a cursor before
  the untouched rest, the scanner's result written with the length of the new prefix (`matchLinkLabel_at` stops one
  short, before the closing `]`: `refHead_at` steps over `]:` together).  Moving on is `At.step` /
  `At.step1`; two positions are compared through their cursors (`At.pos_eq`), never through sums of lengths. -/

def At (s pre suf : Str) : Prop := s = pre ++ suf

theorem len_snoc {pre : Str} {c : Char} : (pre ++ [c]).length = pre.length + 1 := List.length_append

theorem len_snoc_ne {pre : Str} {c : Char} : ((pre ++ [c]).length == pre.length) = false := by simp

namespace At
variable {s pre suf x r : Str} {c : Char}

theorem step (h : At s pre (x ++ r)) : At s (pre ++ x) r := h.trans (List.append_assoc ..).symm
theorem step1 (h : At s pre (c :: r)) : At s (pre ++ [c]) r := h.trans (List.append_cons ..)
theorem head (h : At s pre suf) : s[pre.length]? = suf.head? := by
  cases h; rw [List.getElem?_append_right (Nat.le_refl _), Nat.sub_self, List.head?_eq_getElem?]
theorem get (h : At s pre (c :: r)) : s[pre.length]? = some c := h.head
theorem drop (h : At s pre suf) : s.drop pre.length = suf := by cases h; simp
theorem slice_eq (h : At s pre (x ++ r)) : slice s pre.length (pre.length + x.length) = x := by cases h; simp [slice]
theorem ne_end (h : At s pre (c :: r)) : (pre.length == s.length) = false := by cases h; simp
theorem succ_lt (h : At s pre (c :: r)) (hr : r ≠ []) : pre.length + 1 < s.length := by
  cases h
  cases r with
  | nil => exact absurd rfl hr
  | cons _ _ => simp only [List.length_append, List.length_cons]; omega
theorem pos_eq (h : At s pre suf) (h' : At s x suf) : pre.length = x.length :=
  congrArg List.length (List.append_cancel_right (h.symm.trans h'))

end At

/-! ## The scanners of `Footnote` on a simple definition -/

/-- `match_link_label` inside the brackets: label characters are passed over -/
theorem mllGo_run (s : Str) (off st : Nat) : ∀ (lbl r : Str) (i : Nat), (∀ c ∈ lbl, lblCh c = true) →
    mllGo s off (lbl ++ r) i (some st) false = mllGo s off r (i + lbl.length) (some st) false
  | [], _, _, _ => by simp
  | c :: lbl, r, i, h => by
    obtain ⟨c1, c2, c3, _⟩ := lblCh_of c (h c (by simp))
    have ih := mllGo_run s off st lbl r (i + 1) (fun x hx => h x (List.mem_cons_of_mem _ hx))
    simp only [List.cons_append, mllGo, c1, c2, c3, Bool.false_eq_true, if_false, Option.isNone_some, Bool.false_and]
    rw [ih]
    congr 1
    simp only [List.length_cons]; omega

/-- `match_link_dest` (no angle brackets): URL-safe characters are passed over, the count of parentheses stays -/
theorem mldPlain_run : ∀ (dest r : Str) (i : Nat) (cnt : Int), (∀ c ∈ dest, urlCh c = true) →
    mldPlain (dest ++ r) i false cnt = mldPlain r (i + dest.length) false cnt
  | [], _, _, _, _ => by simp
  | c :: dest, r, i, cnt, h => by
    obtain ⟨c1, c2, c3, c4, _, _⟩ := urlCh_scan c (h c (by simp))
    have ih := mldPlain_run dest r (i + 1) cnt (fun x hx => h x (List.mem_cons_of_mem _ hx))
    simp only [List.cons_append, mldPlain, c1, c2, c3, c4, decide_false, Bool.false_and, Bool.false_eq_true, if_false,
      Bool.not_false, if_true]
    rw [ih]
    congr 1
    simp only [List.length_cons]; omega

/-- `match_link_title` inside double quotes: title characters are passed over -/
theorem mltGo_run (s : Str) (off : Nat) : ∀ (t r : Str) (i : Nat), (∀ c ∈ t, titleCh c = true) →
    mltGo s off '"' (t ++ r) i false = mltGo s off '"' r (i + t.length) false
  | [], _, _, _ => by simp
  | c :: t, r, i, h => by
    obtain ⟨c1, c2, _⟩ := titleCh_of c (h c (by simp))
    have ih := mltGo_run s off t r (i + 1) (fun x hx => h x (List.mem_cons_of_mem _ hx))
    simp only [List.cons_append, mltGo, c1, c2, decide_false, Bool.false_and, Bool.false_eq_true, if_false]
    rw [ih]
    congr 1
    simp only [List.length_cons]; omega

theorem matchLinkTitle_none (s : Str) (n : Nat) (h : ∀ c, s[n]? = some c → c ≠ '"' ∧ c ≠ '\'' ∧ c ≠ '(') :
    matchLinkTitle s n = none := by
  unfold matchLinkTitle
  cases hc : s[n]? with
  | none => rfl
  | some c =>
    obtain ⟨h1, h2, h3⟩ := h c hc
    simp [h1, h2, h3]

theorem shiftWhitespace_one (s x r : Str) (w : Char) (hs : s = x ++ w :: r) (hw : coreWs w = true)
    (hr : ∀ c, r.head? = some c → coreWs c = false) : shiftWhitespace s x.length = x.length + 1 := by
  unfold shiftWhitespace
  rw [At.drop hs]
  cases r with
  | nil => simp [List.takeWhile, hw]
  | cons c r' => simp [List.takeWhile, hw, hr c rfl]

section
variable {s pre lbl dest t r : Str}

/-- `[lbl]`: the cursor `X` stands before the closing bracket -/
theorem matchLinkLabel_at (h : At s pre ('[' :: (lbl ++ ']' :: r))) (hl : ∀ c ∈ lbl, lblCh c = true)
    (hb : isBlank lbl = false) :
    ∃ X, At s X (']' :: r) ∧ matchLinkLabel s pre.length = some (some pre.length, X.length + 1, lbl) := by
  have hsl := h.step1.slice_eq
  refine ⟨_, h.step1.step, ?_⟩
  unfold matchLinkLabel
  rw [h.drop]
  simp only [mllGo, Char.reduceEq, Bool.false_eq_true, if_false, if_true, Option.isNone_some, Bool.false_and]
  rw [mllGo_run s pre.length pre.length lbl (']' :: r) (pre.length + 1) hl]
  simp only [List.length_append, List.length_singleton] at hsl ⊢
  simp only [mllGo, Char.reduceEq, Bool.false_eq_true, if_false, if_true, hsl, hb, Bool.not_false]

/-- one blank and the destination, which ends before whitespace: the cursor `Q` stands behind the destination -/
theorem matchLinkDest_at (h : At s pre (' ' :: (dest ++ r))) (hd : ∀ c ∈ dest, urlCh c = true) (hne : dest ≠ [])
    (hr : ∃ w r', r = w :: r' ∧ coreWs w = true) :
    ∃ ds Q, At s Q r ∧ shiftWhitespace s pre.length = ds ∧
      (matchLinkDest s ds = .ok (some (ds, Q.length, dest)) ∧ (s[ds]? == some '<') = false) ∧
        (ds == s.length) = false := by
  obtain ⟨w, r', rfl, hw⟩ := hr
  obtain ⟨c, d', rfl⟩ := List.exists_cons_of_ne_nil hne
  obtain ⟨_, c2, _, _, c5, _⟩ := urlCh_scan c (hd c (by simp))
  have h1 := h.step1
  have hsl := h1.slice_eq
  have hg : s[(pre ++ [' ']).length]? = some c := At.get (r := d' ++ w :: r') h1
  have hw' : w ≠ '\\' := by intro e; subst e; revert hw; decide
  refine ⟨_, _, h1.step, (shiftWhitespace_one s pre _ ' ' h (by decide) (by intro x hx; cases hx; exact c2)).trans
    len_snoc.symm, ⟨?_, by rw [hg]; simpa using c5⟩, At.ne_end (r := d' ++ w :: r') h1⟩
  unfold matchLinkDest
  rw [hg]
  simp only [c5, if_false]
  rw [h1.drop, mldPlain_run (c :: d') (w :: r') _ 0 hd]
  simp only [mldPlain, hw', decide_false, Bool.false_and, Bool.false_eq_true, if_false, hw, if_true, hsl,
    List.length_append (bs := c :: d')]
  rfl

/-- `"t"`: the cursor `E` stands behind the closing quote -/
theorem matchLinkTitle_at (h : At s pre ('"' :: (t ++ '"' :: r))) (ht : ∀ c ∈ t, titleCh c = true) :
    ∃ E, At s E r ∧ pre.length < E.length ∧ matchLinkTitle s pre.length = some (pre.length, E.length, t) := by
  have hsl := h.step1.slice_eq
  refine ⟨_, h.step1.step.step1, ?_, ?_⟩
  · simp only [List.length_append, List.length_singleton]; omega
  unfold matchLinkTitle
  rw [h.get]
  simp only [if_true]
  rw [len_snoc] at hsl
  rw [← len_snoc (c := '"'), h.step1.drop, len_snoc, mltGo_run s pre.length t ('"' :: r) (pre.length + 1) ht]
  simp only [mltGo, Char.reduceEq, decide_false, decide_true, Bool.false_and, Bool.true_and, Bool.not_false,
    Bool.false_eq_true, if_false, if_true, hsl, List.length_append, List.length_singleton]

end

/-! ## `Footnote.match_reference` -/

/-- a simple definition: label, destination, optional title (written in double quotes) -/
structure DefSpec where
  lbl : Str
  dest : Str
  title : Option Str := none

namespace DefSpec

/-- the text after the destination -/
def tail (d : DefSpec) : Str :=
  match d.title with
  | none => ['\n']
  | some t => ' ' :: '"' :: (t ++ ['"', '\n'])

/-- the line `[lbl]: dest` or `[lbl]: dest "title"`, with its final newline -/
def line (d : DefSpec) : Str := '[' :: (d.lbl ++ ']' :: ':' :: ' ' :: (d.dest ++ d.tail))

/-- the tuple `match_reference` returns for it -/
def fnMatch (d : DefSpec) : FnMatch :=
  { label := d.lbl, dest := d.dest, title := d.title.getD [], destType := "uri".toList,
    titleDelim := d.title.map (fun _ => '"') }

/-- the side conditions (decidable) -/
def ok (d : DefSpec) : Bool :=
  d.lbl.all lblCh && !isBlank d.lbl && d.dest.all urlCh && !d.dest.isEmpty &&
    (match d.title with | none => true | some t => t.all titleCh)

structure Ok (d : DefSpec) : Prop where
  hl : ∀ c ∈ d.lbl, lblCh c = true
  hb : isBlank d.lbl = false
  hd : ∀ c ∈ d.dest, urlCh c = true
  hne : d.dest ≠ []
  ht : ∀ t, d.title = some t → ∀ c ∈ t, titleCh c = true

theorem ok_spec (d : DefSpec) (h : d.ok = true) : d.Ok := by
  simp only [ok, Bool.and_eq_true, List.all_eq_true, Bool.not_eq_eq_eq_not, Bool.not_true, List.isEmpty_eq_false_iff] at h
  obtain ⟨⟨⟨⟨h1, h2⟩, h3⟩, h4⟩, h5⟩ := h
  refine ⟨h1, h2, h3, h4, ?_⟩
  intro t ht
  rw [ht] at h5
  simpa using h5

theorem line_length (d : DefSpec) : d.line.length = d.lbl.length + d.dest.length + d.tail.length + 4 := by
  simp only [line, List.length_cons, List.length_append]; omega

end DefSpec

/-- what may follow a definition in the buffer: nothing, or a character that is neither whitespace nor a title opener
    (in particular the `[` of the next definition) -/
def NextOk (b : Str) : Prop := ∀ c, b.head? = some c → coreWs c = false ∧ c ≠ '"' ∧ c ≠ '\'' ∧ c ≠ '('

theorem nextOk_nil : NextOk [] := by intro c h; cases h
theorem nextOk_lb (r : Str) : NextOk ('[' :: r) := by
  intro c h
  simp only [List.head?_cons, Option.some.injEq] at h
  subst h; decide

/-- the part of `match_reference` after the destination (a copy of the end of `Block.matchReference`): the function is
    read forward, by stages, on a line of known shape; `Block.matchReference_some` (Proofs/BlockTotal.lean) is its elimination rule, for a
    result that is given -/
def refTail (s label dest destType : Str) (destEnd : Nat) : Res (Option (Nat × FnMatch)) :=
  let titleStart := shiftWhitespace s destEnd
  if titleStart == destEnd && titleStart < s.length then .ok none else
  let noTitle : Option (Nat × FnMatch) :=
    match findNl s destEnd titleStart with
    | some eol => some (destEnd + eol + 1, { label := label, dest := dest, title := [], destType := destType, titleDelim := none })
    | none => none
  match matchLinkTitle s titleStart with
  | none => .ok noTitle
  | some (_, titleEnd, title) =>
    match lineEndGo s (s.drop titleEnd) titleEnd with
    | some next =>
      let td := if titleStart < titleEnd then s[titleStart]? else none
      .ok (some (next, { label := label, dest := dest, title := title, destType := destType, titleDelim := td }))
    | none => .ok noTitle

/-- label, then `:`, then whitespace, then a destination without angle brackets: the rest is `refTail` -/
theorem matchReference_stages {s label dest : Str} {off le ds de x : Nat} {st : Option Nat}
    (hL : matchLinkLabel s off = some (st, le, label)) (hc : follows s (le - 1) ':' = true)
    (hw : shiftWhitespace s (le + 1) = ds)
    (hD : (matchLinkDest s ds = .ok (some (x, de, dest)) ∧ (s[ds]? == some '<') = false) ∧ (ds == s.length) = false) :
    matchReference s off = refTail s label dest "uri".toList de := by
  unfold matchReference
  rw [hL]
  simp only [hc, hw, hD.2, hD.1.1, hD.1.2, Bool.not_true, Bool.false_eq_true, if_false]
  rfl

/-- `[lbl]:` - the label and the colon; the cursor `P` stands behind the colon -/
theorem refHead_at {s pre lbl r : Str} (h : At s pre ('[' :: (lbl ++ ']' :: ':' :: r)))
    (hl : ∀ c ∈ lbl, lblCh c = true) (hb : isBlank lbl = false) :
    ∃ le P, At s P r ∧ matchLinkLabel s pre.length = some (some pre.length, le, lbl) ∧
      follows s (le - 1) ':' = true ∧ P.length = le + 1 := by
  obtain ⟨X, hX, hL⟩ := matchLinkLabel_at h hl hb
  have h1 := hX.step1
  refine ⟨_, _, h1.step1, hL, ?_, len_snoc.trans (congrArg (· + 1) len_snoc)⟩
  rw [follows, Nat.add_sub_cancel, ← len_snoc (c := ']'), h1.get]; rfl

theorem refTail_plain {s pre b label dest ty : Str} (h : At s pre ('\n' :: b)) (hb : NextOk b) :
    ∃ E, At s E b ∧ refTail s label dest ty pre.length = .ok (some (E.length,
      { label := label, dest := dest, title := [], destType := ty, titleDelim := none })) := by
  have h1 := h.step1
  have hmt : matchLinkTitle s (pre ++ ['\n']).length = none := by
    exact matchLinkTitle_none s _ (fun c hc => (hb c (h1.head.symm.trans hc)).2)
  have hfn : findNl s pre.length (pre ++ ['\n']).length = some 0 := by
    have hsl : slice s pre.length (pre.length + 1) = ['\n'] := h.slice_eq (x := ['\n'])
    unfold findNl; rw [len_snoc, hsl]; rfl
  refine ⟨_, h1, ?_⟩
  unfold refTail
  rw [shiftWhitespace_one s pre b '\n' h (by decide) (fun c hc => (hb c hc).1), ← len_snoc (c := '\n')]
  simp only [hmt, hfn, len_snoc_ne, Bool.false_and, Bool.false_eq_true, if_false]
  rw [Nat.add_zero, len_snoc]

theorem refTail_title {s pre t b label dest ty : Str} (h : At s pre (' ' :: '"' :: (t ++ '"' :: '\n' :: b)))
    (ht : ∀ c ∈ t, titleCh c = true) :
    ∃ E, At s E b ∧ refTail s label dest ty pre.length = .ok (some (E.length,
      { label := label, dest := dest, title := t, destType := ty, titleDelim := some '"' })) := by
  have h1 := h.step1
  obtain ⟨T, hT, hlt, hmt⟩ := matchLinkTitle_at h1 ht
  refine ⟨_, hT.step1, ?_⟩
  unfold refTail
  rw [shiftWhitespace_one s pre _ ' ' h (by decide) (by intro c hc; cases hc; decide), ← len_snoc (c := ' ')]
  simp only [hmt, hT.drop, lineEndGo, hlt, h1.get, len_snoc_ne, Bool.false_and, Bool.false_eq_true, if_false, if_true]
  rw [len_snoc]

theorem tail_ws (d : DefSpec) (b : Str) : ∃ w r, d.tail ++ b = w :: r ∧ coreWs w = true := by
  unfold DefSpec.tail
  cases d.title with
  | none => exact ⟨'\n', b, rfl, by decide⟩
  | some t => exact ⟨' ', _, rfl, by decide⟩

theorem refTail_def {s pre b : Str} (d : DefSpec) (ht : ∀ t, d.title = some t → ∀ c ∈ t, titleCh c = true)
    (h : At s pre (d.tail ++ b)) (hb : NextOk b) :
    ∃ E, At s E b ∧ refTail s d.lbl d.dest "uri".toList pre.length = .ok (some (E.length, d.fnMatch)) := by
  obtain ⟨lbl, dest, title⟩ := d
  cases title with
  | none => exact refTail_plain h hb
  | some t =>
    exact refTail_title (h.trans (congrArg (fun z => pre ++ ' ' :: '"' :: z) (List.append_assoc ..))) (ht t rfl)

/-- **`Footnote.match_reference` on a simple definition**, by stages: `[lbl]:`, the blank and the destination, the rest
    of the line -/
theorem matchReference_at {s a b : Str} (d : DefSpec) (hd : d.Ok) (h0 : At s a (d.line ++ b)) (hb : NextOk b) :
    matchReference s a.length = .ok (some ((a ++ d.line).length, d.fnMatch)) := by
  have h1 : At s a ('[' :: (d.lbl ++ ']' :: ':' :: ' ' :: (d.dest ++ (d.tail ++ b)))) := by
    rw [At, h0]; simp only [DefSpec.line, List.append_assoc, List.cons_append]
  obtain ⟨le, P, h2, hL, hc, hP⟩ := refHead_at h1 hd.hl hd.hb
  obtain ⟨ds, Q, h3, hsw, hD⟩ := matchLinkDest_at h2 hd.hd hd.hne (tail_ws d b)
  obtain ⟨E, hE, hT⟩ := refTail_def d hd.ht h3 hb
  rw [matchReference_stages hL hc (hP ▸ hsw) hD, hT, hE.pos_eq h0.step]

theorem matchReference_def (d : DefSpec) (hd : d.Ok) (a b : Str) (hb : NextOk b) :
    matchReference (a ++ d.line ++ b) a.length = .ok (some (a.length + d.line.length, d.fnMatch)) := by
  rw [← List.length_append]
  exact matchReference_at d hd (List.append_assoc ..) hb

/-! ## `Footnote.read` on a run of simple definitions -/

def linesOf (ds : List DefSpec) : Str := (ds.map DefSpec.line).flatten

theorem linesOf_cons (d : DefSpec) (ds : List DefSpec) : linesOf (d :: ds) = d.line ++ linesOf ds := by
  simp [linesOf]

theorem linesOf_next : ∀ (ds : List DefSpec), NextOk (linesOf ds)
  | [] => nextOk_nil
  | d :: ds => by rw [linesOf_cons]; exact nextOk_lb _

theorem linesOf_length : ∀ (ds : List DefSpec), ds.length ≤ (linesOf ds).length
  | [] => by simp [linesOf]
  | d :: ds => by
    have := linesOf_length ds
    rw [linesOf_cons, List.length_append, DefSpec.line_length, List.length_cons]; omega

/-- the loop `while offset < len(string) - 1: match_reference` over `k` definitions: exactly the `k` matches, in order,
    and the whole string is consumed (no line is handed back) -/
theorem footnoteRefs_defs (s : Str) : ∀ (ds : List DefSpec) (a : Str) (acc : List FnMatch) (fuel : Nat),
    s = a ++ linesOf ds → (∀ d ∈ ds, d.Ok) → ds.length < fuel →
    footnoteRefs s fuel a.length acc = .ok (acc.reverse ++ ds.map DefSpec.fnMatch, none)
  | _, _, _, 0, _, _, hf => by simp at hf
  | [], a, acc, fuel + 1, hs, _, _ => by
    have : ¬ a.length + 1 < s.length := by rw [hs]; simp [linesOf]
    simp [footnoteRefs, this]
  | d :: ds, a, acc, fuel + 1, hs, hok, hf => by
    have hs' : At s a (d.line ++ linesOf ds) := hs.trans (by rw [linesOf_cons])
    have hlt : a.length + 1 < s.length := hs'.succ_lt (c := '[') (by simp)
    have hm := matchReference_at d (hok d (by simp)) hs' (linesOf_next ds)
    have ih := footnoteRefs_defs s ds (a ++ d.line) (d.fnMatch :: acc) fuel hs'.step
      (fun x hx => hok x (List.mem_cons_of_mem _ hx)) (by simp only [List.length_cons] at hf; omega)
    simp only [footnoteRefs, hlt, if_true, hm, ih]
    simp

/-- the first loop of `Footnote.read`: the lines up to the next blank line -/
theorem footnoteLines_run (start : Nat) (dl pre post : List Line) (buf : List Str) (fuel : Nat)
    (hq : ∀ l ∈ dl, isBlank l.s = false) (hb : ∀ b, post.head? = some b → isBlank b.s = true) (hf : dl.length < fuel) :
    footnoteLines fuel ⟨pre ++ (dl ++ post), pre.length, start⟩ buf =
      ((dl.map (·.s)).reverse ++ buf, ⟨pre ++ (dl ++ post), pre.length + dl.length, start⟩) := by
  rw [footnoteLines_eq, loop_run footnoteStep (· :: ·) post start (fun b s h => by simp [footnoteStep, hb b h]) dl pre buf fuel
    (fun x hx s => by simp [footnoteStep, hq x hx]) hf, foldl_cons_map, List.append_assoc, List.length_append]

theorem isBlank_lb (r : Str) : isBlank ('[' :: r) = false := isBlank_rep 0 '[' r (by decide)

theorem defLine_nonblank (d : DefSpec) : isBlank d.line = false := isBlank_lb _

def LinesAre (dl : List Line) (ds : List DefSpec) : Prop := dl.map (·.s) = ds.map DefSpec.line

theorem LinesAre.nonblank {dl : List Line} {ds : List DefSpec} (h : LinesAre dl ds) : ∀ l ∈ dl, isBlank l.s = false := by
  intro l hl
  have : l.s ∈ ds.map DefSpec.line := by rw [← h]; exact List.mem_map_of_mem hl
  obtain ⟨d, _, hd⟩ := List.mem_map.mp this
  rw [← hd]; exact defLine_nonblank d

theorem LinesAre.length {dl : List Line} {ds : List DefSpec} (h : LinesAre dl ds) : dl.length = ds.length := by
  have := congrArg List.length h
  simpa using this

/-- **`Footnote.read` on `k` simple definitions followed by a blank line or the end of the buffer**: the `k` matches in
    order; the cursor is behind the `k` lines -/
theorem readFootnote_defs (ds : List DefSpec) (hok : ∀ d ∈ ds, d.Ok) (dl pre post : List Line) (start : Nat)
    (hdl : LinesAre dl ds) (hb : ∀ b, post.head? = some b → isBlank b.s = true) :
    readFootnote ⟨pre ++ (dl ++ post), pre.length, start⟩ =
      .ok (ds.map DefSpec.fnMatch, ⟨pre ++ (dl ++ post), pre.length + dl.length, start⟩) := by
  unfold readFootnote
  rw [footnoteLines_run start dl pre post [] _ hdl.nonblank hb (by simp [FW.remaining]; omega)]
  simp only [List.append_nil, List.reverse_reverse]
  have hs : (dl.map (·.s)).flatten = linesOf ds := by rw [hdl]; rfl
  rw [hs]
  have := footnoteRefs_defs (linesOf ds) ds [] [] ((linesOf ds).length + 2) (by simp) hok
    (by have := linesOf_length ds; omega)
  simp only [List.length_nil, List.reverse_nil, List.nil_append] at this
  rw [this]

/-! ## The dispatcher on a line that begins with `[` -/

theorem lstrip_lb (r : Str) : lstrip ('[' :: r) = '[' :: r := lstrip_rep 0 '[' r (by decide)

theorem delimiterRow_lb (r : Str) : delimiterRow ('[' :: r) = false :=
  delimiterRow_rep 0 '[' r (by decide) (by decide) (by decide) (by decide)

/-- the token types that can take a line beginning with `[` -/
def isDefOrPara (t : BTok) : Bool := t == .footnote || t == .linkRefDefBlock || t == .paragraph

/-- on a line beginning with `[` every other type declines (`Table`: when no delimiter row follows) -/
theorem lb_declines {fw : FW} {l : Line} {r : Str} (hl : l.s = '[' :: r) (ht : readTable fw = none) {t : BTok}
    (h : isDefOrPara t = false) : Declines fw l.s t := by
  by_cases hx : t = .table
  · exact hx ▸ .inr ht
  · refine declines_first (n := 0) hl (by decide) (by decide) ?_
    cases t <;> first | rfl | contradiction | exact absurd h (by decide)

/-- **On a line beginning with `[`, every token type up to the first of `Footnote` / `LinkReferenceDefinitionBlock` /
    `Paragraph` is passed over**; when that first one is a definition type and `Footnote.read` returns matches, the result is
    the definition entry and the matches are appended to the collected definitions. -/
theorem tryTypes_def (cfg : Cfg) (fw : FW) (st : St) (l : Line) (ms : List FnMatch) (fw' : FW) {r : Str}
    (hl : l.s = '[' :: r) (ht : readTable fw = none) (hR : readFootnote fw = .ok (ms, fw')) (hne : ms ≠ []) (t : BTok)
    (htp : t ≠ .paragraph) (ts : List BTok) (gas : Nat) (hm : ts.find? isDefOrPara = some t) (hg : ts.length ≤ gas) :
    tryTypes cfg gas fw st l ts =
      .ok (some (defEntry t ms (fw.start + fw.pos) l.origin, fw', { st with defs := st.defs ++ ms })) := by
  have hd : IsDef t := by
    have := List.find?_some hm
    cases t <;> simp_all [isDefOrPara, IsDef]
  exact tryTypes_first (fun _ => lb_declines hl ht)
    (fun _ _ => tryTypes_hit_def hd (by rw [hl, lstrip_lb]; rfl) hR (List.isEmpty_eq_false_iff.mpr hne)) hm hg

/-! ## The `while line is not None` loop -/

theorem delimiterRow_next (dl post : List Line) (ds : List DefSpec) (hdl : LinesAre dl ds)
    (hb : ∀ b, post.head? = some b → isBlank b.s = true) :
    ∀ l', (dl ++ post).head? = some l' → delimiterRow l'.s = false := by
  intro l' h
  cases dl with
  | nil => exact delimiterRow_blank _ (hb l' (by simpa using h))
  | cons x xs =>
    simp only [List.cons_append, List.head?_cons, Option.some.injEq] at h
    subst h
    cases ds with
    | nil => simp [LinesAre] at hdl
    | cons d ds' =>
      simp only [LinesAre, List.map_cons, List.cons.injEq] at hdl
      rw [hdl.1]; exact delimiterRow_lb _

/-- one definition entry: a run of `k ≥ 1` simple definitions followed by the end of the buffer or a blank line -/
theorem tokLoop_def_step (cfg : Cfg) (t : BTok) (hsel : cfg.types.find? isDefOrPara = some t) (htp : t ≠ .paragraph)
    (gas : Nat) (hg : cfg.types.length ≤ gas)
    (d : DefSpec) (ds : List DefSpec) (hok : ∀ x ∈ d :: ds, x.Ok) (l : Line) (dl pre post : List Line)
    (hdl : LinesAre (l :: dl) (d :: ds)) (start : Nat) (st : St) (acc : List Entry) (loose : Bool)
    (hb : ∀ b, post.head? = some b → isBlank b.s = true) :
    tokLoop cfg (gas + 1) ⟨pre ++ (l :: dl ++ post), pre.length, start⟩ st acc loose =
      tokLoop cfg gas ⟨(pre ++ l :: dl) ++ post, (pre ++ l :: dl).length, start⟩
        { st with defs := st.defs ++ (d :: ds).map DefSpec.fnMatch }
        (defEntry t ((d :: ds).map DefSpec.fnMatch) (start + pre.length) l.origin :: acc) loose := by
  have hl : l.s = d.line ∧ LinesAre dl ds := by
    simp only [LinesAre, List.map_cons, List.cons.injEq] at hdl; exact hdl
  have hp := peek_at pre l (dl ++ post) start
  have ht := readTable_none pre l (dl ++ post) start (delimiterRow_next dl post ds hl.2 hb)
  have hR := readFootnote_defs (d :: ds) hok (l :: dl) pre post start hdl hb
  simp only [List.cons_append] at hR
  have hT := tryTypes_def cfg _ st l _ _ hl.1 ht hR (by simp) t htp cfg.types gas hsel hg
  simp only [tokLoop, List.cons_append, hp]
  rw [hT]
  simp only [List.append_assoc, List.cons_append, List.length_append, List.length_cons]

/-- **`k` simple definitions, an empty line, an inert paragraph line** (anywhere in the loop): one definition entry with the
    `k` matches, (the Markdown renderer's `BlankLine`,) one paragraph; the `k` matches are appended to the definitions -/
theorem tokLoop_def_para (cfg : Cfg) (t : BTok) (hsel : cfg.types.find? isDefOrPara = some t) (htp : t ≠ .paragraph)
    (hpar : .paragraph ∈ cfg.types) (d : DefSpec) (ds : List DefSpec) (hok : ∀ x ∈ d :: ds, x.Ok)
    (l : Line) (dl pre : List Line) (b p : Line) (hdl : LinesAre (l :: dl) (d :: ds)) (hbl : b.s = ['\n'])
    (hp : Props.C14.inertLine p.s = true) (start : Nat) (st : St) (acc : List Entry) (loose : Bool) (gas : Nat) :
    tokLoop cfg (gas + (cfg.types.length + 3)) ⟨pre ++ (l :: dl ++ [b, p]), pre.length, start⟩ st acc loose =
      .ok ({ entries := acc.reverse ++ defEntry t ((d :: ds).map DefSpec.fnMatch) (start + pre.length) l.origin ::
                ((if cfg.types.contains .blankLine then [.blankLine (start + pre.length + dl.length + 1) b.origin] else []) ++
                 [.paragraph [p.s] (start + pre.length + dl.length + 2) p.origin]),
             loose := loose || !cfg.types.contains .blankLine },
           { st with defs := st.defs ++ (d :: ds).map DefSpec.fnMatch }) := by
  have s₁ : Step cfg cfg.types.length (fun post => ∀ b, post.head? = some b → isBlank b.s = true) (l :: dl)
      (fun ln => [defEntry t ((d :: ds).map DefSpec.fnMatch) ln l.origin]) 1 st _ false :=
    Step.one fun pre post start g acc loose hb hg => by
      simpa using tokLoop_def_step cfg t hsel htp g hg d ds hok l dl pre post hdl start st acc loose hb
  have s := s₁.append ((Step.nl (cfg := cfg) b hbl _).append
    (Step.para hpar p [] (Props.C14.inertLine_quiet p.s hp) (by simp) _) (fun _ _ => trivial) (by omega))
    (fun post _ b' hb' => by simp at hb'; subst hb'; rw [hbl]; decide) (by omega)
  have := s.tokLoop (by simp) pre start (gas + cfg.types.length - 1) (by omega) acc loose
  have e : gas + cfg.types.length - 1 + 1 + (1 + (1 + 1)) = gas + (cfg.types.length + 3) := by
    have : 0 < cfg.types.length := List.length_pos_of_mem hpar
    omega
  rw [e] at this
  rw [show l :: dl ++ [b, p] = (l :: dl) ++ ([b] ++ [p]) by simp, this]
  cases cfg.types.contains .blankLine <;> simp [Nat.add_assoc]

/-- **The block phase on `k` simple definitions, an empty line and one inert paragraph line**: for every token-type list in
    which the first of `Footnote` / `LinkReferenceDefinitionBlock` / `Paragraph` is a definition type `t` and which contains
    `Paragraph`, every `tableInterrupt`, every gas ≥ `cfg.types.length + 4`. -/
theorem blockPhase_def_para (cfg : Cfg) (t : BTok) (hsel : cfg.types.find? isDefOrPara = some t) (htp : t ≠ .paragraph)
    (hpar : .paragraph ∈ cfg.types) (d : DefSpec) (ds : List DefSpec) (hok : ∀ x ∈ d :: ds, x.Ok)
    (para : Str) (hp : Props.C14.inertLine para = true) (gas : Nat) :
    blockPhase cfg (gas + (cfg.types.length + 4)) ((d :: ds).map DefSpec.line ++ [['\n'], para]) =
      .ok ({ entries := defEntry t ((d :: ds).map DefSpec.fnMatch) 1 1 ::
                ((if cfg.types.contains .blankLine then [.blankLine (ds.length + 2) (ds.length + 2)] else []) ++
                 [.paragraph [para] (ds.length + 3) (ds.length + 3)]),
             loose := !cfg.types.contains .blankLine },
           { defs := (d :: ds).map DefSpec.fnMatch }) := by
  have eg : gas + (cfg.types.length + 4) = (gas + (cfg.types.length + 3)) + 1 := by omega
  rw [Props.C14.blockPhase_numbered, eg]
  simp only [tokenizeBlock]
  open Props.C14 in
  have hnum : numbered 0 ((d :: ds).map DefSpec.line ++ [['\n'], para]) =
      [] ++ ({ s := d.line, origin := 1 } :: numbered 1 (ds.map DefSpec.line) ++
        [{ s := ['\n'], origin := ds.length + 2 }, { s := para, origin := ds.length + 3 }]) := by
    rw [numbered_append, List.map_cons, numbered_cons, numbered_cons, numbered_cons]
    simp [numbered]
  rw [hnum]
  have hla : LinesAre ({ s := d.line, origin := 1 } :: Props.C14.numbered 1 (ds.map DefSpec.line)) (d :: ds) := by
    simp [LinesAre, Props.C14.numbered_s]
  have := tokLoop_def_para cfg t hsel htp hpar d ds hok _ _ [] { s := ['\n'], origin := ds.length + 2 }
    { s := para, origin := ds.length + 3 } hla rfl hp 1 {} [] false gas
  simp only [List.length_nil] at this
  rw [this]
  have e1 : 1 + 0 + ds.length + 1 = ds.length + 2 := by omega
  have e2 : 1 + 0 + ds.length + 2 = ds.length + 3 := by omega
  simp [Props.C14.numbered_length, e1, e2]

/-! ## From the text of the document -/

open Mistletoe.Document Mistletoe.Html Mistletoe.Escape Mistletoe.Inline Mistletoe.InertInline

namespace DefSpec

/-- the line without its newline -/
def body (d : DefSpec) : Str :=
  '[' :: (d.lbl ++ ']' :: ':' :: ' ' :: (d.dest ++ (match d.title with | none => [] | some t => ' ' :: '"' :: (t ++ ['"']))))

theorem line_eq_body (d : DefSpec) : d.line = d.body ++ ['\n'] := by
  unfold line body tail
  cases d.title <;> simp

theorem body_noSep (d : DefSpec) (h : d.Ok) : ∀ c ∈ d.body, isLineSep c = false := by
  intro c hc
  have k : ∀ x ∈ ['[', ']', ':', ' ', '"'], isLineSep x = false := by decide
  unfold body at hc
  simp only [List.mem_cons, List.mem_append] at hc
  rcases hc with rfl | hc | rfl | rfl | rfl | hc | hc
  · exact k _ (by simp)
  · exact (lblCh_of c (h.hl c hc)).2.2.2
  · exact k _ (by simp)
  · exact k _ (by simp)
  · exact k _ (by simp)
  · exact (urlCh_scan c (h.hd c hc)).2.2.2.2.2
  · cases ht : d.title with
    | none => rw [ht] at hc; simp at hc
    | some t =>
      rw [ht] at hc
      simp only [List.mem_cons, List.mem_append, List.not_mem_nil, or_false] at hc
      rcases hc with rfl | rfl | hc | rfl
      · exact k _ (by simp)
      · exact k _ (by simp)
      · exact (titleCh_of c (h.ht t ht c hc)).2.2
      · exact k _ (by simp)

end DefSpec

theorem defLine_oneLine (d : DefSpec) (h : d.Ok) : oneLine d.line = true := by
  rw [d.line_eq_body]; exact oneLine_text _ (d.body_noSep h)

/-- the paragraph line `pre[lbl]post` with its newline -/
def refLine (pre lbl post : Str) : Str := pre ++ ['['] ++ lbl ++ [']'] ++ post ++ ['\n']

/-- the document: `k` definition lines, an empty line, the paragraph line -/
def defsText (ds : List DefSpec) (pre lbl post : Str) : Str := linesOf ds ++ '\n' :: refLine pre lbl post

theorem refLine_oneLine (pre lbl post : Str) (h : ∀ c ∈ pre ++ lbl ++ post, isLineSep c = false) :
    oneLine (refLine pre lbl post) = true := by
  apply oneLine_text
  intro c hc
  have k : ∀ x ∈ ['[', ']'], isLineSep x = false := by decide
  simp only [List.mem_append, List.mem_cons, List.not_mem_nil, or_false] at hc h
  rcases hc with (((hc | rfl) | hc) | rfl) | hc
  · exact h c (Or.inl (Or.inl hc))
  · exact k _ (by simp)
  · exact h c (Or.inl (Or.inr hc))
  · exact k _ (by simp)
  · exact h c (Or.inr hc)

theorem normalize_defsText (ds : List DefSpec) (hok : ∀ x ∈ ds, x.Ok) (pre lbl post : Str)
    (hsep : ∀ c ∈ pre ++ lbl ++ post, isLineSep c = false) :
    Lines.normalize (.str (defsText ds pre lbl post)) = ds.map DefSpec.line ++ [['\n'], refLine pre lbl post] := by
  have e : defsText ds pre lbl post = (ds.map DefSpec.line ++ [['\n'], refLine pre lbl post]).flatten := by
    simp [defsText, linesOf]
  rw [e]
  apply normalize_lines
  intro l hl
  simp only [List.mem_append, List.mem_map, List.mem_cons, List.not_mem_nil, or_false] at hl
  rcases hl with ⟨d, hd, rfl⟩ | rfl | rfl
  · exact defLine_oneLine d (hok d hd)
  · decide
  · exact refLine_oneLine pre lbl post hsep

/-- the block-token list of the HTML renderer's configuration (regenerated from the working tree) is the default list -/
theorem html_block_types (cfg : Document.Cfg) (hcfg : Config.html = some cfg) : cfg.block.types = Props.C14.defaultTypes := by
  cases Option.some.inj (hcfg.symm.trans Config.html_eq)
  rfl

/-- `14` = `cfg.block.types.length + 4` of `blockPhase_def_para` for the ten block token types of `Config.html`
    (`html_block_types`); every `14 ≤ gas` below comes from here. -/
theorem blockPhase_defsText (cfg : Document.Cfg) (hcfg : Config.html = some cfg) (gas : Nat) (hg : 14 ≤ gas)
    (d : DefSpec) (ds : List DefSpec) (hok : ∀ x ∈ d :: ds, x.Ok) (pre lbl post : Str)
    (hsep : ∀ c ∈ pre ++ lbl ++ post, isLineSep c = false) (hin : Props.C14.inertLine (refLine pre lbl post) = true) :
    blockPhase cfg.block gas (Lines.normalize (.str (defsText (d :: ds) pre lbl post))) =
      .ok ({ entries := [.footnote ((d :: ds).map DefSpec.fnMatch) 1 1,
                         .paragraph [refLine pre lbl post] (ds.length + 3) (ds.length + 3)], loose := true },
           { defs := (d :: ds).map DefSpec.fnMatch }) := by
  have hT := html_block_types cfg hcfg
  obtain ⟨g, rfl⟩ : ∃ g, gas = g + 14 := ⟨gas - 14, by omega⟩
  have hb := blockPhase_def_para cfg.block .footnote (by rw [hT]; decide) (by decide) (by rw [hT]; decide) d ds hok
    (refLine pre lbl post) hin g
  have hc : cfg.block.types.contains .blankLine = false := by rw [hT]; decide
  have hlen : cfg.block.types.length + 4 = 14 := by rw [hT]; rfl
  rw [hlen, hc] at hb
  rw [normalize_defsText (d :: ds) hok pre lbl post hsep, hb]
  simp [defEntry]

/-! ## C07 at document level without the block-phase hypothesis -/

theorem docText_eq (defLbl dest pre lbl post : Str) :
    docText defLbl dest pre lbl post = defsText [{ lbl := defLbl, dest := dest }] pre lbl post := by
  have e1 : "]: ".toList = [']', ':', ' '] := by rw [String.toList_ofList]
  have e2 : "\n\n".toList = ['\n', '\n'] := by rw [String.toList_ofList]
  simp [docText, defsText, linesOf, DefSpec.line, DefSpec.tail, refLine, e1, e2]

/-- **The hypothesis `hbp` of `C07_shortcut_document_text` holds** for a label of label characters, a non-empty URL-safe
    destination, text without line boundary characters and an inert paragraph line. -/
theorem blockPhaseIs_def (cfg : Document.Cfg) (hcfg : Config.html = some cfg) (gas : Nat) (hg : 14 ≤ gas)
    (defLbl dest pre lbl post : Str) (hlb : ∀ c ∈ defLbl, lblCh c = true) (hnb : isBlank defLbl = false)
    (hd : ∀ c ∈ dest, urlCh c = true) (hne : dest ≠ [])
    (hsep : ∀ c ∈ pre ++ lbl ++ post, isLineSep c = false)
    (hin : Props.C14.inertLine (pre ++ ['['] ++ lbl ++ [']'] ++ post ++ ['\n']) = true) :
    blockPhaseIs cfg.block gas (Lines.normalize (.str (docText defLbl dest pre lbl post)))
      { label := defLbl, dest := dest, title := [], destType := "uri".toList, titleDelim := none }
      (pre ++ ['['] ++ lbl ++ [']'] ++ post ++ ['\n']) = true := by
  have hok : ∀ x ∈ [({ lbl := defLbl, dest := dest } : DefSpec)], x.Ok :=
    List.forall_mem_singleton.2 ⟨hlb, hnb, hd, hne, by intro t ht; cases ht⟩
  unfold blockPhaseIs
  rw [docText_eq, blockPhase_defsText cfg hcfg gas hg _ [] hok pre lbl post hsep hin]
  simp [isDefPara, DefSpec.fnMatch, refLine]

/-- **`C07_shortcut_document_text` without the hypothesis about the block phase.**  The document `[defLbl]: dest`, an empty
    line, `pre[lbl]post` under the HTML renderer's configuration renders `<p>pre<a href="dest">lbl</a>post</p>` when the two
    labels are equal after normalisation and `<p>pre[lbl]post</p>` otherwise.  Hypotheses: gas ≥ 14; `defLbl` consists of
    label characters and is not blank; `dest` is URL-safe and not empty; `pre`, `lbl`, `post` as in `DocText`, without line
    boundary characters, no whitespace at the two ends of the line; the paragraph line is block-inert (`inertLine`: e.g.
    `pre` begins with a letter, `paraLine_inert`). -/
theorem C07_shortcut_document_text_full (cfg : Document.Cfg) (hcfg : Config.html = some cfg) (gas : Nat) (hg : 14 ≤ gas)
    (defLbl dest pre lbl post : Str) (hlb : ∀ c ∈ defLbl, lblCh c = true) (hnb : isBlank defLbl = false)
    (hd : ∀ c ∈ dest, urlCh c = true) (hne : dest ≠ []) (htext : DocText pre lbl post)
    (hh : ∀ c, pre.head? = some c → pyIsSpace c = false) (hl : ∀ c, post.getLast? = some c → pyIsSpace c = false)
    (hsep : ∀ c ∈ pre ++ lbl ++ post, isLineSep c = false)
    (hin : Props.C14.inertLine (pre ++ ['['] ++ lbl ++ [']'] ++ post ++ ['\n']) = true) (o : Opts) :
    Config.renderHtml o gas (docText defLbl dest pre lbl post) =
      some (if Footnotes.normalizeLabel defLbl = Footnotes.normalizeLabel lbl
        then "<p>".toList ++ pre ++ "<a href=\"".toList ++ dest ++ "\">".toList ++ lbl ++ "</a>".toList ++ post ++ "</p>\n".toList
        else "<p>".toList ++ pre ++ ['['] ++ lbl ++ [']'] ++ post ++ "</p>\n".toList) :=
  C07_shortcut_document_text cfg hcfg gas defLbl dest pre lbl post hd htext hh hl
    (blockPhaseIs_def cfg hcfg gas hg defLbl dest pre lbl post hlb hnb hd hne hsep hin) o

theorem paraLine_inert (c : Char) (r lbl post : Str) (hc : isAlpha c = true) :
    Props.C14.inertLine ((c :: r) ++ ['['] ++ lbl ++ [']'] ++ post ++ ['\n']) = true := by
  have := Props.C14.C14_inert_of_plain 0 c (r ++ ['['] ++ lbl ++ [']'] ++ post ++ ['\n']) (by omega) hc
  simpa using this

/-! ## Titles and several definitions: the first matching definition of the run wins -/

/-- document-level condition on a title: no `&` (so that no character reference is decoded) -/
def DefSpec.NoAmp (d : DefSpec) : Prop := ∀ t, d.title = some t → '&' ∉ t

theorem fnMatch_safe (x : DefSpec) (hok : x.Ok) (hamp : x.NoAmp) : SafeDef x.fnMatch :=
  ⟨hok.hd, fun md => by
    cases htt : x.title with
    | none => simp only [DefSpec.fnMatch, htt]; cases md <;> decide
    | some t =>
      simp only [DefSpec.fnMatch, htt]
      exact InertInline2.escStrip_id md t (fun hm => (titleCh_of _ (hok.ht t htt _ hm)).1 rfl) (hamp t htt)⟩

/-- the ` title="…"` attribute as the HTML renderer writes it (nothing for an empty title) -/
def titleHtml (t : Str) : Str := if t.isEmpty then [] else " title=\"".toList ++ htmlEscape t ++ ['"']

theorem titleHtml_eq (t : Str) : flatAttrs (titleAttr t) = titleHtml t := by
  unfold titleAttr titleHtml
  split <;> simp [flatAttrs]

/-- the HTML of the document: the link to the first matching definition, or the literal text -/
def refHtml (ds : List DefSpec) (pre lbl post : Str) : Str :=
  match ds.find? (fun x => Footnotes.normalizeLabel x.lbl == Footnotes.normalizeLabel lbl) with
  | some x => "<p>".toList ++ pre ++ "<a href=\"".toList ++ x.dest ++ ['"'] ++ titleHtml (x.title.getD []) ++ ['>'] ++ lbl ++
      "</a>".toList ++ post ++ "</p>\n".toList
  | none => "<p>".toList ++ pre ++ ['['] ++ lbl ++ [']'] ++ post ++ "</p>\n".toList

theorem refHtml_nil (pre lbl post : Str) :
    refHtml [] pre lbl post = "<p>".toList ++ pre ++ ['['] ++ lbl ++ [']'] ++ post ++ "</p>\n".toList := rfl

theorem refHtml_cons_eq (d : DefSpec) (ds : List DefSpec) (pre lbl post : Str)
    (h : Footnotes.normalizeLabel d.lbl = Footnotes.normalizeLabel lbl) :
    refHtml (d :: ds) pre lbl post = "<p>".toList ++ pre ++ "<a href=\"".toList ++ d.dest ++ ['"'] ++
      titleHtml (d.title.getD []) ++ ['>'] ++ lbl ++ "</a>".toList ++ post ++ "</p>\n".toList := by
  simp only [refHtml, List.find?_cons, h, beq_self_eq_true]

theorem refHtml_cons_ne (d : DefSpec) (ds : List DefSpec) (pre lbl post : Str)
    (h : Footnotes.normalizeLabel d.lbl ≠ Footnotes.normalizeLabel lbl) :
    refHtml (d :: ds) pre lbl post = refHtml ds pre lbl post := by
  simp only [refHtml, List.find?_cons, beq_eq_false_iff_ne.2 h]

theorem forall_mem_pair {α} {P : α → Prop} {a b : α} (ha : P a) (hb : P b) : ∀ x ∈ [a, b], P x :=
  List.forall_mem_cons.2 ⟨ha, List.forall_mem_singleton.2 hb⟩

theorem defsText_pair (d₁ d₂ : DefSpec) (pre lbl post : Str) :
    d₁.line ++ d₂.line ++ '\n' :: refLine pre lbl post = defsText [d₁, d₂] pre lbl post := by
  simp [defsText, linesOf]

/-- **C07 for `k ≥ 1` simple definitions in a row (with or without titles), an empty line, `pre[lbl]post`** under the HTML
    renderer's configuration: the definitions produce no output; the reference becomes a link to the destination (and
    title) of the FIRST definition of the run whose label equals `lbl` after normalisation; with no such definition the
    text stays literal.  No hypothesis about the block phase. -/
theorem C07_defs_document (cfg : Document.Cfg) (hcfg : Config.html = some cfg) (gas : Nat) (hg : 14 ≤ gas)
    (d : DefSpec) (ds : List DefSpec) (hok : ∀ x ∈ d :: ds, x.Ok) (hamp : ∀ x ∈ d :: ds, x.NoAmp)
    (pre lbl post : Str) (htext : DocText pre lbl post)
    (hh : ∀ c, pre.head? = some c → pyIsSpace c = false) (hl : ∀ c, post.getLast? = some c → pyIsSpace c = false)
    (hsep : ∀ c ∈ pre ++ lbl ++ post, isLineSep c = false)
    (hin : Props.C14.inertLine (refLine pre lbl post) = true) (o : Opts) :
    Config.renderHtml o gas (defsText (d :: ds) pre lbl post) = some (refHtml (d :: ds) pre lbl post) := by
  obtain ⟨ht, hc⟩ := C07_config_covered cfg (Or.inl hcfg)
  obtain ⟨doc, hp, hr⟩ := C07_ref_document cfg ht hc gas _ _ _ (blockPhase_defsText cfg hcfg gas hg d ds hok pre lbl post hsep hin)
    _ 1 1 _ _ _ rfl (fun m hm => by
      obtain ⟨x, hx, rfl⟩ := List.mem_map.1 hm
      exact fnMatch_safe x (hok x hx) (hamp x hx))
    pre lbl post (strip_ref_line pre lbl post hh hl) htext o
  rw [Pipeline.renderHtml_of_parse hcfg o hp, hr, List.find?_map, refHtml,
    show ((fun m : FnMatch => Footnotes.normalizeLabel m.label == Footnotes.normalizeLabel lbl) ∘ DefSpec.fnMatch) =
      fun x => Footnotes.normalizeLabel x.lbl == Footnotes.normalizeLabel lbl from rfl]
  cases (d :: ds).find? (fun x => Footnotes.normalizeLabel x.lbl == Footnotes.normalizeLabel lbl) with
  | some x => simp only [Option.map_some, titleHtml_eq]; rfl
  | none => rfl

/-- **one definition with a title**: `[defLbl]: dest "title"`, an empty line, `pre[lbl]post` renders
    `<p>pre<a href="dest" title="…">lbl</a>post</p>` (the title HTML-escaped by `html.escape`) when the labels are equal after
    normalisation, and the literal text otherwise.  Title characters: no backslash, `"`, `&`, line boundary; not empty. -/
theorem C07_shortcut_document_title (cfg : Document.Cfg) (hcfg : Config.html = some cfg) (gas : Nat) (hg : 14 ≤ gas)
    (defLbl dest title pre lbl post : Str) (hlb : ∀ c ∈ defLbl, lblCh c = true) (hnb : isBlank defLbl = false)
    (hd : ∀ c ∈ dest, urlCh c = true) (hne : dest ≠ [])
    (htt : ∀ c ∈ title, titleCh c = true) (hamp : '&' ∉ title) (htne : title ≠ []) (htext : DocText pre lbl post)
    (hh : ∀ c, pre.head? = some c → pyIsSpace c = false) (hl : ∀ c, post.getLast? = some c → pyIsSpace c = false)
    (hsep : ∀ c ∈ pre ++ lbl ++ post, isLineSep c = false)
    (hin : Props.C14.inertLine (pre ++ ['['] ++ lbl ++ [']'] ++ post ++ ['\n']) = true) (o : Opts) :
    Config.renderHtml o gas (['['] ++ defLbl ++ "]: ".toList ++ dest ++ " \"".toList ++ title ++ "\"\n\n".toList ++
        (pre ++ ['['] ++ lbl ++ [']'] ++ post ++ ['\n'])) =
      some (if Footnotes.normalizeLabel defLbl = Footnotes.normalizeLabel lbl
        then "<p>".toList ++ pre ++ "<a href=\"".toList ++ dest ++ "\" title=\"".toList ++ htmlEscape title ++ "\">".toList ++
          lbl ++ "</a>".toList ++ post ++ "</p>\n".toList
        else "<p>".toList ++ pre ++ ['['] ++ lbl ++ [']'] ++ post ++ "</p>\n".toList) := by
  have e1 : "]: ".toList = [']', ':', ' '] := by rw [String.toList_ofList]
  have e2 : " \"".toList = [' ', '"'] := by rw [String.toList_ofList]
  have e3 : "\"\n\n".toList = ['"', '\n', '\n'] := by rw [String.toList_ofList]
  have e : ['['] ++ defLbl ++ "]: ".toList ++ dest ++ " \"".toList ++ title ++ "\"\n\n".toList ++
        (pre ++ ['['] ++ lbl ++ [']'] ++ post ++ ['\n']) =
      defsText [{ lbl := defLbl, dest := dest, title := some title }] pre lbl post := by
    simp [defsText, linesOf, DefSpec.line, DefSpec.tail, refLine, e1, e2, e3]
  have hok : ∀ x ∈ [({ lbl := defLbl, dest := dest, title := some title } : DefSpec)], x.Ok :=
    List.forall_mem_singleton.2 ⟨hlb, hnb, hd, hne, by intro t ht; cases ht; exact htt⟩
  have ha : ∀ x ∈ [({ lbl := defLbl, dest := dest, title := some title } : DefSpec)], x.NoAmp :=
    List.forall_mem_singleton.2 (by intro t ht; cases ht; exact hamp)
  rw [e, C07_defs_document cfg hcfg gas hg _ [] hok ha pre lbl post htext hh hl hsep hin o]
  have hte : title.isEmpty = false := by cases title with | nil => exact absurd rfl htne | cons _ _ => rfl
  have e4 : "\" title=\"".toList = '"' :: " title=\"".toList := by rw [String.toList_ofList, String.toList_ofList]
  have e5 : "\">".toList = ['"', '>'] := by rw [String.toList_ofList]
  by_cases hk : Footnotes.normalizeLabel defLbl = Footnotes.normalizeLabel lbl
  · rw [if_pos hk, refHtml_cons_eq _ _ _ _ _ hk]
    simp [titleHtml, hte, e4, e5]
  · rw [if_neg hk, refHtml_cons_ne _ _ _ _ _ hk, refHtml_nil]

/-- **Two definitions in a row (one `Footnote.read` call reads both): the FIRST one wins.**  If the label of the first
    definition equals the reference's after normalisation, the link goes to the first destination (and title) - whatever
    the second definition is, in particular a second definition of the same label. -/
theorem C07_first_of_run_wins (cfg : Document.Cfg) (hcfg : Config.html = some cfg) (gas : Nat) (hg : 14 ≤ gas)
    (d₁ d₂ : DefSpec) (h₁ : d₁.Ok) (h₂ : d₂.Ok) (a₁ : d₁.NoAmp) (a₂ : d₂.NoAmp)
    (pre lbl post : Str) (htext : DocText pre lbl post)
    (hh : ∀ c, pre.head? = some c → pyIsSpace c = false) (hl : ∀ c, post.getLast? = some c → pyIsSpace c = false)
    (hsep : ∀ c ∈ pre ++ lbl ++ post, isLineSep c = false)
    (hin : Props.C14.inertLine (refLine pre lbl post) = true) (o : Opts)
    (hk : Footnotes.normalizeLabel d₁.lbl = Footnotes.normalizeLabel lbl) :
    Config.renderHtml o gas (d₁.line ++ d₂.line ++ '\n' :: refLine pre lbl post) =
      some ("<p>".toList ++ pre ++ "<a href=\"".toList ++ d₁.dest ++ ['"'] ++ titleHtml (d₁.title.getD []) ++ ['>'] ++ lbl ++
        "</a>".toList ++ post ++ "</p>\n".toList) := by
  rw [defsText_pair, C07_defs_document cfg hcfg gas hg d₁ [d₂] (forall_mem_pair h₁ h₂) (forall_mem_pair a₁ a₂) pre lbl post
    htext hh hl hsep hin o, refHtml_cons_eq _ _ _ _ _ hk]

/-- … and when only the second definition matches, the link goes to the second; when neither matches, the text is literal -/
theorem C07_second_of_run (cfg : Document.Cfg) (hcfg : Config.html = some cfg) (gas : Nat) (hg : 14 ≤ gas)
    (d₁ d₂ : DefSpec) (h₁ : d₁.Ok) (h₂ : d₂.Ok) (a₁ : d₁.NoAmp) (a₂ : d₂.NoAmp)
    (pre lbl post : Str) (htext : DocText pre lbl post)
    (hh : ∀ c, pre.head? = some c → pyIsSpace c = false) (hl : ∀ c, post.getLast? = some c → pyIsSpace c = false)
    (hsep : ∀ c ∈ pre ++ lbl ++ post, isLineSep c = false)
    (hin : Props.C14.inertLine (refLine pre lbl post) = true) (o : Opts)
    (hk : Footnotes.normalizeLabel d₁.lbl ≠ Footnotes.normalizeLabel lbl) :
    Config.renderHtml o gas (d₁.line ++ d₂.line ++ '\n' :: refLine pre lbl post) =
      some (if Footnotes.normalizeLabel d₂.lbl = Footnotes.normalizeLabel lbl
        then "<p>".toList ++ pre ++ "<a href=\"".toList ++ d₂.dest ++ ['"'] ++ titleHtml (d₂.title.getD []) ++ ['>'] ++ lbl ++
          "</a>".toList ++ post ++ "</p>\n".toList
        else "<p>".toList ++ pre ++ ['['] ++ lbl ++ [']'] ++ post ++ "</p>\n".toList) := by
  rw [defsText_pair, C07_defs_document cfg hcfg gas hg d₁ [d₂] (forall_mem_pair h₁ h₂) (forall_mem_pair a₁ a₂) pre lbl post
    htext hh hl hsep hin o, refHtml_cons_ne _ _ _ _ _ hk]
  by_cases hk2 : Footnotes.normalizeLabel d₂.lbl = Footnotes.normalizeLabel lbl
  · rw [if_pos hk2, refHtml_cons_eq _ _ _ _ _ hk2]
  · rw [if_neg hk2, refHtml_cons_ne _ _ _ _ _ hk2, refHtml_nil]

/-! ## Named forms of items 1 and 2 -/

/-- **`Footnote.read` on one simple definition line** followed by a blank line or the end of the buffer: exactly one match
    `(label, dest, title or "", "uri", '"' or None)`, consuming that one line -/
theorem footnote_line (d : DefSpec) (hd : d.Ok) (l : Line) (hl : l.s = d.line) (pre post : List Line) (start : Nat)
    (hb : ∀ b, post.head? = some b → isBlank b.s = true) :
    readFootnote ⟨pre ++ (l :: post), pre.length, start⟩ =
      .ok ([d.fnMatch], ⟨pre ++ (l :: post), pre.length + 1, start⟩) := by
  have := readFootnote_defs [d] (List.forall_mem_singleton.2 hd) [l] pre post start
    (by simp [LinesAre, hl]) hb
  simpa using this

/-- the default token types (`HtmlBlock` in front), either `tableInterrupt` -/
theorem blockPhase_def_para_default (ti : Bool) (d : DefSpec) (ds : List DefSpec) (hok : ∀ x ∈ d :: ds, x.Ok)
    (para : Str) (hp : Props.C14.inertLine para = true) (gas : Nat) :
    blockPhase { types := Props.C14.defaultTypes, tableInterrupt := ti } (gas + 14) ((d :: ds).map DefSpec.line ++ [['\n'], para]) =
      .ok ({ entries := [.footnote ((d :: ds).map DefSpec.fnMatch) 1 1, .paragraph [para] (ds.length + 3) (ds.length + 3)],
             loose := true }, { defs := (d :: ds).map DefSpec.fnMatch }) := by
  have := blockPhase_def_para { types := Props.C14.defaultTypes, tableInterrupt := ti } .footnote
    (show List.find? isDefOrPara Props.C14.defaultTypes = some .footnote by decide) (by decide)
    (show BTok.paragraph ∈ Props.C14.defaultTypes by decide) d ds hok para hp gas
  simpa [defEntry, Props.C14.defaultTypes] using this

/-- the Markdown renderer's token types, either `tableInterrupt`: a `LinkReferenceDefinitionBlock` entry, a `BlankLine`,
    the paragraph -/
theorem blockPhase_def_para_markdown (ti : Bool) (d : DefSpec) (ds : List DefSpec) (hok : ∀ x ∈ d :: ds, x.Ok)
    (para : Str) (hp : Props.C14.inertLine para = true) (gas : Nat) :
    blockPhase { types := Props.C14.markdownTypes, tableInterrupt := ti } (gas + 15) ((d :: ds).map DefSpec.line ++ [['\n'], para]) =
      .ok ({ entries := [.linkRefDefs ((d :: ds).map DefSpec.fnMatch) 1 1, .blankLine (ds.length + 2) (ds.length + 2),
                         .paragraph [para] (ds.length + 3) (ds.length + 3)],
             loose := false }, { defs := (d :: ds).map DefSpec.fnMatch }) := by
  have := blockPhase_def_para { types := Props.C14.markdownTypes, tableInterrupt := ti } .linkRefDefBlock
    (show List.find? isDefOrPara Props.C14.markdownTypes = some .linkRefDefBlock by decide) (by decide)
    (show BTok.paragraph ∈ Props.C14.markdownTypes by decide) d ds hok para hp gas
  simpa [defEntry, Props.C14.markdownTypes] using this

/-- the configurations of the working tree (`Config.html`, `Config.markdown`: token lists regenerated from /repo) -/
theorem blockPhase_def_para_current (d : DefSpec) (ds : List DefSpec) (hok : ∀ x ∈ d :: ds, x.Ok)
    (para : Str) (hp : Props.C14.inertLine para = true) (gas : Nat) :
    (∀ cfg, Config.html = some cfg →
      blockPhase cfg.block (gas + 14) ((d :: ds).map DefSpec.line ++ [['\n'], para]) =
        .ok ({ entries := [.footnote ((d :: ds).map DefSpec.fnMatch) 1 1, .paragraph [para] (ds.length + 3) (ds.length + 3)],
               loose := true }, { defs := (d :: ds).map DefSpec.fnMatch })) ∧
    (∀ cfg, Config.markdown = some cfg →
      blockPhase cfg.block (gas + 15) ((d :: ds).map DefSpec.line ++ [['\n'], para]) =
        .ok ({ entries := [.linkRefDefs ((d :: ds).map DefSpec.fnMatch) 1 1, .blankLine (ds.length + 2) (ds.length + 2),
                           .paragraph [para] (ds.length + 3) (ds.length + 3)],
               loose := false }, { defs := (d :: ds).map DefSpec.fnMatch })) := by
  constructor
  · intro cfg hcfg
    have hT := html_block_types cfg hcfg
    have e : cfg.block = { types := Props.C14.defaultTypes, tableInterrupt := cfg.block.tableInterrupt } := by
      rw [← hT]
    rw [e]
    exact blockPhase_def_para_default _ d ds hok para hp gas
  · intro cfg hcfg
    have hT : cfg.block.types = Props.C14.markdownTypes := by
      have := Props.C14.C14_config_current.2
      rw [hcfg] at this
      simpa using this
    have e : cfg.block = { types := Props.C14.markdownTypes, tableInterrupt := cfg.block.tableInterrupt } := by
      rw [← hT]
    rw [e]
    exact blockPhase_def_para_markdown _ d ds hok para hp gas

/-! ## Non-vacuity: instances, kernel evaluation of the model, the real code

  Real code (`cd /repo && /venv/bin/python -c "import mistletoe; print(repr(mistletoe.markdown(TEXT)))"`):
    `[Foo Bar]: /u\n\nsee [foo  bar] here\n`                 ↦ `<p>see <a href="/u">foo  bar</a> here</p>\n`
    `[Foo Bar]: /u "The <T>"\n\nsee [foo  bar] here\n`       ↦ `<p>see <a href="/u" title="The &lt;T&gt;">foo  bar</a> here</p>\n`
    `[foo]: /first\n[FOO]: /second "t"\n\nsee [Foo] here\n`  ↦ `<p>see <a href="/first">Foo</a> here</p>\n`
    `[foo]: /first\n[FOO]: /second "t"\n\nsee [Bar] here\n`  ↦ `<p>see [Bar] here</p>\n`
  - the strings the theorems below give. -/

section Examples

def dFoo : DefSpec := { lbl := L "Foo Bar", dest := L "/u" }
def dFooT : DefSpec := { lbl := L "Foo Bar", dest := L "/u", title := some (L "The <T>") }
def d1 : DefSpec := { lbl := L "foo", dest := L "/first" }
def d2 : DefSpec := { lbl := L "FOO", dest := L "/second", title := some (L "t") }
attribute [lit] dFoo dFooT d1 d2

theorem demo_ok : dFoo.Ok ∧ dFooT.Ok ∧ d1.Ok ∧ d2.Ok :=
  ⟨DefSpec.ok_spec _ (by decide_lit), DefSpec.ok_spec _ (by decide_lit), DefSpec.ok_spec _ (by decide_lit),
   DefSpec.ok_spec _ (by decide_lit)⟩

theorem demo_noAmp : dFoo.NoAmp ∧ dFooT.NoAmp ∧ d1.NoAmp ∧ d2.NoAmp := by
  refine ⟨?_, ?_, ?_, ?_⟩ <;> intro t ht <;> cases ht <;> decide

/-- the side conditions are not trivially true: a backslash or a bracket in the label, a blank label, a destination with a
    parenthesis or empty, a `"` in the title -/
example : [({ lbl := L "a\\b", dest := L "/u" } : DefSpec), { lbl := L "a[b", dest := L "/u" }, { lbl := L "  ", dest := L "/u" },
    { lbl := L "a", dest := L "/u(1)" }, { lbl := L "a", dest := [] }, { lbl := L "a", dest := L "/u", title := some (L "x\"y") }].map
    DefSpec.ok = List.replicate 6 false := by decide_lit

example : dFoo.line = L "[Foo Bar]: /u\n" ∧ dFooT.line = L "[Foo Bar]: /u \"The <T>\"\n" := by decide_lit

/-- item 1, instance of `matchReference_def` (offset 0, end of the buffer) and the same by evaluation -/
example : matchReference (L "[Foo Bar]: /u\n") 0 =
    .ok (some (14, { label := L "Foo Bar", dest := L "/u", title := [], destType := L "uri", titleDelim := none })) := by
  have h := matchReference_def dFoo demo_ok.1 [] [] nextOk_nil
  have e : [] ++ dFoo.line ++ [] = L "[Foo Bar]: /u\n" := by decide_lit
  rw [e] at h
  exact h.trans (by decide_lit)
example : matchReference (L "[Foo Bar]: /u\n") 0 =
    .ok (some (14, { label := L "Foo Bar", dest := L "/u", title := [], destType := L "uri", titleDelim := none })) := by
  decide_lit
example : matchReference (L "[Foo Bar]: /u \"The <T>\"\n[x]: y\n") 0 =
    .ok (some (24, { label := L "Foo Bar", dest := L "/u", title := L "The <T>", destType := L "uri", titleDelim := some '"' })) := by
  decide_lit
/-- second definition of a run: offset 14 -/
example : matchReference (dFoo.line ++ dFooT.line ++ []) dFoo.line.length = .ok (some (dFoo.line.length + dFooT.line.length, dFooT.fnMatch)) :=
  matchReference_def dFooT demo_ok.2.1 dFoo.line [] nextOk_nil

/-- item 2, instance of `blockPhase_def_para_default` and the same by evaluation -/
example : blockPhase { types := Props.C14.defaultTypes } 14 [L "[foo]: /first\n", L "[FOO]: /second \"t\"\n", L "\n", L "see [Foo] here\n"] =
    .ok ({ entries := [.footnote [d1.fnMatch, d2.fnMatch] 1 1, .paragraph [L "see [Foo] here\n"] 4 4], loose := true },
         { defs := [d1.fnMatch, d2.fnMatch] }) := by
  have h := blockPhase_def_para_default true d1 [d2] (forall_mem_pair demo_ok.2.2.1 demo_ok.2.2.2)
    (L "see [Foo] here\n") (by decide_lit) 0
  have e : [d1, d2].map DefSpec.line ++ [['\n'], L "see [Foo] here\n"] =
      [L "[foo]: /first\n", L "[FOO]: /second \"t\"\n", L "\n", L "see [Foo] here\n"] := by decide_lit
  rw [e] at h
  exact h
example : (match blockPhase { types := Props.C14.defaultTypes } 14 [L "[foo]: /first\n", L "[FOO]: /second \"t\"\n", L "\n", L "see [Foo] here\n"] with
    | .ok (⟨[.footnote ms 1 1, .paragraph [l] 4 4], true⟩, st) =>
      ms == [d1.fnMatch, d2.fnMatch] && l == L "see [Foo] here\n" && st.defs == [d1.fnMatch, d2.fnMatch]
    | _ => false) = true := by decide +kernel
/-- the Markdown renderer's token types -/
example : blockPhase { types := Props.C14.markdownTypes } 15 [L "[foo]: /first\n", L "\n", L "see [Foo] here\n"] =
    .ok ({ entries := [.linkRefDefs [d1.fnMatch] 1 1, .blankLine 2 2, .paragraph [L "see [Foo] here\n"] 3 3], loose := false },
         { defs := [d1.fnMatch] }) := by
  have h := blockPhase_def_para_markdown true d1 [] (List.forall_mem_singleton.2 demo_ok.2.2.1)
    (L "see [Foo] here\n") (by decide_lit) 0
  have e : [d1].map DefSpec.line ++ [['\n'], L "see [Foo] here\n"] = [L "[foo]: /first\n", L "\n", L "see [Foo] here\n"] := by
    decide_lit
  rw [e] at h
  exact h

theorem demo_text2 : DocText (L "see ") (L "foo  bar") (L " here") ∧ DocText (L "see ") (L "Foo") (L " here") ∧
    DocText (L "see ") (L "Bar") (L " here") :=
  ⟨⟨by decide_lit, by decide_lit, by decide_lit, by decide_lit, by decide_lit⟩,
   ⟨by decide_lit, by decide_lit, by decide_lit, by decide_lit, by decide_lit⟩,
   ⟨by decide_lit, by decide_lit, by decide_lit, by decide_lit, by decide_lit⟩⟩

/-- the evaluations of `normalize_label` that the instances below use, as one evaluation (each one first walks the whole
    case-folding table, which the kernel does once per declaration) -/
theorem demo_norm2 : Footnotes.normalizeLabel (L "Foo Bar") = Footnotes.normalizeLabel (L "foo  bar") ∧
    Footnotes.normalizeLabel d1.lbl = Footnotes.normalizeLabel (L "Foo") ∧
    Footnotes.normalizeLabel d2.lbl = Footnotes.normalizeLabel (L "Foo") ∧
    Footnotes.normalizeLabel d1.lbl ≠ Footnotes.normalizeLabel (L "Bar") ∧
    ¬ Footnotes.normalizeLabel d2.lbl = Footnotes.normalizeLabel (L "Bar") := by decide_lit

/-- item 3: `[Foo Bar]: /u\n\nsee [foo  bar] here\n`, instance of `C07_shortcut_document_text_full` (no block-phase hypothesis) -/
example : ∀ cfg, Config.html = some cfg → ∀ o : Opts,
    Config.renderHtml o 14 (L "[Foo Bar]: /u\n\nsee [foo  bar] here\n") =
      some (L "<p>see <a href=\"/u\">foo  bar</a> here</p>\n") := by
  intro cfg hcfg o
  have h := C07_shortcut_document_text_full cfg hcfg 14 (by omega) (L "Foo Bar") (L "/u") (L "see ") (L "foo  bar") (L " here")
    (by decide_lit) (by decide_lit) (by decide_lit) (by decide_lit) demo_text2.1 (by decide_lit) (by decide_lit)
    (by decide_lit) (paraLine_inert 's' (L "ee ") _ _ (by decide)) o
  have e : docText (L "Foo Bar") (L "/u") (L "see ") (L "foo  bar") (L " here") = L "[Foo Bar]: /u\n\nsee [foo  bar] here\n" := by
    decide_lit
  rw [if_pos demo_norm2.1, e] at h
  exact h.trans (by decide_lit)

/-- with a title (instance of `C07_shortcut_document_title`); the title is HTML-escaped -/
example : ∀ cfg, Config.html = some cfg → ∀ o : Opts,
    Config.renderHtml o 14 (L "[Foo Bar]: /u \"The <T>\"\n\nsee [foo  bar] here\n") =
      some (L "<p>see <a href=\"/u\" title=\"The &lt;T&gt;\">foo  bar</a> here</p>\n") := by
  intro cfg hcfg o
  have h := C07_shortcut_document_title cfg hcfg 14 (by omega) (L "Foo Bar") (L "/u") (L "The <T>") (L "see ") (L "foo  bar") (L " here")
    (by decide_lit) (by decide_lit) (by decide_lit) (by decide_lit) (by decide_lit) (by decide_lit) (by decide_lit) demo_text2.1
    (by decide_lit) (by decide_lit) (by decide_lit) (paraLine_inert 's' (L "ee ") _ _ (by decide)) o
  have e : ['['] ++ L "Foo Bar" ++ "]: ".toList ++ L "/u" ++ " \"".toList ++ L "The <T>" ++ "\"\n\n".toList ++
      (L "see " ++ ['['] ++ L "foo  bar" ++ [']'] ++ L " here" ++ ['\n']) = L "[Foo Bar]: /u \"The <T>\"\n\nsee [foo  bar] here\n" := by
    decide_lit
  rw [if_pos demo_norm2.1, e] at h
  exact h.trans (by decide_lit)

/-- item 3, two definitions of the same label - the first wins (instance of `C07_first_of_run_wins`) -/
example : ∀ cfg, Config.html = some cfg → ∀ o : Opts,
    Config.renderHtml o 14 (L "[foo]: /first\n[FOO]: /second \"t\"\n\nsee [Foo] here\n") =
      some (L "<p>see <a href=\"/first\">Foo</a> here</p>\n") := by
  intro cfg hcfg o
  have h := C07_first_of_run_wins cfg hcfg 14 (by omega) d1 d2 demo_ok.2.2.1 demo_ok.2.2.2 demo_noAmp.2.2.1 demo_noAmp.2.2.2
    (L "see ") (L "Foo") (L " here") demo_text2.2.1 (by decide_lit) (by decide_lit) (by decide_lit)
    (paraLine_inert 's' (L "ee ") _ _ (by decide)) o demo_norm2.2.1
  have e : d1.line ++ d2.line ++ '\n' :: refLine (L "see ") (L "Foo") (L " here") =
      L "[foo]: /first\n[FOO]: /second \"t\"\n\nsee [Foo] here\n" := by decide_lit
  rw [e] at h
  exact h.trans (by decide_lit)
/-- both labels are the reference's label after normalisation: it really is a duplicate -/
example : Footnotes.normalizeLabel d2.lbl = Footnotes.normalizeLabel (L "Foo") := demo_norm2.2.2.1

/-- `[Bar]` matches neither: literal (instance of `C07_second_of_run`) -/
example : ∀ cfg, Config.html = some cfg → ∀ o : Opts,
    Config.renderHtml o 14 (L "[foo]: /first\n[FOO]: /second \"t\"\n\nsee [Bar] here\n") = some (L "<p>see [Bar] here</p>\n") := by
  intro cfg hcfg o
  have h := C07_second_of_run cfg hcfg 14 (by omega) d1 d2 demo_ok.2.2.1 demo_ok.2.2.2 demo_noAmp.2.2.1 demo_noAmp.2.2.2
    (L "see ") (L "Bar") (L " here") demo_text2.2.2 (by decide_lit) (by decide_lit) (by decide_lit)
    (paraLine_inert 's' (L "ee ") _ _ (by decide)) o demo_norm2.2.2.2.1
  have e : d1.line ++ d2.line ++ '\n' :: refLine (L "see ") (L "Bar") (L " here") =
      L "[foo]: /first\n[FOO]: /second \"t\"\n\nsee [Bar] here\n" := by decide_lit
  rw [if_neg demo_norm2.2.2.2.2, e] at h
  exact h.trans (by decide_lit)

/-- two of these documents by kernel evaluation of the whole model -/
example : [L "[Foo Bar]: /u \"The <T>\"\n\nsee [foo  bar] here\n", L "[foo]: /first\n[FOO]: /second \"t\"\n\nsee [Foo] here\n"].map
      (Config.renderHtml {} 14) =
    [some (L "<p>see <a href=\"/u\" title=\"The &lt;T&gt;\">foo  bar</a> here</p>\n"),
     some (L "<p>see <a href=\"/first\">Foo</a> here</p>\n")] := by decide_lit

end Examples

end Mistletoe.DefLine
