/-
  C14 with the widened inline conditions `inertBody2` (any table of link definitions) and `inertBody3` (empty table):
  the property theorems and their test vectors.  The conditions and the proof that they are `Silent` are in
  `Proofs/InertWide.lean` (namespace `Mistletoe.InertInline2`); this file builds on `Props/C14.lean` for the block half.

  End to end: `C14_prose_text2`; under `inertBody3` it is `C14W.C14_prose_text3` (Props/C14_Wide.lean), whose test vector is here.
-/
import Mistletoe.Proofs.InertInline
import Mistletoe.Props.C14
import Mistletoe.Proofs.Lit
namespace Mistletoe.Props.C14
open Mistletoe Mistletoe.Py Mistletoe.Scan Mistletoe.Block Mistletoe.Inline Mistletoe.InertInline Mistletoe.InertInline2
open Mistletoe.Html Mistletoe.Escape

def inertText2 (s : Str) : Bool := inertBody2 s && !s.contains '\n'
def inertText3 (s : Str) : Bool := inertBody3 s && !s.contains '\n'

theorem not_contains_nl (s : Str) (h : (!s.contains '\n') = true) : '\n' ∉ s := by
  simpa using h

/-- **No emphasis without an opener/closer pair.**  `process_emphasis` on a delimiter list in which
    no delimiter that can open is followed by one of the same character that can close records no
    match (whatever the runs' lengths and the `bottoms` bookkeeping do). -/
theorem C14_no_pair_no_emphasis (s : Str) (ds : List Core.Delim) (ms : List Core.CoreM)
    (hh : ∀ d ∈ ds, d.type ≠ []) (hp : ds.Pairwise NoMatch) : Core.processEmphasis s none ds ms = .ok ([], ms) :=
  processEmphasis_nopair s ds ms hh hp

/-- under `inertBody3` and the empty definitions table `find_core_tokens` finds nothing -/
theorem C14_core_inert3 (s : Str) (h : inertBody3 s = true) : Core.findCoreTokens s [] = .ok ([], []) :=
  (inertBody3_silent s h).core

/-- **The analogue of `C14_inline_inert` for `inertBody2`**: for every list of covered classes and
    every definitions table, no class finds a match, `html.unescape` is the identity on the text, and
    `tokenize_inner` returns `[RawText(text)]`. -/
theorem C14_inline_inert2 (types : List STok) (fn : Footnotes.Table) (s : Str)
    (ht : ∀ t ∈ types, inertClass t = true) (h : inertText2 s = true) :
    findAll s types fn = .ok [] ∧ Unescape.unescape true s = s ∧
      (s ≠ [] → tokenizeInner types fn s = .ok [.rawText s]) := by
  simp only [inertText2, Bool.and_eq_true] at h
  exact (inertBody2_silent fn s h.1).inline types ht (not_contains_nl s h.2)

/-- the same for `inertBody3` and the empty definitions table -/
theorem C14_inline_inert3 (types : List STok) (s : Str)
    (ht : ∀ t ∈ types, inertClass t = true) (h : inertText3 s = true) :
    findAll s types [] = .ok [] ∧ Unescape.unescape true s = s ∧
      (s ≠ [] → tokenizeInner types [] s = .ok [.rawText s]) := by
  simp only [inertText3, Bool.and_eq_true] at h
  exact (inertBody3_silent s h.1).inline types ht (not_contains_nl s h.2)

/-- **Several lines** (the analogue of `C14_inline_lines`): only raw text and soft line breaks -/
theorem C14_inline_lines2 (types : List STok) (fn : Footnotes.Table) (ts : List Str)
    (ht : ∀ t ∈ types, inertClass t = true) (hc : types.count .lineBreak = 1) (hne : ts ≠ [])
    (hl : ∀ t ∈ ts, t ≠ [] ∧ '\n' ∉ t ∧ t.getLast? ≠ some ' ')
    (hb : inertBody2 (Document.joinNl ts) = true) :
    tokenizeInner types fn (Document.joinNl ts) = .ok (proseInlines ts) :=
  (inertBody2_silent fn _ hb).lines types ht hc hne hl

theorem C14_inline_lines3 (types : List STok) (ts : List Str)
    (ht : ∀ t ∈ types, inertClass t = true) (hc : types.count .lineBreak = 1) (hne : ts ≠ [])
    (hl : ∀ t ∈ ts, t ≠ [] ∧ '\n' ∉ t ∧ t.getLast? ≠ some ' ')
    (hb : inertBody3 (Document.joinNl ts) = true) :
    tokenizeInner types [] (Document.joinNl ts) = .ok (proseInlines ts) :=
  (inertBody3_silent _ hb).lines types ht hc hne hl

/-- **`C14_prose_text` with the widened inline condition `inertBody2`**: `Document(text)` for the text
    `l₁ ++ … ++ lₙ` of "\n"-terminated, block-inert prose lines whose stripped lines joined by "\n"
    satisfy `inertBody2` is one `Paragraph` holding the lines as `RawText`s separated by soft
    `LineBreak`s, and the HTML renderer gives `<p>`, the HTML-escaped text, `</p>` and a newline. -/
theorem C14_prose_text2 (cfg : Document.Cfg) (hpar : .paragraph ∈ cfg.block.types)
    (ht : ∀ t ∈ cfg.span, inertClass t = true) (hc : cfg.span.count .lineBreak = 1)
    (ls : List Str) (hne : ls ≠ []) (h1 : ∀ l ∈ ls, oneLine l = true)
    (hl : ∀ l ∈ ls, inertLine l = true ∧ proseLine l = true)
    (hi : inertBody2 (Document.joinNl (ls.map strip)) = true) (gas : Nat) :
    Document.parse cfg (gas + (cfg.block.types.length + 4)) ls.flatten =
        .ok { kids := [.paragraph (proseInlines (ls.map strip)) 1], footnotes := [] } ∧
    ∀ o : Opts, render o { kids := [.paragraph (proseInlines (ls.map strip)) 1], footnotes := [] } =
        "<p>".toList ++ escapeHtmlText o.dq o.sq (Document.joinNl (ls.map strip)) ++ "</p>\n".toList :=
  prose_text_of_silent cfg hpar ht hc ls hne h1 hl (inertBody2_silent [] _ hi) gas


/-! ### Non-vacuity -/

attribute [lit] L

/-- accepted by `inertBody2`, rejected by `inertBody`: runs that can close but have no opener before
    them (`a*`, `b_`, `foo_`, `2*`, `3*`), a closer followed by an opener (`a* *b`), `&` sequences that
    `html.unescape` leaves alone -/
example : [L "a* b_ c", L "foo_ bar", L "2* 3* x", L "a* *b and x_ _y", L "&foo; &; &#; &#x; &#12345678; &é;",
    L "a <= b <3 <- <$ x <@ y"].map
    (fun s => (inertBody2 s, inertBody s)) = List.replicate 6 (true, false) := by decide_lit

/-- accepted by `inertBody3` only: bracket pairs that are not links -/
example : [L "[a] b", L "[x] [y]", L "a [b] c] d ![i] e"].map (fun s => (inertBody3 s, inertBody2 s)) =
    List.replicate 3 (true, false) := by decide_lit

/-- the predicates are not trivially true.  `2*3* x` is rejected: the first `*` (between `2` and `3`)
    can open, the second can close — and it does become emphasis, in the model and in mistletoe -/
example : [L "2*3* x", L "*a*", L "_a b_", L "a *b c* d", L "[a](b)", L "[a][b]", L "&amp;", L "&#35;", L "&notit;", L "a ~~b~~",
    L "<=x@y.z>", L "<a>", L "a\\b", L "`c`"].map
    inertBody3 = List.replicate 14 false := by decide_lit

/-- parse + HTML render of a `str`, by kernel evaluation of the model -/
def htmlOf (s : Str) : Res Str := (Document.parse cfgHtml 14 s).bind (fun d => .ok (render {} d))

example : htmlOf (L "a* b_ c\n") = .ok (L "<p>a* b_ c</p>\n") := by decide_lit
example : htmlOf (L "foo_ bar\n") = .ok (L "<p>foo_ bar</p>\n") := by decide_lit
example : htmlOf (L "2* 3* x\n") = .ok (L "<p>2* 3* x</p>\n") := by decide_lit
example : htmlOf (L "see [a] b, [x] [y]\n") = .ok (L "<p>see [a] b, [x] [y]</p>\n") := by decide_lit
example : htmlOf (L "x &foo; &; &#;\n") = .ok (L "<p>x &amp;foo; &amp;; &amp;#;</p>\n") := by decide_lit
example : htmlOf (L "a <= b <3\n") = .ok (L "<p>a &lt;= b &lt;3</p>\n") := by decide_lit
/-- … whereas this one is markup -/
example : htmlOf (L "2*3* x\n") = .ok (L "<p>2<em>3</em> x</p>\n") := by decide_lit

/-- the same three texts through the theorem: one `RawText` holding exactly the text -/
example : tokenizeInner htmlSpanTypes [] (L "a* b_ c") = .ok [.rawText (L "a* b_ c")] :=
  (C14_inline_inert2 htmlSpanTypes [] _ htmlSpanTypes_inert (by decide_lit)).2.2 (by decide_lit)
example : tokenizeInner htmlSpanTypes [] (L "2* 3* x") = .ok [.rawText (L "2* 3* x")] :=
  (C14_inline_inert2 htmlSpanTypes [] _ htmlSpanTypes_inert (by decide_lit)).2.2 (by decide_lit)
example : tokenizeInner htmlSpanTypes [] (L "foo_ bar") = .ok [.rawText (L "foo_ bar")] :=
  (C14_inline_inert2 htmlSpanTypes [] _ htmlSpanTypes_inert (by decide_lit)).2.2 (by decide_lit)

def prose2 : List Str := [L "  a* b_ c and foo_ bar\n", L "2* 3* x &foo; &; ] then [\n", L "a* *b &#; x_ _y\n"]
attribute [lit] prose2

theorem prose2_lines_ok : ∀ l ∈ prose2, inertLine l = true ∧ proseLine l = true := by decide_lit
theorem prose2_text_ok : inertBody2 (Document.joinNl (prose2.map strip)) = true := by decide_lit
example : inertBody (Document.joinNl (prose2.map strip)) = false := by decide_lit

example : Document.parse cfgHtml 14 (L "  a* b_ c and foo_ bar\n2* 3* x &foo; &; ] then [\na* *b &#; x_ _y\n") =
    .ok { kids := [.paragraph [.rawText (L "a* b_ c and foo_ bar"), .lineBreak [] true,
                               .rawText (L "2* 3* x &foo; &; ] then ["), .lineBreak [] true,
                               .rawText (L "a* *b &#; x_ _y")] 1], footnotes := [] } := by
  have text : L "  a* b_ c and foo_ bar\n2* 3* x &foo; &; ] then [\na* *b &#; x_ _y\n" = prose2.flatten := by decide_lit
  have lines : prose2.map strip = [L "a* b_ c and foo_ bar", L "2* 3* x &foo; &; ] then [", L "a* *b &#; x_ _y"] := by
    decide_lit
  have h := (C14_prose_text2 cfgHtml (by decide) htmlSpanTypes_inert (by decide) prose2 (by decide) (by decide_lit)
    prose2_lines_ok prose2_text_ok 0).1
  rw [lines] at h
  rw [text]
  exact h

example : ∃ d, Document.parse cfgHtml 14 prose2.flatten = .ok d ∧ render {} d =
    L "<p>a* b_ c and foo_ bar\n2* 3* x &amp;foo; &amp;; ] then [\na* *b &amp;#; x_ _y</p>\n" := by
  obtain ⟨h1, h2⟩ := C14_prose_text2 cfgHtml (by decide) htmlSpanTypes_inert (by decide) prose2 (by decide)
    (by decide_lit) prose2_lines_ok prose2_text_ok 0
  exact ⟨_, h1, by rw [h2]; decide_lit⟩

def prose3 : List Str := [L "see [a] b and [x] [y]\n", L "then a] [b] c] d ![img] e*\n"]
attribute [lit] prose3

example : ∃ d, Document.parse cfgHtml 14 prose3.flatten = .ok d ∧ render {} d =
    L "<p>see [a] b and [x] [y]\nthen a] [b] c] d ![img] e*</p>\n" := by
  obtain ⟨h1, h2⟩ := prose_text_of_silent cfgHtml (by decide) htmlSpanTypes_inert (by decide) prose3 (by decide)
    (by decide_lit) (by decide_lit) (inertBody3_silent _ (by decide_lit)) 0
  exact ⟨_, h1, by rw [h2]; decide_lit⟩

end Mistletoe.Props.C14
