/-
  C06, output level: the `<em>` / `<strong>` STRUCTURE OF THE OUTPUT is the specification's.

  Props/C06.lean (`C06_emphasis_is_spec_partial`, `C06_emphasis_is_spec_esc_partial`) says that the MATCHES
  `find_core_tokens` returns are, one for one, the emphasis nodes of the CommonMark 0.30 delimiter algorithm
  (`Spec/Emphasis.lean`, `Spec/EmphasisEsc.lean`).  This file proves the remaining step, from the matches to the output
  string.  The span resolver (`Span.tokenize`: `find_tokens` ordering, `eval_tokens`, `eval_new_child`, `append_child`) on
  a LAMINAR family of candidates - pairwise disjoint, or one inside the parse group of the other - drops nothing: the
  forest it hands to `make_tokens` holds every candidate (`resolve_nodes`), which with the tiling theorems of
  Proofs/Span.lean determines the forest (A).  The HTML of an inline text is SPECIFIED from its spans, position by
  position, independently of the model of the resolver, the token builder and the renderer (`specHtmlQ`; with backslash
  escapes `specHtmlEscQ`; B), and `make_tokens`, `Inline.build` and `Html.renderInlines` on such a forest of `Emphasis` /
  `Strong` tokens and `EscapeSequence` leaves produce exactly that string, by induction over the forest (`render_make`; C).
  What `find_tokens` returns on a text of the alphabet - the specification's matches, and the escaping backslashes of the
  specification (D), which lie on no delimiter, so that the candidates made of both (E) are laminar - is stated once, as
  the record `Parse` (`emph_parse`; F); the theorems at inline level (G) and at document level (H) follow from it, and
  Proofs/MdRoundEmph.lean starts from the same record.

  Covered: arbitrary nesting, without and with backslash escapes.  Hypotheses beyond those of Props/C06.lean (both
  inside `plain`): no newline, no `~~` (see the examples at the end).
-/
import Mistletoe.Props.C06
import Mistletoe.Props.C14
import Mistletoe.Proofs.RefResolve
import Mistletoe.Proofs.Lit
namespace Mistletoe.EmphHtml
open Mistletoe Mistletoe.Span

/-! ## A. The span resolver on a laminar family of candidates -/

mutual
def nodes : PTok → List Cand
  | .mk c kids => c :: nodesL kids
def nodesL : List PTok → List Cand
  | [] => []
  | t :: ts => nodes t ++ nodesL ts
end

theorem mem_nodes_mk {c c' : Cand} {kids : List PTok} : c' ∈ nodes (.mk c kids) ↔ c' = c ∨ c' ∈ nodesL kids := by
  simp only [nodes, List.mem_cons]

theorem mem_nodesL_cons {c : Cand} {t : PTok} {ts : List PTok} : c ∈ nodesL (t :: ts) ↔ c ∈ nodes t ∨ c ∈ nodesL ts := by
  simp only [nodesL, List.mem_append]

theorem head_mem_nodesL (t : PTok) (ts : List PTok) : t.c ∈ nodesL (t :: ts) := by
  cases t; exact mem_nodesL_cons.2 (Or.inl (mem_nodes_mk.2 (Or.inl rfl)))

/-- `c` is in the forest, `y` arrives later: `c` ends before `y` starts, or `c` parses its inner text and `y` lies in
    `c`'s parse group -/
def Fits (c y : Cand) : Prop :=
  c.pend ≤ c.stop ∧ (c.stop ≤ y.start ∨ (c.inner = true ∧ c.pstart ≤ y.start ∧ y.stop ≤ c.pend))

theorem relation_of_fits {c y : Cand} (h : Fits c y) :
    relation c y = 0 ∨ (c.inner = true ∧ relation c y = 2) := by
  obtain ⟨h1, h2⟩ := h
  unfold relation
  rcases h2 with h2 | ⟨hi, h3, h4⟩
  · left; simp [h2]
  · by_cases h0 : c.stop ≤ y.start
    · left; simp [h0]
    · right
      refine ⟨hi, ?_⟩
      have h5 : c.stop ≥ y.stop := by omega
      simp [h0, h5, h3, h4]


theorem insert_nodes :
    (∀ (p child : PTok), (∀ c ∈ nodes p, Fits c child.c) → p.c.inner = true →
        (nodes (appendChild p child)).Perm (nodes child ++ nodes p)) ∧
    (∀ (kids : List PTok) (child : PTok), (∀ c ∈ nodesL kids, Fits c child.c) →
        (nodesL (evalNewChild kids child)).Perm (nodes child ++ nodesL kids)) := by
  apply appendChild.mutual_induct
  · intro c kids child hin ih hf _
    simp only [appendChild, hin, if_true, nodes]
    exact ((ih fun c' hc' => hf c' (mem_nodes_mk.2 (Or.inr hc'))).cons c).trans List.perm_middle.symm
  · intro c kids child hin _ hi
    exact absurd hi hin
  · intro child _
    simp [evalNewChild, nodesL]
  · intro last rest child hr _
    simp only [evalNewChild, hr, nodesL]
    exact .refl _
  · intro last rest child hr _ hf
    have := relation_of_fits (hf last.c (head_mem_nodesL last rest))
    rcases this with h | ⟨_, h⟩ <;> omega
  · intro last rest child hr _ hf
    have := relation_of_fits (hf last.c (head_mem_nodesL last rest))
    rcases this with h | ⟨_, h⟩ <;> omega
  · intro last rest child hr ih hf
    have hl := relation_of_fits (hf last.c (head_mem_nodesL last rest))
    have hin : last.c.inner = true := by
      rcases hl with h | ⟨h, _⟩
      · omega
      · exact h
    simp only [evalNewChild, hr, nodesL]
    rw [← List.append_assoc]
    exact (ih (fun c' hc' => hf c' (mem_nodesL_cons.2 (Or.inl hc'))) hin).append_right _
  · intro last rest child h0 _ h2 hf
    have := relation_of_fits (hf last.c (head_mem_nodesL last rest))
    rcases this with h | ⟨_, h⟩
    · exact absurd h h0
    · exact absurd h h2

theorem fold_nodes : ∀ (cs : List Cand) (kids : List PTok), cs.Pairwise Fits →
    (∀ c ∈ nodesL kids, ∀ y ∈ cs, Fits c y) →
    (nodesL ((cs.map (fun c => PTok.mk c [])).foldl evalNewChild kids)).Perm (cs.reverse ++ nodesL kids)
  | [], kids, _, _ => by simp
  | c :: cs, kids, hp, hk => by
    rw [List.pairwise_cons] at hp
    simp only [List.map_cons, List.foldl_cons, List.reverse_cons, List.append_assoc]
    have h1 := insert_nodes.2 kids (PTok.mk c []) (fun c' hc' => hk c' hc' c (by simp))
    refine (fold_nodes cs _ hp.2 ?_).trans (h1.append_left _)
    intro c' hc' y hy
    rcases List.mem_append.1 (h1.mem_iff.1 hc') with h | h
    · simp only [nodes, nodesL, List.mem_cons, List.not_mem_nil, or_false] at h
      subst h
      exact hp.1 y hy
    · exact hk c' h y (List.mem_cons_of_mem _ hy)

/-- two candidates of a laminar family: different starts; disjoint, or one inside the parse group of the other, which
    then parses its inner text -/
def Lam (a b : Cand) : Prop :=
  a.start ≠ b.start ∧
  (a.stop ≤ b.start ∨ b.stop ≤ a.start ∨
   (b.inner = true ∧ b.start < a.start ∧ b.pstart ≤ a.start ∧ a.stop ≤ b.pend) ∨
   (a.inner = true ∧ a.start < b.start ∧ a.pstart ≤ b.start ∧ b.stop ≤ a.pend))

theorem Lam.symm {a b : Cand} (h : Lam a b) : Lam b a := by
  obtain ⟨h1, h2⟩ := h
  refine ⟨fun e => h1 e.symm, ?_⟩
  rcases h2 with h | h | h | h
  · exact Or.inr (Or.inl h)
  · exact Or.inl h
  · exact Or.inr (Or.inr (Or.inr h))
  · exact Or.inr (Or.inr (Or.inl h))

theorem fits_of_lam {a b : Cand} (h : Lam a b) (hle : a.start ≤ b.start) (wa : CandWF a) (wb : CandWF b) :
    Fits a b := by
  obtain ⟨h1, h2⟩ := h
  unfold CandWF at wa wb
  refine ⟨wa.2.2, ?_⟩
  rcases h2 with h | h | ⟨_, h, _⟩ | ⟨hi, _, h3, h4⟩
  · exact Or.inl h
  · omega
  · omega
  · exact Or.inr ⟨hi, h3, h4⟩

/-- sorting permutes, and `Lam` is symmetric: the sorted list is laminar too, and between an earlier and a later
    candidate `Lam` is `Fits` -/
theorem sort_pairwise (cs : List Cand) (hp : cs.Pairwise Lam) (hw : ∀ c ∈ cs, CandWF c) :
    (sortByStart cs).Pairwise Fits :=
  ((sorted_sortByStart cs).and (((perm_sortByStart cs).pairwise_iff Lam.symm).2 hp)).imp_of_mem
    fun ha hb h => fits_of_lam h.2 h.1 (hw _ ((mem_sortByStart _ cs).1 ha)) (hw _ ((mem_sortByStart _ cs).1 hb))

/-- **Nothing is dropped.**  On a laminar family, the forest `tokenize` hands to `make_tokens` holds every candidate,
    once (and nothing else). -/
theorem resolve_nodes (cs : List Cand) (hp : cs.Pairwise Lam) (hw : ∀ c ∈ cs, CandWF c) :
    (nodesL (resolve cs).reverse).Perm cs := by
  unfold resolve
  rw [resolveSorted_reverse]
  have := fold_nodes _ [] (sort_pairwise cs hp hw) (by simp [nodesL])
  simp only [nodesL, List.append_nil] at this
  exact this.trans ((List.reverse_perm _).trans (perm_sortByStart cs))

end Mistletoe.EmphHtml

/-! ## B. SPECIFICATION: the HTML of an inline text, from its emphasis spans

  Independent of the model of span_tokenizer.py / span_token.py / html_renderer.py: the definition reads the text, the
  list of spans `(start, text start, text end, stop, strong)` and a per-character escaping function, nothing else.

  The text is walked position by position.  At position `i` the output has
    * the opening tag (`<em>` / `<strong>`) of the span that starts at `i`, if there is one;
    * nothing for the character itself if `i` lies in the opening delimiter `[start, text start)` or in the closing
      delimiter `[text end, stop)` of some span, or if the character is a backslash that escapes the next character
      (`skip i`; never, in a text without backslash); otherwise the character, escaped;
    * the closing tag of the span whose last character is at `i` (`stop = i + 1`), if there is one.
  (Spans have non-empty delimiters and nest, so at most one span starts, and at most one stops, at a position.) -/

namespace Mistletoe.Spec.EmphasisHtml
open Mistletoe Mistletoe.Escape

/-- (start, text start, text end, stop, strong), as returned by `Spec.Emphasis.spans` -/
abbrev Span5 := Nat × Nat × Nat × Nat × Bool

def openTag (strong : Bool) : Str := if strong then "<strong>".toList else "<em>".toList
def closeTag (strong : Bool) : Str := if strong then "</strong>".toList else "</em>".toList

/-- position `i` holds a delimiter character of some span -/
def isDelimPos (L : List Span5) (i : Nat) : Bool :=
  L.any (fun p => (decide (p.1 ≤ i) && decide (i < p.2.1)) || (decide (p.2.2.1 ≤ i) && decide (i < p.2.2.2.1)))

/-- the output for position `i` of the text -/
def emitAt (esc : Char → Str) (L : List Span5) (skip : Nat → Bool) (s : Str) (i : Nat) : Str :=
  (match L.find? (fun p => p.1 == i) with | some p => openTag p.2.2.2.2 | none => []) ++
  (if isDelimPos L i || skip i then [] else match s[i]? with | some c => esc c | none => []) ++
  (match L.find? (fun p => p.2.2.2.1 == i + 1) with | some p => closeTag p.2.2.2.2 | none => [])

/-- `f a ++ f (a + 1) ++ … ++ f (a + n - 1)` -/
def cat (f : Nat → Str) : Nat → Nat → Str
  | _, 0 => []
  | a, n + 1 => f a ++ cat f (a + 1) n

/-- the HTML of the text `s` whose emphasis spans are `L` and whose escaping backslashes are at the positions `skip` -/
def htmlOf (esc : Char → Str) (L : List Span5) (skip : Nat → Bool) (s : Str) : Str := cat (emitAt esc L skip s) 0 s.length

/-- `HtmlRenderer.escape_html_text` of one character (`html.escape(c, quote=False)` plus the two quote options);
    a per-character table regenerated from the working tree (Model/Escape.lean) -/
def escChar (dq sq : Bool) (c : Char) : Str := escapeHtmlText dq sq [c]

/-- **the specification's HTML of a plain inline text** (no backslash, backquote, brackets, `<`, `&`): the spans are
    those of the CommonMark 0.30 delimiter algorithm (`Spec.Emphasis.spans`) -/
def specHtmlQ (dq sq : Bool) (s : Str) : Str := htmlOf (escChar dq sq) (Emphasis.spans s) (fun _ => false) s

/-- … under the renderer's default options (quotes are not escaped) -/
def specHtml (s : Str) : Str := specHtmlQ false false s

/-- **… with backslash escapes** (`plainEsc`: backslashes allowed): the spans are those of `Spec.EmphasisEsc.spansEsc`
    (delimiter runs made of unescaped `*` / `_` only); a backslash before an escaped character (`escapedAt`, section 2.4:
    an ASCII punctuation character after a backslash that is not itself escaped) is dropped, the escaped character
    stays as text; every other backslash is literal -/
def specHtmlEscQ (dq sq : Bool) (s : Str) : Str :=
  htmlOf (escChar dq sq) (EmphasisEsc.spansEsc s) (fun i => EmphasisEsc.escapedAt s (i + 1)) s

def specHtmlEsc (s : Str) : Str := specHtmlEscQ false false s

/-- examples of section 6.2, against the expected HTML of the CommonMark dingus -/
example : specHtml "***a** b*".toList = "<em><strong>a</strong> b</em>".toList := by decide_lit
example : specHtml "*a **b** c*".toList = "<em>a <strong>b</strong> c</em>".toList := by decide_lit
example : specHtml "_a*b_*".toList = "<em>a*b</em>*".toList := by decide_lit
example : specHtml "**a*".toList = "*<em>a</em>".toList := by decide_lit
example : specHtml "*a > \"b\"* 'c'".toList = "<em>a &gt; \"b\"</em> 'c'".toList := by decide_lit
example : specHtmlQ true false "*a > \"b\"* 'c'".toList = "<em>a &gt; &quot;b&quot;</em> 'c'".toList := by decide_lit

/-- examples 14, 15, 436, 439 of the 0.30 test suite, `\\a` (literal backslash), and a final backslash -/
example : specHtmlEsc "\\*not emphasized*".toList = "*not emphasized*".toList := by decide_lit
example : specHtmlEsc "\\\\*emphasis*".toList = "\\<em>emphasis</em>".toList := by decide_lit
example : specHtmlEsc "foo *\\**".toList = "foo <em>*</em>".toList := by decide_lit
example : specHtmlEsc "foo **\\***".toList = "foo <strong>*</strong>".toList := by decide_lit
example : specHtmlEsc "\\a*b\\>*\\".toList = "\\a<em>b&gt;</em>\\".toList := by decide_lit

end Mistletoe.Spec.EmphasisHtml

/-! ## C. From the resolved forest to the HTML -/

namespace Mistletoe.EmphHtml
open Mistletoe Mistletoe.Span Mistletoe.Inline Mistletoe.Html Mistletoe.Escape Mistletoe.Spec.EmphasisHtml

/-- `f a ++ … ++ f (b - 1)` -/
def walk (f : Nat → Str) (a b : Nat) : Str := cat f a (b - a)

theorem cat_append (f : Nat → Str) : ∀ (m a n : Nat), cat f a (m + n) = cat f a m ++ cat f (a + m) n
  | 0, a, n => by simp [cat]
  | m + 1, a, n => by
    have e : m + 1 + n = (m + n) + 1 := by omega
    rw [e]
    simp only [cat, cat_append f m (a + 1) n, List.append_assoc]
    have e2 : a + 1 + m = a + (m + 1) := by omega
    rw [e2]

theorem walk_split (f : Nat → Str) (a m b : Nat) (h1 : a ≤ m) (h2 : m ≤ b) :
    walk f a b = walk f a m ++ walk f m b := by
  unfold walk
  have e : b - a = (m - a) + (b - m) := by omega
  rw [e, cat_append]
  have e2 : a + (m - a) = m := by omega
  rw [e2]

theorem walk_self (f : Nat → Str) (a : Nat) : walk f a a = [] := by simp [walk, cat]

theorem cat_nil (f : Nat → Str) : ∀ (n a : Nat), (∀ i, a ≤ i → i < a + n → f i = []) → cat f a n = []
  | 0, _, _ => rfl
  | n + 1, a, h => by
    simp only [cat]
    rw [h a (by omega) (by omega), cat_nil f n (a + 1) (fun i h1 h2 => h i (by omega) (by omega))]
    rfl

theorem walk_first (f : Nat → Str) (a b : Nat) (hab : a < b) (h : ∀ i, a < i → i < b → f i = []) :
    walk f a b = f a := by
  unfold walk
  have e : b - a = (b - a - 1) + 1 := by omega
  rw [e]
  simp only [cat]
  rw [cat_nil f _ _ (fun i h1 h2 => h i (by omega) (by omega))]
  simp

theorem walk_last (f : Nat → Str) (a b : Nat) (hab : a < b) (h : ∀ i, a ≤ i → i + 1 < b → f i = []) :
    walk f a b = f (b - 1) := by
  rw [walk_split f a (b - 1) b (by omega) (by omega)]
  have h1 : walk f a (b - 1) = [] := cat_nil f _ _ (fun i h1 h2 => h i h1 (by omega))
  rw [h1]
  unfold walk
  have e : b - (b - 1) = 0 + 1 := by omega
  rw [e]
  simp [cat]

theorem cat_raw (dq sq : Bool) (f : Nat → Str) (s : Str) : ∀ (n a : Nat), a + n ≤ s.length →
    (∀ i, a ≤ i → i < a + n → f i = match s[i]? with | some c => Spec.EmphasisHtml.escChar dq sq c | none => []) →
    cat f a n = escapeHtmlText dq sq (slice s a (a + n))
  | 0, a, _, _ => by simp [cat, slice, escapeHtmlText, mapChars_nil]
  | n + 1, a, hb, h => by
    have hlt : a < s.length := by omega
    have hc : s[a]? = some s[a] := List.getElem?_eq_getElem hlt
    simp only [cat]
    rw [h a (by omega) (by omega), hc, slice_step s a (a + (n + 1)) s[a] (by omega) hc]
    have ih := cat_raw dq sq f s n (a + 1) (by omega) (fun i h1 h2 => h i (by omega) (by omega))
    have e : a + 1 + n = a + (n + 1) := by omega
    rw [e] at ih
    rw [ih]
    have e2 : s[a] :: slice s (a + 1) (a + (n + 1)) = [s[a]] ++ slice s (a + 1) (a + (n + 1)) := rfl
    rw [e2, escapeHtmlText_append]
    rfl

/-! ### what is emitted at a position -/

/-- the positions `[a, b)` touch no delimiter of `p`: they lie outside `p`, or inside its text -/
def Quiet (p : Span5) (a b : Nat) : Prop := b ≤ p.1 ∨ p.2.2.2.1 ≤ a ∨ (p.2.1 ≤ a ∧ b ≤ p.2.2.1)

theorem Quiet.mono {p : Span5} {a b a' b' : Nat} (h : Quiet p a b) (h1 : a ≤ a') (h2 : b' ≤ b) : Quiet p a' b' := by
  unfold Quiet at h ⊢; omega

/-- the spans are well formed (non-empty delimiters around the text) and laminar -/
structure Ctx (L : List Span5) : Prop where
  wf : ∀ p ∈ L, p.1 < p.2.1 ∧ p.2.1 ≤ p.2.2.1 ∧ p.2.2.1 < p.2.2.2.1
  lam : ∀ p ∈ L, ∀ p' ∈ L, p = p' ∨ p.2.2.2.1 ≤ p'.1 ∨ p'.2.2.2.1 ≤ p.1 ∨
    (p'.2.1 ≤ p.1 ∧ p.2.2.2.1 ≤ p'.2.2.1) ∨ (p.2.1 ≤ p'.1 ∧ p'.2.2.2.1 ≤ p.2.2.1)

theorem emit_quiet (esc : Char → Str) (L : List Span5) (skip : Nat → Bool) (s : Str) (hC : Ctx L) (i : Nat)
    (hq : ∀ p ∈ L, Quiet p i (i + 1)) :
    emitAt esc L skip s i = if skip i then [] else match s[i]? with | some c => esc c | none => [] := by
  have h1 : L.find? (fun p => p.1 == i) = none := by
    rw [List.find?_eq_none]
    intro p hp
    have := hq p hp; have := hC.wf p hp
    unfold Quiet at *
    simp only [beq_iff_eq]; omega
  have h2 : L.find? (fun p => p.2.2.2.1 == i + 1) = none := by
    rw [List.find?_eq_none]
    intro p hp
    have := hq p hp; have := hC.wf p hp
    unfold Quiet at *
    simp only [beq_iff_eq]; omega
  have h3 : isDelimPos L i = false := by
    unfold isDelimPos
    rw [List.any_eq_false]
    intro p hp
    have := hq p hp; have := hC.wf p hp
    unfold Quiet at *
    simp only [Bool.or_eq_true, Bool.and_eq_true, decide_eq_true_eq]; omega
  unfold emitAt
  rw [h1, h2, h3]
  simp

theorem find_key {α} (key : α → Nat) (l : List α) (i : Nat) (p : α) (hp : p ∈ l) (hu : ∀ p' ∈ l, key p' = i → p' = p) :
    l.find? (fun p' => key p' == i) = if i = key p then some p else none := by
  cases hf : l.find? (fun p' => key p' == i) with
  | none =>
    have := List.find?_eq_none.1 hf p hp
    rw [if_neg (fun e => by simp [e] at this)]
  | some p' =>
    have e := List.find?_some hf
    simp only [beq_iff_eq] at e
    have := hu p' (List.mem_of_find?_eq_some hf) e
    subst this
    rw [if_pos e.symm]

/-- at a delimiter position of `p` no other span starts or stops -/
theorem emit_delim (esc : Char → Str) (L : List Span5) (skip : Nat → Bool) (s : Str) (hC : Ctx L) (i : Nat) (p : Span5) (hp : p ∈ L)
    (hi : (p.1 ≤ i ∧ i < p.2.1) ∨ (p.2.2.1 ≤ i ∧ i < p.2.2.2.1)) :
    emitAt esc L skip s i = (if i = p.1 then openTag p.2.2.2.2 else []) ++ (if i + 1 = p.2.2.2.1 then closeTag p.2.2.2.2 else []) := by
  have wp := hC.wf p hp
  have hu : ∀ p' ∈ L, p'.1 = i ∨ p'.2.2.2.1 = i + 1 → p' = p := by
    intro p' hp' e
    have wp' := hC.wf p' hp'
    rcases hC.lam p hp p' hp' with h | h
    · exact h.symm
    · omega
  have h1 : (match L.find? (fun p => p.1 == i) with | some p => openTag p.2.2.2.2 | none => []) =
      if i = p.1 then openTag p.2.2.2.2 else [] := by
    rw [find_key (·.1) L i p hp (fun p' hp' e => hu p' hp' (Or.inl e))]
    by_cases e : i = p.1 <;> simp [e]
  have h2 : (match L.find? (fun p => p.2.2.2.1 == i + 1) with | some p => closeTag p.2.2.2.2 | none => []) =
      if i + 1 = p.2.2.2.1 then closeTag p.2.2.2.2 else [] := by
    rw [find_key (·.2.2.2.1) L (i + 1) p hp (fun p' hp' e => hu p' hp' (Or.inr e))]
    by_cases e : i + 1 = p.2.2.2.1 <;> simp [e]
  have h3 : isDelimPos L i = true := by
    unfold isDelimPos
    rw [List.any_eq_true]
    refine ⟨p, hp, ?_⟩
    simp only [Bool.or_eq_true, Bool.and_eq_true, decide_eq_true_eq]
    exact hi
  unfold emitAt
  rw [h1, h2, h3]
  simp

/-! ### the candidates of a well-formed forest lie where the forest lies -/

theorem wf_cand : ∀ (t : PTok), t.WF → CandWF t.c
  | .mk _ _, h => by simp only [PTok.WF] at h; exact h.1

mutual
theorem nodes_range : ∀ (t : PTok), t.WF → ∀ c ∈ nodes t, t.c.start ≤ c.start ∧ c.stop ≤ t.c.stop
  | .mk c kids, h, c', hc' => by
    simp only [PTok.WF, CandWF] at h
    simp only [nodes, List.mem_cons] at hc'
    simp only [PTok.c]
    rcases hc' with rfl | hc'
    · omega
    · have := nodesL_range kids _ _ h.2 c' hc'
      omega
theorem nodesL_range : ∀ (ts : List PTok) (lo hi : Nat), KidsOK ts lo hi → ∀ c ∈ nodesL ts, lo ≤ c.start ∧ c.stop ≤ hi
  | [], _, _, _, c, hc => by simp [nodesL] at hc
  | t :: earlier, lo, hi, h, c, hc => by
    simp only [KidsOK] at h
    simp only [nodesL, List.mem_append] at hc
    have wt := wf_cand t h.1
    unfold CandWF at wt
    rcases hc with hc | hc
    · have := nodes_range t h.1 c hc
      omega
    · have := nodesL_range earlier _ _ h.2.2.2 c hc
      omega
end

/-! ### rendering -/

section
variable (q : Quotes) (s : Str) (found : List Found) (L : List Span5) (skip : Nat → Bool)

/-- the HTML of a list of resolved tokens -/
def R (os : List Out) : Str := flat (renderInlines q (builds s found os))

theorem R_append (a b : List Out) : R q s found (a ++ b) = R q s found a ++ R q s found b := by
  simp [R, InertInline.builds_append, InertInline.renderInlines_append, Pipeline.flat_append]

theorem R_nil : R q s found [] = [] := rfl

/-- the token built from the candidate `c` is the `Emphasis` / `Strong` of a span of the specification, or the
    `EscapeSequence` of an escaping backslash (`[i, i + 2)`, group `[i + 1, i + 2)`, not parsed further) -/
def NodeOK (c : Cand) : Prop :=
  (c.inner = true ∧ ∃ (strong : Bool) (d : Char), (c.start, c.pstart, c.pend, c.stop, strong) ∈ L ∧
    ∀ kids, build s found (.tok c kids) =
      if strong then Mistletoe.Inline.strong [d] (builds s found kids) else Mistletoe.Inline.emphasis [d] (builds s found kids)) ∨
  (c.inner = false ∧ c.pstart = c.start + 1 ∧ c.pend = c.start + 2 ∧ c.stop = c.start + 2 ∧
    skip c.start = true ∧ skip (c.start + 1) = false ∧
    ∀ kids, build s found (.tok c kids) = Mistletoe.Inline.escapeSequence (slice s (c.start + 1) (c.start + 2)))

/-- every span is a candidate of the forest, or does not touch `[a, b)`; every escaping backslash in `[a, b)` is the
    start of a candidate of the forest -/
def Cover (N : List Cand) (a b : Nat) : Prop :=
  (∀ p ∈ L, (∃ c ∈ N, c.start = p.1 ∧ c.pstart = p.2.1 ∧ c.pend = p.2.2.1 ∧ c.stop = p.2.2.2.1) ∨ Quiet p a b) ∧
  (∀ i, a ≤ i → i < b → skip i = true → ∃ c ∈ N, c.start = i)

abbrev E : Nat → Str := emitAt (Spec.EmphasisHtml.escChar q.dq q.sq) L skip s

variable {q s found L skip}

theorem node_pos {c : Cand} (hC : Ctx L) (h : NodeOK s found L skip c) : c.start < c.stop := by
  rcases h with ⟨_, strong, d, hm, _⟩ | ⟨_, _, _, h3, _⟩
  · have := hC.wf _ hm; simp only at this; omega
  · omega

/-- a cover of `[a, b)` by the forest `N` is a cover of a smaller range by a smaller forest, when every candidate left
    out starts outside the smaller range and keeps its delimiters outside it -/
theorem Cover.sub {N N' : List Cand} {a b a' b' : Nat} (h : Cover L skip N a b) (ha : a ≤ a') (hb : b' ≤ b)
    (hN : ∀ c ∈ N, c ∈ N' ∨
      ((c.start < a' ∨ b' ≤ c.start) ∧ (c.stop ≤ a' ∨ b' ≤ c.start ∨ (c.pstart ≤ a' ∧ b' ≤ c.pend)))) :
    Cover L skip N' a' b' := by
  refine ⟨fun p hp => ?_, fun i h1 h2 hs => ?_⟩
  · rcases h.1 p hp with ⟨c, hc, e1, e2, e3, e4⟩ | hq
    · rcases hN c hc with hc' | ho
      · exact Or.inl ⟨c, hc', e1, e2, e3, e4⟩
      · right; unfold Quiet; omega
    · exact Or.inr (hq.mono ha hb)
  · obtain ⟨c, hc, e⟩ := h.2 i (by omega) (by omega) hs
    rcases hN c hc with hc' | ho
    · exact ⟨c, hc', e⟩
    · omega

theorem build_raw (found : List Found) (hamp : ∀ c ∈ s, c ≠ '&') (a b : Nat) :
    build s found (.raw a b) = .rawText (slice s a b) := by
  rw [build, InertInline.unescape_inert]
  exact InertInline.ampOk_plain _ (fun c hc => hamp c (List.mem_of_mem_drop (List.mem_of_mem_take hc)))

/-- a gap between tokens: no span touches it and no backslash in it escapes -/
theorem render_gap (hC : Ctx L) (hamp : ∀ c ∈ s, c ≠ '&') (a b : Nat) (hab : a ≤ b) (hb : b ≤ s.length)
    (hcov : Cover L skip [] a b) :
    R q s found (if a ≠ b then [.raw a b] else []) = walk (E q s L skip) a b := by
  have hq : ∀ p ∈ L, Quiet p a b := fun p hp => (hcov.1 p hp).resolve_left (fun ⟨_, hc, _⟩ => nomatch hc)
  have hsk : ∀ i, a ≤ i → i < b → skip i = false := fun i h1 h2 =>
    Bool.eq_false_iff.2 (fun hs => nomatch (hcov.2 i h1 h2 hs).choose_spec.1)
  by_cases he : a = b
  · subst he; simp [walk_self, R_nil]
  · rw [if_pos he]
    simp only [R, builds, build_raw found hamp, renderInlines, renderInline, flat,
      List.flatMap_cons, List.flatMap_nil, flatEv, List.append_nil]
    unfold walk
    have := cat_raw q.dq q.sq (E q s L skip) s (b - a) a (by omega)
      (fun i h1 h2 => by
        show emitAt _ L skip s i = _
        rw [emit_quiet _ L skip s hC i (fun p hp => (hq p hp).mono h1 (by omega)), hsk i h1 (by omega)]
        rfl)
    rw [this]
    have e : a + (b - a) = b := by omega
    rw [e]

theorem tag_strong : flat [Ev.otag "strong".toList []] = openTag true ∧ flat [Ev.ctag "strong".toList] = closeTag true ∧
    flat [Ev.otag "em".toList []] = openTag false ∧ flat [Ev.ctag "em".toList] = closeTag false := by decide +kernel

/-- the opening delimiter of a span gives its opening tag, at the first position -/
theorem walk_open (hC : Ctx L) {a b c d : Nat} {strong : Bool} (hp : (a, b, c, d, strong) ∈ L) :
    walk (E q s L skip) a b = openTag strong := by
  have wp := hC.wf _ hp
  simp only at wp
  rw [walk_first _ _ _ wp.1]
  · show emitAt _ L skip s a = _
    rw [emit_delim _ L skip s hC a _ hp (by simp only; omega)]
    simp only [if_true]
    rw [if_neg (by omega)]; simp
  · intro i h1 h2
    show emitAt _ L skip s i = _
    rw [emit_delim _ L skip s hC i _ hp (by simp only; omega)]
    simp only
    rw [if_neg (by omega), if_neg (by omega)]; rfl

/-- the closing delimiter gives the closing tag, at the last position -/
theorem walk_close (hC : Ctx L) {a b c d : Nat} {strong : Bool} (hp : (a, b, c, d, strong) ∈ L) :
    walk (E q s L skip) c d = closeTag strong := by
  have wp := hC.wf _ hp
  simp only at wp
  rw [walk_last _ _ _ wp.2.2]
  · show emitAt _ L skip s (d - 1) = _
    rw [emit_delim _ L skip s hC (d - 1) _ hp (by simp only; omega)]
    simp only
    rw [if_neg (by omega), if_pos (by omega)]; simp
  · intro i h1 h2
    show emitAt _ L skip s i = _
    rw [emit_delim _ L skip s hC i _ hp (by simp only; omega)]
    simp only
    rw [if_neg (by omega), if_neg (by omega)]; rfl

/-- an `Emphasis` / `Strong` token: opening tag, the children on the text between the delimiters, closing tag -/
theorem render_emph (hC : Ctx L) (c : Cand) (kids : List PTok) (strong : Bool) (d : Char)
    (hmem : (c.start, c.pstart, c.pend, c.stop, strong) ∈ L) (hin : c.inner = true)
    (hb : ∀ kids, build s found (.tok c kids) =
      if strong then Mistletoe.Inline.strong [d] (builds s found kids) else Mistletoe.Inline.emphasis [d] (builds s found kids))
    (hk : KidsOK kids c.pstart c.pend)
    (ih : R q s found (makeBefore kids c.pstart c.pend) = walk (E q s L skip) c.pstart c.pend) :
    R q s found [make (.mk c kids)] = walk (E q s L skip) c.start c.stop := by
  have wp := hC.wf _ hmem
  simp only at wp
  rw [walk_split _ c.start c.pstart c.stop (by omega) (by omega),
    walk_split _ c.pstart c.pend c.stop (by omega) (by omega), ← ih, walk_open hC hmem, walk_close hC hmem,
    make_inner hin hk wp.2.1]
  simp only [R, builds, hb]
  cases strong
  · simp only [Bool.false_eq_true, if_false, renderInlines, renderInline, List.append_nil, Pipeline.flat_append]
    rw [tag_strong.2.2.1, tag_strong.2.2.2, List.append_assoc]
  · simp only [if_true, renderInlines, renderInline, List.append_nil, Pipeline.flat_append]
    rw [tag_strong.1, tag_strong.2.1, List.append_assoc]

/-- an `EscapeSequence` token: nothing for the backslash, the escaped character as text -/
theorem render_escape (hC : Ctx L) (c : Cand) (kids : List PTok) (hk : KidsOK kids c.pstart c.pend)
    (hlen : c.stop ≤ s.length) (hcov : Cover L skip (nodes (.mk c kids)) c.start c.stop)
    (hin : c.inner = false) (e1 : c.pstart = c.start + 1) (e2 : c.pend = c.start + 2) (e3 : c.stop = c.start + 2)
    (hs0 : skip c.start = true) (hs1 : skip (c.start + 1) = false)
    (hb : ∀ kids, build s found (.tok c kids) = Mistletoe.Inline.escapeSequence (slice s (c.start + 1) (c.start + 2))) :
    R q s found [make (.mk c kids)] = walk (E q s L skip) c.start c.stop := by
  have hq : ∀ p ∈ L, Quiet p c.start (c.start + 2) := by
    intro p hp
    have wp := hC.wf p hp
    rcases hcov.1 p hp with ⟨c', hc', h1, h2, h3, h4⟩ | hq
    · rcases mem_nodes_mk.1 hc' with rfl | hc'
      · omega
      · have := nodesL_range kids _ _ hk c' hc'; omega
    · rw [e3] at hq; exact hq
  have hlt : c.start + 1 < s.length := by omega
  have hc1 : s[c.start + 1]? = some s[c.start + 1] := List.getElem?_eq_getElem hlt
  have hsl : slice s (c.start + 1) (c.start + 2) = [s[c.start + 1]] := by
    rw [slice_step s _ _ _ (by omega) hc1, slice_self]
  rw [make_leaf kids hin]
  simp only [R, builds]
  rw [hb, hsl]
  simp only [renderInlines, renderInline, flat, List.flatMap_cons, List.flatMap_nil, flatEv, List.append_nil]
  rw [e3]
  have e : walk (E q s L skip) c.start (c.start + 2) = E q s L skip c.start ++ (E q s L skip (c.start + 1) ++ []) := by
    unfold walk
    have : c.start + 2 - c.start = 0 + 1 + 1 := by omega
    rw [this]; rfl
  rw [e]
  show _ = emitAt _ L skip s c.start ++ (emitAt _ L skip s (c.start + 1) ++ [])
  rw [emit_quiet _ L skip s hC c.start (fun p hp => (hq p hp).mono (by omega) (by omega)),
    emit_quiet _ L skip s hC (c.start + 1) (fun p hp => (hq p hp).mono (by omega) (by omega)), hs0, hs1, hc1]
  simp [Spec.EmphasisHtml.escChar]

mutual
theorem render_make (hC : Ctx L) (hamp : ∀ c ∈ s, c ≠ '&') : ∀ (t : PTok), t.WF → t.c.stop ≤ s.length →
    (∀ c ∈ nodes t, NodeOK s found L skip c) → Cover L skip (nodes t) t.c.start t.c.stop →
    R q s found [make t] = walk (E q s L skip) t.c.start t.c.stop
  | .mk c kids, hwf, hlen, hN, hcov => by
    simp only [PTok.WF, CandWF] at hwf
    simp only [PTok.c] at hlen hcov ⊢
    rcases hN c (mem_nodes_mk.2 (Or.inl rfl)) with ⟨hin, strong, d, hmem, hb⟩ | ⟨hin, e1, e2, e3, hs0, hs1, hb⟩
    · have wp := hC.wf _ hmem
      simp only at wp
      exact render_emph hC c kids strong d hmem hin hb hwf.2
        (render_before hC hamp kids c.pstart c.pend hwf.2 (by omega) (by omega)
          (fun c' hc' => hN c' (mem_nodes_mk.2 (Or.inr hc')))
          (hcov.sub (by omega) (by omega) (fun c' hc' => by
            rcases mem_nodes_mk.1 hc' with rfl | hc'
            · right; omega
            · exact Or.inl hc')))
    · exact render_escape hC c kids hwf.2 hlen hcov hin e1 e2 e3 hs0 hs1 hb
theorem render_before (hC : Ctx L) (hamp : ∀ c ∈ s, c ≠ '&') : ∀ (ts : List PTok) (a e : Nat), KidsOK ts a e → a ≤ e →
    e ≤ s.length → (∀ c ∈ nodesL ts, NodeOK s found L skip c) → Cover L skip (nodesL ts) a e →
    R q s found (makeBefore ts a e) = walk (E q s L skip) a e
  | [], a, e, hk, hae, hlen, _, hcov => by
    rw [makeBefore_eq [] a e hk hae]
    exact render_gap hC hamp a e hae hlen hcov
  | t :: earlier, a, e, hk, hae, hlen, hN, hcov => by
    rw [makeBefore_eq _ a e hk hae]
    simp only [KidsOK] at hk
    obtain ⟨wt, h1, h2, hk'⟩ := hk
    have ct := wf_cand t wt
    unfold CandWF at ct
    -- where the candidates of `t` and of the earlier tokens lie
    have hT : ∀ c ∈ nodes t, t.c.start ≤ c.start ∧ c.start < c.stop ∧ c.stop ≤ t.c.stop := fun c hc =>
      ⟨(nodes_range t wt c hc).1, node_pos hC (hN c (mem_nodesL_cons.2 (Or.inl hc))),
        (nodes_range t wt c hc).2⟩
    have hE : ∀ c ∈ nodesL earlier, c.start < c.stop ∧ c.stop ≤ t.c.start := fun c hc =>
      ⟨node_pos hC (hN c (mem_nodesL_cons.2 (Or.inr hc))), (nodesL_range earlier _ _ hk' c hc).2⟩
    have i1 := render_before hC hamp earlier a t.c.start hk' h1 (by omega)
      (fun c hc => hN c (mem_nodesL_cons.2 (Or.inr hc)))
      (hcov.sub (Nat.le_refl a) (by omega) (fun c hc => by
        rcases mem_nodesL_cons.1 hc with hc | hc
        · right; have := hT c hc; omega
        · exact Or.inl hc))
    have i2 := render_make hC hamp t wt (by omega) (fun c hc => hN c (mem_nodesL_cons.2 (Or.inl hc)))
      (hcov.sub h1 h2 (fun c hc => by
        rcases mem_nodesL_cons.1 hc with hc | hc
        · exact Or.inl hc
        · right; have := hE c hc; omega))
    have i3 := render_gap (q := q) (found := found) hC hamp t.c.stop e h2 hlen
      (hcov.sub (by omega) (Nat.le_refl e) (fun c hc => by
        right
        rcases mem_nodesL_cons.1 hc with hc | hc
        · have := hT c hc; omega
        · have := hE c hc; omega))
    simp only [makeTokensRev, R_append]
    rw [i1, i2, i3, walk_split _ a t.c.start e h1 (by omega), walk_split _ t.c.start t.c.stop e (by omega) h2,
      List.append_assoc]
end

theorem render_rev (hC : Ctx L) (hamp : ∀ c ∈ s, c ≠ '&') (ts : List PTok) (a e : Nat) (hk : KidsOK ts a e) (hae : a ≤ e)
    (hlen : e ≤ s.length) (hN : ∀ c ∈ nodesL ts, NodeOK s found L skip c) (hcov : Cover L skip (nodesL ts) a e) :
    R q s found (makeTokensRev ts a e) = walk (E q s L skip) a e := by
  rw [← makeBefore_eq ts a e hk hae]
  exact render_before hC hamp ts a e hk hae hlen hN hcov

end

end Mistletoe.EmphHtml

/-! ## D. Backslash escapes: `EscapeSequence.find`, and the other classes in the presence of backslashes -/

namespace Mistletoe.EmphHtml
open Mistletoe Mistletoe.Spec Mistletoe.Spec.EmphasisEsc Mistletoe.InlineScan Mistletoe.Inline Mistletoe.InertInline

theorem contains_toNat (c : Char) : ∀ l : List Char, l.contains c = (l.map Char.toNat).contains c.toNat
  | [] => rfl
  | a :: l => by
    have e : (c == a) = (c.toNat == a.toNat) := by rw [Bool.eq_iff_iff]; simp [Char.toNat_inj]
    simp only [List.contains_cons, List.map_cons, contains_toNat c l, e]

/-- the character class of `EscapeSequence.pattern` is the specification's ASCII punctuation: its code points are the
    four ranges -/
theorem escapable_eq (c : Char) : escapable c = isAsciiPunctuation c := by
  have codes : "!\"#$%&'()*+,-./:;<=>?@[\\]^_`{|}~".toList.map Char.toNat =
      List.range' 0x21 15 ++ List.range' 0x3A 7 ++ List.range' 0x5B 6 ++ List.range' 0x7B 4 := by decide_lit
  unfold escapable isAsciiPunctuation inRanges
  rw [contains_toNat, codes, Bool.eq_iff_iff]
  simp only [List.contains_iff_mem, List.mem_append, List.mem_range'_1, List.any_cons, List.any_nil, Bool.or_eq_true,
    Bool.and_eq_true, decide_eq_true_eq, Bool.or_false]
  omega

/-- start positions of the matches of `EscapeSequence.pattern`, left to right, non-overlapping -/
def escPos : Nat → Str → List Nat
  | pos, '\\' :: d :: rest => if escapable d then pos :: escPos (pos + 2) rest else escPos (pos + 1) (d :: rest)
  | pos, _ :: rest => escPos (pos + 1) rest
  | _, [] => []

theorem escPos_bs_esc (pos : Nat) (d : Char) (r : Str) (h : escapable d = true) :
    escPos pos ('\\' :: d :: r) = pos :: escPos (pos + 2) r := by
  simp [escPos, h]

theorem escPos_bs_lit (pos : Nat) (d : Char) (r : Str) (h : escapable d = false) :
    escPos pos ('\\' :: d :: r) = escPos (pos + 1) (d :: r) := by
  simp [escPos, h]

theorem escPos_other (pos : Nat) (c : Char) (r : Str) (h : c ≠ '\\' ∨ r = []) :
    escPos pos (c :: r) = escPos (pos + 1) r := by
  rcases h with h | rfl
  · rw [escPos]
    intro d rest' e _
    exact h e
  · rw [escPos]
    intro d rest' _ e
    cases e

/-- induction along `escPos`, by the cases of its three equations -/
theorem escPos_ind {motive : Nat → Str → Prop}
    (esc : ∀ pos d rest, escapable d = true → motive (pos + 2) rest → motive pos ('\\' :: d :: rest))
    (lit : ∀ pos d rest, escapable d = false → motive (pos + 1) (d :: rest) → motive pos ('\\' :: d :: rest))
    (other : ∀ pos c rest, c ≠ '\\' ∨ rest = [] → motive (pos + 1) rest → motive pos (c :: rest))
    (nil : ∀ pos, motive pos []) : ∀ pos s, motive pos s := by
  apply escPos.induct
  · exact esc
  · exact fun pos d rest h => lit pos d rest (by simpa using h)
  · intro pos c rest h
    apply other
    cases rest with
    | nil => exact Or.inr rfl
    | cons d r => exact Or.inl (fun e => h d r e rfl)
  · exact nil

theorem escPos_lb : ∀ (pos : Nat) (s : Str), ∀ i ∈ escPos pos s, pos ≤ i := by
  apply escPos_ind
  · intro pos d rest h ih i hi
    rw [escPos_bs_esc pos d rest h] at hi
    rcases List.mem_cons.1 hi with rfl | hi
    · omega
    · have := ih i hi; omega
  · intro pos d rest h ih i hi
    rw [escPos_bs_lit pos d rest h] at hi
    have := ih i hi; omega
  · intro pos c rest h ih i hi
    rw [escPos_other pos c rest h] at hi
    have := ih i hi; omega
  · intro pos i hi
    simp [escPos] at hi

theorem escPos_spec : ∀ (pos : Nat) (s : Str), ∀ i ∈ escPos pos s, s[i - pos]? = some '\\' ∧ i - pos + 2 ≤ s.length := by
  -- a match of the text without its first `k` characters is a match of the text
  have shift : ∀ (k : Nat) (pos : Nat) (u rest : Str) (i : Nat), u.length = k → pos + k ≤ i →
      rest[i - (pos + k)]? = some '\\' ∧ i - (pos + k) + 2 ≤ rest.length →
      (u ++ rest)[i - pos]? = some '\\' ∧ i - pos + 2 ≤ (u ++ rest).length := by
    intro k pos u rest i hu hl h
    rw [List.getElem?_append_right (by omega), List.length_append, hu, show i - pos - k = i - (pos + k) by omega]
    exact ⟨h.1, by omega⟩
  apply escPos_ind
  · intro pos d rest h ih i hi
    rw [escPos_bs_esc pos d rest h] at hi
    rcases List.mem_cons.1 hi with rfl | hi
    · simp
    · exact shift 2 pos ['\\', d] rest i rfl (escPos_lb _ _ i hi) (ih i hi)
  · intro pos d rest h ih i hi
    rw [escPos_bs_lit pos d rest h] at hi
    exact shift 1 pos ['\\'] (d :: rest) i rfl (escPos_lb _ _ i hi) (ih i hi)
  · intro pos c rest h ih i hi
    rw [escPos_other pos c rest h] at hi
    exact shift 1 pos [c] rest i rfl (escPos_lb _ _ i hi) (ih i hi)
  · intro pos i hi
    simp [escPos] at hi

theorem escPos_gap : ∀ (pos : Nat) (s : Str), (escPos pos s).Pairwise (fun i j => i + 2 ≤ j) := by
  apply escPos_ind
  · intro pos d rest h ih
    rw [escPos_bs_esc pos d rest h, List.pairwise_cons]
    exact ⟨fun j hj => escPos_lb _ _ j hj, ih⟩
  · intro pos d rest h ih
    rw [escPos_bs_lit pos d rest h]
    exact ih
  · intro pos c rest h ih
    rw [escPos_other pos c rest h]
    exact ih
  · intro pos
    simp [escPos]

theorem escPos_nil : ∀ (pos : Nat) (s : Str), '\\' ∉ s → escPos pos s = [] := by
  apply escPos_ind
  · intro pos d rest _ _ h
    exact absurd (List.mem_cons_self ..) h
  · intro pos d rest _ _ h
    exact absurd (List.mem_cons_self ..) h
  · intro pos c rest hc ih h
    rw [escPos_other pos c rest hc]
    exact ih (fun hm => h (List.mem_cons_of_mem _ hm))
  · intro pos _
    simp [escPos]

theorem escMarks_zero (s : Str) : ((escMarks false s)[0]?).getD false = false := by
  cases s <;> simp [escMarks]

/-- **the matches of `EscapeSequence.pattern` are the escaping backslashes of the specification**: the character
    after position `pos + j` is backslash-escaped iff a match starts at `pos + j` -/
theorem escPos_marks : ∀ (pos : Nat) (s : Str), ∀ j,
    ((escMarks false s)[j + 1]?).getD false = true ↔ pos + j ∈ escPos pos s := by
  -- a first character that is not escaped and starts no match: the question passes to the rest
  have skip1 : ∀ (pos : Nat) (m : List Bool) (l : List Nat), (m[0]?).getD false = false → (∀ i ∈ l, pos + 1 ≤ i) →
      (∀ j, (m[j + 1]?).getD false = true ↔ pos + 1 + j ∈ l) →
      ∀ j, ((false :: m)[j + 1]?).getD false = true ↔ pos + j ∈ l := by
    intro pos m l h0 hl ih j
    match j with
    | 0 =>
      simp only [List.getElem?_cons_succ, h0, Nat.add_zero]
      constructor
      · intro e; cases e
      · intro e; have := hl _ e; omega
    | k + 1 =>
      simp only [List.getElem?_cons_succ]
      rw [ih k, show pos + 1 + k = pos + (k + 1) by omega]
  apply escPos_ind
  · intro pos d rest h ih j
    have hm : escMarks false ('\\' :: d :: rest) = false :: true :: escMarks false rest := by
      simp [escMarks, ← escapable_eq, h]
    rw [hm, escPos_bs_esc pos d rest h]
    match j with
    | 0 => simp
    | 1 =>
      simp only [List.getElem?_cons_succ, escMarks_zero, List.mem_cons]
      constructor
      · intro e; cases e
      · rintro (e | e)
        · omega
        · have := escPos_lb _ _ _ e; omega
    | k + 2 =>
      simp only [List.getElem?_cons_succ, List.mem_cons]
      rw [ih k, show pos + 2 + k = pos + (k + 2) by omega]
      exact ⟨Or.inr, fun e => e.resolve_left (by omega)⟩
  · intro pos d rest h ih j
    have hd : (d == '\\') = false := by
      rw [beq_eq_false_iff_ne]
      rintro rfl
      rw [escapable_eq] at h
      revert h; decide
    have hm : escMarks false ('\\' :: d :: rest) = false :: escMarks false (d :: rest) := by
      simp [escMarks, ← escapable_eq, h, hd]
    rw [hm, escPos_bs_lit pos d rest h]
    exact skip1 pos _ _ (escMarks_zero _) (escPos_lb _ _) ih j
  · intro pos c rest h ih j
    have hm : escMarks false (c :: rest) = false :: escMarks false rest := by
      rcases h with hc | rfl
      · simp [escMarks, show (c == '\\') = false by simpa using hc]
      · simp [escMarks]
    rw [hm, escPos_other pos c rest h]
    exact skip1 pos _ _ (escMarks_zero _) (escPos_lb _ _) ih j
  · intro pos j
    simp [escMarks, escPos]

/-- the match object of the escape sequence at `i` -/
def escM (i : Nat) : M := { start := i, stop := i + 2, gs := i + 1, ge := i + 2 }

theorem findIterAux_escape : ∀ (pos : Nat) (s : Str), ∀ (fuel : Nat) (prev : Option Char), s.length + 1 ≤ fuel →
    findIterAux escapeAt fuel pos prev s = (escPos pos s).map escM := by
  apply escPos_ind
  · intro pos d rest h ih fuel prev hf
    obtain ⟨f, rfl⟩ : ∃ f, fuel = f + 1 := ⟨fuel - 1, by omega⟩
    rw [escPos_bs_esc pos d rest h]
    simp only [findIterAux, escapeAt, h, if_true, List.map_cons, escM]
    simp only [List.length_cons] at hf
    have e2 : (if 2 = 0 then 1 else 2) = 2 := rfl
    simp only [e2, List.drop_succ_cons, List.drop_zero]
    rw [ih f _ (by omega)]
  · intro pos d rest h ih fuel prev hf
    obtain ⟨f, rfl⟩ : ∃ f, fuel = f + 1 := ⟨fuel - 1, by omega⟩
    rw [escPos_bs_lit pos d rest h]
    simp only [findIterAux, escapeAt, h, Bool.false_eq_true, if_false]
    simp only [List.length_cons] at hf
    exact ih f _ (by simp only [List.length_cons]; omega)
  · intro pos c rest h ih fuel prev hf
    obtain ⟨f, rfl⟩ : ∃ f, fuel = f + 1 := ⟨fuel - 1, by omega⟩
    have hn : escapeAt prev (c :: rest) = none := by
      unfold escapeAt
      split
      · rename_i heq
        obtain ⟨e1, e2⟩ := List.cons.inj heq
        rcases h with hc | hr
        · exact absurd e1 hc
        · rw [hr] at e2; cases e2
      · rfl
    rw [escPos_other pos c rest h]
    simp only [findIterAux, hn]
    simp only [List.length_cons] at hf
    exact ih f _ (by omega)
  · intro pos fuel prev hf
    obtain ⟨f, rfl⟩ : ∃ f, fuel = f + 1 := ⟨fuel - 1, by omega⟩
    simp [findIterAux, escPos]

theorem findIter_escape (s : Str) : findIter escapeAt s = (escPos 0 s).map escM :=
  findIterAux_escape 0 s _ none (Nat.le_refl _)

/-! ### the other regex classes find nothing, backslashes or not -/

/-- what the text must be like for the classes other than `EscapeSequence` and `CoreTokens` to find nothing -/
structure ScanEsc (s : Str) : Prop where
  lt : '<' ∉ s
  tilde : tildeOk s = true
  nl : '\n' ∉ s

theorem ScanEsc.tail {c : Char} {rest : Str} (h : ScanEsc (c :: rest)) : ScanEsc rest := by
  refine ⟨fun hm => h.lt (List.mem_cons_of_mem _ hm), tildeOk_suffix [c] rest h.tilde,
    fun hm => h.nl (List.mem_cons_of_mem _ hm)⟩

theorem findOne_scanEsc (s : Str) (h : ScanEsc s) (t : STok) (ht : inertClass t = true)
    (h1 : t ≠ .escapeSequence) : findOne s [] [] t = [] :=
  InertInline2.findOne_scan_of ScanEsc (fun _ _ => ScanEsc.tail)
    (fun p c r hq => InertInline2.htmlSpanAt_none2 p c r (by
      have : c ≠ '<' := fun e => hq.lt (by simp [e])
      simp [this]))
    (fun p _ _ hq => strikeAt_none p _ hq.tilde) (fun p _ _ hq => InertInline2.autoLinkAt_noLt p _ hq.lt) s h t ht
    (fun e => absurd e h1) (fun _ => h.nl)

end Mistletoe.EmphHtml

/-! ## E. `tokenize_inner` on a text whose candidates are nested emphasis matches and escape sequences -/

namespace Mistletoe.EmphHtml
open Mistletoe Mistletoe.Span Mistletoe.Inline Mistletoe.Html Mistletoe.Escape Mistletoe.Spec.EmphasisHtml
open Mistletoe.Core Mistletoe.InertInline Mistletoe.RefResolve Mistletoe.InlineScan

/-- the candidate `tokenize_inner` builds from the `i`-th element of `find_tokens`' result (for a `LineBreak` match it is
    `InertInline.lbCand`; with the class forgotten, `ContribSame.candsNoCls`) -/
def candF (types : List STok) (f : Found) (i : Nat) : Cand :=
  { start := f.start, stop := f.stop, pstart := f.pstart, pend := f.pend, prec := prec f.cls,
    inner := parseInner f.cls, cls := clsIndex types f.cls, ord := i }

def candsF (types : List STok) (found : List Found) : List Cand := found.zipIdx.map (fun p => candF types p.1 p.2)

theorem mem_candsF {types : List STok} {found : List Found} {c : Cand} :
    c ∈ candsF types found ↔ ∃ f k, found[k]? = some f ∧ c = candF types f k := by
  simp only [candsF, List.mem_map, List.mem_zipIdx_iff_getElem?, Prod.exists, eq_comm]

theorem tokenizeInner_found (s : Str) (types : List STok) (fn : Footnotes.Table) (found : List Found)
    (h : findAll s types fn = .ok found) :
    tokenizeInner types fn s = .ok (builds s found (Span.tokenize (candsF types found) s.length)) := by
  unfold tokenizeInner
  rw [h]
  simp only [Res.ok.injEq]
  congr 2

/-- what `EscapeSequence.find` returns for the match at `i` -/
def escFound (i : Nat) : Found := ofRe .escapeSequence false (escM i)

/-- the candidates made of `f` and of `g` are laminar, wherever the two stand in `found` -/
def LamF (types : List STok) (f g : Found) : Prop := ∀ i j, Lam (candF types f i) (candF types g j)

theorem LamF.symm {types : List STok} {f g : Found} (h : LamF types f g) : LamF types g f :=
  fun i j => (h j i).symm

/-! ## F. The parse of a text of the alphabet -/

open Mistletoe.Py Mistletoe.Spec.EmphasisEsc

/-- (start, text start, text end, stop, strong) of a core match -/
def tup (m : CoreM) : Span5 := (m.start, m.ts, m.te, m.stop, m.kind == .strong)

theorem pairwise_mem {α} {R : α → α → Prop} (l : List α) (h : l.Pairwise R) :
    ∀ a ∈ l, ∀ b ∈ l, a = b ∨ R a b ∨ R b a := fun _ ha _ hb =>
  List.Pairwise.forall_of_forall_of_flip (R := fun a b => a = b ∨ R a b ∨ R b a) (fun _ _ => .inl rfl)
    (h.imp fun h => .inr (.inl h)) (h.imp fun h => .inr (.inr h)) ha hb

/-- `find_tokens` on a text in which only `EscapeSequence` and `CoreTokens` fire: the matches and the escape sequences,
    in the order in which the two classes stand in the list; on a text without backslash `EscapeSequence` finds nothing
    either, however often it is in the list -/
theorem findAll_emph (s : Str) (types : List STok) (fn : Footnotes.Table) (hs : ScanEsc s)
    (ht : ∀ t ∈ types, inertClass t = true) (hc : types.count .coreTokens = 1)
    (he : types.count .escapeSequence = 1 ∨ '\\' ∉ s) (ms : List CoreM) (h : findCoreTokens s fn = .ok (ms, [])) :
    ∃ found, findAll s types fn = .ok found ∧ found.Perm (ms.map foundOf ++ (escPos 0 s).map escFound) := by
  unfold findAll
  have : types.contains .coreTokens = true := by
    rw [List.contains_iff_mem]
    exact List.count_pos_iff.1 (by omega)
  simp only [this, if_true, h]
  refine ⟨_, rfl, ?_⟩
  have h1 : findOne s ms [] .coreTokens = ms.map foundOf := rfl
  have h2 : findOne s ms [] .escapeSequence = (escPos 0 s).map escFound := by
    simp only [findOne, findIter_escape, List.map_map]
    rfl
  have ho : ∀ t ∈ types, t ≠ .coreTokens → t ≠ .escapeSequence → findOne s ms [] t = [] := by
    intro t htm n1 n2
    rw [findOne_other s ms t n1]
    exact findOne_scanEsc s hs t (ht t htm) n2
  rw [← h1, ← h2]
  rcases he with he | hb
  · exact flatMap_two (findOne s ms []) .coreTokens .escapeSequence (by decide) types ho hc he
  · have h3 : findOne s ms [] .escapeSequence = [] := by rw [h2, escPos_nil 0 s hb]; rfl
    rw [h3, List.append_nil, flatMap_one (findOne s ms []) .coreTokens types ?_ hc]
    · intro t htm n1
      by_cases n2 : t = .escapeSequence
      · rw [n2, h3]
      · exact ho t htm n1 n2

theorem plainEsc_facts (s : Str) (hp : plainEsc s = true) : ∀ c ∈ s, c ≠ '<' ∧ c ≠ '&' := by
  intro c hc
  have := EmphRefineEsc.plainEsc_mem hp c hc
  simp only [plainEscChar, Bool.and_eq_true, bne_iff_ne, ne_eq] at this
  exact ⟨this.1.2, this.2⟩

/-- `tokenize_inner` on a text of the alphabet.  `find_tokens` returns `found`: the emphasis matches `ms` - the spans of
    the specification, with non-empty delimiters, copies of `m.delimiter`, around a non-empty text, and nested - and the
    escape sequences, which start at the escaping backslashes (`escPos 0 s`), all of them, and touch no delimiter -/
structure Parse (types : List STok) (fn : Footnotes.Table) (s : Str) (ms : List CoreM) (found : List Found) : Prop where
  wf : ∀ m ∈ ms, m.start < m.ts ∧ m.ts < m.te ∧ m.te < m.stop ∧ m.stop ≤ s.length
  nest : ms.Pairwise (fun a b => a.stop ≤ b.start ∨ b.stop ≤ a.start ∨ (b.ts ≤ a.start ∧ a.stop ≤ b.te))
  kind : ∀ m ∈ ms, m.kind = .strong ∨ m.kind = .emphasis
  delim : ∀ m ∈ ms,
    slice s m.start m.ts = (if (m.kind == .strong) = true then [m.delimiter, m.delimiter] else [m.delimiter]) ∧
    slice s m.te m.stop = (if (m.kind == .strong) = true then [m.delimiter, m.delimiter] else [m.delimiter])
  spans : ms.map tup = spansEsc s
  esc : ∀ i ∈ escPos 0 s, s[i]? = some '\\' ∧ i + 2 ≤ s.length ∧ escapedAt s (i + 1) = true ∧
    escapedAt s (i + 1 + 1) = false
  apart : ∀ m ∈ ms, ∀ i ∈ escPos 0 s, ∀ k, k = i ∨ k = i + 1 →
    ¬ ((m.start ≤ k ∧ k < m.ts) ∨ (m.te ≤ k ∧ k < m.stop))
  skipped : ∀ i, i < s.length → escapedAt s (i + 1) = true → i ∈ escPos 0 s
  amp : ∀ c ∈ s, c ≠ '&'
  order : found.Perm (ms.map foundOf ++ (escPos 0 s).map escFound)
  tok : tokenizeInner types fn s = .ok (builds s found (makeTokensRev (resolve (candsF types found)).reverse 0 s.length))

namespace Parse
variable {types : List STok} {fn : Footnotes.Table} {s : Str} {ms : List CoreM} {found : List Found}
  (P : Parse types fn s ms found)
include P

theorem ctx : Ctx (ms.map tup) := by
  constructor
  · intro p hp
    obtain ⟨m, hm, rfl⟩ := List.mem_map.1 hp
    have := P.wf m hm
    simp only [tup]; omega
  · intro p hp p' hp'
    obtain ⟨m, hm, rfl⟩ := List.mem_map.1 hp
    obtain ⟨m', hm', rfl⟩ := List.mem_map.1 hp'
    have w := P.wf m hm
    have w' := P.wf m' hm'
    rcases pairwise_mem ms P.nest m hm m' hm' with rfl | h | h
    · exact Or.inl rfl
    · right; simp only [tup]; omega
    · right; simp only [tup]; omega

/-- nested matches, escape sequences that do not overlap, and no escape sequence on a delimiter: laminar, whichever
    class `find_tokens` visits first -/
theorem lam : (candsF types found).Pairwise Lam := by
  have core : (ms.map foundOf).Pairwise (LamF types) := by
    rw [List.pairwise_map]
    apply P.nest.imp_of_mem
    intro a b ha hb hab i j
    have wa := P.wf a ha
    have wb := P.wf b hb
    unfold Lam
    simp only [candF, foundOf, parseInner, true_and]
    omega
  have esc : ((escPos 0 s).map escFound).Pairwise (LamF types) := by
    rw [List.pairwise_map]
    apply (escPos_gap 0 s).imp
    intro a b hab i j
    unfold Lam
    simp only [candF, escFound, ofRe, escM, Bool.false_eq_true, if_false]
    omega
  have cross : ∀ f ∈ ms.map foundOf, ∀ g ∈ (escPos 0 s).map escFound, LamF types f g := by
    intro f hf g hg i j
    obtain ⟨m, hm, rfl⟩ := List.mem_map.1 hf
    obtain ⟨e, he, rfl⟩ := List.mem_map.1 hg
    have wm := P.wf m hm
    have x0 := P.apart m hm e he e (Or.inl rfl)
    have x1 := P.apart m hm e he (e + 1) (Or.inr rfl)
    unfold Lam
    simp only [candF, foundOf, escFound, ofRe, escM, Bool.false_eq_true, if_false, parseInner, true_and]
    omega
  have hp : found.Pairwise (LamF types) :=
    (P.order.pairwise_iff LamF.symm).2 (List.pairwise_append.2 ⟨core, esc, cross⟩)
  rw [← List.zipIdx_map_fst 0 found, List.pairwise_map] at hp
  rw [candsF, List.pairwise_map]
  exact hp.imp fun h => h _ _

theorem mem (f : Found) : f ∈ found ↔ (∃ m ∈ ms, f = foundOf m) ∨ (∃ i ∈ escPos 0 s, f = escFound i) := by
  simp only [P.order.mem_iff, List.mem_append, List.mem_map, eq_comm]

/-- every candidate comes from a match or from an escape sequence; the token `build` makes of it: the `Strong` /
    `Emphasis` of the match, with the match's delimiter character, or the `EscapeSequence` of the backslash -/
theorem cand : ∀ c ∈ candsF types found,
    (∃ m ∈ ms, ∃ k, c = candF types (foundOf m) k ∧ ∀ kids, build s found (.tok c kids) =
      if (m.kind == .strong) = true then Mistletoe.Inline.strong [m.delimiter] (builds s found kids)
      else Mistletoe.Inline.emphasis [m.delimiter] (builds s found kids)) ∨
    (∃ i ∈ escPos 0 s, ∃ k, c = candF types (escFound i) k ∧
      ∀ kids, build s found (.tok c kids) = Mistletoe.Inline.escapeSequence (slice s (i + 1) (i + 2))) := by
  intro c hc
  obtain ⟨f, k, hk, rfl⟩ := mem_candsF.1 hc
  rcases (P.mem f).1 (List.mem_of_getElem? hk) with ⟨m, hm, rfl⟩ | ⟨i, hi, rfl⟩
  · have hfk : found[(candF types (foundOf m) k).ord]? = some (foundOf m) := hk
    refine Or.inl ⟨m, hm, k, rfl, fun kids => ?_⟩
    simp only [build, hfk]
    simp only [foundOf]
    rcases P.kind m hm with h | h <;> simp [h]
  · have hfk : found[(candF types (escFound i) k).ord]? = some (escFound i) := hk
    refine Or.inr ⟨i, hi, k, rfl, fun kids => ?_⟩
    simp only [build, hfk]
    rfl

theorem cands_wf : ∀ c ∈ candsF types found, CandWF c ∧ c.stop ≤ s.length := by
  intro c hc
  rcases P.cand c hc with ⟨m, hm, k, rfl, _⟩ | ⟨i, hi, k, rfl, _⟩
  · have := P.wf m hm
    simp only [CandWF, candF, foundOf]; omega
  · have := P.esc i hi
    simp only [CandWF, candF, escFound, ofRe, escM, Bool.false_eq_true, if_false]; omega

/-- the resolver's forest is well formed and holds every candidate -/
theorem kids : KidsOK (resolve (candsF types found)).reverse 0 s.length := resolve_ok s.length _ P.cands_wf

theorem nodes : ∀ x, x ∈ nodesL (resolve (candsF types found)).reverse ↔ x ∈ candsF types found :=
  fun _ => (resolve_nodes _ P.lam (fun c hc => (P.cands_wf c hc).1)).mem_iff

theorem nodeOK : ∀ c ∈ nodesL (resolve (candsF types found)).reverse,
    NodeOK s found (ms.map tup) (fun i => escapedAt s (i + 1)) c := by
  intro c hc
  rcases P.cand c ((P.nodes c).1 hc) with ⟨m, hm, k, rfl, hb⟩ | ⟨i, hi, k, rfl, hb⟩
  · exact Or.inl ⟨rfl, m.kind == .strong, m.delimiter, List.mem_map.2 ⟨m, hm, rfl⟩, hb⟩
  · exact Or.inr ⟨rfl, rfl, rfl, rfl, (P.esc i hi).2.2.1, (P.esc i hi).2.2.2, hb⟩

theorem cover : Cover (ms.map tup) (fun i => escapedAt s (i + 1)) (nodesL (resolve (candsF types found)).reverse)
    0 s.length := by
  -- the node made from an element of `found`
  have node : ∀ f ∈ found, ∃ c ∈ nodesL (resolve (candsF types found)).reverse, ∃ k, c = candF types f k := by
    intro f hfm
    obtain ⟨k, hk⟩ := List.getElem?_of_mem hfm
    exact ⟨_, (P.nodes _).2 (mem_candsF.2 ⟨f, k, hk, rfl⟩), k, rfl⟩
  refine ⟨?_, ?_⟩
  · intro p hp
    obtain ⟨m, hm, rfl⟩ := List.mem_map.1 hp
    obtain ⟨c, hc, k, rfl⟩ := node _ ((P.mem (foundOf m)).2 (Or.inl ⟨m, hm, rfl⟩))
    exact Or.inl ⟨_, hc, rfl, rfl, rfl, rfl⟩
  · intro i _ h2 hs
    obtain ⟨c, hc, k, rfl⟩ := node _ ((P.mem (escFound i)).2 (Or.inr ⟨i, P.skipped i h2 hs, rfl⟩))
    exact ⟨_, hc, rfl⟩

end Parse

/-- a text of the alphabet has a parse: the matches of `find_core_tokens` are the specification's
    (`C06_emphasis_is_spec_esc_partial`, `C06_emphasis_wellformed`, `C06_emphasis_nested`, `C06_emphasis_delimiters`), the
    matches of `EscapeSequence.pattern` are the escaping backslashes (`escPos_marks`); no escape sequence lies on a
    delimiter of an emphasis match (a delimiter is `*` or `_`, not a backslash, and is not escaped:
    `emphasisEsc_delims`); `EscapeSequence` is in the token list once, or the text has no backslash -/
theorem emph_parse (types : List STok) (fn : Footnotes.Table) (s : Str)
    (hp : plainEsc s = true) (hw : EmphRefine.stdWs s = true) (hnl : '\n' ∉ s) (htl : tildeOk s = true)
    (ht : ∀ t ∈ types, inertClass t = true) (hc : types.count .coreTokens = 1)
    (he : types.count .escapeSequence = 1 ∨ '\\' ∉ s) : ∃ ms found, Parse types fn s ms found := by
  obtain ⟨ms, h1, h2, h3, h4⟩ := Props.C06.C06_emphasis_is_spec_esc_partial s fn hp ((EmphRefine.stdWs_iff s).1 hw)
  have hpf := plainEsc_facts s hp
  obtain ⟨found, hfa, hfound⟩ := findAll_emph s types fn ⟨fun hm => (hpf _ hm).1 rfl, htl, hnl⟩ ht hc he ms h1
  have hmarks := escPos_marks 0 s
  have hW := fun m hm => Props.C06.C06_emphasis_wellformed s fn ms [] h1 m hm (h3 m hm)
  have hD := fun m hm => Props.C06.C06_emphasis_delimiters s fn ms [] h1 m hm (h3 m hm)
  have hEs : ∀ i ∈ escPos 0 s, s[i]? = some '\\' ∧ i + 2 ≤ s.length ∧ escapedAt s (i + 1) = true ∧
      escapedAt s (i + 1 + 1) = false := by
    intro i hi
    have h5 := escPos_spec 0 s i hi
    simp only [Nat.sub_zero] at h5
    refine ⟨h5.1, h5.2, (hmarks i).2 (by simpa using hi), ?_⟩
    cases h6 : escapedAt s (i + 1 + 1) with
    | false => rfl
    | true =>
      have := (hmarks (i + 1)).1 h6
      simp only [Nat.zero_add] at this
      rcases pairwise_mem _ (escPos_gap 0 s) i hi (i + 1) this with h | h | h <;> omega
  refine ⟨ms, found, fun m hm => ⟨(hW m hm).1, (hW m hm).2.1, (hW m hm).2.2.1, (hW m hm).2.2.2.1⟩,
    (Props.C06.C06_emphasis_nested s fn ms [] h1).imp_of_mem (fun ha hb hab => hab (h3 _ ha) (h3 _ hb)), h3,
    fun m hm => ?_, h4, hEs, fun m hm i hi k hk hd => ?_, fun i _ h5 => by simpa using (hmarks i).1 h5,
    fun c hc => (hpf c hc).2, hfound, tokenizeInner_found s types fn found hfa⟩
  · obtain ⟨w1, w2, w3, w4, w5, w6, _⟩ := hW m hm
    rw [slice_eq_replicate s m.start m.ts m.delimiter (by omega) (hD m hm).2.1,
      slice_eq_replicate s m.te m.stop m.delimiter w4 (hD m hm).2.2, ← w5]
    rcases w6 with ⟨k, n⟩ | ⟨k, n⟩
    · rw [n]; simp [k, List.replicate]
    · rw [n]; simp [k, List.replicate]
  · rw [h2] at hm
    obtain ⟨x, hx, rfl⟩ := List.mem_map.1 hm
    obtain ⟨c, hc, hdc, hne⟩ := EmphRefineEsc.emphasisEsc_delims s x hx k (by simpa [EmphRefine.toCoreM] using hd)
    rcases hk with rfl | rfl
    · rw [(hEs k hi).1] at hc
      cases hc
      revert hdc; decide
    · rw [(hEs i hi).2.2.1] at hne
      cases hne

/-! ## G. The theorems -/

/-- on a text without backslash the two specifications give the same HTML: nothing is escaped, and the spans are the same -/
theorem specHtmlEscQ_plain (dq sq : Bool) (s : Str) (hp : Spec.Emphasis.plain s = true) :
    specHtmlEscQ dq sq s = specHtmlQ dq sq s := by
  have hsk : (fun i => escapedAt s (i + 1)) = fun _ => false := by
    funext i
    cases h : escapedAt s (i + 1) with
    | false => rfl
    | true =>
      have := (escPos_marks 0 s i).1 h
      rw [escPos_nil 0 s (EmphRefine.plain_no_backslash hp)] at this
      cases this
  unfold specHtmlEscQ specHtmlQ spansEsc Spec.Emphasis.spans
  rw [hsk, Props.C06.C06_specs_coincide s hp]

/-- the two theorems below in one: the text may hold backslashes; `EscapeSequence` is in the token list once, or the text
    has no backslash, and then it does not matter whether and how often it is -/
theorem emph_html_is_spec_gen (types : List STok) (fn : Footnotes.Table) (s : Str)
    (hp : plainEsc s = true) (hw : EmphRefine.stdWs s = true) (hnl : '\n' ∉ s) (htl : tildeOk s = true)
    (ht : ∀ t ∈ types, inertClass t = true) (hc : types.count .coreTokens = 1)
    (he : types.count .escapeSequence = 1 ∨ '\\' ∉ s) :
    ∃ ks, tokenizeInner types fn s = .ok ks ∧
      ∀ q : Quotes, flat (renderInlines q ks) = specHtmlEscQ q.dq q.sq s := by
  obtain ⟨ms, found, P⟩ := emph_parse types fn s hp hw hnl htl ht hc he
  refine ⟨_, P.tok, fun q => (render_rev P.ctx P.amp _ 0 s.length P.kids (Nat.zero_le _) (Nat.le_refl _) P.nodeOK
    P.cover).trans ?_⟩
  rw [specHtmlEscQ, ← P.spans]
  simp [walk, htmlOf]

/-- **C06, output level, with backslash escapes.**  As `emph_html_is_spec`, for texts that may contain backslashes
    (`plainEsc`: no backquote, brackets, `<`, `&`), against the specification with escapes (`specHtmlEscQ`: spans of
    `Spec.EmphasisEsc.spansEsc`; a backslash that escapes the next character is dropped, the escaped character is
    literal text; other backslashes are literal).  The token list must hold `EscapeSequence` once, like the HTML
    renderer's. -/
theorem emph_html_is_spec_esc (types : List STok) (fn : Footnotes.Table) (s : Str)
    (hp : plainEsc s = true) (hw : EmphRefine.stdWs s = true) (hnl : '\n' ∉ s) (htl : tildeOk s = true)
    (ht : ∀ t ∈ types, inertClass t = true) (hc : types.count .coreTokens = 1)
    (he : types.count .escapeSequence = 1) :
    ∃ ks, tokenizeInner types fn s = .ok ks ∧
      ∀ q : Quotes, flat (renderInlines q ks) = specHtmlEscQ q.dq q.sq s :=
  emph_html_is_spec_gen types fn s hp hw hnl htl ht hc (Or.inl he)

/-- **C06, output level (arbitrary nesting).**  `s` is an inline text of the alphabet of
    `C06_emphasis_is_spec_partial` (`plain`: no backslash, backquote, brackets, `<`, `&`; `stdWs`: none of the eight code
    points mistletoe wrongly counts as whitespace) that moreover has no newline and no `~~`; `types` is a list of covered
    span token classes holding `CoreTokens` once (the HTML renderer's list: `C07_config_covered`); `fn` is any table of
    link reference definitions.  Then `tokenize_inner(s)` succeeds, and what `HtmlRenderer.render_inner` makes of the
    tokens - under every quote option - is the specification's HTML of `s`: the text escaped character by character,
    the delimiter characters of the spans of the CommonMark 0.30 delimiter algorithm dropped, `<em>`/`<strong>` opened at
    every span's start and closed at its stop.

    The two hypotheses `hnl`, `htl` are not in `C06_emphasis_is_spec_partial`: the HTML renderer's token list also holds
    `LineBreak` (a newline with two spaces before it is `<br />`, and the spaces are dropped) and `Strikethrough`
    (`~~a~~` is `<del>a</del>`, a GFM extension), see the examples at the end of the file. -/
theorem emph_html_is_spec (types : List STok) (fn : Footnotes.Table) (s : Str)
    (hp : Spec.Emphasis.plain s = true) (hw : EmphRefine.stdWs s = true) (hnl : '\n' ∉ s) (htl : tildeOk s = true)
    (ht : ∀ t ∈ types, inertClass t = true) (hc : types.count .coreTokens = 1) :
    ∃ ks, tokenizeInner types fn s = .ok ks ∧
      ∀ q : Quotes, flat (renderInlines q ks) = specHtmlQ q.dq q.sq s := by
  obtain ⟨ks, h1, h2⟩ := emph_html_is_spec_gen types fn s (EmphRefine.plainEsc_of_plain hp) hw hnl htl ht hc
    (Or.inr (EmphRefine.plain_no_backslash hp))
  exact ⟨ks, h1, fun q => (h2 q).trans (specHtmlEscQ_plain q.dq q.sq s hp)⟩

end Mistletoe.EmphHtml

/-! ## H. Document level -/

namespace Mistletoe.EmphHtml
open Mistletoe Mistletoe.Py Mistletoe.Span Mistletoe.Inline Mistletoe.Html Mistletoe.Escape Mistletoe.Spec.EmphasisHtml
open Mistletoe.Core Mistletoe.InertInline Mistletoe.RefResolve Mistletoe.Props.C14

theorem strip_hyps (s : Str) (P : Char → Bool) (hP : s.all P = true) (htl : tildeOk s = true)
    (h1 : oneLine (s ++ ['\n']) = true) :
    (strip s).all P = true ∧ tildeOk (strip s) = true ∧ '\n' ∉ strip s := by
  obtain ⟨u, v, huv⟩ := Strip.strip_infix s
  replace huv := huv.symm
  have hmem : ∀ c ∈ strip s, c ∈ s := by
    intro c hc; rw [huv]; simp [hc]
  refine ⟨?_, ?_, ?_⟩
  · simp only [List.all_eq_true] at hP ⊢
    exact fun c hc => hP c (hmem c hc)
  · rw [huv, List.append_assoc] at htl
    exact tildeOk_prefix _ v (tildeOk_suffix u _ htl)
  · intro hm
    have hm' := hmem _ hm
    simp only [oneLine, Bool.and_eq_true, List.dropLast_concat, List.all_eq_true] at h1
    have := h1.2 _ hm'
    revert this; decide

theorem html_escape_once : ∀ cfg, Config.html = some cfg → cfg.span.count .escapeSequence = 1 := by
  intro cfg hc
  rw [Config.html_eq] at hc
  cases hc
  decide

theorem nonblank_of_inert (s : Str) (hl : inertLine (s ++ ['\n']) = true) : isBlank s = false := by
  have hnb : isBlank (s ++ ['\n']) = false := (inertLine_quiet _ hl).nb
  have : pyIsSpace '\n' = true := by decide
  simpa [isBlank, this] using hnb

/-- `Document(s + "\n")`, for a line that is one paragraph line, under any token lists that hold `Paragraph`: one
    `Paragraph` with the inline tokens of the stripped text -/
theorem paragraph_parse (cfg : Document.Cfg) (hpar : Block.BTok.paragraph ∈ cfg.block.types) (gas : Nat) (s : Str)
    (ks : List Mistletoe.Inline) (h1 : oneLine (s ++ ['\n']) = true) (hl : inertLine (s ++ ['\n']) = true)
    (hin : tokenizeInner cfg.span (Document.footnotesOf ({} : Block.St).defs) (strip s) = .ok ks) :
    Document.parse cfg (gas + (cfg.block.types.length + 4)) (s ++ ['\n']) =
      .ok { kids := [.paragraph ks 1], footnotes := Document.footnotesOf ({} : Block.St).defs } := by
  have := parse_lines cfg (gas + (cfg.block.types.length + 4)) [s ++ ['\n']] (by simpa using h1)
  simp only [List.flatten_cons, List.flatten_nil, List.append_nil] at this
  rw [this]
  refine Pipeline.parseLines_of_phase (C14_block_phase cfg.block hpar [s ++ ['\n']] (by simp) (by simpa using hl) gas) ?_
  simp only [Document.mkBlocks, Document.mkBlock, inl_one_line, Strip.strip_snoc_nl s (nonblank_of_inert s hl), hin]

/-- `Document(s + "\n")` under the HTML renderer, for a line that is one paragraph line: `<p>`, the HTML of the inline
    phase on the stripped text, `</p>` -/
theorem paragraph_html (o : Opts) (gas : Nat) (s : Str) (out : Str)
    (h1 : oneLine (s ++ ['\n']) = true) (hl : inertLine (s ++ ['\n']) = true)
    (hin : ∀ cfg, Config.html = some cfg → ∃ ks, tokenizeInner cfg.span (Document.footnotesOf ({} : Block.St).defs) (strip s) = .ok ks ∧
      flat (renderInlines o.q ks) = out) :
    Config.renderHtml o (gas + 14) (s ++ ['\n']) = some ("<p>".toList ++ out ++ "</p>\n".toList) := by
  obtain ⟨ks, hk1, hk2⟩ := hin _ Config.html_eq
  exact (Pipeline.renderHtml_of_parse Config.html_eq o (paragraph_parse _ (by decide) gas s ks h1 hl hk1)).trans
    (by rw [Pipeline.render_one_paragraph, hk2])

/-- **C06 at document level, with backslash escapes** (`plainEsc`), against `specHtmlEscQ`; the hypotheses are those of
    `C06_paragraph_html_is_spec_partial` below, the case without backslash, where they are explained -/
theorem C06_paragraph_html_is_spec_esc_partial (o : Opts) (gas : Nat) (s : Str)
    (hp : Spec.EmphasisEsc.plainEsc s = true) (hw : EmphRefine.stdWs s = true) (htl : tildeOk s = true)
    (h1 : oneLine (s ++ ['\n']) = true) (hl : inertLine (s ++ ['\n']) = true) :
    Config.renderHtml o (gas + 14) (s ++ ['\n']) =
      some ("<p>".toList ++ specHtmlEscQ o.dq o.sq (strip s) ++ "</p>\n".toList) := by
  apply paragraph_html o gas s _ h1 hl
  intro cfg hcfg
  obtain ⟨ht, hc⟩ := C07_config_covered cfg (Or.inl hcfg)
  obtain ⟨hp', htl', hnl'⟩ := strip_hyps s _ hp htl h1
  obtain ⟨hw', _, _⟩ := strip_hyps s _ hw htl h1
  obtain ⟨ks, hk1, hk2⟩ := emph_html_is_spec_esc cfg.span _ (strip s) hp' hw' hnl' htl' ht hc (html_escape_once cfg hcfg)
  exact ⟨ks, hk1, hk2 o.q⟩

/-- **C06 at document level.**  `s` is a text of the alphabet of `emph_html_is_spec` (without `~~`); the line `s ++ "\n"`
    holds no other line separator (`oneLine`: what `str.splitlines` keeps together; this also excludes a newline inside
    `s`) and is a paragraph line for the block phase (`inertLine` of C14: no block-start pattern fires on it).  Then
    `HtmlRenderer(**o).render(Document(s + "\n"))` is `<p>`, the specification's HTML of the stripped text, `</p>` and a
    newline.  `_partial`: see `emph_html_is_spec` for `~~` and newlines; `inertLine` is the block-level hypothesis
    (`*`, `_` at the start of a line can begin a list item or a thematic break). -/
theorem C06_paragraph_html_is_spec_partial (o : Opts) (gas : Nat) (s : Str)
    (hp : Spec.Emphasis.plain s = true) (hw : EmphRefine.stdWs s = true) (htl : tildeOk s = true)
    (h1 : oneLine (s ++ ['\n']) = true) (hl : inertLine (s ++ ['\n']) = true) :
    Config.renderHtml o (gas + 14) (s ++ ['\n']) =
      some ("<p>".toList ++ specHtmlQ o.dq o.sq (strip s) ++ "</p>\n".toList) := by
  rw [← specHtmlEscQ_plain o.dq o.sq (strip s) (strip_hyps s _ hp htl h1).1]
  exact C06_paragraph_html_is_spec_esc_partial o gas s (EmphRefine.plainEsc_of_plain hp) hw htl h1 hl

end Mistletoe.EmphHtml

/-! ## Non-vacuity

  For each text: the hypotheses hold by kernel evaluation, the theorem applies, and the specification's HTML is the
  expected HTML of the CommonMark dingus; the kernel evaluation of the model gives the same string; so does the real code
  (`mistletoe.markdown(TEXT)` gives `<p>` + that string + `</p>\n`). -/

namespace Mistletoe.EmphHtml.Examples
open Mistletoe Mistletoe.Inline Mistletoe.Html Mistletoe.InertInline Mistletoe.Spec.EmphasisHtml
open Mistletoe.Props.C14 (htmlSpanTypes htmlSpanTypes_inert inlineHtml L inertLine)
attribute [local lit] L

/-- the instance of `emph_html_is_spec` for `htmlSpanTypes` (HtmlRenderer's span classes) and default options -/
theorem inst (s : Str) (hp : Spec.Emphasis.plain s = true) (hw : EmphRefine.stdWs s = true)
    (hnl : ('\n' ∈ s) = False) (htl : tildeOk s = true) (out : Str) (ho : specHtml s = out) :
    ∃ ks, tokenizeInner htmlSpanTypes [] s = .ok ks ∧ flat (renderInlines ⟨false, false⟩ ks) = out := by
  obtain ⟨ks, h1, h2⟩ := emph_html_is_spec htmlSpanTypes [] s hp hw (by rw [hnl]; exact id) htl htmlSpanTypes_inert (by decide)
  exact ⟨ks, h1, by rw [h2]; exact ho⟩

example : ∃ ks, tokenizeInner htmlSpanTypes [] (L "***a** b*") = .ok ks ∧
    flat (renderInlines ⟨false, false⟩ ks) = L "<em><strong>a</strong> b</em>" :=
  inst _ (by decide_lit) (by decide_lit) (by decide_lit) (by decide_lit) _ (by decide_lit)
example : inlineHtml (L "***a** b*") = .ok (L "<em><strong>a</strong> b</em>") := by decide_lit

example : ∃ ks, tokenizeInner htmlSpanTypes [] (L "*a **b** c*") = .ok ks ∧
    flat (renderInlines ⟨false, false⟩ ks) = L "<em>a <strong>b</strong> c</em>" :=
  inst _ (by decide_lit) (by decide_lit) (by decide_lit) (by decide_lit) _ (by decide_lit)
example : inlineHtml (L "*a **b** c*") = .ok (L "<em>a <strong>b</strong> c</em>") := by decide_lit

example : ∃ ks, tokenizeInner htmlSpanTypes [] (L "_a*b_*") = .ok ks ∧
    flat (renderInlines ⟨false, false⟩ ks) = L "<em>a*b</em>*" :=
  inst _ (by decide_lit) (by decide_lit) (by decide_lit) (by decide_lit) _ (by decide_lit)
example : inlineHtml (L "_a*b_*") = .ok (L "<em>a*b</em>*") := by decide_lit

example : ∃ ks, tokenizeInner htmlSpanTypes [] (L "**a*") = .ok ks ∧
    flat (renderInlines ⟨false, false⟩ ks) = L "*<em>a</em>" :=
  inst _ (by decide_lit) (by decide_lit) (by decide_lit) (by decide_lit) _ (by decide_lit)
example : inlineHtml (L "**a*") = .ok (L "*<em>a</em>") := by decide_lit

/-- three levels, two siblings, text before, between and after, characters that are escaped -/
example : ∃ ks, tokenizeInner htmlSpanTypes [] (L "x > _y **z *w* z** y_ and __\"q\"__!") = .ok ks ∧
    flat (renderInlines ⟨false, false⟩ ks) =
      L "x &gt; <em>y <strong>z <em>w</em> z</strong> y</em> and <strong>\"q\"</strong>!" :=
  inst _ (by decide_lit) (by decide_lit) (by decide_lit) (by decide_lit) _ (by decide_lit)
example : inlineHtml (L "x > _y **z *w* z** y_ and __\"q\"__!") =
    .ok (L "x &gt; <em>y <strong>z <em>w</em> z</strong> y</em> and <strong>\"q\"</strong>!") := by decide_lit

/-- no span at all, and the empty text -/
example : ∃ ks, tokenizeInner htmlSpanTypes [] (L "a * b_c") = .ok ks ∧ flat (renderInlines ⟨false, false⟩ ks) = L "a * b_c" :=
  inst _ (by decide_lit) (by decide_lit) (by decide_lit) (by decide_lit) _ (by decide_lit)
example : ∃ ks, tokenizeInner htmlSpanTypes [] [] = .ok ks ∧ flat (renderInlines ⟨false, false⟩ ks) = [] :=
  inst _ (by decide +kernel) (by decide +kernel) (by decide +kernel) (by decide +kernel) _ (by decide +kernel)

/-- with `html_escape_double_quotes=True` -/
example : ∃ ks, tokenizeInner htmlSpanTypes [] (L "*a \"b\"*") = .ok ks ∧
    flat (renderInlines ⟨true, false⟩ ks) = L "<em>a &quot;b&quot;</em>" := by
  obtain ⟨ks, h1, h2⟩ := emph_html_is_spec htmlSpanTypes [] (L "*a \"b\"*") (by decide_lit) (by decide_lit)
    (by decide_lit) (by decide_lit) htmlSpanTypes_inert (by decide)
  exact ⟨ks, h1, by rw [h2]; decide_lit⟩

/-! document level: by the theorem, and by evaluating the whole model (`Document` + `HtmlRenderer`) -/

example : Config.renderHtml {} 14 (L "***a** b*\n") = some (L "<p><em><strong>a</strong> b</em></p>\n") := by
  have := C06_paragraph_html_is_spec_partial {} 0 (L "***a** b*") (by decide_lit) (by decide_lit) (by decide_lit)
    (by decide_lit) (by decide_lit)
  rw [show (0 + 14 = 14) from rfl] at this
  rw [show L "***a** b*\n" = L "***a** b*" ++ ['\n'] from by decide_lit, this]
  decide_lit
example : Config.renderHtml {} 14 (L "***a** b*\n") = some (L "<p><em><strong>a</strong> b</em></p>\n") :=
  Config.renderHtml_of (by decide_lit)

/-- leading and trailing blanks of the line are stripped before the inline phase -/
example : Config.renderHtml {} 14 (L "  x *a **b** c* _d_  \n") = some (L "<p>x <em>a <strong>b</strong> c</em> <em>d</em></p>\n") := by
  have := C06_paragraph_html_is_spec_partial {} 0 (L "  x *a **b** c* _d_  ") (by decide_lit) (by decide_lit) (by decide_lit)
    (by decide_lit) (by decide_lit)
  rw [show (0 + 14 = 14) from rfl] at this
  rw [show L "  x *a **b** c* _d_  \n" = L "  x *a **b** c* _d_  " ++ ['\n'] from by decide_lit, this]
  decide_lit

/-! ### with backslash escapes

  `mistletoe.markdown` on these texts gives `<p>` + the string + `</p>`. -/

/-- the instance of `emph_html_is_spec_esc` for `htmlSpanTypes` (HtmlRenderer's span classes) and default options -/
theorem instEsc (s : Str) (hp : Spec.EmphasisEsc.plainEsc s = true) (hw : EmphRefine.stdWs s = true)
    (hnl : ('\n' ∈ s) = False) (htl : tildeOk s = true) (out : Str) (ho : specHtmlEsc s = out) :
    ∃ ks, tokenizeInner htmlSpanTypes [] s = .ok ks ∧ flat (renderInlines ⟨false, false⟩ ks) = out := by
  obtain ⟨ks, h1, h2⟩ := emph_html_is_spec_esc htmlSpanTypes [] s hp hw (by rw [hnl]; exact id) htl htmlSpanTypes_inert
    (by decide) (by decide)
  exact ⟨ks, h1, by rw [h2]; exact ho⟩

/-- example 14 (first line), 15, 436, 439 of the 0.30 test suite -/
example : ∃ ks, tokenizeInner htmlSpanTypes [] (L "\\*not emphasized*") = .ok ks ∧
    flat (renderInlines ⟨false, false⟩ ks) = L "*not emphasized*" :=
  instEsc _ (by decide_lit) (by decide_lit) (by decide_lit) (by decide_lit) _ (by decide_lit)
example : inlineHtml (L "\\*not emphasized*") = .ok (L "*not emphasized*") := by decide_lit

example : ∃ ks, tokenizeInner htmlSpanTypes [] (L "\\\\*emphasis*") = .ok ks ∧
    flat (renderInlines ⟨false, false⟩ ks) = L "\\<em>emphasis</em>" :=
  instEsc _ (by decide_lit) (by decide_lit) (by decide_lit) (by decide_lit) _ (by decide_lit)
example : inlineHtml (L "\\\\*emphasis*") = .ok (L "\\<em>emphasis</em>") := by decide_lit

example : ∃ ks, tokenizeInner htmlSpanTypes [] (L "foo *\\**") = .ok ks ∧
    flat (renderInlines ⟨false, false⟩ ks) = L "foo <em>*</em>" :=
  instEsc _ (by decide_lit) (by decide_lit) (by decide_lit) (by decide_lit) _ (by decide_lit)
example : inlineHtml (L "foo *\\**") = .ok (L "foo <em>*</em>") := by decide_lit

example : ∃ ks, tokenizeInner htmlSpanTypes [] (L "foo **\\***") = .ok ks ∧
    flat (renderInlines ⟨false, false⟩ ks) = L "foo <strong>*</strong>" :=
  instEsc _ (by decide_lit) (by decide_lit) (by decide_lit) (by decide_lit) _ (by decide_lit)
example : inlineHtml (L "foo **\\***") = .ok (L "foo <strong>*</strong>") := by decide_lit

/-- escapes inside nested emphasis, an escaped backslash, a literal backslash before a letter, an escaped `>`, a final
    backslash -/
example : ∃ ks, tokenizeInner htmlSpanTypes [] (L "_x \\_ **y \\* z** \\\\_ \\a*b\\>*\\") = .ok ks ∧
    flat (renderInlines ⟨false, false⟩ ks) = L "<em>x _ <strong>y * z</strong> \\</em> \\a<em>b&gt;</em>\\" :=
  instEsc _ (by decide_lit) (by decide_lit) (by decide_lit) (by decide_lit) _ (by decide_lit)
example : inlineHtml (L "_x \\_ **y \\* z** \\\\_ \\a*b\\>*\\") =
    .ok (L "<em>x _ <strong>y * z</strong> \\</em> \\a<em>b&gt;</em>\\") := by decide_lit

/-- on a text without backslash the two specifications give the same HTML -/
example : specHtmlEsc (L "***a** b*") = specHtml (L "***a** b*") := by decide_lit

example : Config.renderHtml {} 14 (L "**a\\*b** \\\\ *c*\n") = some (L "<p><strong>a*b</strong> \\ <em>c</em></p>\n") := by
  have := C06_paragraph_html_is_spec_esc_partial {} 0 (L "**a\\*b** \\\\ *c*") (by decide_lit) (by decide_lit)
    (by decide_lit) (by decide_lit) (by decide_lit)
  rw [show (0 + 14 = 14) from rfl] at this
  rw [show L "**a\\*b** \\\\ *c*\n" = L "**a\\*b** \\\\ *c*" ++ ['\n'] from by decide_lit, this]
  decide_lit
example : Config.renderHtml {} 14 (L "**a\\*b** \\\\ *c*\n") = some (L "<p><strong>a*b</strong> \\ <em>c</em></p>\n") :=
  Config.renderHtml_of (by decide_lit)

/-! ### why `hnl` and `htl` (`~~` and newlines are inside `plain`)

  `Strikethrough` and `LineBreak` are in the HTML renderer's token list.  On the real code:
  `mistletoe.markdown('*a* ~~b~~')` = `<p><em>a</em> <del>b</del></p>`, `mistletoe.markdown('*a ~~b* c~~')` =
  `<p>*a <del>b* c</del></p>` (the strikethrough, precedence 5, wins over the emphasis it overlaps),
  `mistletoe.markdown('*a  \nb*')` = `<p><em>a<br />\nb</em></p>`: the model agrees, the specification of section 6.2
  alone knows neither construct. -/

example : Spec.Emphasis.plain (L "*a ~~b* c~~") = true ∧ inlineHtml (L "*a ~~b* c~~") = .ok (L "*a <del>b* c</del>") ∧
    specHtml (L "*a ~~b* c~~") = L "<em>a ~~b</em> c~~" := by decide_lit
example : Spec.Emphasis.plain (L "*a  \nb*") = true ∧ inlineHtml (L "*a  \nb*") = .ok (L "<em>a<br />\nb</em>") ∧
    specHtml (L "*a  \nb*") = L "<em>a  \nb</em>" := by decide_lit

end Mistletoe.EmphHtml.Examples
