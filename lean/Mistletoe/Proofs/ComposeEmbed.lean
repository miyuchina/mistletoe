/-
  The tree with fenced code blocks and setext headings, `ComposeC.T3`, inside the tree with tables and indented code,
  `ComposeT.T4`.

  `T4` has every constructor of `T3` and the leaves besides, and the writers, the well-formedness predicates, the expected
  entries and block tokens, the gas functions, the flags and the HTML of the two trees have the same clauses on the common
  constructors.  `up : T3 → T4` is the inclusion (`ups`, `upItems` on siblings and items).  Eight groups of equations say that
  every one of those functions, after `up`, is the function of `T3` (`write_up`, `ok_up`, `entry_up`, `need_up`, `touch_up`,
  `hasSx_up`, `block_up`, `html_up`, each with its members for siblings and items).  With them every statement about `T4` in
  `Proofs/ComposeTable.lean`, taken at `up t`, is the statement about `T3`: the theorems about `T3` below are proved that
  way, each in two or three lines, and `T3` needs no induction of its own.  `Proofs/ComposeLists2.lean` does the same for the
  tree with lists, `ComposeL.T2`, inside `T3`, and starts from the `T3` forms of the reader, constructor and renderer lemmas
  (`items_claim`, `mkBlock_entry3`, `flat_sep3`, …), which stand between the equations and the statements for that purpose.  Non-vacuity examples, the comparison with kernel evaluation and the
  counterexamples are in `Proofs/ComposeCode2.lean` (fences) and `Proofs/ComposeCode3.lean` (setext headings).
-/
import Mistletoe.Proofs.ComposeTable
namespace Mistletoe.ComposeC
open Mistletoe Mistletoe.Py Mistletoe.Scan Mistletoe.Compose
open Mistletoe.Block
open Mistletoe.Props.C14 (defaultTypes numbered)
open Mistletoe.InertInline (inertClass)
open Mistletoe.ComposeL (leaderOf sepS PostOk)
open Mistletoe.Document (mkBlock mkBlocks mkItems)
open Mistletoe.Html
open Mistletoe.ComposeT (T4 write4 writes4 writeItems4 entry4 entries4 items4 need4 needs4 needItems4 touch4 touches4
  touchItems4 block4 blocks4 itemBlocks4 html4 htmlAfter4 htmlSep4 htmlItems4 htmlOf4 itemHtml4 isPara4 isList4 isCode4
  sepOk4 firstLine4 writes4_single writes4_cons2 writeItems4_single writeItems4_cons2)

mutual
def up : T3 → T4
  | .para ls => .para ls
  | .heading lv t line => .heading lv t line
  | .hr line => .hr line
  | .quote bare kids => .quote bare (ups kids)
  | .list o n mk pad loose items => .list o n mk pad loose (upItems items)
  | .fence ind d info body close => .fence ind d info body close
  | .setext lv ls ul => .setext lv ls ul
def ups : List T3 → List T4
  | [] => []
  | t :: r => up t :: ups r
def upItems : List (List T3) → List (List T4)
  | [] => []
  | it :: r => ups it :: upItems r
end

theorem ups_eq : ∀ ts, ups ts = ts.map up
  | [] => rfl
  | t :: r => by simp [ups, ups_eq r]
theorem upItems_eq : ∀ its, upItems its = its.map ups
  | [] => rfl
  | t :: r => by simp [upItems, upItems_eq r]
theorem ups_length (ts : List T3) : (ups ts).length = ts.length := by simp [ups_eq]
theorem ups_isEmpty (ts : List T3) : (ups ts).isEmpty = ts.isEmpty := by cases ts <;> rfl
theorem upItems_isEmpty (its : List (List T3)) : (upItems its).isEmpty = its.isEmpty := by cases its <;> rfl
theorem ups_ne {ts : List T3} (h : ts ≠ []) : ups ts ≠ [] := by cases ts <;> simp_all [ups]
theorem upItems_ne {its : List (List T3)} (h : its ≠ []) : upItems its ≠ [] := by cases its <;> simp_all [upItems]

mutual
theorem write_up : ∀ t, write4 (up t) = write3 t
  | .para _ | .heading .. | .hr _ | .fence .. | .setext .. => by simp [up, write4, write3]
  | .quote bare kids => by simp [up, write4, write3, writes_up kids]
  | .list o n mk pad loose items => by simp [up, write4, write3, writeItems_up o mk pad loose items n]
theorem writes_up : ∀ ts, writes4 (ups ts) = writes3 ts
  | [] => rfl
  | [t] => by rw [ups, ups, writes4_single, writes3_single, write_up t]
  | t :: t' :: r => by
    rw [ups, ups, writes4_cons2, writes3_cons2, write_up t, ← ups, writes_up (t' :: r)]
theorem writeItems_up (o : Bool) (mk : Char) (pad : Nat) (loose : Bool) : ∀ its n,
    writeItems4 o mk pad loose n (upItems its) = writeItems3 o mk pad loose n its
  | [], _ => rfl
  | [it], n => by rw [upItems, upItems, writeItems4_single, writeItems3_single, writes_up it]
  | it :: it' :: r, n => by
    rw [upItems, upItems, writeItems4_cons2, writeItems3_cons2, writes_up it, ← upItems, writeItems_up o mk pad loose (it' :: r)]
end

mutual
theorem hasSx_up : ∀ t, ComposeT.hasSx (up t) = hasSx t
  | .para _ | .heading .. | .hr _ | .fence .. | .setext .. => rfl
  | .quote _ kids => by simp [up, ComposeT.hasSx, hasSx, hasSxs_up kids]
  | .list _ _ _ _ _ items => by simp [up, ComposeT.hasSx, hasSx, hasSxItems_up items]
theorem hasSxs_up : ∀ ts, ComposeT.hasSxs (ups ts) = hasSxs ts
  | [] => rfl
  | t :: r => by simp [ups, ComposeT.hasSxs, hasSxs, hasSx_up t, hasSxs_up r]
theorem hasSxItems_up : ∀ its, ComposeT.hasSxItems (upItems its) = hasSxItems its
  | [] => rfl
  | t :: r => by simp [upItems, ComposeT.hasSxItems, hasSxItems, hasSxs_up t, hasSxItems_up r]
end

mutual
theorem need_up : ∀ t, need4 (up t) = need3 t
  | .para _ | .heading .. | .hr _ | .fence .. | .setext .. => rfl
  | .quote _ kids => by simp [up, need4, need3, needs_up kids]
  | .list _ _ _ _ _ items => by simp [up, need4, need3, needItems_up items]
theorem needs_up : ∀ ts, needs4 (ups ts) = needs3 ts
  | [] => rfl
  | t :: r => by simp [ups, needs4, needs3, need_up t, needs_up r]
theorem needItems_up : ∀ its, needItems4 (upItems its) = needItems3 its
  | [] => rfl
  | t :: r => by simp [upItems, needItems4, needItems3, needs_up t, needItems_up r]
end

mutual
theorem touch_up : ∀ t, touch4 (up t) = touch3 t
  | .para _ | .heading .. | .hr _ | .fence .. | .setext .. | .quote .. => rfl
  | .list _ _ _ _ _ items => by simp [up, touch4, touch3, touchItems_up items]
theorem touches_up : ∀ ts, touches4 (ups ts) = touches3 ts
  | [] => rfl
  | t :: r => by simp [ups, touches4, touches3, touch_up t, touches_up r]
theorem touchItems_up : ∀ its, touchItems4 (upItems its) = touchItems3 its
  | [] => rfl
  | t :: r => by simp [upItems, touchItems4, touchItems3, touches_up t, touchItems_up r]
end

mutual
theorem entry_up : ∀ t n, entry4 n (up t) = entry3 n t
  | .para _, _ | .heading .., _ | .hr _, _ | .fence .., _ | .setext .., _ => rfl
  | .quote _ kids, n => by simp [up, entry4, entry3, entries_up kids n, ups_length]
  | .list o s mk pad loose items, n => by simp [up, entry4, entry3, items_up o mk pad loose items s n]
theorem entries_up : ∀ ts n, entries4 n (ups ts) = entries3 n ts
  | [], _ => rfl
  | t :: r, n => by simp [ups, entries4, entries3, entry_up t n, write_up t, entries_up r]
theorem items_up (o : Bool) (mk : Char) (pad : Nat) (loose : Bool) : ∀ its s n,
    items4 o mk pad loose s n (upItems its) = items3 o mk pad loose s n its
  | [], _, _ => rfl
  | it :: r, s, n => by
    simp [upItems, items4, items3, entries_up it n, writes_up it, ups_length, upItems_isEmpty, items_up o mk pad loose r]
end

theorem sepOk_up (t t' : T3) : sepOk4 (up t) (up t') = sepOk3 t t' := by
  have h1 : ∀ t, isList4 (up t) = isList3 t := fun t => by cases t <;> rfl
  have h2 : ∀ t, isCode4 (up t) = false := fun t => by cases t <;> rfl
  simp [sepOk4, sepOk3, h1, h2, write_up]

mutual
theorem ok_up : ∀ t, (up t).ok = t.ok
  | .para _ | .heading .. | .hr _ | .fence .. | .setext .. => rfl
  | .quote bare kids => by simp [up, ComposeT.T4.ok, T3.ok, oks_up kids, writes_up kids, hasSxs_up kids, ups_isEmpty]
  | .list o n mk pad loose items => by
    have hl : (upItems items).length = items.length := by simp [upItems_eq]
    rw [up, ComposeT.T4.ok, T3.ok, okItems_up o mk pad items n, hl, upItems_isEmpty]
    simp [upItems_eq, ups_length, Function.comp_def]
theorem oks_up : ∀ ts, ComposeT.T4.oks (ups ts) = T3.oks ts
  | [] => rfl
  | [t] => by simp [ups, ComposeT.T4.oks, T3.oks, ok_up t]
  | t :: t' :: r => by
    have := oks_up (t' :: r)
    rw [ups] at this
    rw [ups, ups, ComposeT.T4.oks, T3.oks, ok_up t, this]
    simp only [sepOk_up]
theorem okItems_up (o : Bool) (mk : Char) (pad : Nat) : ∀ its n,
    ComposeT.T4.okItems o mk pad n (upItems its) = T3.okItems o mk pad n its
  | [], _ => rfl
  | it :: r, n => by
    simp [upItems, ComposeT.T4.okItems, T3.okItems, oks_up it, writes_up it, ups_isEmpty, okItems_up o mk pad r]
end

mutual
theorem block_up : ∀ t n, block4 n (up t) = block3 n t
  | .para _, _ | .heading .., _ | .hr _, _ | .fence .., _ | .setext .., _ => rfl
  | .quote _ kids, n => by simp [up, block4, block3, blocks_up kids n]
  | .list o s mk pad loose items, n => by simp [up, block4, block3, itemBlocks_up o mk pad loose items s n]
theorem blocks_up : ∀ ts n, blocks4 n (ups ts) = blocks3 n ts
  | [], _ => rfl
  | t :: r, n => by simp [ups, blocks4, blocks3, block_up t n, write_up t, blocks_up r]
theorem itemBlocks_up (o : Bool) (mk : Char) (pad : Nat) (loose : Bool) : ∀ its s n,
    itemBlocks4 o mk pad loose s n (upItems its) = itemBlocks3 o mk pad loose s n its
  | [], _, _ => rfl
  | it :: r, s, n => by
    simp [upItems, itemBlocks4, itemBlocks3, blocks_up it n, writes_up it, ups_length, upItems_isEmpty,
      itemBlocks_up o mk pad loose r]
end

theorem itemHtml_up (s : Bool) (it : List T3) (inner : Str) : itemHtml4 s (ups it) inner = itemHtml3 s it inner := by
  have hp : ∀ t, isPara4 (up t) = isPara3 t := fun t => by cases t <;> rfl
  have hl : (ups it).getLast?.map isPara4 = it.getLast?.map isPara3 := by
    rw [ups_eq, List.getLast?_map, Option.map_map]
    exact congrArg (Option.map · _) (funext hp)
  cases it with
  | nil => rw [ups, ComposeT.itemHtml4_nil, itemHtml3_nil]
  | cons t r =>
    rw [ups] at hl ⊢
    -- through the two equations: unfolding the definitions would evaluate the string literals
    rw [ComposeT.itemHtml4_cons, itemHtml3_cons, hp, hl]

mutual
theorem html_up (q : Quotes) : ∀ t s, html4 q s (up t) = html3 q s t
  | .para _, _ | .heading .., _ | .hr _, _ | .fence .., _ | .setext .., _ => rfl
  | .quote _ kids, _ => by simp [up, html4, html3, htmlAfter_up q kids]
  | .list o st _ _ loose items, _ => by simp [up, html4, html3, htmlItems_up q items]
theorem htmlAfter_up (q : Quotes) : ∀ ts, htmlAfter4 q (ups ts) = htmlAfter3 q ts
  | [] => rfl
  | t :: r => by simp [ups, htmlAfter4, htmlAfter3, html_up q t, htmlAfter_up q r]
theorem htmlSep_up (q : Quotes) : ∀ ts s, htmlSep4 q s (ups ts) = htmlSep3 q s ts
  | [], _ => rfl
  | [t], s => by simp [ups, htmlSep4, htmlSep3, html_up q t]
  | t :: t' :: r, s => by
    have := htmlSep_up q (t' :: r) s
    rw [ups] at this
    simp only [ups, htmlSep4, htmlSep3, html_up q t] at this ⊢
    rw [this]
theorem htmlItems_up (q : Quotes) : ∀ its s, htmlItems4 q s (upItems its) = htmlItems3 q s its
  | [], _ => rfl
  | [it], s => by simp [upItems, htmlItems4, htmlItems3, htmlSep_up q it, itemHtml_up]
  | it :: it' :: r, s => by
    rw [upItems, upItems, ComposeT.htmlItems4_cons2, htmlItems3_cons2, htmlSep_up q it, itemHtml_up, ← upItems,
      htmlItems_up q (it' :: r)]
end

theorem writeItems3_lineOk (o : Bool) (mk : Char) (pad : Nat) (loose : Bool) : ∀ (n : Nat) (items : List (List T3)),
    T3.okItems o mk pad n items = true → ∀ s ∈ writeItems3 o mk pad loose n items, LineOk s := by
  intro n items h s hs
  rw [← writeItems_up] at hs
  exact ComposeT.writeItems4_lineOk o mk pad loose n (upItems items) (by rw [okItems_up, h]) s hs

theorem entry3_shift (j : Nat) : ∀ (n : Nat) (t : T3), shiftEntry j (entry3 n t) = entry3 (n + j) t := by
  intro n t
  have := ComposeT.entry4_shift j n (up t)
  rwa [entry_up, entry_up] at this

theorem items3_shift (j : Nat) (o : Bool) (mk : Char) (pad : Nat) (loose : Bool) : ∀ (s n : Nat) (items : List (List T3)),
    shiftItems j (items3 o mk pad loose s n items) = items3 o mk pad loose s (n + j) items := by
  intro s n items
  have := ComposeT.items4_shift j o mk pad loose s n (upItems items)
  rwa [items_up, items_up] at this

def firstLine3 (items : List (List T3)) : Str :=
  match items with
  | it :: _ => (writes3 it).headD []
  | [] => []

/-- `ComposeG.LdNm` at `firstLine3 items` -/
def LdNm (o : Bool) (mk : Char) (pad n : Nat) (items : List (List T3)) (ld : Option Str) (nm : Option (Nat × Nat × Str × Str)) : Prop :=
  (ld = none ∧ nm = none) ∨
  (∃ n0, ld = some (leaderOf o n0 mk) ∧ leaderOk o (leaderOf o n0 mk) = true ∧
    nm = some (0, (leaderOf o n mk).length + pad, leaderOf o n mk, firstLine3 items))

def ItemsClaim (ti : Bool) (o : Bool) (mk : Char) (pad : Nat) (loose : Bool) (n : Nat) (items : List (List T3)) : Prop :=
  ∀ (pre post : List Line) (start k : Nat) (st : St) (gas : Nat) (acc : List Item) ld nm,
    start + pre.length = k + 1 → needItems3 items ≤ gas → PostOk post → LdNm o mk pad n items ld nm →
    SxOk (hasSxItems items) st →
    readList (dcfg ti) gas ⟨pre ++ numbered k (writeItems3 o mk pad loose n items) ++ post, pre.length, start⟩ st ld nm acc =
      .ok (acc.reverse ++ items3 o mk pad loose n (k + 1) items,
           ⟨pre ++ numbered k (writeItems3 o mk pad loose n items) ++ post,
            pre.length + (writeItems3 o mk pad loose n items).length, start⟩,
           after st (touchItems3 items))

theorem firstLine_up (items : List (List T3)) : firstLine4 (upItems items) = firstLine3 items := by
  cases items with
  | nil => rfl
  | cons it r => simp [upItems, firstLine4, firstLine3, writes_up]

theorem items_claim (ti : Bool) (o : Bool) (mk : Char) (pad : Nat) (loose : Bool) (h1 : 1 ≤ pad) (h4 : pad ≤ 4) :
    ∀ (n : Nat) (items : List (List T3)), T3.okItems o mk pad n items = true → items ≠ [] → ItemsClaim ti o mk pad loose n items := by
  intro n items h hne pre post start k st gas acc ld nm hk hg hpost hln hsx
  have := ComposeT.items_claim ti o mk pad loose h1 h4 n (upItems items) (by rw [okItems_up, h]) (upItems_ne hne)
    pre post start k st gas acc ld nm hk (by rwa [needItems_up]) hpost (by unfold ComposeT.LdNm; rw [firstLine_up]; exact hln)
    (by rwa [hasSxItems_up])
  rwa [writeItems_up, items_up, touchItems_up] at this

theorem mkBlock_entry3 (cfg : Document.Cfg) (fn : Footnotes.Table) (ht : ∀ t ∈ cfg.span, inertClass t = true)
    (hc : cfg.span.count .lineBreak = 1) : ∀ (t : T3), t.ok = true → ∀ (n : Nat),
    mkBlock cfg fn (entry3 n t) = .ok (some (block3 n t)) := by
  intro t h n
  have := ComposeT.mkBlock_entry4 cfg fn ht hc (up t) (by rw [ok_up, h]) n
  rwa [entry_up, block_up] at this

theorem mkItems_items3 (cfg : Document.Cfg) (fn : Footnotes.Table) (ht : ∀ t ∈ cfg.span, inertClass t = true)
    (hc : cfg.span.count .lineBreak = 1) (o : Bool) (mk : Char) (pad : Nat) (loose : Bool) : ∀ (s n : Nat) (items : List (List T3)),
    T3.okItems o mk pad s items = true →
    mkItems cfg fn (items3 o mk pad loose s n items) = .ok (itemBlocks3 o mk pad loose s n items) := by
  intro s n items h
  have := ComposeT.mkItems_items4 cfg fn ht hc o mk pad loose s n (upItems items) (by rw [okItems_up, h])
  rwa [items_up, itemBlocks_up] at this

theorem flat_sep3 (q : Quotes) (s : Bool) : ∀ (ts : List T3) (n : Nat),
    flat (renderSep q s (blocks3 n ts)) = htmlSep3 q s ts := by
  intro ts n
  have := ComposeT.flat_sep4 q s (ups ts) n
  rwa [blocks_up, htmlSep_up] at this

theorem flat_items3 (q : Quotes) (o : Bool) (mk : Char) (pad : Nat) (loose : Bool) (s : Bool) : ∀ (items : List (List T3)) (st n : Nat),
    flat (renderSep q s (itemBlocks3 o mk pad loose st n items)) = htmlItems3 q s items := by
  intro items st n
  have := ComposeT.flat_items4 q o mk pad loose s (upItems items) st n
  rwa [itemBlocks_up, htmlItems_up] at this

/-! ### C03 with lists, fenced code blocks and setext headings: the statements

  INSIDE the fragment (tree type `T3`, well-formedness `T3.oks`, decidable): everything `Props/C03_Lists.lean` covers
  (paragraphs of inert lines, ATX headings and thematic breaks in any spelling, block quotes with "> " or ">", bullet and
  ordered lists, tight or loose, nested to any depth, lists inside quotes, quotes inside lists) and FENCED CODE BLOCKS at
  top level, inside quotes and inside list items (as the first or a later block of an item), to any depth:
  * fence of three or more backticks or three or more tildes, at indentation 0 … 3;
  * any info string (no line boundary, no tab; no backtick behind a backtick fence; not beginning with the fence
    character), written as it stands - leading and trailing spaces included;
  * any content lines (complete lines, no tab) that do not close the fence - blank lines, lines that look like other blocks
    (`# x`, `- x`, `> x`, `***`), shorter fences, fences of the other character; a content line loses up to as many
    leading spaces as the opening fence is indented (`dedent`);
  * closing line: up to three spaces, the fence character at least as often as in the opening fence, spaces, "\n".
  The block is followed by a "\n" line and the next sibling, whatever that is, or by the end of its container.
  And SETEXT HEADINGS at top level and inside list items (as the first or a later block of an item, at any depth of list
  nesting), but not inside quotes: one or more text lines as for a paragraph, directly followed by the underline - up to
  three spaces, a run of `=` (level 1) or `-` (level 2) of any length ≥ 1, spaces.  `---` (or `-`, or `- `) directly under
  text IS the underline of a level-2 heading, not a thematic break and not a list item.

  OUTSIDE (in addition to what `Props/C03_Lists.lean` lists): tabs; an unclosed fence (it runs to the end of its
  container; inside a list item or a quote the container's own rules then decide where that is); a fence directly
  behind a paragraph or directly followed by a block, without a blank line; inside a list item: a fence at indentation
  1 … 3 as the FIRST block of the item (`itemDocOk`), content lines that consist of spaces only, content lines indented
  less than the item; setext headings inside block quotes (`Quote.read` switches `Paragraph.parse_setext` off for the
  quote's content: recorded finding, the text lines and the underline come out as one paragraph; see the example in
  `Proofs/ComposeCode3.lean`). -/

/-- **The block phase parses a written tree back (lists and fenced code blocks included).**  For every well-formed forest
    `ts`, either `tableInterrupt`, every gas ≥ `needs3 ts`: one entry per top-level node - for a fenced block a `CodeFence`
    entry with the dedented content lines, the indentation, the fence, the info string and its first word, for the other
    nodes as in `Props/C03_Lists.lean`, for a setext heading a `SetextHeading` entry with the text lines and the underline -
    every entry reporting the line the writer put it on; no link definition is found. -/
theorem C03_code_block_phase_partial (ti : Bool) (ts : List T3) (h : T3.oks ts = true) (hne : ts ≠ []) (gas : Nat)
    (hg : needs3 ts ≤ gas) :
    blockPhase { types := Props.C14.defaultTypes, tableInterrupt := ti } gas (writes3 ts) =
      .ok ({ entries := entries3 1 ts, loose := decide (1 < ts.length) }, {}) := by
  have := ComposeT.C03_table_block_phase_partial ti (ups ts) (by rw [oks_up, h]) (ups_ne hne) gas (by rwa [needs_up])
  rwa [writes_up, entries_up, ups_length] at this

/-- the same at an arbitrary place: lines numbered from `k + 1`, with or without a final "\n" line, in any state in which
    `Paragraph.parse_setext` is on if the forest has a setext heading -/
theorem C03_code_tokenize_partial (ti : Bool) (ts : List T3) (h : T3.oks ts = true) (hne : ts ≠ []) (tail : Bool) (k : Nat) (st : St)
    (gas : Nat) (hg : needs3 ts ≤ gas) (hs : hasSxs ts = true → st.setext = true) :
    tokenizeBlock { types := Props.C14.defaultTypes, tableInterrupt := ti } gas (numbered k (writes3 ts ++ sepS tail)) (k + 1) st =
      .ok ({ entries := entries3 (k + 1) ts, loose := decide (1 < ts.length) || tail },
           { setext := st.setext || touches3 ts, defs := st.defs }) := by
  have := ComposeT.C03_table_tokenize_partial ti (ups ts) (by rw [oks_up, h]) (ups_ne hne) tail k st gas (by rwa [needs_up])
    (by rwa [hasSxs_up])
  rwa [writes_up, entries_up, touches_up, ups_length] at this

/-- **`Document(lines)` is the tree.**  The document's children are the expected block tokens (`blocks3`): as in
    `Props/C03_Lists.lean`, and a `CodeFence` token per fenced block with `language` = the first word of the info string
    (escapes and character references resolved), the indentation, the fence, the info string, `content` = the dedented
    content lines joined; a `SetextHeading` token per setext heading with its level, the underline without its trailing
    whitespace, and the text lines as inline content - each with the line number the writer put it on; no footnotes. -/
theorem C03_code_document_partial (cfg : Document.Cfg) (ti : Bool)
    (hb : cfg.block = { types := Props.C14.defaultTypes, tableInterrupt := ti })
    (ht : ∀ t ∈ cfg.span, inertClass t = true) (hc : cfg.span.count .lineBreak = 1)
    (ts : List T3) (h : T3.oks ts = true) (hne : ts ≠ []) (gas : Nat) (hg : needs3 ts ≤ gas) :
    Document.parseLines cfg gas (writes3 ts) = .ok { kids := blocks3 1 ts, footnotes := [] } ∧
    Document.parse cfg gas (writes3 ts).flatten = .ok { kids := blocks3 1 ts, footnotes := [] } := by
  have := ComposeT.C03_table_document_partial cfg ti hb ht hc (ups ts) (by rw [oks_up, h]) (ups_ne hne) gas (by rwa [needs_up])
  rwa [writes_up, blocks_up] at this

/-- **The HTML of the expected document is the HTML written directly from the tree**, for every quote option. -/
theorem C03_code_render_partial (o : Opts) (ts : List T3) (hne : ts ≠ []) (fn : List (Str × Str × Str)) :
    render o { kids := blocks3 1 ts, footnotes := fn } = htmlOf3 o ts := by
  have := ComposeT.C03_table_render_partial o (ups ts) (ups_ne hne) fn
  rwa [blocks_up, htmlOf4, htmlAfter_up] at this

/-- **End to end.**  `HtmlRenderer(**opts).render(Document(text))`, with the token lists the HTML renderer installs in the
    working tree, on the text written out from a well-formed forest, returns the HTML written directly from the forest
    (`htmlOf3`): a fenced block is `<pre><code class="language-…">` (no `class` without a language), the escaped content,
    `</code></pre>`; a setext heading is `<h1>` / `<h2>`, the escaped text lines joined by newlines, `</h1>` / `</h2>`;
    everything else as in `Props/C03_Lists.lean`. -/
theorem C03_code_html_partial (o : Opts) (ts : List T3) (h : T3.oks ts = true) (hne : ts ≠ []) (gas : Nat) (hg : needs3 ts ≤ gas) :
    Config.renderHtml o gas (writes3 ts).flatten = some (htmlOf3 o ts) := by
  have := ComposeT.C03_table_html_partial o (ups ts) (by rw [oks_up, h]) (ups_ne hne) gas (by rwa [needs_up])
  rwa [writes_up, htmlOf4, htmlAfter_up] at this

end Mistletoe.ComposeC
