/-
  C01 for the two contrib renderers: `JiraRenderer` (Model/Jira.lean) and `XWiki20Renderer`
  (Model/XWiki.lean) return a string on every document the parser produces under their own token
  lists.

  The well-formedness predicate `blockOk xw` / `docOk xw` on the AST (`xw = true`: the two XWiki macro span tokens
  are allowed) is exact: a renderer model returns `.ok` EXACTLY on the trees that satisfy it (`jira_render_isOk`,
  `xwiki_render_isOk`).  A tree in the parser's range (`Range.BlocksIn`, Proofs/Range.lean) without BlankLine /
  LinkReferenceDefinitionBlock and with span classes of `clsOk xw` only (no Math, no GithubWiki) satisfies it
  (`blocksOk_of_in`).  `EntryClean` also describes the buffers of Proofs/HtmlFamilyTotal.lean.
-/
import Mistletoe.Props.C01
import Mistletoe.Model.Jira
import Mistletoe.Model.XWiki
import Mistletoe.Proofs.Lit
import Mistletoe.Proofs.Range
import Mistletoe.Proofs.ConfigValues
namespace Mistletoe.Contrib
open Mistletoe Mistletoe.Block Mistletoe.Inline Mistletoe.Range

mutual
/-- no span token without a `render_map` entry: Math, GithubWiki, LinkReferenceDefinition never;
    the XWiki macro tokens only when `xw` (the XWiki renderer registers them) -/
def inlineOk (xw : Bool) : Inline → Bool
  | .rawText _ => true
  | .strong _ k => inlinesOk xw k
  | .emphasis _ k => inlinesOk xw k
  | .inlineCode .. => true
  | .strikethrough k => inlinesOk xw k
  | .image _ _ _ _ _ k => inlinesOk xw k
  | .link _ _ _ _ _ k => inlinesOk xw k
  | .autoLink .. => true
  | .escapeSequence _ => true
  | .lineBreak .. => true
  | .htmlSpan _ => true
  | .math _ => false
  | .githubWiki .. => false
  | .xwikiMacroStart _ => xw
  | .xwikiMacroEnd _ => xw
  | .linkRefDef .. => false
def inlinesOk (xw : Bool) : List Inline → Bool
  | [] => true
  | i :: is => inlineOk xw i && inlinesOk xw is
end

mutual
/-- no BlankLine / LinkReferenceDefinitionBlock (no `render_map` entry); a table's `header` is absent
    or one TableRow; the children of a TableRow are TableCells.  NOTHING is required of the number of
    children of a quote, a list or a list item (they may be empty), nor of the table having a header. -/
def blockOk (xw : Bool) : Block → Bool
  | .paragraph k _ => inlinesOk xw k
  | .heading _ _ k _ => inlinesOk xw k
  | .setextHeading _ _ k _ => inlinesOk xw k
  | .quote kids _ => blocksOk xw kids
  | .blockCode .. => true
  | .codeFence .. => true
  | .list _ _ items _ => blocksOk xw items
  | .listItem _ _ _ _ kids _ => blocksOk xw kids
  | .table _ header rows _ =>
    (match header with
     | [] => true
     | [h] => rowOk xw h
     | _ :: _ :: _ => false) && blocksOk xw rows
  | .tableRow _ cells _ => cellsOk xw cells
  | .tableCell _ k _ => inlinesOk xw k
  | .thematicBreak .. => true
  | .htmlBlock .. => true
  | .blankLine _ => false
  | .linkRefDefBlock .. => false
def rowOk (xw : Bool) : Block → Bool
  | .tableRow _ cells _ => cellsOk xw cells
  | _ => false
def cellsOk (xw : Bool) : List Block → Bool
  | [] => true
  | .tableCell _ k _ :: cs => inlinesOk xw k && cellsOk xw cs
  | _ :: _ => false
def blocksOk (xw : Bool) : List Block → Bool
  | [] => true
  | b :: bs => blockOk xw b && blocksOk xw bs
end

def docOk (xw : Bool) (d : Doc) : Bool := blocksOk xw d.kids

mutual
theorem jira_inline : ∀ (i : Inline), (Jira.renderInline i).isOk = inlineOk false i
  | .rawText _ => rfl
  | .strong _ k => by
    simp only [Jira.renderInline, inlineOk, ← jira_inlines k]
    cases Jira.renderInlines k <;> rfl
  | .emphasis _ k => by
    simp only [Jira.renderInline, inlineOk, ← jira_inlines k]
    cases Jira.renderInlines k <;> rfl
  | .inlineCode .. => rfl
  | .strikethrough k => by
    simp only [Jira.renderInline, inlineOk, ← jira_inlines k]
    cases Jira.renderInlines k <;> rfl
  | .image _ _ _ _ _ k => by
    simp only [Jira.renderInline, inlineOk, ← jira_inlines k]
    cases Jira.renderInlines k <;> rfl
  | .link _ _ _ _ _ k => by
    simp only [Jira.renderInline, inlineOk, ← jira_inlines k]
    cases Jira.renderInlines k <;> rfl
  | .autoLink .. => rfl
  | .escapeSequence _ => rfl
  | .lineBreak .. => rfl
  | .htmlSpan _ => rfl
  | .math _ => rfl
  | .githubWiki .. => rfl
  | .xwikiMacroStart _ => rfl
  | .xwikiMacroEnd _ => rfl
  | .linkRefDef .. => rfl
theorem jira_inlines : ∀ (k : List Inline), (Jira.renderInlines k).isOk = inlinesOk false k
  | [] => rfl
  | i :: is => by
    simp only [Jira.renderInlines, inlinesOk, ← jira_inline i, ← jira_inlines is]
    cases Jira.renderInline i <;> cases Jira.renderInlines is <;> rfl
end

/-- `render_table_row` / `render_table_cell` called directly recurse through span tokens only: no part of the mutual
    recursion of `render` on block tokens -/
theorem jira_cells : ∀ (cs : List Mistletoe.Block) (lt : Str) (hdr : Bool), (Jira.renderCells lt hdr cs).isOk = cellsOk false cs
  | [], _, _ => rfl
  | c :: cs, lt, hdr => by
    have ih := jira_cells cs lt hdr
    cases c with
    | tableCell _ k _ =>
      simp only [Jira.renderCells, cellsOk, ← jira_inlines k, ← ih]
      cases Jira.renderInlines k <;> cases Jira.renderCells lt hdr cs <;> rfl
    | _ => rfl

theorem jira_row (b : Mistletoe.Block) (lt : Str) (hdr : Bool) : (Jira.renderRow lt hdr b).isOk = rowOk false b := by
  cases b with
  | tableRow _ cells _ =>
    simp only [Jira.renderRow, rowOk, ← jira_cells cells lt hdr]
    cases Jira.renderCells lt hdr cells <;> rfl
  | _ => rfl

mutual
theorem jira_block : ∀ (b : Mistletoe.Block) (lt : Str) (isLast : Bool), (Jira.renderBlock lt isLast b).isOk = blockOk false b
  | .paragraph k _, lt, isLast => by
    simp only [Jira.renderBlock, blockOk, ← jira_inlines k]
    cases Jira.renderInlines k <;> rfl
  | .heading _ _ k _, lt, isLast => by
    simp only [Jira.renderBlock, blockOk, ← jira_inlines k]
    cases Jira.renderInlines k <;> rfl
  | .setextHeading _ _ k _, lt, isLast => by
    simp only [Jira.renderBlock, blockOk, ← jira_inlines k]
    cases Jira.renderInlines k <;> rfl
  | .quote kids _, lt, isLast => by
    simp only [Jira.renderBlock, blockOk, ← jira_quoteKids kids lt]
    cases Jira.renderQuoteKids lt kids with
    | err e => rfl
    | ok inner => simp only; split <;> rfl
  | .blockCode .., _, _ => rfl
  | .codeFence .., _, _ => rfl
  | .list _ start items _, lt, isLast => by
    simp only [Jira.renderBlock, blockOk, ← jira_blocks items (lt ++ [match start with | some n => if n = 0 then '*' else '#' | none => '*'])]
    cases Jira.renderBlocks (lt ++ [match start with | some n => if n = 0 then '*' else '#' | none => '*']) items <;> rfl
  | .listItem _ _ _ _ kids _, lt, isLast => by
    simp only [Jira.renderBlock, blockOk, ← jira_blocks kids lt]
    cases Jira.renderBlocks lt kids <;> rfl
  | .table _ header rows _, lt, isLast => by
    simp only [Jira.renderBlock, blockOk, ← jira_blocks rows lt]
    match header with
    | [] => cases Jira.renderBlocks lt rows <;> rfl
    | [hd] =>
      simp only [← jira_row hd lt true]
      cases Jira.renderRow lt true hd <;> cases Jira.renderBlocks lt rows <;> rfl
    | _ :: _ :: _ => rfl
  | .tableRow _ cells _, lt, isLast => by
    simp only [Jira.renderBlock, blockOk, ← jira_cells cells lt false]
    cases Jira.renderCells lt false cells <;> rfl
  | .tableCell _ k _, lt, isLast => by
    simp only [Jira.renderBlock, blockOk, ← jira_inlines k]
    cases Jira.renderInlines k <;> rfl
  | .thematicBreak .., _, _ => rfl
  | .htmlBlock .., _, _ => rfl
  | .blankLine _, _, _ => rfl
  | .linkRefDefBlock .., _, _ => rfl
theorem jira_blocks : ∀ (bs : List Mistletoe.Block) (lt : Str), (Jira.renderBlocks lt bs).isOk = blocksOk false bs
  | [], _ => rfl
  | b :: bs, lt => by
    simp only [Jira.renderBlocks, blocksOk, ← jira_block b lt false, ← jira_blocks bs lt]
    cases Jira.renderBlock lt false b <;> cases Jira.renderBlocks lt bs <;> rfl
theorem jira_quoteKids : ∀ (bs : List Mistletoe.Block) (lt : Str), (Jira.renderQuoteKids lt bs).isOk = blocksOk false bs
  | [], _ => rfl
  | [b], lt => by
    have h1 := jira_block b lt true
    simp only [Jira.renderQuoteKids, blocksOk, Bool.and_true]; exact h1
  | b :: c :: bs, lt => by
    rw [Jira.renderQuoteKids, blocksOk, ← jira_block b lt false, ← jira_quoteKids (c :: bs) lt]
    cases Jira.renderBlock lt false b <;> cases Jira.renderQuoteKids lt (c :: bs) <;> rfl
end

/-- **`JiraRenderer().render(doc)` returns a string exactly on the trees satisfying `docOk false`** -/
theorem jira_render_isOk (d : Doc) : (Jira.render d).isOk = docOk false d := jira_blocks d.kids []

theorem jira_render_ok (d : Doc) (h : docOk false d = true) : ∃ out, Jira.render d = .ok out :=
  Res.exists_of_isOk ((jira_render_isOk d).trans h)

mutual
theorem xwiki_inline : ∀ (i : Inline), (XWiki.renderInline i).isOk = inlineOk true i
  | .rawText _ => rfl
  | .strong _ k => by
    simp only [XWiki.renderInline, inlineOk, ← xwiki_inlines k]
    cases XWiki.renderInlines k <;> rfl
  | .emphasis _ k => by
    simp only [XWiki.renderInline, inlineOk, ← xwiki_inlines k]
    cases XWiki.renderInlines k <;> rfl
  | .inlineCode .. => rfl
  | .strikethrough k => by
    simp only [XWiki.renderInline, inlineOk, ← xwiki_inlines k]
    cases XWiki.renderInlines k <;> rfl
  | .image _ _ _ _ _ k => by
    simp only [XWiki.renderInline, inlineOk, ← xwiki_inlines k]
    cases XWiki.renderInlines k <;> rfl
  | .link _ _ _ _ _ k => by
    simp only [XWiki.renderInline, inlineOk, ← xwiki_inlines k]
    cases XWiki.renderInlines k <;> rfl
  | .autoLink .. => rfl
  | .escapeSequence _ => rfl
  | .lineBreak .. => rfl
  | .htmlSpan _ => rfl
  | .math _ => rfl
  | .githubWiki .. => rfl
  | .xwikiMacroStart _ => rfl
  | .xwikiMacroEnd _ => rfl
  | .linkRefDef .. => rfl
theorem xwiki_inlines : ∀ (k : List Inline), (XWiki.renderInlines k).isOk = inlinesOk true k
  | [] => rfl
  | i :: is => by
    simp only [XWiki.renderInlines, inlinesOk, ← xwiki_inline i, ← xwiki_inlines is]
    cases XWiki.renderInline i <;> cases XWiki.renderInlines is <;> rfl
end

theorem xwiki_cells : ∀ (cs : List Mistletoe.Block) (hdr : Bool), (XWiki.renderCells hdr cs).isOk = cellsOk true cs
  | [], _ => rfl
  | c :: cs, hdr => by
    have ih := xwiki_cells cs hdr
    cases c with
    | tableCell _ k _ =>
      simp only [XWiki.renderCells, cellsOk, ← xwiki_inlines k, ← ih]
      cases XWiki.renderInlines k <;> cases XWiki.renderCells hdr cs <;> rfl
    | _ => rfl

theorem xwiki_row (b : Mistletoe.Block) (hdr : Bool) : (XWiki.renderRow hdr b).isOk = rowOk true b := by
  cases b with
  | tableRow _ cells _ =>
    simp only [XWiki.renderRow, rowOk, ← xwiki_cells cells hdr]
    cases XWiki.renderCells hdr cells <;> rfl
  | _ => rfl

mutual
theorem xwiki_block : ∀ (b : Mistletoe.Block) (lt : Str) (one : Bool), (XWiki.renderBlock lt one b).isOk = blockOk true b
  | .paragraph k _, lt, one => by
    simp only [XWiki.renderBlock, blockOk, ← xwiki_inlines k]
    cases XWiki.renderInlines k <;> rfl
  | .heading _ _ k _, lt, one => by
    simp only [XWiki.renderBlock, blockOk, ← xwiki_inlines k]
    cases XWiki.renderInlines k <;> rfl
  | .setextHeading _ _ k _, lt, one => by
    simp only [XWiki.renderBlock, blockOk, ← xwiki_inlines k]
    cases XWiki.renderInlines k <;> rfl
  | .quote kids _, lt, one => by
    simp only [XWiki.renderBlock, blockOk, ← xwiki_quoteKids kids lt]
    cases XWiki.renderQuoteKids lt kids <;> rfl
  | .blockCode .., _, _ => rfl
  | .codeFence .., _, _ => rfl
  | .list _ start items _, lt, one => by
    simp only [XWiki.renderBlock, blockOk, ← xwiki_blocks items (lt ++ [match start with | some n => if n = 0 then '*' else '1' | none => '*'])]
    cases XWiki.renderBlocks (lt ++ [match start with | some n => if n = 0 then '*' else '1' | none => '*']) items <;> rfl
  | .listItem _ _ _ _ kids _, lt, one => by
    simp only [XWiki.renderBlock, blockOk, ← xwiki_itemKids kids lt]
    cases XWiki.renderItemKids lt kids <;> rfl
  | .table _ header rows _, lt, one => by
    simp only [XWiki.renderBlock, blockOk, ← xwiki_blocks rows lt]
    match header with
    | [] => cases XWiki.renderBlocks lt rows <;> rfl
    | [hd] =>
      simp only [← xwiki_row hd true]
      cases XWiki.renderRow true hd <;> cases XWiki.renderBlocks lt rows <;> rfl
    | _ :: _ :: _ => rfl
  | .tableRow _ cells _, lt, one => by
    simp only [XWiki.renderBlock, blockOk, ← xwiki_cells cells false]
    cases XWiki.renderCells false cells <;> rfl
  | .tableCell _ k _, lt, one => by
    simp only [XWiki.renderBlock, blockOk, ← xwiki_inlines k]
    cases XWiki.renderInlines k <;> rfl
  | .thematicBreak .., _, _ => rfl
  | .htmlBlock .., _, _ => rfl
  | .blankLine _, _, _ => rfl
  | .linkRefDefBlock .., _, _ => rfl
theorem xwiki_blocks : ∀ (bs : List Mistletoe.Block) (lt : Str), (XWiki.renderBlocks lt bs).isOk = blocksOk true bs
  | [], _ => rfl
  | b :: bs, lt => by
    simp only [XWiki.renderBlocks, blocksOk, ← xwiki_block b lt false, ← xwiki_blocks bs lt]
    cases XWiki.renderBlock lt false b <;> cases XWiki.renderBlocks lt bs <;> rfl
theorem xwiki_quoteKids : ∀ (bs : List Mistletoe.Block) (lt : Str), (XWiki.renderQuoteKids lt bs).isOk = blocksOk true bs
  | [], _ => rfl
  | [b], lt => by
    have h1 := xwiki_block b lt true
    simp only [XWiki.renderQuoteKids, blocksOk, Bool.and_true]; exact h1
  | b :: c :: bs, lt => by
    rw [XWiki.renderQuoteKids, blocksOk, ← xwiki_block b lt false, ← xwiki_quoteKids (c :: bs) lt]
    cases XWiki.renderBlock lt false b <;> cases XWiki.renderQuoteKids lt (c :: bs) <;> rfl
theorem xwiki_itemKids : ∀ (bs : List Mistletoe.Block) (lt : Str), (XWiki.renderItemKids lt bs).isOk = blocksOk true bs
  | [], _ => rfl
  | b :: bs, lt => by
    simp only [XWiki.renderItemKids, blocksOk, ← xwiki_block b lt true, ← xwiki_blocks bs lt]
    cases XWiki.renderBlock lt true b <;> cases XWiki.renderBlocks lt bs <;> rfl
end

/-- **`XWiki20Renderer().render(doc)` returns a string exactly on the trees satisfying `docOk true`** -/
theorem xwiki_render_isOk (d : Doc) : (XWiki.render d).isOk = docOk true d := xwiki_blocks d.kids []

theorem xwiki_render_ok (d : Doc) (h : docOk true d = true) : ∃ out, XWiki.render d = .ok out :=
  Res.exists_of_isOk ((xwiki_render_isOk d).trans h)

/-! ### A tree in the parser's range, under token lists of renderable classes, satisfies the predicate -/

/-- the span-token classes whose tokens the renderer can render -/
def clsOk (xw : Bool) : STok → Bool
  | .math => false
  | .githubWiki => false
  | .xwikiMacroStart => xw
  | .xwikiMacroEnd => xw
  | _ => true

section
variable {xw : Bool} {C : STok → Prop}

mutual
theorem inlineOk_of_in (hC : ∀ t, C t → clsOk xw t = true) : ∀ (i : Inline), InlineIn C i → inlineOk xw i = true
  | .rawText _, _ => rfl
  | .strong _ k, h => inlinesOk_of_in hC k h.2
  | .emphasis _ k, h => inlinesOk_of_in hC k h.2
  | .inlineCode .., _ => rfl
  | .strikethrough k, h => inlinesOk_of_in hC k h.2
  | .image _ _ _ _ _ k, h => inlinesOk_of_in hC k h.2
  | .link _ _ _ _ _ k, h => inlinesOk_of_in hC k h.2
  | .autoLink .., _ => rfl
  | .escapeSequence _, _ => rfl
  | .lineBreak .., _ => rfl
  | .htmlSpan _, _ => rfl
  | .math _, h => hC _ h
  | .githubWiki .., h => hC _ h.1
  | .xwikiMacroStart _, h => hC _ h
  | .xwikiMacroEnd _, h => hC _ h
  | .linkRefDef .., h => h.elim
theorem inlinesOk_of_in (hC : ∀ t, C t → clsOk xw t = true) : ∀ (k : List Inline), InlinesIn C k → inlinesOk xw k = true
  | [], _ => rfl
  | i :: is, h => by
    simp only [inlinesOk, Bool.and_eq_true]
    exact ⟨inlineOk_of_in hC i h.1, inlinesOk_of_in hC is h.2⟩
end
end

section
variable {xw : Bool} {I : List Inline → Prop} (hI : ∀ k, I k → inlinesOk xw k = true)
include hI

theorem cellsOk_of_in : ∀ (cs : List Mistletoe.Block), CellsIn I cs → cellsOk xw cs = true
  | [], _ => rfl
  | c :: cs, h => by
    obtain ⟨⟨_, k, _, rfl, _, hk⟩, hcs⟩ := cellsIn_cons h
    simp only [cellsOk, Bool.and_eq_true]
    exact ⟨hI k hk, cellsOk_of_in cs hcs⟩

theorem rowsOk_of_in : ∀ (rs : List Mistletoe.Block), RowsIn I rs → blocksOk xw rs = true
  | [], _ => rfl
  | r :: rs, h => by
    obtain ⟨⟨_, cs, _, rfl, hc⟩, hrs⟩ := rowsIn_cons h
    simp only [blocksOk, blockOk, Bool.and_eq_true]
    exact ⟨cellsOk_of_in hI cs hc, rowsOk_of_in rs hrs⟩

end

section
variable {xw : Bool} {K : BTok → Prop} {I : List Inline → Prop}

mutual
theorem blockOk_of_in (hbl : ¬ K .blankLine) (hlr : ¬ K .linkRefDefBlock) (hI : ∀ k, I k → inlinesOk xw k = true) :
    ∀ (b : Mistletoe.Block), BlockIn K I b → blockOk xw b = true
  | .paragraph k _, h => hI k h
  | .heading _ _ k _, h => hI k h
  | .setextHeading _ _ k _, h => hI k h
  | .quote kids _, h => blocksOk_of_in hbl hlr hI kids h
  | .blockCode .., _ => rfl
  | .codeFence .., _ => rfl
  | .list _ _ items _, h => blocksOk_of_in hbl hlr hI items h
  | .listItem _ _ _ _ kids _, h => blocksOk_of_in hbl hlr hI kids h
  | .table _ header rows _, ⟨_, hlen, hh, hr⟩ => by
    simp only [blockOk, Bool.and_eq_true]
    refine ⟨?_, rowsOk_of_in hI rows hr⟩
    match header, hlen, hh with
    | [], _, _ => rfl
    | [r], _, hh =>
      obtain ⟨⟨_, cs, _, rfl, hc⟩, _⟩ := rowsIn_cons hh
      exact cellsOk_of_in hI cs hc
  | .tableRow _ cells _, h => cellsOk_of_in hI cells h
  | .tableCell _ k _, h => hI k h.2
  | .thematicBreak .., _ => rfl
  | .htmlBlock .., _ => rfl
  | .blankLine _, h => (hbl h).elim
  | .linkRefDefBlock .., h => (hlr h).elim
theorem blocksOk_of_in (hbl : ¬ K .blankLine) (hlr : ¬ K .linkRefDefBlock) (hI : ∀ k, I k → inlinesOk xw k = true) :
    ∀ (bs : List Mistletoe.Block), BlocksIn K I bs → blocksOk xw bs = true
  | [], _ => rfl
  | b :: bs, h => by
    simp only [blocksOk, Bool.and_eq_true]
    exact ⟨blockOk_of_in hbl hlr hI b h.1, blocksOk_of_in hbl hlr hI bs h.2⟩
end
end

theorem parseLines_docOk (xw : Bool) (cfg : Document.Cfg)
    (hbl : .blankLine ∉ cfg.block.types) (hlr : .linkRefDefBlock ∉ cfg.block.types)
    (hsp : ∀ t ∈ cfg.span, clsOk xw t = true)
    (gas : Nat) (lines : List Str) (d : Doc) (h : Document.parseLines cfg gas lines = .ok d) : docOk xw d = true :=
  blocksOk_of_in hbl hlr (fun _ => inlinesOk_of_in hsp _) _ (parseLines_in cfg gas lines d h)

/-- **every document `Document(text)` returns under token lists without BlankLine,
    LinkReferenceDefinitionBlock, Math, GithubWiki (and, for `xw = false`, the XWiki macro tokens)
    satisfies the predicate** — for every text and every gas -/
theorem parse_docOk (xw : Bool) (cfg : Document.Cfg)
    (hbl : .blankLine ∉ cfg.block.types) (hlr : .linkRefDefBlock ∉ cfg.block.types)
    (hsp : ∀ t ∈ cfg.span, clsOk xw t = true)
    (gas : Nat) (t : Str) (d : Doc) (h : Document.parse cfg gas t = .ok d) : docOk xw d = true :=
  parseLines_docOk xw cfg hbl hlr hsp gas _ d h

/-! ### The same stage by stage; nothing below uses `build_ok`, `mkBlock_blockOk`, `mkItems_blocksOk` -/

theorem build_ok (xw : Bool) (s : Str) (found : List Found) (hf : ∀ f ∈ found, clsOk xw f.cls = true) :
    ∀ (o : Span.Out), inlineOk xw (build s found o) = true :=
  fun o => inlineOk_of_in (C := fun t => clsOk xw t = true) (fun _ h => h) _ (build_in s found hf o)

mutual
/-- no BlankLine and no LinkReferenceDefinitionBlock entry, at any nesting depth -/
def EntryClean : Entry → Prop
  | .blockCode _ _ _ => True
  | .heading _ _ _ _ _ => True
  | .quote inner _ _ _ => EntriesClean inner
  | .codeFence _ _ _ _ _ _ _ => True
  | .thematicBreak _ _ _ => True
  | .list items _ _ => ItemsClean items
  | .table _ _ _ _ => True
  | .footnote _ _ _ => True
  | .linkRefDefs _ _ _ => False
  | .paragraph _ _ _ => True
  | .setext _ _ _ => True
  | .htmlBlock _ _ _ => True
  | .blankLine _ _ => False
def EntriesClean : List Entry → Prop
  | [] => True
  | e :: es => EntryClean e ∧ EntriesClean es
def ItemClean : Item → Prop
  | .mk inner _ _ _ _ _ _ => EntriesClean inner
def ItemsClean : List Item → Prop
  | [] => True
  | i :: is => ItemClean i ∧ ItemsClean is
end

def CleanK (t : BTok) : Prop := t ≠ .blankLine ∧ t ≠ .linkRefDefBlock

mutual
theorem entryClean_in : ∀ (e : Entry), EntryClean e → EntryIn CleanK e
  | .blockCode _ _ _, _ => trivial
  | .heading _ _ _ _ _, _ => trivial
  | .quote inner _ _ _, h => entriesClean_in inner h
  | .codeFence _ _ _ _ _ _ _, _ => trivial
  | .thematicBreak _ _ _, _ => trivial
  | .list items _ _, h => itemsClean_in items h
  | .table _ _ _ _, _ => trivial
  | .footnote _ _ _, _ => trivial
  | .linkRefDefs _ _ _, h => h.elim
  | .paragraph _ _ _, _ => trivial
  | .setext _ _ _, _ => trivial
  | .htmlBlock _ _ _, _ => ⟨nofun, nofun⟩
  | .blankLine _ _, h => h.elim
theorem entriesClean_in : ∀ (es : List Entry), EntriesClean es → EntriesIn CleanK es
  | [], _ => trivial
  | e :: es, h => ⟨entryClean_in e h.1, entriesClean_in es h.2⟩
theorem itemsClean_in : ∀ (is : List Item), ItemsClean is → ItemsIn CleanK is
  | [], _ => trivial
  | .mk inner _ _ _ _ _ _ :: is, h => ⟨entriesClean_in inner h.1, itemsClean_in is h.2⟩
end

open Mistletoe.Document in
def InlOk (xw : Bool) (cfg : Document.Cfg) (fn : Footnotes.Table) : Prop :=
  ∀ (s : Str) (ks : List Inline), Document.inl cfg fn s = .ok ks → inlinesOk xw ks = true

theorem mkBlock_blockOk (xw : Bool) (cfg : Document.Cfg) (fn : Footnotes.Table) (hinl : InlOk xw cfg fn) :
    ∀ (e : Entry), EntryClean e → ∀ (b : Mistletoe.Block), Document.mkBlock cfg fn e = .ok (some b) → blockOk xw b = true :=
  fun e he b h => blockOk_of_in (fun h => h.1 rfl) (fun h => h.2 rfl) (fun _ h => h) b (mkBlock_in hinl e (entryClean_in e he) b h)

theorem mkItems_blocksOk (xw : Bool) (cfg : Document.Cfg) (fn : Footnotes.Table) (hinl : InlOk xw cfg fn) :
    ∀ (is : List Item), ItemsClean is → ∀ (bs : List Mistletoe.Block), Document.mkItems cfg fn is = .ok bs → blocksOk xw bs = true :=
  fun is hi bs h => blocksOk_of_in (fun h => h.1 rfl) (fun h => h.2 rfl) (fun _ h => h) bs (mkItems_in hinl is (itemsClean_in is hi) bs h)

end Mistletoe.Contrib

namespace Mistletoe.Config
open Mistletoe

/-! ### The regenerated Jira / XWiki configurations; parse-and-render is total -/

/-- token lists while a `JiraRenderer` is active (regenerated from /repo) -/
def jira : Option Document.Cfg := cfgOf Gen.RenderMaps.jiraBlockTokens Gen.RenderMaps.jiraSpanTokens

/-- token lists while an `XWiki20Renderer` is active (regenerated from /repo) -/
def xwiki : Option Document.Cfg := cfgOf Gen.RenderMaps.xwikiBlockTokens Gen.RenderMaps.xwikiSpanTokens

/-- `JiraRenderer().render(Document(text))`: `none` if the configuration is unknown to the model, or the
    parse model or the renderer model raises -/
def renderJira (gas : Nat) (text : Str) : Option Str :=
  match jira with
  | none => none
  | some cfg =>
    match Document.parse cfg gas text with
    | .ok d => (match Jira.render d with | .ok s => some s | .err _ => none)
    | .err _ => none

/-- `XWiki20Renderer().render(Document(text))`, likewise -/
def renderXWiki (gas : Nat) (text : Str) : Option Str :=
  match xwiki with
  | none => none
  | some cfg =>
    match Document.parse cfg gas text with
    | .ok d => (match XWiki.render d with | .ok s => some s | .err _ => none)
    | .err _ => none

end Mistletoe.Config

namespace Mistletoe.Contrib
open Mistletoe Mistletoe.Block Mistletoe.Inline

/-- the regenerated Jira lists are HtmlRenderer's -/
theorem jira_eq : Config.jira = some ⟨⟨Config.htmlBlockList, true⟩, Config.htmlSpanList⟩ := Config.html_eq

/-- the regenerated XWiki lists: HtmlRenderer's with the two macro classes in the span list -/
theorem xwiki_eq : Config.xwiki = some ⟨⟨Config.htmlBlockList, true⟩,
    [.escapeSequence, .xwikiMacroEnd, .xwikiMacroStart, .htmlSpan, .strikethrough, .autoLink, .coreTokens, .inlineCode, .lineBreak]⟩ :=
  Config.eq_of_lists _ _ _ _ (by decide +kernel)

/-- **every document parsed under the Jira renderer's token lists satisfies the predicate**: no `.err`
    branch of `Jira.render` is reachable from a parsed document -/
theorem jira_parse_docOk (cfg : Document.Cfg) (hc : Config.jira = some cfg) (gas : Nat) (t : Str) (d : Doc)
    (h : Document.parse cfg gas t = .ok d) : docOk false d = true := by
  cases Option.some.inj (hc.symm.trans jira_eq)
  exact parse_docOk false _ (by decide) (by decide) (by decide) gas t d h

theorem xwiki_parse_docOk (cfg : Document.Cfg) (hc : Config.xwiki = some cfg) (gas : Nat) (t : Str) (d : Doc)
    (h : Document.parse cfg gas t = .ok d) : docOk true d = true := by
  cases Option.some.inj (hc.symm.trans xwiki_eq)
  exact parse_docOk true _ (by decide) (by decide) (by decide) gas t d h

/-- parse-and-render under a known configuration: the test vectors evaluate parse and render, not the configuration -/
theorem renderJira_of {cfg : Document.Cfg} (hc : Config.jira = some cfg) {gas : Nat} {text out : Str}
    (h : (Document.parse cfg gas text).bind Jira.render = .ok out) : Config.renderJira gas text = some out := by
  rw [Config.renderJira, hc]
  cases hp : Document.parse cfg gas text with
  | err e => rw [hp] at h; cases h
  | ok d =>
    rw [hp] at h
    simp only [Res.bind] at h
    simp only [hp, h]

theorem renderXWiki_of {cfg : Document.Cfg} (hc : Config.xwiki = some cfg) {gas : Nat} {text out : Str}
    (h : (Document.parse cfg gas text).bind XWiki.render = .ok out) : Config.renderXWiki gas text = some out := by
  rw [Config.renderXWiki, hc]
  cases hp : Document.parse cfg gas text with
  | err e => rw [hp] at h; cases h
  | ok d =>
    rw [hp] at h
    simp only [Res.bind] at h
    simp only [hp, h]

end Mistletoe.Contrib

namespace Mistletoe.Props.C01
open Mistletoe Mistletoe.Block Mistletoe.Lines Mistletoe.Contrib

/-- **Parse-and-render with the Jira renderer returns a string for every text**: with the token lists
    the Jira renderer installs (regenerated from /repo) and enough gas, `Config.renderJira` is `some _`:
    neither the parser model nor the renderer model (`Model/Jira.lean`: `render_map` lookups, `token.header`,
    `children[-1]` / `children[0]` of quotes) reaches an `.err`. -/
theorem C01_jira_total (cfg : Document.Cfg) (hc : Config.jira = some cfg) (gas : Nat) (t : Str)
    (hg : gasBound cfg.block (docBuf (normalize (.str t))) ≤ gas) : ∃ out, Config.renderJira gas t = some out := by
  obtain ⟨d, hd⟩ := C01_parse_terminates cfg gas t hg
  obtain ⟨out, ho⟩ := jira_render_ok d (jira_parse_docOk cfg hc gas t d hd)
  exact ⟨out, by rw [Config.renderJira, hc]; simp only [hd, ho]⟩

/-- **Parse-and-render with the XWiki renderer returns a string for every text** (`Config.renderXWiki`;
    the `find` of the two XWiki macro span tokens the renderer installs is `Model/InlineScanX.lean`; the
    predicate allows those tokens and the renderer model renders them, `xwiki_render_isOk`). -/
theorem C01_xwiki_total (cfg : Document.Cfg) (hc : Config.xwiki = some cfg) (gas : Nat) (t : Str)
    (hg : gasBound cfg.block (docBuf (normalize (.str t))) ≤ gas) : ∃ out, Config.renderXWiki gas t = some out := by
  obtain ⟨d, hd⟩ := C01_parse_terminates cfg gas t hg
  obtain ⟨out, ho⟩ := xwiki_render_ok d (xwiki_parse_docOk cfg hc gas t d hd)
  exact ⟨out, by rw [Config.renderXWiki, hc]; simp only [hd, ho]⟩

/-- the configurations exist: the regenerated lists are known to the model -/
example : Config.jira.isSome = true ∧ Config.xwiki.isSome = true := by rw [jira_eq, xwiki_eq]; exact ⟨rfl, rfl⟩

/-! ### Non-vacuity -/

/-- the historic crashes: a lone '>' (empty quote) and a lone '-' (empty list item), kernel-evaluated
    end to end (parse under the renderer's token lists, then render) -/
example : Config.renderJira 50 ">".toList = some "{quote}\n{quote}\n\n".toList :=
  renderJira_of jira_eq (by decide_lit)
example : Config.renderJira 50 "-".toList = some "* \n".toList :=
  renderJira_of jira_eq (by decide_lit)
example : Config.renderXWiki 50 ">".toList = some "\n".toList :=
  renderXWiki_of xwiki_eq (by decide_lit)
example : Config.renderXWiki 50 "-".toList = some "* \n\n".toList :=
  renderXWiki_of xwiki_eq (by decide_lit)

/-- an empty quote inside an otherwise empty list item -/
example : Config.renderJira 50 "- \n  > \n".toList = some "* {quote}\n{quote}\n\n".toList :=
  renderJira_of jira_eq (by decide_lit)
example : Config.renderXWiki 50 "- \n  > \n".toList = some "* \n\n".toList :=
  renderXWiki_of xwiki_eq (by decide_lit)

/-- a table (header, delimiter row, one row with emphasis) -/
example : Config.renderJira 50 "| a | b |\n|---|:-:|\n| 1 | *2* |\n".toList = some "||a||b||\n|1|_2_|\n\n".toList :=
  renderJira_of jira_eq (by decide_lit)
example : Config.renderXWiki 50 "| a | b |\n|---|:-:|\n| 1 | *2* |\n".toList = some "|=a|=b\n|1|//2//\n\n".toList :=
  renderXWiki_of xwiki_eq (by decide_lit)

/-- a nested list (ordered inside bullet), and a list item with two paragraphs (XWiki wraps) -/
example : Config.renderJira 50 "- a\n  1. b\n  2. c\n- d\n".toList = some "* a\n*# b\n*# c\n* d\n\n".toList :=
  renderJira_of jira_eq (by decide_lit)
example : Config.renderXWiki 50 "- a\n  1. b\n  2. c\n- d\n".toList = some "* a\n*1. b\n*1. c\n* d\n\n".toList :=
  renderXWiki_of xwiki_eq (by decide_lit)
example : Config.renderXWiki 50 "- a\n\n  b\n".toList = some "* a(((\nb\n)))\n\n".toList :=
  renderXWiki_of xwiki_eq (by decide_lit)

/-- trees the parser cannot even produce are covered by the renderer theorems: an empty quote, an empty
    list item, a list whose items have no children, a list without items, a table without header and
    without rows, the XWiki macro tokens -/
def oddDoc : Doc :=
  { kids := [.quote [] 1, .list false none [.listItem ['-'] 0 2 false [] 2, .listItem ['-'] 0 2 false [] 3] 2,
             .list true (some 0) [] 4, .table [none] [] [] 5, .table [none] [] [.tableRow [none] [] 6] 6,
             .quote [.quote [] 7, .list false (some 3) [.listItem "3.".toList 0 3 false [.quote [] 7] 7] 7] 7,
             .paragraph [.xwikiMacroStart "{{info}}".toList, .rawText "x".toList, .xwikiMacroEnd "{{/info}}".toList] 8],
    footnotes := [] }

example : docOk true oddDoc = true := by decide +kernel
example : docOk false oddDoc = false := by decide +kernel        -- the macro tokens have no Jira `render_map` entry
example : ∃ out, XWiki.render oddDoc = .ok out := xwiki_render_ok oddDoc (by decide +kernel)
example : Jira.render oddDoc = .err .key := by decide +kernel
example : ∃ out, Jira.render { oddDoc with kids := oddDoc.kids.dropLast } = .ok out := jira_render_ok _ (by decide +kernel)
example : XWiki.render { oddDoc with kids := oddDoc.kids.dropLast } =
    .ok "\n* \n* \n\n\n\n\n\n> \n> 1. \n\n".toList := by decide_lit

/-- the predicate is exact: what it excludes does make the models raise -/
example : Jira.render ⟨[.blankLine 1], []⟩ = .err .key ∧ XWiki.render ⟨[.paragraph [.math "$x$".toList] 1], []⟩ = .err .key ∧
    XWiki.render ⟨[.table [] [.paragraph [] 1] [] 1], []⟩ = .err .type := by decide +kernel

/-- the theorems applied: the hypotheses (configuration known, gas bound) are satisfiable -/
example : ∃ out, Config.renderJira 2000 "> - a\n>\n> b".toList = some out :=
  C01_jira_total (Config.jira.get (by decide +kernel)) (Option.some_get _).symm 2000 _ (by decide +kernel)
example : ∃ out, Config.renderXWiki 2000 "> - a\n>\n> b".toList = some out :=
  C01_xwiki_total (Config.xwiki.get (by decide +kernel)) (Option.some_get _).symm 2000 _ (by decide +kernel)

end Mistletoe.Props.C01
