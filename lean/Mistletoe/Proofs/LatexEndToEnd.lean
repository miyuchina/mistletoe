/-
  C17 end to end: parser followed by the LaTeX renderer, for EVERY text.  `C17_structure` (Props/C17.lean) holds of
  every token tree with no hypothesis; `C01_latex_total_or_refusal` (Proofs/LatexTotal.lean) says that under the
  LaTeX renderer's own token lists every text parses and the renderer either returns `Latex.render d` or raises
  the documented `\verb` refusal.  Here the two are composed.
-/
import Mistletoe.Props.C17
import Mistletoe.Proofs.LatexTotal

namespace Mistletoe.Props.C17
open Mistletoe Mistletoe.Block Mistletoe.Lines

/-- **Every document the LaTeX configuration parses**: the renderer refuses, or its output is the spelling
    of a well-formed event list (for every gas; no hypothesis on the tree). -/
theorem C17_parsed (cfg : Document.Cfg) (hc : Config.latex = some cfg) (gas : Nat) (t : Str) (d : Doc)
    (h : Document.parse cfg gas t = .ok d) :
    (Latex.renderRes d = .err (.refusal 0) ∧ ∃ c ∈ Latex.codes d, Latex.UsesAllDelims c) ∨
    (Latex.renderRes d = .ok (Latex.flat (Latex.renderDoc d)) ∧ PredLatex.WellFormed (Latex.renderDoc d)) := by
  rcases Props.C01.C01_latex_total_or_refusal cfg hc gas t d h with ⟨out, ho⟩ | hr
  · right
    have := Latex.renderRes_ok d ho
    subst this
    exact ⟨by rw [ho, (C17_structure d).1], (C17_structure d).2⟩
  · left; exact hr

/-- **`LaTeXRenderer().render(Document(text))`, for every text**: with the token lists the LaTeX renderer
    installs (regenerated from /repo) and enough gas, the parse returns a document `d`, and EITHER the renderer
    raises the documented refusal (`RuntimeError('Unable to find delimiter for verb macro')`: some inline code of
    `d` contains all 42 delimiter characters) OR it returns `flat (renderDoc d)` where `renderDoc d` is
    `WellFormed`: brace groups and `\begin`/`\end` pairs properly nested, only the renderer's commands,
    environments and literal template text, every piece of document text `SafeText`, every URL `UrlSafe`, every
    `\verb` delimiter absent from its code. -/
theorem C17_every_text (cfg : Document.Cfg) (hc : Config.latex = some cfg) (gas : Nat) (t : Str)
    (hg : gasBound cfg.block (docBuf (normalize (.str t))) ≤ gas) :
    ∃ d, Document.parse cfg gas t = .ok d ∧ Config.renderLatex gas t = some (Latex.renderRes d) ∧
      ((Latex.renderRes d = .err (.refusal 0) ∧ ∃ c ∈ Latex.codes d, Latex.UsesAllDelims c) ∨
       (Latex.renderRes d = .ok (Latex.flat (Latex.renderDoc d)) ∧ PredLatex.WellFormed (Latex.renderDoc d))) := by
  obtain ⟨d, hd⟩ := Props.C01.C01_parse_terminates cfg gas t hg
  refine ⟨d, hd, ?_, C17_parsed cfg hc gas t d hd⟩
  rw [Config.renderLatex, hc]
  simp [hd, Res.bind]

/-- a text full of LaTeX specials: an escape sequence, `%`, a math span, `#`, `&`, a brace, an inline code with
    the first delimiter in it, an image whose URL holds a brace, a raw tag (plain text for this renderer) -/
def hostileText : Str := "\\{ 50% $x_1^2$ #1 & } `a|b` ![i](x}y) <b>".toList

/-- the output of the real code: `mistletoe.markdown('\\{ 50% $x_1^2$ #1 & } `a|b` ![i](x}y) <b>', LaTeXRenderer)` -/
example : Config.renderLatex 50 hostileText = some (.ok
    "\\documentclass{article}\n\\usepackage{amsmath}\n\\usepackage{amsfonts}\n\\usepackage{amssymb}\n\\usepackage{graphicx}\n\\begin{document}\n\n\\{ 50\\% $x_1^2$ \\#1 \\& \\} \\verb!a|b! \n\\includegraphics{x\\%7Dy}\n <b>\n\\end{document}\n".toList) := by
  rw [Config.renderLatex_of Latex.latex_eq]; unfold hostileText; decide_lit

/-- the theorem applied: configuration known, gas bound satisfiable -/
example : ∃ d, Document.parse (Config.latex.get (by decide +kernel)) 6000 hostileText = .ok d ∧
    Config.renderLatex 6000 hostileText = some (Latex.renderRes d) ∧
    ((Latex.renderRes d = .err (.refusal 0) ∧ ∃ c ∈ Latex.codes d, Latex.UsesAllDelims c) ∨
     (Latex.renderRes d = .ok (Latex.flat (Latex.renderDoc d)) ∧ PredLatex.WellFormed (Latex.renderDoc d))) :=
  C17_every_text (Config.latex.get (by decide +kernel)) (Option.some_get _).symm 6000 _ (by decide +kernel)

/-- both sides of the disjunction occur: the refusal witness of Proofs/LatexTotal.lean -/
example : Config.renderLatex 50 Props.C01.refusalText = some (.err (.refusal 0)) := by
  rw [Config.renderLatex_of Latex.latex_eq]; unfold Props.C01.refusalText; decide_lit

end Mistletoe.Props.C17

section Audit
open Mistletoe.Props.C17
#print axioms C17_parsed
#print axioms C17_every_text
end Audit
