/-
  C14, inline half, the layer between a condition on the text and what follows from it.

  Text in which no span pattern can fire yields no candidate for any span token class, so `tokenize_inner` returns one
  `RawText` holding exactly the text; several such lines joined by "\n" give `RawText, LineBreak(soft), RawText, …`.
  What a condition on the text has to provide for this is `Silent`; one line and several lines are proved from `Silent`
  here, the `Paragraph` constructor and the document in Proofs/InertInline.lean.  That the conditions (`inertBody` of this
  file and the wider ones) are silent is Proofs/InertWide.lean (`inertBody_silent`, its corollary, in Proofs/InertInline.lean).
-/
import Mistletoe.Model.Inline
import Mistletoe.Model.Document
import Mistletoe.Proofs.Span
import Mistletoe.Proofs.Inert
import Mistletoe.Proofs.CoreTotal
import Mistletoe.Proofs.ScanNone
namespace Mistletoe.InertInline
open Mistletoe Mistletoe.Py Mistletoe.Scan Mistletoe.InlineScan Mistletoe.Core Mistletoe.Inline

/-! ## (A) no candidates: one RawText -/

theorem tokenize_nil (n : Nat) : Span.tokenize [] n = if n = 0 then [] else [.raw 0 n] := by
  simp only [Span.tokenize, Span.resolve, Span.sortByStart, List.foldr_nil, Span.resolveSorted, List.reverse_nil,
    Span.makeTokensRev]
  by_cases h : n = 0
  · simp [h]
  · have : 0 ≠ n := fun e => h e.symm
    simp [h, this]

theorem tokenizeInner_no_candidates (types : List STok) (fn : Footnotes.Table) (s : Str)
    (h : findAll s types fn = .ok []) (hne : s ≠ []) :
    tokenizeInner types fn s = .ok [.rawText (Unescape.unescape true s)] := by
  unfold tokenizeInner
  rw [h]
  have hl : s.length ≠ 0 := by
    intro e; exact hne (List.eq_nil_of_length_eq_zero e)
  simp only [List.zipIdx_nil, List.map_nil, tokenize_nil, hl, if_false]
  simp only [builds, build, Span.slice_full]

theorem tokenizeInner_no_candidates_nil (types : List STok) (fn : Footnotes.Table)
    (h : findAll [] types fn = .ok []) : tokenizeInner types fn [] = .ok [] := by
  unfold tokenizeInner
  rw [h]
  simp [tokenize_nil, builds]

/-! ## (B) the predicate -/

/-- flanking tests of a delimiter run, in terms of the character before (`b`) and after (`a`) it
    (`' '` at either end of the text), as in `core_tokens.is_left_delimiter` / `is_right_delimiter` -/
def leftFl (b a : Char) : Bool := !uniWs a && (!punct a || punct b || uniWs b)
def rightFl (b a : Char) : Bool := !uniWs b && (!punct b || uniWs a || punct a)
/-- the run of `d`s can close emphasis (`Delimiter.close`) -/
def canClose (d b a : Char) : Bool :=
  if d == '*' then rightFl b a else rightFl b a && (!leftFl b a || (leftFl b a && punct a))

/-- no run of `*` / `_` can close emphasis.  `p` is the character before the text (`' '` at the start);
    a run begins at a `*`/`_` whose predecessor is a different character. -/
def emphOk : Char → Str → Bool
  | _, [] => true
  | p, c :: rest =>
    (if (c == '*' || c == '_') && p != c then
       !canClose c p (((rest.drop (countLeading c rest)).head?).getD ' ') else true)
    && emphOk c rest

/-- after the first `[` there is no `]` -/
def bracketsOk : Str → Bool
  | [] => true
  | c :: rest => if c == '[' then !rest.contains ']' else bracketsOk rest

/-- no `~~` -/
def tildeOk : Str → Bool
  | [] => true
  | c :: rest => !(c == '~' && rest.head? == some '~') && tildeOk rest

/-- what may follow a `<` (`ltOk` asks it of every `<`): the end of the text, or a character that can begin neither an
    autolink nor an HTML tag/comment/declaration: anything but ASCII letters, digits and
    ``.!#$%&'*+/=?^_`{|}~-`` -/
def ltNext : Str → Bool
  | [] => true
  | d :: _ => !localChar d
def ltOk : Str → Bool
  | [] => true
  | c :: rest => (c != '<' || ltNext rest) && ltOk rest

/-- `[^\t\n\f <&;]` -/
def refChar (c : Char) : Bool := !(c == '\t' || c == '\n' || c == '\x0c' || c == ' ' || c == '<' || c == '&' || c == ';')

/-- every `&` is followed by a (possibly empty) run of characters other than tab, newline, form feed,
    space, `<`, `&` that is not followed by `;` (so no character reference begins at it) -/
def ampOk : Str → Bool
  | [] => true
  | c :: rest => (c != '&' || (span refChar rest).2.head? != some ';') && ampOk rest

def okChar (c : Char) : Bool := c != '\\' && c != '`'

/-- inert text, newlines allowed -/
def inertBody (s : Str) : Bool :=
  s.all okChar && ltOk s && ampOk s && tildeOk s && bracketsOk s && emphOk ' ' s

/-- inert text on one line -/
def inertText (s : Str) : Bool := inertBody s && !s.contains '\n'

/-! ### the regex scanners find nothing -/

theorem countLeading_ne (ch c : Char) (rest : Str) (h : c ≠ ch) : countLeading ch (c :: rest) = 0 := by
  simp [countLeading, h]

theorem escapeAt_none (prev : Option Char) (c : Char) (rest : Str) (h : c ≠ '\\') : escapeAt prev (c :: rest) = none := by
  unfold escapeAt
  split
  · rename_i heq; simp at heq; exact absurd heq.1 h
  · rfl

theorem lineBreakAt_none (prev : Option Char) (r : Str) (hn : '\n' ∉ r) : lineBreakAt prev r = none := by
  unfold lineBreakAt
  have h1 : (r[countLeading ' ' r]? == some '\n') = false := by
    cases h : r[countLeading ' ' r]? with
    | none => rfl
    | some a =>
      have := List.mem_of_getElem? h
      have : a ≠ '\n' := fun e => hn (e ▸ this)
      simp [this]
  simp only [h1, Bool.false_eq_true, if_false]
  split
  · simp at hn
  · rfl

theorem tildeOk_suffix : ∀ (u x : Str), tildeOk (u ++ x) = true → tildeOk x = true
  | [], _, h => h
  | c :: u, x, h => by
    simp only [List.cons_append, tildeOk, Bool.and_eq_true] at h
    exact tildeOk_suffix u x h.2

theorem tildeOk_prefix : ∀ (x v : Str), tildeOk (x ++ v) = true → tildeOk x = true
  | [], _, _ => rfl
  | c :: x, v, h => by
    simp only [List.cons_append, tildeOk, Bool.and_eq_true] at h ⊢
    refine ⟨?_, tildeOk_prefix x v h.2⟩
    cases x with
    | nil => simp
    | cons d x => simpa using h.1

/-- without `~~` no strikethrough begins, whatever backslashes the pattern skips first -/
theorem strikeAt_none (prev : Option Char) (r : Str) (h : tildeOk r = true) : strikeAt prev r = none := by
  unfold strikeAt
  split
  · rfl
  · simp only
    split
    · rfl
    · have hd : tildeOk (r.drop (leadingBackslashes r)) = true := by
        apply tildeOk_suffix (r.take (leadingBackslashes r))
        rw [List.take_append_drop]; exact h
      split
      · rename_i body heq
        rw [heq] at hd
        simp [tildeOk] at hd
      · rfl

theorem localChar_of (d : Char) (h : localChar d = false) :
    isAlpha d = false ∧ d ≠ '/' ∧ d ≠ '!' ∧ d ≠ '?' := by
  refine ⟨?_, ?_, ?_, ?_⟩
  · simp only [localChar, isAlnum, Bool.or_eq_false_iff] at h
    exact h.1.1
  all_goals (rintro rfl; revert h; decide +kernel)

/-! ### `find_core_tokens`: positions, bracket delimiters, runs that cannot close -/

theorem getElem?_at (pre : Str) (c : Char) (rest : Str) : (pre ++ c :: rest)[pre.length]? = some c := by
  simp

theorem getElem?_after (pre : Str) (c : Char) (rest : Str) (k : Nat) :
    (pre ++ c :: rest)[pre.length + 1 + k]? = (rest.drop k).head? := by
  rw [List.getElem?_append_right (by omega)]
  have : pre.length + 1 + k - pre.length = k + 1 := by omega
  rw [this, List.getElem?_cons_succ, List.head?_drop]

theorem getElem?_before (pre suf : Str) :
    (if pre.length > 0 then ((pre ++ suf)[pre.length - 1]?).getD ' ' else ' ') = pre.getLast?.getD ' ' := by
  cases hp : pre.length with
  | zero =>
    have := List.eq_nil_of_length_eq_zero hp
    subst this; rfl
  | succ n =>
    have hlt : pre.length - 1 < pre.length := by omega
    simp only [Nat.zero_lt_succ, if_true, Nat.add_sub_cancel]
    rw [List.getLast?_eq_getElem?, hp, Nat.add_sub_cancel, List.getElem?_append_left (by omega)]

theorem isCloser_at (pre : Str) (c : Char) (rest : Str) (k : Nat) :
    isCloser pre.length (pre.length + 1 + k) (pre ++ c :: rest) =
      canClose c (pre.getLast?.getD ' ') (((rest.drop k).head?).getD ' ') := by
  unfold isCloser isRightDelimiter isLeftDelimiter precededBy succeededBy canClose rightFl leftFl
  rw [getElem?_at, getElem?_after, getElem?_before]
  simp

theorem mkDelim_type (a b : Nat) (s : Str) : (mkDelim a b s).type = slice s a b := rfl

def isBr (d : Delim) : Bool := d.type == ['['] || d.type == ['!', '[']

theorem lastBracket_none : ∀ (ds : List Delim) (i : Nat), (∀ d ∈ ds, isBr d = false) → lastBracket ds i none = none
  | [], _, _ => rfl
  | d :: rest, i, h => by
    have hd := h d (by simp)
    simp only [isBr] at hd
    simp only [lastBracket, hd, Bool.false_eq_true, if_false]
    exact lastBracket_none rest (i + 1) (fun x hx => h x (List.mem_cons_of_mem _ hx))

theorem findLinkImage_none (s : Str) (i : Nat) (ds : List Delim) (ms : List CoreM) (fn : Footnotes.Table)
    (h : ∀ d ∈ ds, isBr d = false) : findLinkImage s i ds ms fn = .ok (i, ds, ms) := by
  unfold findLinkImage
  rw [lastBracket_none ds 0 h]

theorem isBr_of_head (a b : Nat) (s : Str) (ch : Char) (hab : a < b) (hc : s[a]? = some ch)
    (h1 : ch ≠ '[') (h2 : ch ≠ '!') : isBr (mkDelim a b s) = false := by
  have := slice_head s a b hab
  rw [hc] at this
  simp only [isBr, mkDelim_type]
  cases hsl : slice s a b with
  | nil => rfl
  | cons x xs =>
    rw [hsl] at this
    simp only [List.head?_cons, Option.some.injEq] at this
    subst this
    simp [h1, h2]

/-! ### all classes together -/

/-- the span token classes covered: every class except `Math`, `GithubWiki` and the two XWiki macro
    classes (`XWikiBlockMacroStart` / `XWikiBlockMacroEnd` fire on `{{name}}` lines, which inert text may contain) -/
def inertClass : STok → Bool
  | .math | .githubWiki | .xwikiMacroStart | .xwikiMacroEnd => false
  | _ => true

theorem findOne_lineBreak (s : Str) (hn : '\n' ∉ s) : findOne s [] [] .lineBreak = [] := by
  simp only [findOne, List.map_eq_nil_iff]
  exact findIter_nil_notin _ '\n' lineBreakAt_none s hn

theorem findAll_core (s : Str) (types : List STok) (fn : Footnotes.Table)
    (hcore : findCoreTokens s fn = .ok ([], [])) : findAll s types fn = .ok (types.flatMap (findOne s [] [])) := by
  unfold findAll
  split
  · simp only [hcore]
  · rfl

theorem inertText_parts (s : Str) (h : inertText s = true) : inertBody s = true ∧ '\n' ∉ s := by
  simpa only [inertText, Bool.and_eq_true, Bool.not_eq_eq_eq_not, Bool.not_true, List.contains_eq_mem,
    decide_eq_false_iff_not] using h

theorem findAll_nil (s : Str) (types : List STok) (fn : Footnotes.Table) (hcore : findCoreTokens s fn = .ok ([], []))
    (hall : ∀ t ∈ types, findOne s [] [] t = []) : findAll s types fn = .ok [] := by
  rw [findAll_core s types fn hcore, List.flatMap_eq_nil_iff.mpr hall]

theorem findOne_other (s : Str) (core : List CoreM) (t : STok) (ht : t ≠ .coreTokens) :
    findOne s core [] t = findOne s [] [] t := by
  cases t <;> first | rfl | exact absurd rfl ht

/-- what `CoreTokens.find` returns for a core match -/
def foundOf (m : CoreM) : Found :=
  { cls := .coreTokens, start := m.start, stop := m.stop, pstart := m.ts, pend := m.te, payload := .core m }

/-! ### `html.unescape`: a `&` that begins no character reference -/

theorem span_eq (p : Char → Bool) (r a b : Str) (h : span p r = (a, b)) : r = a ++ b ∧ ∀ c ∈ a, p c = true := by
  have h1 := Block.span_append p r
  have h2 := Block.span_all p r
  rw [h] at h1 h2
  exact ⟨h1.symm, h2⟩

theorem span_semi (p q : Char → Bool) (hpq : ∀ c, p c = true → q c = true) (hq : q ';' = false) (r : Str)
    (h : (span p r).2.head? = some ';') : (span q r).2.head? = some ';' := by
  obtain ⟨e, ha⟩ := span_eq p r _ _ rfl
  cases hb : (span p r).2 with
  | nil => rw [hb] at h; simp at h
  | cons d b =>
    rw [hb] at h e
    simp only [List.head?_cons, Option.some.injEq] at h
    subst h
    rw [e, Block.span_prefix q _ (';' :: b) (fun c hc => hpq c (ha c hc)) (fun x hx => by cases hx; exact hq)]
    rfl

open Mistletoe.Unescape

theorem refChar_cases (c : Char) (h : refChar c = false) :
    c = '\t' ∨ c = '\n' ∨ c = '\x0c' ∨ c = ' ' ∨ c = '<' ∨ c = '&' ∨ c = ';' := by
  simp only [refChar, Bool.not_eq_eq_eq_not, Bool.not_false, Bool.or_eq_true, beq_iff_eq] at h
  rcases h with (((((h | h) | h) | h) | h) | h) | h <;> simp [h]

theorem refChar_of (p : Char → Bool) (hp : p '\t' = false ∧ p '\n' = false ∧ p '\x0c' = false ∧ p ' ' = false ∧
    p '<' = false ∧ p '&' = false ∧ p ';' = false) (c : Char) (h : p c = true) : refChar c = true := by
  cases hr : refChar c with
  | true => rfl
  | false =>
    obtain ⟨h1, h2, h3, h4, h5, h6, h7⟩ := hp
    rcases refChar_cases c hr with rfl | rfl | rfl | rfl | rfl | rfl | rfl <;> simp_all

theorem charrefAt_none (r : Str) (h : ((span refChar r).2.head? != some ';') = true) : charrefAt true r = none := by
  have hsemi : ∀ (p : Char → Bool) (r' : Str), (∀ c, p c = true → refChar c = true) →
      ((span refChar r').2.head? != some ';') = true → ((span p r').2.head? == some ';') = false := by
    intro p r' hp hr
    cases hh : ((span p r').2.head? == some ';') with
    | false => rfl
    | true =>
      have := span_semi p refChar hp (by decide) r' (by simpa using hh)
      simp [this] at hr
  have hhex : ∀ c, hexDigitC c = true → refChar c = true := refChar_of _ (by decide)
  have hdig : ∀ c, asciiDigit c = true → refChar c = true := refChar_of _ (by decide)
  have hname : ∀ c, Unescape.nameChar c = true → refChar c = true := refChar_of _ (by decide)
  unfold charrefAt
  split
  · rename_i r1
    have h1 : ((span refChar r1).2.head? != some ';') = true := by
      have : refChar '#' = true := by decide
      simpa [span, this] using h
    split
    · rename_i x r2
      split
      · rename_i hx
        have h2 : ((span refChar r2).2.head? != some ';') = true := by
          have : refChar x = true := by
            simp only [Bool.or_eq_true, beq_iff_eq] at hx
            rcases hx with rfl | rfl <;> decide
          simpa [span, this] using h1
        have := hsemi hexDigitC r2 hhex h2
        simp [this]
      · have := hsemi asciiDigit (x :: r2) hdig h1
        simp [this]
    · rfl
  · have := hsemi Unescape.nameChar r hname h
    simp [this]

/-! ## (C) several lines: the span resolver on separated, childless candidates -/

open Mistletoe.Span in
/-- candidates in source order, each starting at or after the end of the previous one (and after `lo`) -/
def Sep : Nat → List Span.Cand → Prop
  | _, [] => True
  | lo, c :: cs => lo ≤ c.start ∧ c.start ≤ c.stop ∧ c.inner = false ∧ Sep c.stop cs

/-- `make_tokens` on such a list, left to right: the gap before each token (if non-empty), the token,
    and the final gap -/
def fwdE : Nat → List Span.Cand → Nat → List Span.Out
  | s, [], e => if s ≠ e then [.raw s e] else []
  | s, c :: cs, e => (if c.start > s then [.raw s c.start] else []) ++ [.tok c []] ++ fwdE c.stop cs e

def fwdB : Nat → List Span.Cand → Nat → List Span.Out
  | s, [], upto => if upto > s then [.raw s upto] else []
  | s, c :: cs, upto => (if c.start > s then [.raw s c.start] else []) ++ [.tok c []] ++ fwdB c.stop cs upto

theorem Sep_head_le : ∀ (cs : List Span.Cand) (lo : Nat), Sep lo cs → ∀ c ∈ cs, lo ≤ c.start
  | [], _, _, _, h => by simp at h
  | x :: cs, lo, hs, c, h => by
    obtain ⟨h1, h2, _, h4⟩ := hs
    rcases List.mem_cons.mp h with rfl | h
    · exact h1
    · have := Sep_head_le cs x.stop h4 c h; omega

theorem sortByStart_sep : ∀ (cs : List Span.Cand) (lo : Nat), Sep lo cs → Span.sortByStart cs = cs
  | [], _, _ => rfl
  | c :: cs, lo, hs => by
    obtain ⟨h1, h2, _, h4⟩ := hs
    have ih := sortByStart_sep cs c.stop h4
    simp only [Span.sortByStart, List.foldr_cons] at ih ⊢
    rw [ih]
    cases cs with
    | nil => rfl
    | cons d ds =>
      have := h4.1
      have : c.start ≤ d.start := by omega
      simp [Span.insertByStart, this]

theorem PTok_c_mk (c : Span.Cand) (k : List Span.PTok) : (Span.PTok.mk c k).c = c := rfl

theorem fold_sep : ∀ (cs : List Span.Cand) (acc : List Span.PTok) (lo : Nat),
    (∀ p, acc.head? = some p → p.c.stop ≤ lo) → Sep lo cs →
    (cs.map (fun c => Span.PTok.mk c [])).foldl Span.evalNewChild acc = (cs.map (fun c => Span.PTok.mk c [])).reverse ++ acc
  | [], _, _, _, _ => by simp
  | c :: cs, acc, lo, ha, hs => by
    obtain ⟨h1, h2, _, h4⟩ := hs
    simp only [List.map_cons, List.foldl_cons, List.reverse_cons, List.append_assoc, List.singleton_append]
    have step : Span.evalNewChild acc (Span.PTok.mk c []) = Span.PTok.mk c [] :: acc := by
      cases acc with
      | nil => rfl
      | cons last rest =>
        have hl := ha last rfl
        have : Span.relation last.c (Span.PTok.mk c []).c = 0 := by
          have : last.c.stop ≤ c.start := by omega
          simp [Span.relation, PTok_c_mk, this]
        simp only [Span.evalNewChild, this]
    rw [step]
    exact fold_sep cs _ c.stop (by intro p hp; simp at hp; subst hp; exact Nat.le_refl _) h4

theorem fwdB_snoc : ∀ (cs : List Span.Cand) (s : Nat) (c : Span.Cand) (upto : Nat),
    fwdB s (cs ++ [c]) upto = fwdB s cs c.start ++ [.tok c []] ++ (if upto > c.stop then [.raw c.stop upto] else [])
  | [], s, c, upto => by simp [fwdB]
  | d :: cs, s, c, upto => by
    simp only [List.cons_append, fwdB, fwdB_snoc cs d.stop c upto, List.append_assoc]

theorem fwdE_snoc : ∀ (cs : List Span.Cand) (s : Nat) (c : Span.Cand) (e : Nat),
    fwdE s (cs ++ [c]) e = fwdB s cs c.start ++ [.tok c []] ++ (if c.stop ≠ e then [.raw c.stop e] else [])
  | [], s, c, e => by simp [fwdB, fwdE]
  | d :: cs, s, c, e => by
    simp only [List.cons_append, fwdB, fwdE, fwdE_snoc cs d.stop c e, List.append_assoc]

theorem makeBefore_rev (s : Nat) : ∀ (rcs : List Span.Cand) (upto : Nat), (∀ c ∈ rcs, c.inner = false) →
    Span.makeBefore (rcs.map (fun c => Span.PTok.mk c [])) s upto = fwdB s rcs.reverse upto
  | [], upto, _ => by simp [Span.makeBefore, fwdB]
  | c :: rcs, upto, h => by
    have ih := makeBefore_rev s rcs c.start (fun x hx => h x (List.mem_cons_of_mem _ hx))
    simp only [List.map_cons, Span.makeBefore, List.reverse_cons, fwdB_snoc, Span.make_leaf [] (h c (by simp)), PTok_c_mk, ih]
    rfl

theorem makeTokensRev_rev (s e : Nat) (cs : List Span.Cand) (h : ∀ c ∈ cs, c.inner = false) :
    Span.makeTokensRev ((cs.map (fun c => Span.PTok.mk c [])).reverse) s e = fwdE s cs e := by
  rw [← List.map_reverse]
  obtain ⟨rcs, hr⟩ : ∃ rcs, rcs = cs.reverse := ⟨_, rfl⟩
  have hcs : cs = rcs.reverse := by rw [hr, List.reverse_reverse]
  rw [← hr, hcs]
  have h' : ∀ c ∈ rcs, c.inner = false := fun c hc => h c (by rw [hcs]; simpa using hc)
  cases rcs with
  | nil => simp [Span.makeTokensRev, fwdE]
  | cons c rcs =>
    simp only [List.map_cons, Span.makeTokensRev, List.reverse_cons, fwdE_snoc,
      Span.make_leaf [] (h' c (by simp)), PTok_c_mk, makeBefore_rev s rcs c.start (fun x hx => h' x (List.mem_cons_of_mem _ hx))]
    rfl

theorem Sep_inner : ∀ (cs : List Span.Cand) (lo : Nat), Sep lo cs → ∀ c ∈ cs, c.inner = false
  | [], _, _, _, h => by simp at h
  | x :: cs, lo, hs, c, h => by
    obtain ⟨_, _, h3, h4⟩ := hs
    rcases List.mem_cons.mp h with rfl | h
    · exact h3
    · exact Sep_inner cs x.stop h4 c h

/-- the span resolver on separated childless candidates: gaps and tokens alternate, nothing is dropped -/
theorem tokenize_sep (cs : List Span.Cand) (n : Nat) (h : Sep 0 cs) : Span.tokenize cs n = fwdE 0 cs n := by
  unfold Span.tokenize Span.resolve
  rw [sortByStart_sep cs 0 h, Span.resolveSorted_reverse, fold_sep cs [] 0 (by simp) h, List.append_nil]
  exact makeTokensRev_rev 0 n cs (Sep_inner cs 0 h)

/-! ### `LineBreak.find` on lines joined by "\n" -/

open Mistletoe.Document in
/-- the `LineBreak.pattern` matches in `'\n'.join(ts)` when no line ends in a space or backslash:
    exactly the "\n" characters, each with an empty group 1 -/
def nlMatches : Nat → List Str → List M
  | _, [] => []
  | pos, t :: rest =>
    match rest with
    | [] => []
    | _ :: _ => { start := pos + t.length, stop := pos + t.length + 1, gs := pos + t.length, ge := pos + t.length } ::
        nlMatches (pos + t.length + 1) rest

theorem nl_idx (x : Str) : ∀ (t : Str), t ≠ [] → '\n' ∉ t → t.getLast? ≠ some ' ' →
    ∃ d, (t ++ x)[countLeading ' ' (t ++ x)]? = some d ∧ d ≠ '\n'
  | [], h, _, _ => absurd rfl h
  | [c], _, hn, hl => by
    have hc : c ≠ ' ' := by simpa using hl
    refine ⟨c, by simp [countLeading, hc], fun e => hn (by simp [e])⟩
  | c :: c' :: t, _, hn, hl => by
    by_cases hc : c = ' '
    · subst hc
      obtain ⟨d, h1, h2⟩ := nl_idx x (c' :: t) (by simp) (fun hm => hn (List.mem_cons_of_mem _ hm))
        (by simpa [List.getLast?_cons_cons] using hl)
      refine ⟨d, ?_, h2⟩
      have e : countLeading ' ' (' ' :: (c' :: t ++ x)) = countLeading ' ' (c' :: t ++ x) + 1 := by
        simp [countLeading]
      show (' ' :: (c' :: t ++ x))[countLeading ' ' (' ' :: (c' :: t ++ x))]? = some d
      rw [e, List.getElem?_cons_succ]; exact h1
    · exact ⟨c, by simp [countLeading, hc], fun e => hn (by simp [e])⟩

/-- `LineBreak.pattern` does not match at the start of a non-empty line that does not end in a space, unless the
    text begins with a backslash directly before "\n" -/
theorem lineBreakAt_mid (prev : Option Char) (t x : Str) (hne : t ≠ []) (hn : '\n' ∉ t)
    (hb : ∀ r, t ++ x ≠ '\\' :: '\n' :: r) (hl : t.getLast? ≠ some ' ') : lineBreakAt prev (t ++ x) = none := by
  obtain ⟨d, h1, h2⟩ := nl_idx x t hne hn hl
  have : (some d == some '\n') = false := by simp [h2]
  -- the `match` takes its last case: `simp` discharges the side condition of that equation by `hb`
  simp only [lineBreakAt, h1, this, Bool.false_eq_true, if_false]

theorem scanLine (more : Str) (f : Nat) : ∀ (t : Str) (pos : Nat) (prev : Option Char), '\n' ∉ t →
    (∀ a r, t ++ '\n' :: more ≠ a ++ '\\' :: '\n' :: r) → (t ≠ [] → t.getLast? ≠ some ' ') →
    findIterAux lineBreakAt (t.length + 1 + f) pos prev (t ++ '\n' :: more) =
      { start := pos + t.length, stop := pos + t.length + 1, gs := pos + t.length, ge := pos + t.length } ::
        findIterAux lineBreakAt f (pos + t.length + 1) (some '\n') more
  | [], pos, prev, _, _, _ => by
    have e : lineBreakAt prev ('\n' :: more) = some (1, 0, 0) := by
      simp [lineBreakAt, countLeading]
    have e2 : ([] : Str).length + 1 + f = f + 1 := by simp; omega
    rw [e2]
    simp [findIterAux, e]
  | c :: t, pos, prev, hn, hb, hl => by
    have hnone := lineBreakAt_mid prev (c :: t) ('\n' :: more) (by simp) hn (hb []) (hl (by simp))
    have e2 : (c :: t).length + 1 + f = (t.length + 1 + f) + 1 := by simp; omega
    rw [e2]
    simp only [List.cons_append] at hnone ⊢
    simp only [findIterAux, hnone]
    rw [scanLine more f t (pos + 1) (some c) (fun hm => hn (List.mem_cons_of_mem _ hm))
      (fun a r e => hb (c :: a) r (by rw [List.cons_append, e]; rfl))
      (by
        intro hne
        cases t with
        | nil => exact absurd rfl hne
        | cons d t' => simpa [List.getLast?_cons_cons] using hl (by simp))]
    simp only [List.length_cons]
    have a1 : pos + 1 + t.length = pos + (t.length + 1) := by omega
    rw [a1]

open Mistletoe.Document

theorem joinNl_cons2 (t t' : Str) (rest : List Str) : joinNl (t :: t' :: rest) = t ++ '\n' :: joinNl (t' :: rest) := by
  simp [joinNl]

theorem findIter_lines : ∀ (ts : List Str) (pos : Nat) (prev : Option Char) (f : Nat),
    (∀ t ∈ ts, t ≠ [] ∧ '\n' ∉ t ∧ t.getLast? ≠ some ' ') → (∀ a r, joinNl ts ≠ a ++ '\\' :: '\n' :: r) →
    findIterAux lineBreakAt ((joinNl ts).length + 1 + f) pos prev (joinNl ts) = nlMatches pos ts
  | [], pos, prev, f, _, _ => by simp [joinNl, findIterAux, nlMatches]
  | [t], pos, prev, f, h, _ => by
    simp only [joinNl, nlMatches]
    exact findIterAux_nil _ (fun s => '\n' ∉ s) (fun _ _ hq hm => hq (List.mem_cons_of_mem _ hm))
      (fun p c r hq => lineBreakAt_none p (c :: r) hq) _ _ _ t (h t (by simp)).2.1
  | t :: t' :: rest, pos, prev, f, h, hb => by
    have ht := h t (by simp)
    rw [joinNl_cons2] at hb ⊢
    have e : (t ++ '\n' :: joinNl (t' :: rest)).length + 1 + f = t.length + 1 + ((joinNl (t' :: rest)).length + 1 + f) := by
      simp; omega
    rw [e, scanLine _ _ t pos prev ht.2.1 hb (fun _ => ht.2.2)]
    rw [findIter_lines (t' :: rest) _ _ f (fun x hx => h x (List.mem_cons_of_mem _ hx))
      (fun a r e => hb (t ++ '\n' :: a) r (by rw [e]; simp))]
    simp [nlMatches]

/-- `LineBreak.find` on non-empty lines joined by "\n", none ending in a space and no backslash directly before a
    "\n": it matches exactly the "\n" characters, each with an empty group 1 (soft breaks) -/
theorem findIter_joinNl (ts : List Str) (h : ∀ t ∈ ts, t ≠ [] ∧ '\n' ∉ t ∧ t.getLast? ≠ some ' ')
    (hb : ∀ a r, joinNl ts ≠ a ++ '\\' :: '\n' :: r) : findIter lineBreakAt (joinNl ts) = nlMatches 0 ts := by
  have := findIter_lines ts 0 none 0 h hb
  simpa [findIter] using this

/-- the inline tokens of a paragraph of inert lines: the lines as `RawText`, soft `LineBreak`s between -/
def proseInlines : List Str → List Inline
  | [] => []
  | t :: rest =>
    match rest with
    | [] => [.rawText t]
    | _ :: _ => .rawText t :: .lineBreak [] true :: proseInlines rest

/-- the candidate `tokenize_inner` builds from a `LineBreak` match (for any element of `find_tokens`' result:
    `EmphHtml.candF`) -/
def lbCand (k : Nat) (p : M × Nat) : Span.Cand :=
  { start := p.1.start, stop := p.1.stop, pstart := p.1.start, pend := p.1.stop, prec := 5, inner := false, cls := k, ord := p.2 }

theorem flatMap_one {α β} [DecidableEq α] (f : α → List β) (x : α) : ∀ (l : List α), (∀ t ∈ l, t ≠ x → f t = []) →
    l.count x = 1 → l.flatMap f = f x
  | [], _, hc => by simp at hc
  | t :: l, h, hc => by
    by_cases ht : t = x
    · subst ht
      have hc0 : l.count t = 0 := by simpa [List.count_cons] using hc
      have hnot : t ∉ l := List.count_eq_zero.mp hc0
      have : l.flatMap f = [] := by
        rw [List.flatMap_eq_nil_iff]
        intro y hy
        exact h y (List.mem_cons_of_mem _ hy) (fun e => hnot (e ▸ hy))
      simp [List.flatMap_cons, this]
    · have hc' : l.count x = 1 := by
        have : (t == x) = false := by simpa using ht
        simpa [List.count_cons, this] using hc
      rw [List.flatMap_cons, h t (by simp) ht, List.nil_append]
      exact flatMap_one f x l (fun y hy => h y (List.mem_cons_of_mem _ hy)) hc'

theorem flatMap_two {α β} [DecidableEq α] (f : α → List β) (x y : α) (hxy : x ≠ y) (l : List α)
    (h : ∀ t ∈ l, t ≠ x → t ≠ y → f t = []) (hx : l.count x = 1) (hy : l.count y = 1) :
    (l.flatMap f).Perm (f x ++ f y) := by
  have mx : x ∈ l := List.count_pos_iff.1 (by omega)
  have my : y ∈ l.erase x := (List.mem_erase_of_ne (Ne.symm hxy)).2 (List.count_pos_iff.1 (by omega))
  have p := (List.perm_cons_erase mx).trans ((List.perm_cons_erase my).cons x)
  have cx := p.count_eq x
  have cy := p.count_eq y
  rw [hx, List.count_cons_self, List.count_cons_of_ne hxy.symm] at cx
  rw [hy, List.count_cons_of_ne hxy, List.count_cons_self] at cy
  have hr : ((l.erase x).erase y).flatMap f = [] :=
    List.flatMap_eq_nil_iff.2 fun t ht =>
      h t (p.symm.subset (List.mem_cons_of_mem _ (List.mem_cons_of_mem _ ht)))
        (fun e => by rw [e] at ht; exact List.count_eq_zero.1 (by omega) ht)
        (fun e => by rw [e] at ht; exact List.count_eq_zero.1 (by omega) ht)
  have := p.flatMap_right f
  rwa [List.flatMap_cons, List.flatMap_cons, hr, List.append_nil] at this

theorem builds_append (s : Str) (found : List Found) : ∀ (a b : List Span.Out),
    builds s found (a ++ b) = builds s found a ++ builds s found b
  | [], _ => rfl
  | o :: a, b => by simp [builds, builds_append s found a b]

theorem build_lb (s : Str) (found : List Found) (c : Span.Cand) (m : M)
    (hf : found[c.ord]? = some (ofRe .lineBreak true m)) (hm : m.gs = m.ge) :
    build s found (.tok c []) = .lineBreak [] true := by
  simp only [build, hf, ofRe, hm, Span.slice_self]
  simp [startsWith]

theorem lbCand_start (k : Nat) (p : M × Nat) : (lbCand k p).start = p.1.start := rfl
theorem lbCand_stop (k : Nat) (p : M × Nat) : (lbCand k p).stop = p.1.stop := rfl

theorem nlMatches_cons2 (pos : Nat) (t t' : Str) (rest : List Str) :
    nlMatches pos (t :: t' :: rest) =
      { start := pos + t.length, stop := pos + t.length + 1, gs := pos + t.length, ge := pos + t.length } ::
        nlMatches (pos + t.length + 1) (t' :: rest) := by
  simp [nlMatches]

theorem proseInlines_cons2 (t t' : Str) (rest : List Str) :
    proseInlines (t :: t' :: rest) = .rawText t :: .lineBreak [] true :: proseInlines (t' :: rest) := by
  simp [proseInlines]

theorem builds_lines (s : Str) (found : List Found) (cls : Nat) : ∀ (ts : List Str) (pre : Str) (k : Nat),
    s = pre ++ joinNl ts → ts ≠ [] → (∀ t ∈ ts, t ≠ [] ∧ Unescape.unescape true t = t) →
    (∀ i, k ≤ i → i < k + (nlMatches pre.length ts).length →
      ∃ m, found[i]? = some (ofRe .lineBreak true m) ∧ m.gs = m.ge) →
    builds s found (fwdE pre.length (((nlMatches pre.length ts).zipIdx k).map (lbCand cls)) (pre.length + (joinNl ts).length)) =
      proseInlines ts
  | [], _, _, _, hne, _, _ => absurd rfl hne
  | [t], pre, k, hs, _, ht, _ => by
    obtain ⟨htne, hta⟩ := ht t (by simp)
    have hl : pre.length ≠ pre.length + t.length := by
      have : t.length ≠ 0 := fun e => htne (List.eq_nil_of_length_eq_zero e)
      omega
    have hsl : slice s pre.length (pre.length + t.length) = t := by
      have := Span.slice_mid pre t []
      simpa [hs, joinNl] using this
    simp [nlMatches, fwdE, joinNl, htne, builds, build, hsl, hta, proseInlines]
  | t :: t' :: rest, pre, k, hs, _, ht, hf => by
    obtain ⟨htne, hta⟩ := ht t (by simp)
    have hpos : pre.length + t.length > pre.length := by
      have : t.length ≠ 0 := fun e => htne (List.eq_nil_of_length_eq_zero e)
      omega
    rw [joinNl_cons2] at hs
    have hsl : slice s pre.length (pre.length + t.length) = t := by
      rw [hs, ← List.append_assoc]; exact Span.slice_mid pre t _
    have hs' : s = (pre ++ (t ++ ['\n'])) ++ joinNl (t' :: rest) := by rw [hs]; simp
    have hlen : (pre ++ (t ++ ['\n'])).length = pre.length + t.length + 1 := by simp; omega
    have ih := builds_lines s found cls (t' :: rest) (pre ++ (t ++ ['\n'])) (k + 1) hs' (by simp)
      (fun x hx => ht x (List.mem_cons_of_mem _ hx))
      (by
        intro i hi1 hi2
        refine hf i (by omega) ?_
        rw [nlMatches_cons2]
        rw [hlen] at hi2
        simp only [List.length_cons]; omega)
    rw [hlen] at ih
    obtain ⟨m, hm1, hm2⟩ := hf k (Nat.le_refl _) (by rw [nlMatches_cons2]; simp)
    rw [nlMatches_cons2, List.zipIdx_cons, List.map_cons, joinNl_cons2, proseInlines_cons2]
    have e : pre.length + (t ++ '\n' :: joinNl (t' :: rest)).length = pre.length + t.length + 1 + (joinNl (t' :: rest)).length := by
      simp; omega
    rw [e]
    have hb : ∀ p : M, build s found (.tok (lbCand cls (p, k)) []) = .lineBreak [] true :=
      fun p => build_lb s found (lbCand cls (p, k)) m hm1 hm2
    have hraw : build s found (.raw pre.length (pre.length + t.length)) = .rawText t := by
      simp only [build, hsl, hta]
    simp only [fwdE, lbCand_stop, lbCand_start, hpos, if_true, builds_append, builds, hb, hraw, ih]
    rfl

theorem sep_lines (cls : Nat) : ∀ (ts : List Str) (pos k lo : Nat), lo ≤ pos →
    Sep lo (((nlMatches pos ts).zipIdx k).map (lbCand cls))
  | [], _, _, _, _ => by simp [nlMatches, Sep]
  | [t], _, _, _, _ => by simp [nlMatches, Sep]
  | t :: t' :: rest, pos, k, lo, h => by
    rw [nlMatches_cons2, List.zipIdx_cons, List.map_cons]
    refine ⟨?_, ?_, rfl, ?_⟩
    · show lo ≤ pos + t.length; omega
    · show pos + t.length ≤ pos + t.length + 1; omega
    · exact sep_lines cls (t' :: rest) (pos + t.length + 1) (k + 1) _ (Nat.le_refl _)

theorem nlMatches_empty_group : ∀ (ts : List Str) (pos : Nat), ∀ m ∈ nlMatches pos ts, m.gs = m.ge
  | [], _, _, h => by simp [nlMatches] at h
  | [t], _, _, h => by simp [nlMatches] at h
  | t :: t' :: rest, pos, m, h => by
    rw [nlMatches_cons2] at h
    rcases List.mem_cons.mp h with rfl | h
    · rfl
    · exact nlMatches_empty_group (t' :: rest) _ m h

/-- **what an inline condition on the text `s` has to provide** (`inertBody` here, the weaker
    conditions `inertBody2` … `inertBody5` in Proofs/InertWide.lean): no covered class but `LineBreak` finds anything in `s`,
    `find_core_tokens` finds nothing, and when `s` consists of lines joined by "\n", `html.unescape` leaves every line
    alone and `LineBreak` matches exactly those "\n"s, each as a soft break -/
structure Silent (fn : Footnotes.Table) (s : Str) : Prop where
  scan : ∀ t, inertClass t = true → t ≠ .lineBreak → findOne s [] [] t = []
  core : findCoreTokens s fn = .ok ([], [])
  amp : ∀ ts, s = joinNl ts → ∀ t ∈ ts, Unescape.unescape true t = t
  lb : ∀ ts, s = joinNl ts → (∀ t ∈ ts, t ≠ [] ∧ '\n' ∉ t ∧ t.getLast? ≠ some ' ') →
    findIter lineBreakAt s = nlMatches 0 ts

theorem Silent.inline {fn : Footnotes.Table} {s : Str} (h : Silent fn s) (types : List STok)
    (ht : ∀ t ∈ types, inertClass t = true) (hnl : '\n' ∉ s) :
    findAll s types fn = .ok [] ∧ Unescape.unescape true s = s ∧
      (s ≠ [] → tokenizeInner types fn s = .ok [.rawText s]) := by
  have h1 : findAll s types fn = .ok [] := by
    refine findAll_nil s types fn h.core fun t htm => ?_
    by_cases hlb : t = .lineBreak
    · subst hlb; exact findOne_lineBreak s hnl
    · exact h.scan t (ht t htm) hlb
  have h2 := h.amp [s] rfl s (List.mem_singleton.mpr rfl)
  exact ⟨h1, h2, fun hne => by rw [tokenizeInner_no_candidates types fn s h1 hne, h2]⟩

theorem Silent.lines {fn : Footnotes.Table} {ts : List Str} (h : Silent fn (joinNl ts)) (types : List STok)
    (ht : ∀ t ∈ types, inertClass t = true) (hc : types.count .lineBreak = 1) (hne : ts ≠ [])
    (hl : ∀ t ∈ ts, t ≠ [] ∧ '\n' ∉ t ∧ t.getLast? ≠ some ' ') :
    tokenizeInner types fn (joinNl ts) = .ok (proseInlines ts) := by
  have hfm : types.flatMap (findOne (joinNl ts) [] []) = (nlMatches 0 ts).map (ofRe .lineBreak true) := by
    rw [flatMap_one _ .lineBreak types (fun t htm hne => h.scan t (ht t htm) hne) hc]
    simp only [findOne, h.lb ts rfl hl]
  unfold tokenizeInner
  rw [findAll_core _ _ _ h.core, hfm]
  simp only
  have hcs : ((nlMatches 0 ts).map (ofRe .lineBreak true)).zipIdx.map (fun (f, i) =>
      ({ start := f.start, stop := f.stop, pstart := f.pstart, pend := f.pend, prec := prec f.cls,
         inner := parseInner f.cls, cls := clsIndex types f.cls, ord := i } : Span.Cand)) =
      ((nlMatches 0 ts).zipIdx 0).map (lbCand (clsIndex types .lineBreak)) := by
    rw [List.zipIdx_map, List.map_map]
    apply List.map_congr_left
    intro ⟨m, i⟩ _
    rfl
  rw [hcs, tokenize_sep _ _ (sep_lines _ ts 0 0 0 (Nat.le_refl _))]
  have := builds_lines (joinNl ts) ((nlMatches 0 ts).map (ofRe .lineBreak true)) (clsIndex types .lineBreak) ts [] 0
    rfl hne (fun t htm => ⟨(hl t htm).1, h.amp ts rfl t htm⟩)
    (by
      intro i _ hi
      simp only [List.length_nil, Nat.zero_add] at hi
      have hm : (nlMatches 0 ts)[i]? = some ((nlMatches 0 ts)[i]) := List.getElem?_eq_getElem hi
      refine ⟨(nlMatches 0 ts)[i], by rw [List.getElem?_map, hm]; rfl, ?_⟩
      exact nlMatches_empty_group ts 0 _ (List.getElem_mem hi))
  simp only [List.length_nil, Nat.zero_add] at this
  rw [this]

end Mistletoe.InertInline
