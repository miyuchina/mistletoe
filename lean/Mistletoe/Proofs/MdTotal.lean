/-
  C01 for the Markdown renderer: `MarkdownRenderer(**opts).render(Document(text))` never raises.

  * `MdOk d` — a decidable (Bool-valued, structurally recursive, kernel-evaluable) well-formedness
    predicate on the AST that excludes exactly the raise sites of `Markdown.renderRes`
    (`renderRes_isOk`: `(renderRes o d).isOk = mdOk d`, for every option set);
  * `renderRes_total` — a well-formed document renders, whatever the options;
  * `parse_mdOk` — every document the parser builds under a span-token list without the contrib
    classes (Math, GithubWiki, XWiki macros) is well formed;
  * `C01_markdown_total` — parse-and-render under the token lists `MarkdownRenderer` installs
    returns a string, for every text and every option set.
-/
import Mistletoe.Model.Markdown
import Mistletoe.Props.C01
import Mistletoe.Proofs.Lit
import Mistletoe.Proofs.Range
import Mistletoe.Proofs.ConfigValues
namespace Mistletoe.Proofs.MdTotal
open Mistletoe Mistletoe.Wrap Mistletoe.Markdown

/-! ## 1. The well-formedness predicate -/

/-- `if token.title:` is false, or the title delimiter is a string -/
def tdOk (title : Str) (td : Option Str) : Bool := title.isEmpty || td.isSome

/-- what `render_link_or_image` needs of the link attributes: a title that is spelled needs its
    delimiter (inline links only: the other forms do not spell the title), a full reference link its label -/
def linkOk (title : Str) (dt : DestType) (label td : Option Str) : Bool :=
  match dt with
  | .uri => tdOk title td
  | .angleUri => tdOk title td
  | .full => label.isSome
  | .collapsed => true
  | .shortcut => true
  | .none => true

mutual
/-- the span token and everything below it has a render-map entry and well-formed attributes -/
def iOk : Inline → Bool
  | .rawText _ => true
  | .strong _ k => isOk k
  | .emphasis _ k => isOk k
  | .inlineCode _ _ _ => true
  | .strikethrough k => isOk k
  | .image _ title dt label td k => isOk k && linkOk title dt label td
  | .link _ title dt label td k => isOk k && linkOk title dt label td
  | .autoLink _ _ => true
  | .escapeSequence _ => true
  | .lineBreak _ _ => true
  | .htmlSpan _ => true
  | .math _ => false
  | .githubWiki _ _ => false
  | .xwikiMacroStart _ => false
  | .xwikiMacroEnd _ => false
  | .linkRefDef _ _ title _ td => tdOk title td
def isOk : List Inline → Bool
  | [] => true
  | i :: is => iOk i && isOk is
end

def cellOk : Block → Bool
  | .tableCell _ k _ => isOk k
  | _ => false

def cellsOk : List Block → Bool
  | [] => true
  | c :: cs => cellOk c && cellsOk cs

def rowOk : Block → Bool
  | .tableRow _ cells _ => cellsOk cells
  | _ => false

def rowsOk : List Block → Bool
  | [] => true
  | r :: rs => rowOk r && rowsOk rs

mutual
/-- the block token and everything below it renders: rows and cells occur only inside tables, a table
    has its header row, rows are rows of cells, span content is well formed -/
def bOk : Block → Bool
  | .paragraph k _ => isOk k
  | .heading _ _ k _ => isOk k
  | .setextHeading _ _ k _ => isOk k
  | .quote kids _ => bsOk kids
  | .blockCode _ _ => true
  | .codeFence _ _ _ _ _ _ => true
  | .list _ _ items _ => bsOk items
  | .listItem _ _ _ _ kids _ => bsOk kids
  | .table _ header rows _ => (match header with | [] => false | h :: _ => rowOk h) && rowsOk rows
  | .tableRow _ _ _ => false
  | .tableCell _ _ _ => false
  | .thematicBreak _ _ => true
  | .htmlBlock _ _ => true
  | .blankLine _ => true
  | .linkRefDefBlock defs _ => isOk defs
def bsOk : List Block → Bool
  | [] => true
  | b :: bs => bOk b && bsOk bs
end

def mdOk (d : Doc) : Bool := bsOk d.kids

/-- **The documents the Markdown renderer accepts.** -/
def MdOk (d : Doc) : Prop := mdOk d = true

instance (d : Doc) : Decidable (MdOk d) := by unfold MdOk; exact inferInstance

/-! ## 2. `MdOk` is exactly "the renderer does not raise" -/

theorem isOk_bind {α β} (r : Res α) (f : α → Res β) :
    (match r with | .err e => Res.err e | .ok a => f a).isOk = (r.isOk && match r with | .ok a => (f a).isOk | .err _ => true) := by
  cases r <;> simp [Res.isOk]

theorem titleFrags_isOk (title : Str) (td : Option Str) : (titleFrags title td).isOk = tdOk title td := by
  unfold titleFrags tdOk
  cases h : title.isEmpty <;> cases td <;> simp [Res.isOk]

theorem linkTail_isOk (target title : Str) (dt : DestType) (label td : Option Str) :
    (linkTail target title dt label td).isOk = linkOk title dt label td := by
  unfold linkTail linkOk
  cases dt <;> simp only
  · rw [← titleFrags_isOk]; cases titleFrags title td <;> rfl
  · rw [← titleFrags_isOk]; cases titleFrags title td <;> rfl
  · cases label <;> rfl
  · rfl
  · rfl
  · rfl

mutual
theorem renderInline_isOk : ∀ (i : Inline), (renderInline i).isOk = iOk i
  | .rawText _ => rfl
  | .strong _ k => by
    simp only [renderInline, iOk, ← renderInlines_isOk k]
    cases renderInlines k <;> rfl
  | .emphasis _ k => by
    simp only [renderInline, iOk, ← renderInlines_isOk k]
    cases renderInlines k <;> rfl
  | .inlineCode _ _ _ => rfl
  | .strikethrough k => by
    simp only [renderInline, iOk, ← renderInlines_isOk k]
    cases renderInlines k <;> rfl
  | .image src title dt label td k => by
    simp only [renderInline, iOk, ← renderInlines_isOk k, ← linkTail_isOk src title dt label td]
    cases renderInlines k <;> cases linkTail src title dt label td <;> rfl
  | .link src title dt label td k => by
    simp only [renderInline, iOk, ← renderInlines_isOk k, ← linkTail_isOk src title dt label td]
    cases renderInlines k <;> cases linkTail src title dt label td <;> rfl
  | .autoLink _ _ => rfl
  | .escapeSequence _ => rfl
  | .lineBreak _ _ => rfl
  | .htmlSpan _ => rfl
  | .math _ => rfl
  | .githubWiki _ _ => rfl
  | .xwikiMacroStart _ => rfl
  | .xwikiMacroEnd _ => rfl
  | .linkRefDef _ _ title _ td => by
    simp only [renderInline, iOk, ← titleFrags_isOk title td]
    cases titleFrags title td <;> rfl
theorem renderInlines_isOk : ∀ (k : List Inline), (renderInlines k).isOk = isOk k
  | [] => rfl
  | i :: is => by
    simp only [renderInlines, isOk, ← renderInline_isOk i, ← renderInlines_isOk is]
    cases renderInline i <;> cases renderInlines is <;> rfl
end

theorem spanToLines_isOk (k : List Inline) (m : Option Int) : (spanToLines k m).isOk = isOk k := by
  rw [← renderInlines_isOk]; unfold spanToLines; cases renderInlines k <;> rfl

theorem firstLine_isOk (k : List Inline) : (firstLine k).isOk = isOk k := by
  rw [← spanToLines_isOk k none]; unfold firstLine
  cases h : spanToLines k none with
  | err e => rfl
  | ok ls => cases ls <;> rfl

theorem cellText_isOk (c : Block) : (cellText c).isOk = cellOk c := by
  cases c <;> first | rfl | exact firstLine_isOk _

theorem cellsText_isOk : ∀ (cs : List Block), (cellsText cs).isOk = cellsOk cs
  | [] => rfl
  | c :: cs => by
    simp only [cellsText, cellsOk, ← cellText_isOk c, ← cellsText_isOk cs]
    cases cellText c <;> cases cellsText cs <;> rfl

theorem rowText_isOk (r : Block) : (rowText r).isOk = rowOk r := by
  cases r <;> first | rfl | exact cellsText_isOk _

theorem rowsText_isOk : ∀ (rs : List Block), (rowsText rs).isOk = rowsOk rs
  | [] => rfl
  | r :: rs => by
    simp only [rowsText, rowsOk, ← rowText_isOk r, ← rowsText_isOk rs]
    cases rowText r <;> cases rowsText rs <;> rfl

theorem defLines_isOk (m : Option Int) : ∀ (ds : List Inline), (defLines m ds).isOk = isOk ds
  | [] => rfl
  | d :: ds => by
    have h1 := spanToLines_isOk [d] m
    have h2 := defLines_isOk m ds
    simp only [isOk, Bool.and_true] at h1
    simp only [defLines, isOk]
    cases h : spanToLines [d] m <;> cases h3 : defLines m ds <;> simp_all [Res.isOk]

mutual
theorem renderBlock_isOk (o : Opts) : ∀ (m : Option Int) (b : Block), (renderBlock o m b).isOk = bOk b
  | m, .paragraph k _ => by simp only [renderBlock, bOk]; exact spanToLines_isOk k m
  | m, .heading _ _ k _ => by
    simp only [renderBlock, bOk, ← firstLine_isOk k]
    cases firstLine k <;> rfl
  | m, .setextHeading _ _ k _ => by
    simp only [renderBlock, bOk, ← spanToLines_isOk k m]
    cases spanToLines k m <;> rfl
  | m, .quote kids _ => by
    simp only [renderBlock, bOk, ← renderBlocks_isOk o (childBudget m 2) kids]
    cases renderBlocks o (childBudget m 2) kids <;> rfl
  | m, .blockCode _ _ => rfl
  | m, .codeFence _ _ _ _ _ _ => rfl
  | m, .list _ _ items _ => by simp only [renderBlock, bOk]; exact renderBlocks_isOk o m items
  | m, .listItem leader ind pre _ kids _ => by
    simp only [renderBlock, bOk, ← renderBlocks_isOk o (childBudget m (if o.normalizeWhitespace then leader.length + 1 else pre)) kids]
    cases renderBlocks o (childBudget m (if o.normalizeWhitespace then leader.length + 1 else pre)) kids <;> rfl
  | m, .table _ header rows _ => by
    cases header with
    | nil => rfl
    | cons hd tl =>
      simp only [renderBlock, bOk, ← rowText_isOk hd, ← rowsText_isOk rows]
      cases rowText hd <;> cases rowsText rows <;> rfl
  | m, .tableRow _ _ _ => rfl
  | m, .tableCell _ _ _ => rfl
  | m, .thematicBreak _ _ => rfl
  | m, .htmlBlock _ _ => rfl
  | m, .blankLine _ => rfl
  | m, .linkRefDefBlock defs _ => by simp only [renderBlock, bOk]; exact defLines_isOk m defs
theorem renderBlocks_isOk (o : Opts) : ∀ (m : Option Int) (bs : List Block), (renderBlocks o m bs).isOk = bsOk bs
  | m, [] => rfl
  | m, b :: bs => by
    simp only [renderBlocks, bsOk, ← renderBlock_isOk o m b, ← renderBlocks_isOk o m bs]
    cases renderBlock o m b <;> cases renderBlocks o m bs <;> rfl
end

/-- **`MdOk` is exact**: for every option set (every `max_line_length`, negative and zero included, and
    both values of `normalize_whitespace`) the renderer returns iff the document is well formed.  The
    line-budget arithmetic (`childBudget`, `fragmentsToLines`, `Model/Wrap.lean`) has no raise site. -/
theorem renderRes_isOk (o : Opts) (d : Doc) : (renderRes o d).isOk = mdOk d := by
  unfold renderRes mdOk
  rw [← renderBlocks_isOk o o.maxLineLength d.kids]
  cases renderBlocks o o.maxLineLength d.kids <;> rfl

theorem renderRes_total {d : Doc} (h : MdOk d) (o : Opts) : ∃ s, renderRes o d = .ok s :=
  Res.exists_of_isOk ((renderRes_isOk o d).trans h)

theorem mdOk_of_renderRes {d : Doc} {o : Opts} {s : Str} (h : renderRes o d = .ok s) : MdOk d := by
  have := renderRes_isOk o d
  rw [h] at this
  exact this.symm

/-! ## 3. The inline phase builds well-formed span tokens -/

open Mistletoe.Core Mistletoe.Inline Mistletoe.InlineScan

/-- the attributes the Link / Image constructor will read from a core match are well formed -/
def coreOk (m : CoreM) : Bool :=
  linkOk (Unescape.escStrip true m.title) (DestTypeOf m.destType) m.label (m.titleDelim.map (fun c => [c]))

def AllOk (ms : List CoreM) : Prop := ∀ m ∈ ms, coreOk m = true

theorem escStrip_nil : Unescape.escStrip true [] = [] := by decide

/-- `DestTypeOf` on the names `find_link_image` writes into `dest_type` -/
theorem destTypeOf_names :
    DestTypeOf [] = .none ∧ DestTypeOf "uri".toList = .uri ∧ DestTypeOf "angle_uri".toList = .angleUri ∧
    DestTypeOf "full".toList = .full ∧ DestTypeOf "collapsed".toList = .collapsed ∧
    DestTypeOf "shortcut".toList = .shortcut := by decide +kernel

theorem coreOk_emph (m : CoreM) (h : m.destType = []) : coreOk m = true := by
  unfold coreOk; rw [h]
  rw [destTypeOf_names.1]; rfl

theorem coreOk_inline (m : CoreM) (h1 : m.destType = "angle_uri".toList ∨ m.destType = "uri".toList)
    (h2 : m.title = [] ∨ m.titleDelim.isSome = true) : coreOk m = true := by
  have ht : tdOk (Unescape.escStrip true m.title) (m.titleDelim.map (fun c => [c])) = true := by
    unfold tdOk
    rcases h2 with h2 | h2
    · rw [h2, escStrip_nil]; rfl
    · cases htd : m.titleDelim with
      | none => rw [htd] at h2; cases h2
      | some c => simp
  obtain ⟨-, huri, hangle, -⟩ := destTypeOf_names
  unfold coreOk
  rcases h1 with h1 | h1 <;> rw [h1]
  · rw [hangle]; exact ht
  · rw [huri]; exact ht

theorem matchLinkTitle_delim (s : Str) (o : Nat) (tls tle : Nat) (title : Str)
    (h : Core.matchLinkTitle s o = some (tls, tle, title)) :
    title = [] ∨ (tls < tle ∧ (s[tls]?).isSome = true) := by
  unfold Core.matchLinkTitle at h
  simp only at h
  split at h
  · cases h
  · split at h
    · cases h
    · rename_i c hc
      split at h
      · cases h; left; rfl
      · split at h
        · cases h
        · rename_i cl _
          have := Core.titleGo_lt _ _ _ _ _ _ _ h
          simp only at this
          right
          refine ⟨by omega, ?_⟩
          rw [this.1, hc]; rfl

theorem matchLinkImage_coreOk (s : Str) (offset : Nat) (d : Delim) (fn : Footnotes.Table) (m : CoreM)
    (h : matchLinkImage s offset d fn = some m) : coreOk m = true := by
  obtain ⟨-, -, -, hfull, hcollapsed, hshortcut⟩ := destTypeOf_names
  obtain ⟨stop, dest, title, dt, lbl, td, hform, rfl⟩ := matchLinkImage_cases h
  cases hform with
  | inline ds de tls tle _ _ hti _ =>
    apply coreOk_inline
    · simp only; split
      · left; rfl
      · right; rfl
    · rcases matchLinkTitle_delim _ _ _ _ _ hti with h1 | ⟨h1, h2⟩
      · left; exact h1
      · right; simp only [h1, if_true]; exact h2
  | full => unfold coreOk; simp only [hfull]; rfl
  | collapsed => unfold coreOk; simp only [hcollapsed]; rfl
  | shortcut => unfold coreOk; simp only [hshortcut]; rfl

theorem findCoreTokens_allOk (s : Str) (fn : Footnotes.Table) (ms : List CoreM) (codes : List CodeM)
    (h : findCoreTokens s fn = .ok (ms, codes)) : AllOk ms := fun m hm => by
  rcases findCoreTokens_origin s fn ms codes h m hm with ⟨o, c, n, dch, rfl⟩ | ⟨offset, d, fn', e⟩
  · exact coreOk_emph _ rfl
  · exact matchLinkImage_coreOk _ _ _ _ _ e

/-- a span-token list without the classes `MarkdownRenderer` has no render-map entry for
    (`Math`, `GithubWiki`, `XWikiBlockMacroStart`, `XWikiBlockMacroEnd`) -/
def spanOk (types : List STok) : Bool :=
  !types.contains .math && !types.contains .githubWiki && !types.contains .xwikiMacroStart && !types.contains .xwikiMacroEnd

def foundOk (f : Found) : Prop :=
  (f.cls ≠ .math ∧ f.cls ≠ .githubWiki ∧ f.cls ≠ .xwikiMacroStart ∧ f.cls ≠ .xwikiMacroEnd) ∧
    ∀ m, f.payload = .core m → coreOk m = true

theorem findAll_foundOk (s : Str) (types : List STok) (fn : Footnotes.Table) (found : List Found)
    (hs : spanOk types = true) (h : findAll s types fn = .ok found) : ∀ f ∈ found, foundOk f := by
  unfold spanOk at hs
  simp only [Bool.and_eq_true, Bool.not_eq_true', List.contains_eq_mem, decide_eq_false_iff_not] at hs
  obtain ⟨core, codes, hcore, rfl⟩ := Range.findAll_ok h
  have hall : AllOk core := by
    split at hcore
    · exact findCoreTokens_allOk s fn core codes hcore
    · cases hcore; intro m hm; cases hm
  intro f hf
  obtain ⟨t, ht, hft⟩ := List.mem_flatMap.1 hf
  obtain ⟨h1, h2⟩ := Range.findOne_spec s core codes t f hft
  refine ⟨⟨?_, ?_, ?_, ?_⟩, fun m hm => hall m (h2 m hm)⟩
  · rw [h1]; intro e; rw [e] at ht; exact hs.1.1.1 ht
  · rw [h1]; intro e; rw [e] at ht; exact hs.1.1.2 ht
  · rw [h1]; intro e; rw [e] at ht; exact hs.1.2 ht
  · rw [h1]; intro e; rw [e] at ht; exact hs.2 ht

theorem inlineCodeOf_ok (s : Str) (m : CodeM) : iOk (inlineCodeOf s m) = true := by
  unfold inlineCodeOf
  simp only
  split <;> rfl

section build
set_option linter.unusedSectionVars false
variable (s : Str) (found : List Found) (hfound : ∀ f ∈ found, foundOk f)
include hfound

mutual
theorem build_ok : ∀ (o : Span.Out), iOk (build s found o) = true
  | .raw _ _ => rfl
  | .tok c kids => by
    have ih := builds_ok kids
    unfold build
    split
    · rfl
    · rename_i f hf
      obtain ⟨⟨h1, h2, h4, h5⟩, h3⟩ := hfound f (List.mem_of_getElem? hf)
      split
      · rfl
      · rfl
      · exact ih
      · rfl
      · rfl
      · exact absurd ‹f.cls = STok.math› h1
      · exact absurd ‹f.cls = STok.githubWiki› h2
      · exact absurd ‹f.cls = STok.xwikiMacroStart› h4
      · exact absurd ‹f.cls = STok.xwikiMacroEnd› h5
      · exact inlineCodeOf_ok _ _
      · rename_i m _ hp
        have hm := h3 m hp
        unfold coreOk at hm
        split
        · exact ih
        · exact ih
        · simp only [iOk, ih, hm, Bool.and_self]
        · simp only [iOk, ih, hm, Bool.and_self]
      · rfl
theorem builds_ok : ∀ (os : List Span.Out), isOk (builds s found os) = true
  | [] => rfl
  | o :: os => by
    simp only [builds, isOk, build_ok o, builds_ok os, Bool.and_self]
end
end build

theorem tokenizeInner_isOk (types : List STok) (fn : Footnotes.Table) (s : Str) (ks : List Inline)
    (hs : spanOk types = true) (h : tokenizeInner types fn s = .ok ks) : isOk ks = true := by
  unfold tokenizeInner at h
  split at h
  · cases h
  · rename_i found hf
    cases h
    exact builds_ok s found (findAll_foundOk s types fn found hs hf) _

/-! ## 4. The block phase: every link reference definition has its title delimiter -/

open Mistletoe.Block

/-- `LinkReferenceDefinition`: a non-empty title comes with its delimiter -/
def fnOk (m : FnMatch) : Bool := tdOk m.title (m.titleDelim.map (fun c => [c]))

theorem blockMatchLinkTitle_delim (s : Str) (o : Nat) (r : Nat × Nat × Str)
    (h : Block.matchLinkTitle s o = some r) : o < r.2.1 ∧ (s[o]?).isSome = true := by
  refine ⟨matchLinkTitle_lt s o r.1 r.2.1 r.2.2 h, ?_⟩
  unfold Block.matchLinkTitle at h
  split at h
  · cases h
  · rename_i c hc
    rw [hc]; rfl

theorem matchReference_fnOk (s : Str) (offset next : Nat) (m : FnMatch)
    (h : matchReference s offset = .ok (some (next, m))) : fnOk m = true := by
  obtain ⟨_, _, _, _, destEnd, _, _, _, _, _, _, hrest⟩ := matchReference_some h
  rcases hrest with ⟨_, _, _, rfl⟩ | ⟨_, titleEnd, title, hti, _, rfl⟩
  · rfl
  · -- a title was matched: its first character is there, and is the delimiter recorded
    obtain ⟨h1, h2⟩ := blockMatchLinkTitle_delim _ _ _ hti
    obtain ⟨c, hc⟩ := Option.isSome_iff_exists.1 h2
    simp only at h1
    simp [fnOk, tdOk, h1, hc]

theorem footnoteRefs_fnOk (s : Str) : ∀ (fuel offset : Nat) (acc : List FnMatch) (r : List FnMatch × Option Nat),
    footnoteRefs s fuel offset acc = .ok r → (∀ m ∈ acc, fnOk m = true) → ∀ m ∈ r.1, fnOk m = true
  | 0, _, _, _, h, _ => by simp [footnoteRefs] at h
  | fuel + 1, offset, acc, r, h, ha => by
    simp only [footnoteRefs] at h
    split at h
    · split at h
      · cases h
      · cases h; intro m hm; exact ha m (List.mem_reverse.1 hm)
      · rename_i next m0 hmr
        refine footnoteRefs_fnOk s fuel next (m0 :: acc) r h ?_
        intro m hm
        rcases List.mem_cons.1 hm with rfl | hm
        · exact matchReference_fnOk _ _ _ _ hmr
        · exact ha m hm
    · cases h; intro m hm; exact ha m (List.mem_reverse.1 hm)

theorem readFootnote_fnOk (fw : FW) (ms : List FnMatch) (fw' : FW) (h : readFootnote fw = .ok (ms, fw')) :
    ∀ m ∈ ms, fnOk m = true := by
  unfold readFootnote at h
  simp only at h
  split at h
  · cases h
  · rename_i ms' back hr
    cases h
    exact footnoteRefs_fnOk _ _ _ _ _ hr (fun m hm => by cases hm)

mutual
/-- every `LinkReferenceDefinitionBlock` entry, at every nesting depth, holds only definitions whose
    title (if any) has its delimiter -/
def EntryMd : Entry → Prop
  | .blockCode _ _ _ => True
  | .heading _ _ _ _ _ => True
  | .quote inner _ _ _ => EntriesMd inner
  | .codeFence _ _ _ _ _ _ _ => True
  | .thematicBreak _ _ _ => True
  | .list items _ _ => ItemsMd items
  | .table _ _ _ _ => True
  | .footnote _ _ _ => True
  | .linkRefDefs ms _ _ => ∀ m ∈ ms, fnOk m = true
  | .paragraph _ _ _ => True
  | .setext _ _ _ => True
  | .htmlBlock _ _ _ => True
  | .blankLine _ _ => True
def EntriesMd : List Entry → Prop
  | [] => True
  | e :: es => EntryMd e ∧ EntriesMd es
def ItemMd : Item → Prop
  | .mk inner _ _ _ _ _ _ => EntriesMd inner
def ItemsMd : List Item → Prop
  | [] => True
  | i :: is => ItemMd i ∧ ItemsMd is
end

mutual
theorem entryMd_of_from {ts : List BTok} : ∀ (e : Entry), EntryFrom ts e → EntryMd e
  | .blockCode _ _ _, _ => trivial
  | .heading _ _ _ _ _, _ => trivial
  | .quote inner _ _ _, h => entriesMd_of_from inner h
  | .codeFence _ _ _ _ _ _ _, _ => trivial
  | .thematicBreak _ _ _, _ => trivial
  | .list items _ _, h => itemsMd_of_from items h.2
  | .table _ _ _ _, _ => trivial
  | .footnote _ _ _, _ => trivial
  | .linkRefDefs ms _ _, ⟨_, _, fw, fw', hf⟩ => readFootnote_fnOk fw ms fw' hf
  | .paragraph _ _ _, _ => trivial
  | .setext _ _ _, _ => trivial
  | .htmlBlock _ _ _, _ => trivial
  | .blankLine _ _, _ => trivial
theorem entriesMd_of_from {ts : List BTok} : ∀ (es : List Entry), EntriesFrom ts es → EntriesMd es
  | [], _ => trivial
  | e :: es, h => ⟨entryMd_of_from e h.1, entriesMd_of_from es h.2⟩
theorem itemsMd_of_from {ts : List BTok} : ∀ (is : List Item), ItemsFrom ts is → ItemsMd is
  | [], _ => trivial
  | .mk inner _ _ _ _ _ _ :: is, h => ⟨entriesMd_of_from inner h.1.2, itemsMd_of_from is h.2⟩
end

/-! ## 5. The block token constructors build well-formed block tokens -/

open Mistletoe.Document Mistletoe.Py Mistletoe.Scan

theorem isOk_linkRefDefs : ∀ (ms : List FnMatch), (∀ m ∈ ms, fnOk m = true) → isOk (ms.map Document.linkRefDef) = true
  | [], _ => rfl
  | m :: ms, h => by
    have h1 : iOk (Document.linkRefDef m) = true := h m (by simp)
    have h2 := isOk_linkRefDefs ms (fun x hx => h x (by simp [hx]))
    simp only [List.map_cons, isOk, h1, h2, Bool.and_self]

section mk
set_option linter.unusedSectionVars false
variable (cfg : Document.Cfg) (fn : Footnotes.Table) (hs : spanOk cfg.span = true)
include hs

theorem inl_isOk (s : Str) (ks : List Inline) (h : inl cfg fn s = .ok ks) : isOk ks = true :=
  tokenizeInner_isOk cfg.span fn s ks hs h

omit hs in
theorem cellsOk_of_in : ∀ {cs : List Mistletoe.Block}, Range.CellsIn (isOk · = true) cs → cellsOk cs = true
  | [], _ => rfl
  | _ :: _, h => by
    obtain ⟨⟨_, _, _, rfl, _, hk⟩, hcs⟩ := Range.cellsIn_cons h
    simp only [cellsOk, cellOk, hk, cellsOk_of_in hcs, Bool.and_self]

omit hs in
theorem rowsOk_of_in : ∀ {rs : List Mistletoe.Block}, Range.RowsIn (isOk · = true) rs → rowsOk rs = true
  | [], _ => rfl
  | _ :: _, h => by
    obtain ⟨⟨_, _, _, rfl, hc⟩, hrs⟩ := Range.rowsIn_cons h
    simp only [rowsOk, rowOk, cellsOk_of_in hc, rowsOk_of_in hrs, Bool.and_self]

mutual
theorem mkBlock_bOk : ∀ (e : Entry) (b : Mistletoe.Block), mkBlock cfg fn e = .ok (some b) → EntryWF e → EntryMd e → bOk b = true
  | .blockCode ls ln og, b, h, _, _ => by simp only [mkBlock] at h; cases h; rfl
  | .heading lvl content closing ln og, b, h, _, _ => by
    obtain ⟨kids, hk, ⟨⟩⟩ := mkBlock_heading_ok h
    exact inl_isOk cfg fn hs _ _ hk
  | .quote inner lo ln og, b, h, hw, hm => by
    obtain ⟨kids, hk, ⟨⟩⟩ := mkBlock_quote_ok h
    exact mkBlocks_bsOk inner kids hk (by simpa [EntryWF] using hw) (by simpa [EntryMd] using hm)
  | .codeFence ls p ld info lang ln og, b, h, _, _ => by simp only [mkBlock] at h; cases h; rfl
  | .thematicBreak line ln og, b, h, _, _ => by simp only [mkBlock] at h; cases h; rfl
  | .list items ln og, b, h, hw, hm => by
    simp only [EntryWF] at hw
    simp only [EntryMd] at hm
    have ih := fun its hits => mkItems_bsOk items its hits hw.2 hm
    obtain ⟨_, _, _, _, _, _, _, _, its, _, hits, ⟨⟩⟩ := mkBlock_list_ok h
    exact ih its hits
  | .table lines sl ln og, b, h, hw, _ => by
    simp only [EntryWF] at hw
    obtain ⟨_, _, _, hlines, _, hdash⟩ := hw
    obtain ⟨l0, l1, rest, rfl, ⟨_, align, header, rows, hal, hh, hr, ⟨⟩⟩ | ⟨hno, _⟩⟩ := mkBlock_table_ok h
    · have hA := Range.mapRes_parseAlign_in hal
      obtain ⟨_, _, _, rfl, hc⟩ := Range.tableRow_in (inl_isOk cfg fn hs) hA hh
      simp only [bOk, rowOk, cellsOk_of_in hc, rowsOk_of_in (Range.tableRows_in (inl_isOk cfg fn hs) _ hA _ _ hr), Bool.and_self]
    · cases hlines
      rw [hdash] at hno
      cases hno
  | .footnote ms ln og, b, h, _, _ => by simp only [mkBlock] at h; cases h
  | .linkRefDefs ms ln og, b, h, _, hm => by
    simp only [mkBlock] at h; cases h
    exact isOk_linkRefDefs ms (by simpa [EntryMd] using hm)
  | .paragraph lines ln og, b, h, _, _ => by
    obtain ⟨kids, hk, ⟨⟩⟩ := mkBlock_paragraph_ok h
    exact inl_isOk cfg fn hs _ _ hk
  | .setext lines ln og, b, h, _, _ => by
    obtain ⟨_, kids, _, hk, ⟨⟩⟩ := mkBlock_setext_ok h
    exact inl_isOk cfg fn hs _ _ hk
  | .htmlBlock lines ln og, b, h, _, _ => by simp only [mkBlock] at h; cases h; rfl
  | .blankLine ln og, b, h, _, _ => by simp only [mkBlock] at h; cases h; rfl
theorem mkBlocks_bsOk : ∀ (es : List Entry) (bs : List Mistletoe.Block), mkBlocks cfg fn es = .ok bs → EntriesWF es → EntriesMd es →
    bsOk bs = true
  | [], bs, h, _, _ => by simp only [mkBlocks] at h; cases h; rfl
  | e :: es, bs, h, hw, hm => by
    simp only [EntriesWF] at hw
    simp only [EntriesMd] at hm
    obtain ⟨b, more, hb, hbs, rfl⟩ := mkBlocks_cons_ok h
    have h2 := mkBlocks_bsOk es more hbs hw.2 hm.2
    cases b with
    | none => exact h2
    | some x => simp only [bsOk, mkBlock_bOk e x hb hw.1 hm.1, h2, Bool.and_self]
theorem mkItems_bsOk : ∀ (is : List Item) (bs : List Mistletoe.Block), mkItems cfg fn is = .ok bs → ItemsWF is → ItemsMd is →
    bsOk bs = true
  | [], bs, h, _, _ => by simp only [mkItems] at h; cases h; rfl
  | .mk inner lo ind pre ld ln og :: rest, bs, h, hw, hm => by
    simp only [ItemsWF, ItemWF] at hw
    simp only [ItemsMd, ItemMd] at hm
    obtain ⟨kids, more, hk, hmore, rfl⟩ := mkItems_cons_ok h
    simp only [bsOk, bOk, mkBlocks_bsOk inner kids hk hw.1.2 hm.1, mkItems_bsOk rest more hmore hw.2 hm.2, Bool.and_self]
end
end mk

/-- **Every document the parser builds is well formed** (`MdOk`), under every block-token list and every
    span-token list without the contrib classes; `lines` complete as `Document.__init__` makes them. -/
theorem parseLines_mdOk (cfg : Document.Cfg) (gas : Nat) (lines : List Str) (d : Doc)
    (hl : ∀ s ∈ lines, NlEnd s) (hs : spanOk cfg.span = true)
    (h : Document.parseLines cfg gas lines = .ok d) : MdOk d := by
  obtain ⟨buf, st, hb, hk, _⟩ := Pipeline.parseLines_ok h
  exact mkBlocks_bsOk cfg _ hs buf.entries _ hk (blockPhase_wf cfg.block gas lines buf st hl hb)
    (entriesMd_of_from _ (blockPhase_from cfg.block gas lines buf st hb))

theorem parse_mdOk (cfg : Document.Cfg) (gas : Nat) (t : Str) (d : Doc) (hs : spanOk cfg.span = true)
    (h : Document.parse cfg gas t = .ok d) : MdOk d :=
  parseLines_mdOk cfg gas _ d (Props.C13.normalize_str_nlEnd t) hs h

/-! ## 6. Parse-and-render with the Markdown renderer is total -/

open Mistletoe.Lines

/-- the span-token list `MarkdownRenderer` installs (regenerated from /repo) has none of the contrib classes -/
theorem markdown_cfg_ok (cfg : Document.Cfg) (hc : Config.markdown = some cfg) : spanOk cfg.span = true := by
  rw [Config.markdown_eq] at hc
  cases hc
  decide

/-- the Markdown renderer's configuration written out (`markdown_cfg_literal`: it is the regenerated one) -/
def mdCfg : Document.Cfg :=
  { block := { types := [.linkRefDefBlock, .blankLine, .htmlBlock, .blockCode, .heading, .quote, .codeFence, .thematicBreak,
                         .list, .table, .paragraph] },
    span := [.escapeSequence, .htmlSpan, .strikethrough, .autoLink, .coreTokens, .inlineCode, .lineBreak] }

theorem markdown_cfg_literal : (match Config.markdown with
    | some c => c.block.types == mdCfg.block.types && c.block.tableInterrupt == mdCfg.block.tableInterrupt && c.span == mdCfg.span
    | none => false) = true := by rw [Config.markdown_eq]; rfl

/-- the general form: any block-token list, any span-token list without the four contrib classes (`spanOk`) -/
theorem markdown_total_of_spanOk (cfg : Document.Cfg) (hs : spanOk cfg.span = true) (gas : Nat) (t : Str)
    (hg : gasBound cfg.block (docBuf (normalize (.str t))) ≤ gas) (o : Opts) :
    ∃ d out, Document.parse cfg gas t = .ok d ∧ renderRes o d = .ok out := by
  obtain ⟨d, hd⟩ := Props.C01.C01_parse_terminates cfg gas t hg
  obtain ⟨out, hout⟩ := renderRes_total (parse_mdOk cfg gas t d hs hd) o
  exact ⟨d, out, hd, hout⟩

/-- **Parse-and-render with the Markdown renderer returns a string for every text**: with the token
    lists `MarkdownRenderer` installs (regenerated from /repo) and enough gas, `Document(text)` returns a
    document and `MarkdownRenderer(**o).render` returns a string on it, for every option set `o`
    (every `max_line_length : Option Int`, both values of `normalize_whitespace`): no `KeyError` from the
    render map, no `TypeError` from a missing title delimiter / label / table header. -/
theorem C01_markdown_total (cfg : Document.Cfg) (hc : Config.markdown = some cfg) (gas : Nat) (t : Str)
    (hg : gasBound cfg.block (docBuf (normalize (.str t))) ≤ gas) (o : Opts) :
    ∃ d out, Document.parse cfg gas t = .ok d ∧ renderRes o d = .ok out :=
  markdown_total_of_spanOk cfg (markdown_cfg_ok cfg hc) gas t hg o

/-- and the only error value parse-and-render can return at all (too little gas) is `.fuel` -/
theorem C01_markdown_no_raise (cfg : Document.Cfg) (hc : Config.markdown = some cfg) (gas : Nat) (t : Str) (o : Opts) (e : Err)
    (h : (Document.parse cfg gas t).bind (renderRes o) = .err e) : e = .fuel := by
  cases hd : Document.parse cfg gas t with
  | err e' =>
    rw [hd] at h
    cases h
    exact Props.C01.C01_parse_no_raise cfg gas t _ hd
  | ok d =>
    rw [hd] at h
    obtain ⟨out, hout⟩ := renderRes_total (parse_mdOk cfg gas t d (markdown_cfg_ok cfg hc) hd) o
    simp only [Res.bind] at h
    rw [hout] at h; cases h

/-! ### Non-vacuity -/

example : Config.markdown.isSome = true := by rw [Config.markdown_eq]; rfl

example (cfg : Document.Cfg) (hc : Config.markdown = some cfg) (t : Str) (o : Opts) :
    ∃ d out, Document.parse cfg (gasBound cfg.block (docBuf (normalize (.str t)))) t = .ok d ∧ renderRes o d = .ok out :=
  C01_markdown_total cfg hc _ t (Nat.le_refl _) o

/-- a table, a nested list, a code fence, a link reference definition (with a title) and emphasis -/
def sample : Str :=
  "| a | *b* |\n|---|:-:|\n| 1 | 2 |\n\n- x\n  - **y**\n\n```py\nz\n```\n\n[r]: /u 'T'\n\n[q][r] *e*\n".toList

set_option maxRecDepth 100000 in
example : (match Document.parse mdCfg 60 sample with
    | .ok d =>
      mdOk d && (renderRes {} d).isOk && (renderRes { maxLineLength := some 3 } d).isOk &&
        (renderRes { maxLineLength := some (-5), normalizeWhitespace := true } d).isOk &&
        (match d.kids with
         | [.table _ [.tableRow _ [.tableCell _ _ _, .tableCell _ [.emphasis _ _] _] _] [_] _, .blankLine _,
            .list _ _ [.listItem _ _ _ _ [.paragraph _ _, .list _ _ _ _] _] _, .blankLine _, .codeFence _ _ _ _ _ _, .blankLine _,
            .linkRefDefBlock [.linkRefDef _ _ _ _ (some _)] _, .blankLine _,
            .paragraph [.link _ _ .full (some _) _ _, .rawText _, .emphasis _ _] _] => true
         | _ => false)
    | .err _ => false) = true := by
  rw [show sample = _ from String.toList_ofList]
  decide +kernel

/-- `MdOk` is not trivially true: a Math token, a table without header, a row outside a table, an inline link whose
    title has no delimiter — each makes the renderer raise -/
example : ¬ MdOk { kids := [.paragraph [.math ['$', 'x', '$']] 1], footnotes := [] } := by decide
example : ¬ MdOk { kids := [.table [none] [] [] 1], footnotes := [] } := by decide
example : ¬ MdOk { kids := [.tableRow [] [] 1], footnotes := [] } := by decide
example : ¬ MdOk { kids := [.paragraph [.link ['u'] ['t'] .uri none none []] 1], footnotes := [] } := by decide
example : renderRes {} { kids := [.table [none] [] [] 1], footnotes := [] } = .err .type := by decide +kernel

end Mistletoe.Proofs.MdTotal
