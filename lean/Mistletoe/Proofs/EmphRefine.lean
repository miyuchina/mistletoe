/-
  The model of `core_tokens.find_core_tokens` refines the specification of emphasis
  (Spec/Emphasis.lean: CommonMark 0.30 section 6.2 and the *process emphasis* procedure; Spec/EmphasisEsc.lean: the same
  with the backslash escapes of section 2.4).

  First half: on a text without backtick and brackets the character loop appends exactly one `Delimiter` per
  delimiter run of the specification (`stepWith_ahead`, `loopWith_esc`: one step keeps what has been appended plus what
  is still to come); it is done once, with backslashes, and a text without backslash is the special case.  Second
  half: `process_emphasis` computes *process emphasis* of the specification on any stack of non-empty entries in text
  order (`processEmphasisNB_spec`).  The rounds of the procedure are the three of `Round`; its `openers_bottom` never
  changes the opener found (`lookBack_sound`, under the invariant `SInv`), so the loop without bottoms is simulated
  against the procedure itself (`sim`).  What the output level needs of the procedure is here too: both delimiters of
  every node lie inside the runs it started from (`process_inRun`), hence consist of unescaped `*` / `_`
  (`runSpansEsc_spec`; `emphasisEsc_delims` in Proofs/EmphRefineEsc.lean).

  The first half, from `delimsFrom` to `runsEsc_plain`, is in namespace `Mistletoe.EmphRefineEsc`: it speaks of the
  specification with escapes, and the second half needs its last theorems (`findCoreTokensNB_esc`, `runsME`); the file
  Proofs/EmphRefineEsc.lean holds the statements that come after both.
-/
import Mistletoe.Proofs.EmphSpec
import Mistletoe.Proofs.ScanNone
import Mistletoe.Spec.EmphasisEsc
import Mistletoe.Proofs.Lit
namespace Mistletoe.EmphRefine
open Mistletoe Mistletoe.Py Mistletoe.Scan Mistletoe.InlineScan Mistletoe.Core Mistletoe.Spec

/-! ### character classes -/

/-- the eight code points that `core_tokens.unicode_whitespace` contains and that are not Unicode
    whitespace characters in the sense of the specification: U+000B, U+001C–U+001F, U+0085,
    U+2028, U+2029 -/
def deviantWs (c : Char) : Bool := inRanges [(11, 11), (28, 31), (133, 133), (8232, 8233)] c

theorem range_split (n a b c : Nat) (h1 : a ≤ b + 1) (h2 : b ≤ c) :
    (decide (a ≤ n) && decide (n ≤ c)) = ((decide (a ≤ n) && decide (n ≤ b)) || (decide (b + 1 ≤ n) && decide (n ≤ c))) := by
  rw [Bool.eq_iff_iff]
  simp only [Bool.or_eq_true, Bool.and_eq_true, decide_eq_true_eq]
  omega

/-- `core_tokens.unicode_whitespace` = the specification's Unicode whitespace ∪ the eight: the ranges are the same
    once 9–13 and 28–32 of the former are split -/
theorem uniWs_eq (c : Char) : uniWs c = (Emphasis.isUnicodeWhitespace c || deviantWs c) := by
  unfold uniWs Emphasis.isUnicodeWhitespace deviantWs inRanges Gen.Tables.unicodeWhitespace
  simp only [List.any_cons, List.any_nil, Bool.or_false]
  rw [range_split _ 9 10 13 (by decide) (by decide), range_split _ 11 11 13 (by decide) (by decide),
    range_split _ 28 31 32 (by decide) (by decide)]
  ac_rfl

theorem punct_eq (c : Char) : punct c = Emphasis.isUnicodePunctuation c := rfl

theorem uniWs_space : uniWs ' ' = true := by decide
theorem punct_space : punct ' ' = false := by decide

/-- no character of the text is one of the eight -/
def StdWs (s : Str) : Prop := ∀ c ∈ s, deviantWs c = false

theorem uniWs_std {s : Str} (h : StdWs s) (c : Char) (hc : c ∈ s) : uniWs c = Emphasis.isUnicodeWhitespace c := by
  rw [uniWs_eq, h c hc, Bool.or_false]

/-! ### flanking: `is_opener` / `is_closer` are the specification's "can open" / "can close" -/

/-- `preceded_by` / `succeeded_by` with a character class `p` of mistletoe read the character the specification
    reads, the beginning and the end of the text counting as a space; `q` is the specification's class on
    `Option Char` -/
theorem around_eq (s : Str) (p : Char → Bool) (q : Option Char → Bool) (hnone : q none = p ' ')
    (hsome : ∀ c ∈ s, q (some c) = p c) (a b : Nat) :
    precededBy a s p = q (Emphasis.charBefore s a) ∧ succeededBy b s p = q (Emphasis.charAfter s b) := by
  have key : ∀ i : Nat, p ((s[i]?).getD ' ') = q s[i]? := by
    intro i
    cases hc : s[i]? with
    | none => exact hnone.symm
    | some c => exact (hsome c (List.mem_of_getElem? hc)).symm
  unfold precededBy succeededBy Emphasis.charBefore Emphasis.charAfter
  refine ⟨?_, key b⟩
  by_cases ha : a = 0
  · rw [if_neg (by omega), if_pos ha, hnone]
  · rw [if_pos (by omega), if_neg ha, key]

theorem around_ws (s : Str) (h : StdWs s) (a b : Nat) :
    precededBy a s uniWs = Emphasis.wsAt (Emphasis.charBefore s a) ∧
      succeededBy b s uniWs = Emphasis.wsAt (Emphasis.charAfter s b) :=
  around_eq s uniWs Emphasis.wsAt uniWs_space.symm (fun c hc => (uniWs_std h c hc).symm) a b

theorem around_punct (s : Str) (a b : Nat) :
    precededBy a s punct = Emphasis.punctAt (Emphasis.charBefore s a) ∧
      succeededBy b s punct = Emphasis.punctAt (Emphasis.charAfter s b) :=
  around_eq s punct Emphasis.punctAt punct_space.symm (fun _ _ => rfl) a b

theorem isLeft_eq (s : Str) (a b : Nat) (h : StdWs s) :
    isLeftDelimiter a b s = Emphasis.leftFlanking (Emphasis.charBefore s a) (Emphasis.charAfter s b) := by
  unfold isLeftDelimiter Emphasis.leftFlanking
  rw [(around_ws s h a b).1, (around_ws s h a b).2, (around_punct s a b).1, (around_punct s a b).2]
  cases Emphasis.wsAt (Emphasis.charBefore s a) <;> cases Emphasis.wsAt (Emphasis.charAfter s b) <;>
    cases Emphasis.punctAt (Emphasis.charBefore s a) <;> cases Emphasis.punctAt (Emphasis.charAfter s b) <;> rfl

theorem isRight_eq (s : Str) (a b : Nat) (h : StdWs s) :
    isRightDelimiter a b s = Emphasis.rightFlanking (Emphasis.charBefore s a) (Emphasis.charAfter s b) := by
  unfold isRightDelimiter Emphasis.rightFlanking
  rw [(around_ws s h a b).1, (around_ws s h a b).2, (around_punct s a b).1, (around_punct s a b).2]
  cases Emphasis.wsAt (Emphasis.charBefore s a) <;> cases Emphasis.wsAt (Emphasis.charAfter s b) <;>
    cases Emphasis.punctAt (Emphasis.charBefore s a) <;> cases Emphasis.punctAt (Emphasis.charAfter s b) <;> rfl

/-- **`is_opener` is "can open emphasis"** (rules 1, 2, 5, 6) for a run of `c` at `[a, b)` -/
theorem isOpener_eq (s : Str) (a b : Nat) (c : Char) (h : StdWs s) (hc : s[a]? = some c) :
    isOpener a b s = Emphasis.canOpen c (Emphasis.charBefore s a) (Emphasis.charAfter s b) := by
  unfold isOpener Emphasis.canOpen
  rw [hc, isLeft_eq s a b h, isRight_eq s a b h, (around_punct s a b).1]
  by_cases hs : c = '*'
  · simp [hs]
  · simp [hs]

/-- **`is_closer` is "can close emphasis"** (rules 3, 4, 7, 8) -/
theorem isCloser_eq (s : Str) (a b : Nat) (c : Char) (h : StdWs s) (hc : s[a]? = some c) :
    isCloser a b s = Emphasis.canClose c (Emphasis.charBefore s a) (Emphasis.charAfter s b) := by
  unfold isCloser Emphasis.canClose
  rw [hc, isLeft_eq s a b h, isRight_eq s a b h, (around_punct s a b).2]
  by_cases hs : c = '*'
  · simp [hs]
  · simp [hs]

/-! ### stack entries of the specification as `Delimiter`s -/

/-- the `Delimiter` object of a stack entry of the specification -/
def toDelim (r : Emphasis.Run) : Delim :=
  { type := List.replicate r.count r.char, number := r.count, runLength := r.orig, active := true,
    start := r.start, stop := r.start + r.count, emph := true, opens := r.canOpen, closes := r.canClose }

/-- the `MatchObj` of an emphasis node of the specification -/
def toCoreM (s : Str) (m : Emphasis.Match) : CoreM :=
  { start := m.openStart, stop := m.closeStop, kind := if m.strong then .strong else .emphasis,
    ts := m.openStop, te := m.closeStart, dest := [], title := [], delimiter := (s[m.openStart]?).getD ' ' }

/-- the stack entry of a run, classified by mistletoe's own `is_opener` / `is_closer` -/
def mkRunM (s : Str) (c : Char) (a n : Nat) : Emphasis.Run :=
  { char := c, start := a, orig := n, count := n, canOpen := isOpener a (a + n) s, canClose := isCloser a (a + n) s }

theorem mkDelim_eq_toDelimM (s : Str) (c : Char) (a n : Nat) (hn : 1 ≤ n)
    (hd : Emphasis.isDelimChar c = true) (hsl : slice s a (a + n) = List.replicate n c) :
    mkDelim a (a + n) s = toDelim (mkRunM s c a n) := by
  have hhead : (slice s a (a + n)).head? = some c := by
    rw [hsl]; cases n with
    | zero => omega
    | succ k => rfl
  have he : ((some c == some '*') || (some c == some '_')) = true := by
    simpa [Emphasis.isDelimChar] using hd
  unfold mkDelim toDelim mkRunM
  simp only [hhead, he, Bool.true_and, Nat.add_sub_cancel_left]
  rw [hsl]

/-- **On a text without the eight deviant whitespace characters, mistletoe's classification of a
    delimiter run is the specification's** ("can open emphasis", "can close emphasis"). -/
theorem mkRunM_eq (s : Str) (c : Char) (a n : Nat) (h : StdWs s) (hc : s[a]? = some c) :
    mkRunM s c a n = Emphasis.mkRun s c a n := by
  unfold mkRunM Emphasis.mkRun
  rw [isOpener_eq s a (a + n) c h hc, isCloser_eq s a (a + n) c h hc]

/-- `Delimiter(start, end, string)` of a run given as (character, position, length) -/
def spanDelim (s : Str) (r : Char × Nat × Nat) : Delim := mkDelim r.2.1 (r.2.1 + r.2.2) s

end Mistletoe.EmphRefine

namespace Mistletoe.EmphRefineEsc
open Mistletoe Mistletoe.Py Mistletoe.Scan Mistletoe.InlineScan Mistletoe.Core Mistletoe.Spec Mistletoe.EmphRefine
open Mistletoe.Spec.EmphasisEsc

/-! ### the delimiter characters of a text, computed with the loop's own flag -/

/-- `delims` with the escape flag threaded through: after an unescaped backslash the next character
    is never a delimiter character, whether it is punctuation (escaped) or not (then it is neither
    `*` nor `_`) -/
def delimsFrom : Bool → Str → List (Option Char)
  | _, [] => []
  | true, _ :: rest => none :: delimsFrom false rest
  | false, c :: rest => (if Emphasis.isDelimChar c then some c else none) :: delimsFrom (c == '\\') rest

theorem delim_is_punct (c : Char) (h : Emphasis.isDelimChar c = true) : isAsciiPunctuation c = true := by
  simp only [Emphasis.isDelimChar, Bool.or_eq_true, beq_iff_eq] at h
  rcases h with rfl | rfl <;> decide

theorem delims_from : ∀ (s : Str) (b : Bool), List.zipWith delimOf s (escMarks b s) = delimsFrom b s
  | [], b => by cases b <;> rfl
  | c :: rest, true => by
    simp only [escMarks, List.zipWith_cons_cons, delimsFrom, delims_from rest false]
    congr 1
    unfold delimOf
    cases hd : Emphasis.isDelimChar c with
    | false => simp
    | true => simp [delim_is_punct c hd]
  | c :: rest, false => by
    simp only [escMarks, List.zipWith_cons_cons, delimsFrom, delims_from rest (c == '\\')]
    congr 1
    unfold delimOf
    simp

theorem delims_eq (s : Str) : delims s = delimsFrom false s := delims_from s false

theorem delims_get (s : Str) (i : Nat) (c : Char) (h : (delims s)[i]? = some (some c)) :
    s[i]? = some c ∧ Emphasis.isDelimChar c = true ∧ escapedAt s i = false := by
  unfold delims at h
  rw [List.getElem?_zipWith] at h
  unfold escapedAt
  cases h1 : s[i]? with
  | none => simp [h1] at h
  | some d =>
    cases h2 : (escMarks false s)[i]? with
    | none => simp [h1, h2] at h
    | some b =>
      simp only [h1, h2, delimOf, Option.some.injEq] at h
      split at h
      · rename_i hd
        simp only [Bool.and_eq_true, Bool.not_eq_true'] at hd
        cases h
        exact ⟨rfl, hd.1, hd.2⟩
      · cases h

theorem delimsFrom_cons_ne (c : Char) (rest : Str) (h : c ≠ '\\') :
    delimsFrom false (c :: rest) = (if Emphasis.isDelimChar c then some c else none) :: delimsFrom false rest := by
  have : (c == '\\') = false := by simpa using h
  simp [delimsFrom, this]

theorem delimsFrom_bs (rest : Str) : delimsFrom false ('\\' :: rest) = none :: delimsFrom true rest := rfl

/-! ### the delimiter runs -/

theorem countRunD_get (c : Char) : ∀ (l : List (Option Char)) (k : Nat), k < countRunD c l → l[k]? = some (some c)
  | [], k, h => by simp [countRunD] at h
  | none :: rest, k, h => by simp [countRunD] at h
  | some d :: rest, k, h => by
    simp only [countRunD] at h
    split at h
    · rename_i hdc; subst hdc
      cases k with
      | zero => rfl
      | succ k => simp only [List.getElem?_cons_succ]; exact countRunD_get d rest k (by omega)
    · omega

theorem runSpansD_spec : ∀ (l : List (Option Char)) (prev : Option Char) (pos : Nat) (r : Char × Nat × Nat),
    r ∈ runSpansD prev pos l →
    pos ≤ r.2.1 ∧ 1 ≤ r.2.2 ∧ ∀ k, k < r.2.2 → l[r.2.1 - pos + k]? = some (some r.1)
  | [], _, _, _, h => by simp [runSpansD] at h
  | x :: rest, prev, pos, r, h => by
    have hrec : ∀ p, r ∈ runSpansD p (pos + 1) rest →
        pos ≤ r.2.1 ∧ 1 ≤ r.2.2 ∧ ∀ k, k < r.2.2 → (x :: rest)[r.2.1 - pos + k]? = some (some r.1) := by
      intro p h'
      obtain ⟨h1, h2, h3⟩ := runSpansD_spec rest p (pos + 1) r h'
      refine ⟨by omega, h2, fun k hk => ?_⟩
      have : r.2.1 - pos + k = (r.2.1 - (pos + 1) + k) + 1 := by omega
      rw [this, List.getElem?_cons_succ]
      exact h3 k hk
    cases x with
    | none => simp only [runSpansD] at h; exact hrec _ h
    | some c =>
      simp only [runSpansD] at h
      split at h
      · rcases List.mem_cons.1 h with rfl | h
        · refine ⟨Nat.le_refl _, Nat.le_add_left _ _, fun k hk => ?_⟩
          simp only [Nat.sub_self, Nat.zero_add]
          cases k with
          | zero => rfl
          | succ k => simp only [List.getElem?_cons_succ]; exact countRunD_get c rest k (by simp only at hk; omega)
        · exact hrec _ h
      · exact hrec _ h

theorem runSpansD_lb : ∀ (l : List (Option Char)) (prev : Option Char) (pos : Nat) (r : Char × Nat × Nat),
    r ∈ runSpansD prev pos l → pos ≤ r.2.1 := fun l prev pos r h => (runSpansD_spec l prev pos r h).1

theorem runSpansD_after : ∀ (rest : List (Option Char)) (c : Char) (pos : Nat) (r : Char × Nat × Nat),
    r ∈ runSpansD (some c) pos rest → pos + countRunD c rest ≤ r.2.1
  | [], _, _, _, h => by simp [runSpansD] at h
  | none :: rest, c, pos, r, h => by
    have := runSpansD_lb _ _ _ r h
    simp only [countRunD]; omega
  | some d :: rest, c, pos, r, h => by
    by_cases hdc : d = c
    · subst hdc
      simp only [runSpansD, bne_self_eq_false, Bool.false_eq_true, if_false] at h
      have := runSpansD_after rest d (pos + 1) r h
      simp only [countRunD, if_true]; omega
    · have := runSpansD_lb _ _ _ r h
      simp only [countRunD, hdc, if_false]; omega

theorem runSpansD_sorted : ∀ (l : List (Option Char)) (prev : Option Char) (pos : Nat),
    (runSpansD prev pos l).Pairwise (fun r1 r2 => r1.2.1 + r1.2.2 ≤ r2.2.1)
  | [], _, _ => by simp [runSpansD]
  | none :: rest, prev, pos => by simp only [runSpansD]; exact runSpansD_sorted rest _ _
  | some c :: rest, prev, pos => by
    simp only [runSpansD]
    split
    · refine List.pairwise_cons.2 ⟨fun r hr => ?_, runSpansD_sorted rest _ _⟩
      have := runSpansD_after rest c (pos + 1) r hr
      simp only; omega
    · exact runSpansD_sorted rest _ _

theorem runSpansEsc_spec (s : Str) (r : Char × Nat × Nat) (hr : r ∈ runSpansEsc s) :
    Emphasis.isDelimChar r.1 = true ∧ 1 ≤ r.2.2 ∧ s[r.2.1]? = some r.1 ∧
      slice s r.2.1 (r.2.1 + r.2.2) = List.replicate r.2.2 r.1 ∧
      ∀ k, r.2.1 ≤ k → k < r.2.1 + r.2.2 → s[k]? = some r.1 ∧ escapedAt s k = false := by
  unfold runSpansEsc at hr
  obtain ⟨_, h2, h3⟩ := runSpansD_spec _ _ _ r hr
  simp only [Nat.sub_zero] at h3
  have hk : ∀ k, r.2.1 ≤ k → k < r.2.1 + r.2.2 → s[k]? = some r.1 ∧ Emphasis.isDelimChar r.1 = true ∧
      escapedAt s k = false := fun k h1 h2 => by
    have := delims_get s _ r.1 (h3 (k - r.2.1) (by omega))
    rwa [show r.2.1 + (k - r.2.1) = k by omega] at this
  have h0 := hk r.2.1 (Nat.le_refl _) (by omega)
  refine ⟨h0.2.1, h2, h0.1, ?_, fun k h1 h2 => ⟨(hk k h1 h2).1, (hk k h1 h2).2.2⟩⟩
  have hlast := (hk (r.2.1 + r.2.2 - 1) (by omega) (by omega)).1
  have hlen : r.2.1 + r.2.2 - 1 < s.length := (List.getElem?_eq_some_iff.1 hlast).1
  have := slice_eq_replicate s r.2.1 (r.2.1 + r.2.2) r.1 (by omega) (fun k h1 h2 => (hk k h1 h2).1)
  rwa [Nat.add_sub_cancel_left] at this

/-! ### the character loop of `find_core_tokens` -/

/-- The delimiters still to come at position `i`, when the delimiter characters from `i` on are `l` and a run of
    `run` that began at `a` is in progress: that run, prolonged by the copies of its character at the head of `l`,
    then the runs of `l`.  With `l = []`: the run in progress, closed at `i`. -/
def pending (s : Str) (run : Option Char) (a i : Nat) (l : List (Option Char)) : List Delim :=
  match run with
  | none => (runSpansD none i l).map (spanDelim s)
  | some ch => mkDelim a (i + countRunD ch l) s :: (runSpansD (some ch) i l).map (spanDelim s)

theorem pending_text (s : Str) (run : Option Char) (a a' i : Nat) (l : List (Option Char)) :
    pending s run a i (none :: l) = pending s run a i [] ++ pending s none a' (i + 1) l := by
  cases run <;> rfl

theorem pending_same (s : Str) (ch : Char) (a i : Nat) (l : List (Option Char)) :
    pending s (some ch) a i (some ch :: l) = pending s (some ch) a (i + 1) l := by
  simp [pending, countRunD, runSpansD, Nat.add_assoc, Nat.add_comm 1]

theorem pending_new (s : Str) (run : Option Char) (c : Char) (a i : Nat) (l : List (Option Char)) (h : run ≠ some c) :
    pending s run a i (some c :: l) = pending s run a i [] ++ pending s (some c) i (i + 1) l := by
  cases run with
  | none => simp [pending, runSpansD, spanDelim, Nat.add_assoc, Nat.add_comm 1]
  | some ch =>
    have hne : ¬ c = ch := fun e => h (by rw [e])
    have hne' : ¬ ch = c := fun e => h (by rw [e])
    simp [pending, countRunD, runSpansD, spanDelim, hne, hne', Nat.add_assoc, Nat.add_comm 1]

/-- What `find_core_tokens` will still append to `delimiters` from position `i` on, `suf` being the rest of the text.
    After an unescaped backslash (at `i - 1`) the loop has not yet closed the run in progress, which ends before the
    backslash. -/
def ahead (s : Str) (st : FState) (i : Nat) (suf : Str) : List Delim :=
  if st.escaped then pending s st.inRun st.start (i - 1) [] ++ pending s none 0 i (delimsFrom true suf)
  else pending s st.inRun st.start i (delimsFrom false suf)

theorem endRun_spec (s : Str) (b : Nat) (st : FState) :
    (endRun s b st).ds = st.ds ++ pending s st.inRun st.start b [] ∧ (endRun s b st).inRun = none ∧
      (endRun s b st).escaped = st.escaped ∧ (endRun s b st).code = st.code ∧ (endRun s b st).ms = st.ms ∧
      (endRun s b st).codes = st.codes := by
  unfold endRun
  cases hr : st.inRun <;> simp [hr, pushDelim, pending, runSpansD, countRunD]

/-- **One iteration of the character loop** at a character that is no backquote and no bracket, outside code spans:
    what has been appended to `delimiters` together with what is still to come stays the same. -/
theorem stepWith_ahead (link : Link) (s : Str) (i : Nat) (c : Char) (rest : Str) (st : FState)
    (h2 : c ≠ '[') (h4 : c ≠ ']') (hcode : st.code = none)
    (hrun : ∀ ch, st.inRun = some ch → Emphasis.isDelimChar ch = true) :
    ∃ st1, stepWith link s i c st = .ok (i + 1, st1) ∧ st1.code = none ∧
      st1.ms = st.ms ∧ st1.codes = st.codes ∧ (∀ ch, st1.inRun = some ch → Emphasis.isDelimChar ch = true) ∧
      st1.ds ++ ahead s st1 (i + 1) rest = st.ds ++ ahead s st i (c :: rest) := by
  have hnc : NoCode st i := NoCode.of_none hcode
  rcases Bool.eq_false_or_eq_true st.escaped with hesc | hesc
  · -- the character after an unescaped backslash: the run in progress is closed before the backslash
    obtain ⟨e1, e2, e3, e4, e5, e6⟩ := endRun_spec s (i - 1) st
    refine ⟨_, stepWith_esc c hnc hesc, by rw [← hcode, ← e4], e5, e6, (fun ch h => by rw [e2] at h; cases h), ?_⟩
    simp only [ahead, hesc, e1, e2, if_true, Bool.false_eq_true, if_false, delimsFrom, List.append_assoc]
    rw [pending_text s none 0 (endRun s (i - 1) st).start]
    rfl
  · by_cases hbs : c = '\\'
    · -- an unescaped backslash is a text character, but the loop only sets its flag
      subst hbs
      refine ⟨_, stepWith_bs hnc hesc, hcode, rfl, rfl, hrun, ?_⟩
      simp only [ahead, hesc, if_true, Bool.false_eq_true, if_false, delimsFrom_bs, Nat.add_sub_cancel]
      rw [pending_text s st.inRun st.start 0]
    · obtain ⟨e1, e2, e3, e4, e5, e6⟩ := endRun_spec s i st
      have hah : ∀ st1 : FState, st1.escaped = false →
          ahead s st1 (i + 1) rest = pending s st1.inRun st1.start (i + 1) (delimsFrom false rest) := fun st1 h => by
        simp only [ahead, h, Bool.false_eq_true, if_false]
      have hR : ahead s st i (c :: rest) = pending s st.inRun st.start i
          ((if Emphasis.isDelimChar c then some c else none) :: delimsFrom false rest) := by
        simp only [ahead, hesc, Bool.false_eq_true, if_false, delimsFrom_cons_ne c rest hbs]
      have hdc : Emphasis.isDelimChar c = true ↔ (c = '*' ∨ c = '_') := by simp [Emphasis.isDelimChar]
      have e := stepWith_char (link := link) (s := s) hnc hesc hbs (fun h => hdc.1 (hrun c h))
      rw [hR]
      cases hd : Emphasis.isDelimChar c with
      | true =>
        by_cases hr : st.inRun = some c
        · -- a further copy of the character of the run in progress
          rw [if_pos hr] at e
          refine ⟨_, e, hcode, rfl, rfl, hrun, ?_⟩
          rw [hah { st with inImage := false } hesc]
          simp only [↓reduceIte, hr]
          exact congrArg _ (pending_same s c st.start i _).symm
        · -- a delimiter character begins a run
          rw [if_neg hr, if_pos (hdc.1 hd)] at e
          refine ⟨_, e, by rw [← hcode, ← e4], e5, e6, (fun ch h => by cases h; exact hd), ?_⟩
          rw [hah _ (by rw [← hesc, ← e3])]
          simp only [↓reduceIte, e1, List.append_assoc]
          exact congrArg _ (pending_new s st.inRun c st.start i _ hr).symm
      | false =>
        -- a text character closes the run in progress
        have hnd : ¬(c = '*' ∨ c = '_') := fun h => by rw [hdc.2 h] at hd; cases hd
        have hr : st.inRun ≠ some c := fun e => by rw [hrun c e] at hd; cases hd
        have key : ∀ st1 : FState, st1.ds = (endRun s i st).ds → st1.inRun = none → st1.escaped = false →
            st1.ds ++ ahead s st1 (i + 1) rest =
              st.ds ++ pending s st.inRun st.start i (none :: delimsFrom false rest) := fun st1 a1 a2 a3 => by
          rw [hah _ a3, a1, a2, e1, List.append_assoc]
          exact congrArg _ (pending_text s st.inRun st.start _ i _).symm
        rw [if_neg hr, if_neg hnd, if_neg h2] at e
        simp only [Bool.false_eq_true, ↓reduceIte]
        by_cases h3 : c = '!'
        · rw [if_pos h3] at e
          exact ⟨_, e, by rw [← hcode, ← e4], e5, e6, (fun ch h => by rw [e2] at h; cases h),
            key _ rfl e2 (by rw [← hesc, ← e3])⟩
        · rw [if_neg h3, if_neg h4] at e
          exact ⟨_, e, by rw [← hcode, ← e4], e5, e6, (fun ch h => by rw [e2] at h; cases h),
            key _ rfl e2 (by rw [← hesc, ← e3])⟩

/-- **The character loop on a text without backquote and brackets** appends exactly one delimiter per delimiter run
    of the specification, in order, and nothing else; it finds no match and no code span. -/
theorem loopWith_esc (link : Link) (s : Str) (hp : ∀ c ∈ s, c ≠ '[' ∧ c ≠ ']') (st : FState) (hcode : st.code = none)
    (hrun : st.inRun = none) :
    ∃ st', loopWith (stepWith link s) s (s.length + 2) 0 st = .ok (s.length, st') ∧ st'.ms = st.ms ∧
      st'.codes = st.codes ∧ st'.ds ++ ahead s st' s.length [] = st.ds ++ ahead s st 0 s := by
  obtain ⟨st', e, h1, h2, h3, h4, h5⟩ := loopWith_induct_split (s := s) (step := stepWith link s)
    (fun pre suf st1 => st1.code = none ∧ st1.ms = st.ms ∧ st1.codes = st.codes ∧
      (∀ ch, st1.inRun = some ch → Emphasis.isDelimChar ch = true) ∧
      st1.ds ++ ahead s st1 pre.length suf = st.ds ++ ahead s st 0 s)
    (fun pre c suf st1 hs ⟨a1, a2, a3, a4, a5⟩ => by
      have hc := hp c (by rw [hs]; simp)
      obtain ⟨st2, b0, b1, b2, b3, b4, b5⟩ := stepWith_ahead link s pre.length c suf st1 hc.1 hc.2 a1 a4
      exact ⟨st2, b0, b1, b2.trans a2, b3.trans a3, b4, by rw [List.length_append, List.length_singleton, b5, a5]⟩)
    st ⟨hcode, rfl, rfl, (fun ch h => by rw [hrun] at h; cases h), rfl⟩
  exact ⟨st', e, h2, h3, h5⟩

/-- the run in progress at the end of the text is closed (before a final backslash) -/
theorem final_spec (s : Str) (st : FState) :
    (endRun s (if !st.escaped then s.length else s.length - 1) st).ds = st.ds ++ ahead s st s.length [] := by
  rw [(endRun_spec s _ st).1]
  cases he : st.escaped <;> simp [ahead, he, pending, runSpansD, delimsFrom]

theorem plainEsc_mem {s : Str} (hp : plainEsc s = true) : ∀ c ∈ s, plainEscChar c = true := by
  simpa [plainEsc] using hp

/-- what `find_core_tokens` needs of the fragment: no backquote, no bracket (`<` and `&` are nothing to it) -/
theorem plainEsc_core {s : Str} (hp : plainEsc s = true) : ∀ c ∈ s, c ≠ '`' ∧ c ≠ '[' ∧ c ≠ ']' := by
  intro c hc
  have := plainEsc_mem hp c hc
  simp only [plainEscChar, Bool.and_eq_true, bne_iff_ne, ne_eq] at this
  exact ⟨this.1.1.1.1, this.1.1.1.2, this.1.1.2⟩

/-- **`find_core_tokens` on a text without backquote and brackets** = `process_emphasis` (without bottoms) on one
    delimiter per delimiter run of the text, with no previous match -/
theorem findCoreTokensNB_esc (s : Str) (fn : Footnotes.Table) (hp : ∀ c ∈ s, c ≠ '`' ∧ c ≠ '[' ∧ c ≠ ']') :
    findCoreTokensNB s fn =
      match processEmphasisNB s none ((runSpansEsc s).map (spanDelim s)) [] with
      | .err e => .err e
      | .ok (_, ms) => .ok (ms.reverse, []) := by
  have hcs := codeSearch_eq_none s 0 (fun h => (hp _ h).1 rfl)
  obtain ⟨st', e1, e2, e3, e4⟩ := loopWith_esc (linkNB s fn) s (fun c hc => (hp c hc).2) { code := codeSearch s 0 } hcs rfl
  rw [findCoreTokensNB_of_loop ((coreLoopNB_eq ..).trans e1), final_spec, e2, e3, e4, runSpansEsc, delims_eq]
  rfl

/-! ### the delimiter runs as stack entries -/

/-- the delimiter runs of a text with backslashes, with mistletoe's classification -/
def runsME (s : Str) : List Emphasis.Run := (runSpansEsc s).map (fun r => mkRunM s r.1 r.2.1 r.2.2)

/-- they are the delimiter stack of the specification, when the text has none of the eight deviant
    whitespace characters: `is_opener` / `is_closer` look at the same two characters of the source
    as the specification, also next to a backslash or an escaped character -/
theorem runsME_eq (s : Str) (hw : StdWs s) : runsME s = runsEsc s := by
  unfold runsME runsEsc
  apply List.map_congr_left
  intro r hr
  obtain ⟨_, _, h3, _⟩ := runSpansEsc_spec s r hr
  exact mkRunM_eq s r.1 r.2.1 r.2.2 hw h3

theorem spanDelims_eq (s : Str) : (runSpansEsc s).map (spanDelim s) = (runsME s).map toDelim := by
  unfold runsME
  rw [List.map_map]
  apply List.map_congr_left
  intro r hr
  obtain ⟨h1, h2, _, h4, _⟩ := runSpansEsc_spec s r hr
  exact mkDelim_eq_toDelimM s r.1 r.2.1 r.2.2 h2 h1 h4

theorem runsME_pos (s : Str) : ∀ r ∈ runsME s, 1 ≤ r.count := by
  intro r hr
  obtain ⟨x, hx, rfl⟩ := List.mem_map.1 hr
  exact (runSpansEsc_spec s x hx).2.1

theorem runsME_sorted (s : Str) : (runsME s).Pairwise (fun a b => a.start + a.count ≤ b.start) :=
  List.pairwise_map.2 (runSpansD_sorted _ none 0)

/-! ### a text without backslash -/

theorem countRunD_plain (c : Char) (hc : Emphasis.isDelimChar c = true) : ∀ (l : Str), '\\' ∉ l →
    countRunD c (delimsFrom false l) = Emphasis.countRun c l
  | [], _ => rfl
  | d :: rest, h => by
    have hd : d ≠ '\\' := fun e => h (by simp [e])
    rw [delimsFrom_cons_ne d rest hd]
    by_cases hdc : d = c
    · subst hdc
      simp only [hc, if_true, countRunD, Emphasis.countRun]
      rw [countRunD_plain d hc rest (fun hm => h (List.mem_cons_of_mem _ hm))]
    · cases hdd : Emphasis.isDelimChar d <;> simp [countRunD, Emphasis.countRun, hdc]

theorem runSpansD_plain : ∀ (l : Str) (prev : Option Char) (pos : Nat), '\\' ∉ l →
    runSpansD (prev.filter Emphasis.isDelimChar) pos (delimsFrom false l) = Emphasis.runSpans prev pos l
  | [], _, _, _ => rfl
  | c :: rest, prev, pos, h => by
    have hc : c ≠ '\\' := fun e => h (by simp [e])
    have hrest : '\\' ∉ rest := fun hm => h (List.mem_cons_of_mem _ hm)
    have ih := runSpansD_plain rest (some c) (pos + 1) hrest
    rw [delimsFrom_cons_ne c rest hc]
    cases hd : Emphasis.isDelimChar c with
    | false =>
      simp only [Option.filter, hd, Bool.false_eq_true, if_false] at ih
      simp only [Bool.false_eq_true, if_false, runSpansD, Emphasis.runSpans, hd, Bool.false_and, ih]
    | true =>
      simp only [Option.filter, hd, if_true] at ih
      have hne : (prev.filter Emphasis.isDelimChar != some c) = (prev != some c) := by
        cases prev with
        | none => rfl
        | some x =>
          by_cases hx : x = c
          · subst hx; simp [Option.filter, hd]
          · have h1 : (some x != some c) = true := by simpa using hx
            rw [h1]
            simp only [Option.filter]
            split <;> simp [hx]
      simp only [if_true, runSpansD, Emphasis.runSpans, hd, Bool.true_and, hne, ih, countRunD_plain c hd rest hrest]

theorem runSpansEsc_plain (s : Str) (h : '\\' ∉ s) : runSpansEsc s = Emphasis.runSpans none 0 s := by
  rw [runSpansEsc, delims_eq, ← runSpansD_plain s none 0 h]
  rfl

theorem runsEsc_plain (s : Str) (h : '\\' ∉ s) : runsEsc s = Emphasis.runs s := by
  rw [runsEsc, runSpansEsc_plain s h]
  rfl

end Mistletoe.EmphRefineEsc

namespace Mistletoe.EmphRefine
open Mistletoe Mistletoe.Py Mistletoe.Scan Mistletoe.InlineScan Mistletoe.Core Mistletoe.Spec

/-! ### one iteration of `process_emphasis` (without bottoms), computed -/

theorem nextCloser_append (X Y : List Delim) : nextCloser X.length (X ++ Y) = nextCloser.go Y X.length := by
  unfold nextCloser; rw [List.drop_left]

theorem emphStepNB_none (s : Str) (ds : List Delim) (ms : List CoreM) (curr : Nat) (closer : Delim) (ch : Char)
    (hc : ds[curr]? = some closer) (hh : closer.type.head? = some ch)
    (hm : matchingOpener curr ds none = .ok none) :
    emphStepNB s none ds ms curr =
      if !closer.opens then .ok ((ds.eraseIdx curr, ms), nextCloser curr (ds.eraseIdx curr))
      else .ok ((ds, ms), nextCloser (curr + 1) ds) := by
  rw [← emphStep_forget s none { ds := ds, ms := ms, bottoms := [] } curr (fun _ _ _ _ => rfl),
    emphStep_noOpener s none _ curr closer ch hc hh hm]
  cases closer.opens <;> rfl

theorem emphStepNB_some (s : Str) (A B C : List Delim) (o c : Delim) (ms : List CoreM) (ch : Char)
    (hm : matchingOpener (A.length + 1 + B.length) (A ++ o :: (B ++ c :: C)) none = .ok (some A.length))
    (hh : c.type.head? = some ch) :
    emphStepNB s none (A ++ o :: (B ++ c :: C)) ms (A.length + 1 + B.length) =
      match s[o.stop - emphN o c]? with
      | none => .err .index
      | some dch =>
        .ok ((A ++ (shrink o (emphN o c) false ++ (shrink c (emphN o c) true ++ C)), emphMatch o c (emphN o c) dch :: ms),
          nextCloser (A.length + (shrink o (emphN o c) false).length)
            (A ++ (shrink o (emphN o c) false ++ (shrink c (emphN o c) true ++ C)))) := by
  -- the loop without bottoms is the real loop started with no bottoms recorded
  rw [← emphStep_forget s none { ds := A ++ o :: (B ++ c :: C), ms := ms, bottoms := [] } (A.length + 1 + B.length)
    (fun _ _ _ _ => rfl), emphStep_matched s none _ A B C o c ch rfl hh hm]
  cases s[o.stop - emphN o c]? <;> rfl

/-! ### `Delimiter` operations on stack entries of the specification -/

theorem toDelim_head (r : Emphasis.Run) (h : 1 ≤ r.count) : (toDelim r).type.head? = some r.char := by
  simp only [toDelim, List.head?_replicate]
  rw [if_neg (by omega)]

/-- **`Delimiter.closed_by` is "same character, and the rule of three"** (rules 9 and 10) -/
theorem closedBy_toDelim (o c : Emphasis.Run) (ho : 1 ≤ o.count) (hc : 1 ≤ c.count) :
    closedBy (toDelim o) (toDelim c) = .ok (o.char == c.char && Emphasis.ruleOfThree o c) := by
  unfold closedBy
  rw [toDelim_head o ho, toDelim_head c hc]
  show (if (o.char != c.char) = true then Res.ok false
        else if ((o.canOpen && o.canClose) || (c.canOpen && c.canClose)) = true then
          Res.ok ((o.orig + c.orig) % 3 != 0 || (o.orig % 3 == 0 && c.orig % 3 == 0))
        else Res.ok true) = _
  unfold Emphasis.ruleOfThree
  by_cases hcc : o.char = c.char
  · by_cases hx : ((o.canOpen && o.canClose) || (c.canOpen && c.canClose)) = true
    · simp [hcc, hx]
    · simp [hcc, hx]
  · have h1 : (o.char != c.char) = true := by simpa using hcc
    have h2 : (o.char == c.char) = false := by simpa using hcc
    simp [h1, h2]

/-- **`matching_opener` is "look back in the stack for the first matching potential opener"**, on
    the part of the stack below the closer -/
theorem go_below (c : Emphasis.Run) (hc : 1 ≤ c.count) : ∀ (below : List Emphasis.Run) (Y : List Delim) (n : Nat),
    (∀ r ∈ below, 1 ≤ r.count) → below.length ≤ n → below ≠ [] →
    matchingOpener.go (below.reverse.map toDelim ++ Y) (toDelim c) 0 n (below.length - 1) =
      match Emphasis.lookBack c none below with
      | none => .ok none
      | some (_, under) => .ok (some under.length)
  | [], _, _, _, _, h => absurd rfl h
  | o :: rest, Y, 0, _, h, _ => by simp at h
  | o :: rest, Y, n + 1, hpos, hn, _ => by
    have hidx : ((o :: rest).reverse.map toDelim ++ Y)[rest.length]? = some (toDelim o) := by
      simp
    simp only [List.length_cons, Nat.add_sub_cancel, matchingOpener.go, Nat.not_lt_zero, if_false, hidx,
      Emphasis.lookBack, Emphasis.aboveBottom, if_true]
    have ho := hpos o (by simp)
    rw [closedBy_toDelim o c ho hc]
    have hrec : (if rest.length = 0 then Res.ok none
        else matchingOpener.go ((o :: rest).reverse.map toDelim ++ Y) (toDelim c) 0 n (rest.length - 1)) =
        match Emphasis.lookBack c none rest with
        | none => .ok none
        | some (o, under) => .ok (some under.length) := by
      cases rest with
      | nil => simp [Emphasis.lookBack]
      | cons o2 rest2 =>
        rw [if_neg (by simp)]
        have := go_below c hc (o2 :: rest2) (toDelim o :: Y) n (fun r hr => hpos r (by simp [hr]))
          (by simp at hn ⊢; omega) (by simp)
        rw [← this]
        congr 1
        simp
    have hcm : Emphasis.canMatch o c = (o.canOpen && (o.char == c.char && Emphasis.ruleOfThree o c)) := by
      simp [Emphasis.canMatch, Bool.and_assoc]
    have hop : ((toDelim o).emph && (toDelim o).opens) = o.canOpen := by simp [toDelim]
    simp only [hcm, hop]
    by_cases hco : o.canOpen = true
    · simp only [hco, Bool.true_and, if_true]
      cases hb : (o.char == c.char && Emphasis.ruleOfThree o c) with
      | true => simp
      | false => simpa using hrec
    · have hco' : o.canOpen = false := by simpa using hco
      simp only [hco', Bool.false_and, Bool.false_eq_true, if_false]
      exact hrec

/-- the `delimiters` list of a stack of the specification split at `current_position` -/
def dsOf (below above : List Emphasis.Run) : List Delim := below.reverse.map toDelim ++ above.map toDelim

theorem matchingOpener_dsOf (c : Emphasis.Run) (hc : 1 ≤ c.count) (below rest : List Emphasis.Run)
    (hpos : ∀ r ∈ below, 1 ≤ r.count) :
    matchingOpener below.length (dsOf below (c :: rest)) none =
      match Emphasis.lookBack c none below with
      | none => .ok none
      | some (_, under) => .ok (some under.length) := by
  show matchingOpener below.length (below.reverse.map toDelim ++ toDelim c :: rest.map toDelim) none = _
  unfold matchingOpener
  by_cases hb : below = []
  · subst hb; simp [Emphasis.lookBack]
  · have hl : below.length ≠ 0 := fun e => hb (List.eq_nil_of_length_eq_zero e)
    rw [if_neg hl]
    have hcur : (below.reverse.map toDelim ++ toDelim c :: rest.map toDelim)[below.length]? = some (toDelim c) := by
      simp
    rw [hcur]
    simp only
    exact go_below c hc below (toDelim c :: rest.map toDelim) below.length hpos (Nat.le_refl _) hb

theorem emphN_toDelim (o c : Emphasis.Run) :
    emphN (toDelim o) (toDelim c) = if (decide (2 ≤ o.count) && decide (2 ≤ c.count)) = true then 2 else 1 := by
  unfold emphN toDelim
  simp only [ge_iff_le]
  rw [Bool.and_comm]

/-- **`Delimiter.remove(n, left)`** on a stack entry: an opener (`left = False`) loses its last `n` characters, a
    closer (`left = True`) its first `n`; an entry left empty goes -/
theorem shrink_toDelim (r : Emphasis.Run) (n : Nat) (left : Bool) (hn : n ≤ r.count) :
    shrink (toDelim r) n left =
      if r.count - n = 0 then []
      else [toDelim { r with start := if left then r.start + n else r.start, count := r.count - n }] := by
  unfold shrink delimRemove
  by_cases h : r.count = n
  · simp [toDelim, h]
  · have h0 : r.count - n ≠ 0 := by omega
    cases left <;>
      simp only [toDelim, h, if_false, if_true, Bool.false_eq_true, Option.toList_some, h0, List.drop_replicate] <;>
      congr 2 <;> omega

/-! ### the procedure of the specification without `openers_bottom`

  Nothing below uses `noBottoms`, `forget` or `stepNB` (`stepNB_forget`, `forget_measure` say what they are): `sim` runs
  against `Emphasis.run` with its bottoms, through `lookBack_sound`.  `Pos` is used throughout. -/

def noBottoms : Emphasis.Key → Option Nat := fun _ => none

def forget (st : Emphasis.State) : Emphasis.State := { st with bottoms := noBottoms }

/-- one round in which the opener is searched down to the bottom of the stack -/
def stepNB (st : Emphasis.State) : Option Emphasis.State := (Emphasis.step (forget st)).map forget

theorem forget_forget (st : Emphasis.State) : forget (forget st) = forget st := rfl

theorem stepNB_forget (st : Emphasis.State) : stepNB (forget st) = stepNB st := rfl

theorem forget_measure (st : Emphasis.State) : Emphasis.measure (forget st) = Emphasis.measure st := rfl

/-- every stack entry still holds at least one delimiter character -/
def Pos (st : Emphasis.State) : Prop := ∀ r ∈ st.below ++ st.above, 1 ≤ r.count

theorem _root_.Mistletoe.Spec.Emphasis.total_append (A B : List Emphasis.Run) : Emphasis.total (A ++ B) = Emphasis.total A + Emphasis.total B := by
  induction A with
  | nil => simp [Emphasis.total]
  | cons d A ih => simp only [List.cons_append, Emphasis.total, ih]; omega

theorem lookBack_split (c : Emphasis.Run) (b : Option Nat) : ∀ (below : List Emphasis.Run) (o : Emphasis.Run)
    (under : List Emphasis.Run), Emphasis.lookBack c b below = some (o, under) →
    ∃ skipped, below = skipped ++ o :: under
  | [], _, _, h => by simp [Emphasis.lookBack] at h
  | x :: rest, o, under, h => by
    simp only [Emphasis.lookBack] at h
    split at h
    · split at h
      · simp only [Option.some.injEq, Prod.mk.injEq] at h
        obtain ⟨rfl, rfl⟩ := h
        exact ⟨[], rfl⟩
      · obtain ⟨sk, hsk⟩ := lookBack_split c b rest o under h
        exact ⟨x :: sk, by rw [hsk]; rfl⟩
    · cases h

/-! ### the rounds of the specification's procedure -/

theorem step_nil (st : Emphasis.State) (ha : st.above = []) : Emphasis.step st = none := by
  simp [Emphasis.step, ha]

/-- strong emphasis uses two delimiter characters of each run, emphasis one; both runs have as many -/
theorem useN_bounds (o c : Emphasis.Run) (ho : 1 ≤ o.count) (hc : 1 ≤ c.count) (n : Nat)
    (hn : n = if (decide (2 ≤ o.count) && decide (2 ≤ c.count)) = true then 2 else 1) :
    1 ≤ n ∧ n ≤ o.count ∧ n ≤ c.count := by
  subst hn
  split
  · rename_i h2; simp only [Bool.and_eq_true, decide_eq_true_eq] at h2; omega
  · omega

/-- `Round st st'` ↔ `Emphasis.step st = some st'` (`round_step`, `step_round`), one constructor per outcome: the entry
    cannot close; it can and no opener is found (its key's bottom is recorded); an opener `o` is found under `skipped`.
    Invariants are proved by `cases` on it instead of unfolding `step`. -/
inductive Round (st : Emphasis.State) : Emphasis.State → Prop
  | shift (c rest) : st.above = c :: rest → c.canClose = false →
      Round st { st with below := c :: st.below, above := rest }
  | noOpener (c rest) : st.above = c :: rest → c.canClose = true →
      Emphasis.lookBack c (st.bottoms (Emphasis.keyOf c)) st.below = none →
      Round st { below := if c.canOpen then c :: st.below else st.below, above := rest,
                 bottoms := fun k => if k = Emphasis.keyOf c then st.below.head?.map (·.start) else st.bottoms k,
                 found := st.found }
  | matched (c rest o under skipped n) : st.above = c :: rest → c.canClose = true →
      Emphasis.lookBack c (st.bottoms (Emphasis.keyOf c)) st.below = some (o, under) →
      st.below = skipped ++ o :: under →
      n = (if (decide (2 ≤ o.count) && decide (2 ≤ c.count)) = true then 2 else 1) →
      Round st
        { below := if o.count - n = 0 then under else { o with count := o.count - n } :: under,
          above := if c.count - n = 0 then rest else { c with start := c.start + n, count := c.count - n } :: rest,
          bottoms := st.bottoms,
          found := { openStart := o.start + o.count - n, openStop := o.start + o.count,
                     closeStart := c.start, closeStop := c.start + n, strong := n == 2 } :: st.found }

theorem round_step {st st' : Emphasis.State} (h : Round st st') : Emphasis.step st = some st' := by
  cases h with
  | shift c rest ha hcl => simp [Emphasis.step, ha, hcl]
  | noOpener c rest ha hcl hlb => simp [Emphasis.step, ha, hcl, hlb]
  | matched c rest o under sk n ha hcl hlb hsk hn => subst hn; simp [Emphasis.step, ha, hcl, hlb]

theorem round_exists (st : Emphasis.State) (c : Emphasis.Run) (rest : List Emphasis.Run) (ha : st.above = c :: rest) :
    ∃ st', Round st st' := by
  cases hcl : c.canClose with
  | false => exact ⟨_, .shift c rest ha hcl⟩
  | true =>
    cases hlb : Emphasis.lookBack c (st.bottoms (Emphasis.keyOf c)) st.below with
    | none => exact ⟨_, .noOpener c rest ha hcl hlb⟩
    | some p =>
      obtain ⟨sk, hsk⟩ := lookBack_split c _ _ p.1 p.2 hlb
      exact ⟨_, .matched c rest p.1 p.2 sk _ ha hcl hlb hsk rfl⟩

theorem step_round {st st' : Emphasis.State} (h : Emphasis.step st = some st') : Round st st' := by
  cases ha : st.above with
  | nil => rw [step_nil st ha] at h; cases h
  | cons c rest =>
    obtain ⟨x, hx⟩ := round_exists st c rest ha
    rw [round_step hx] at h
    cases h
    exact hx

theorem step_none {st : Emphasis.State} (h : Emphasis.step st = none) : st.above = [] := by
  cases ha : st.above with
  | nil => rfl
  | cons c rest =>
    obtain ⟨x, hx⟩ := round_exists st c rest ha
    rw [round_step hx] at h
    cases h

theorem mem_ite_cons {α} {p : Prop} [Decidable p] {x a : α} {l : List α} (h : x ∈ if p then l else a :: l) :
    (¬ p ∧ x = a) ∨ x ∈ l := by
  split at h
  · exact .inr h
  · rename_i hp
    rcases List.mem_cons.1 h with rfl | h
    · exact .inl ⟨hp, rfl⟩
    · exact .inr h

/-- an entry that has become empty is dropped: nothing changes for the count of delimiter characters -/
theorem total_ite_cons (r : Emphasis.Run) (l : List Emphasis.Run) :
    Emphasis.total (if r.count = 0 then l else r :: l) = r.count + Emphasis.total l := by
  split
  · rename_i h; rw [h, Nat.zero_add]
  · rfl

theorem length_ite_cons {α} {p : Prop} [Decidable p] (a : α) (l : List α) :
    (if p then l else a :: l).length ≤ l.length + 1 := by
  split <;> simp

/-- **Every round makes the measure smaller and keeps the entries non-empty**, whatever the
    `openers_bottom` are. -/
theorem step_measure (st st' : Emphasis.State) (hpos : Pos st) (h : Emphasis.step st = some st') :
    Emphasis.measure st' < Emphasis.measure st ∧ Pos st' := by
  have hposb : ∀ r ∈ st.below, 1 ≤ r.count := fun r hr => hpos r (List.mem_append_left _ hr)
  have hposa : ∀ r ∈ st.above, 1 ≤ r.count := fun r hr => hpos r (List.mem_append_right _ hr)
  cases step_round h with
  | shift c rest ha hcl =>
    rw [ha] at hposa
    refine ⟨?_, fun r hr => ?_⟩
    · simp only [Emphasis.measure, ha, Emphasis.total, List.length_cons]; omega
    · rcases List.mem_append.1 hr with hr | hr
      · rcases List.mem_cons.1 hr with rfl | hr
        · exact hposa _ (List.mem_cons_self ..)
        · exact hposb r hr
      · exact hposa r (List.mem_cons_of_mem _ hr)
  | noOpener c rest ha hcl hlb =>
    rw [ha] at hposa
    refine ⟨?_, fun r hr => ?_⟩
    · simp only [Emphasis.measure, ha, Emphasis.total, List.length_cons]
      split <;> (try simp only [Emphasis.total]) <;> omega
    · rcases List.mem_append.1 hr with hr | hr
      · split at hr
        · rcases List.mem_cons.1 hr with rfl | hr
          · exact hposa _ (List.mem_cons_self ..)
          · exact hposb r hr
        · exact hposb r hr
      · exact hposa r (List.mem_cons_of_mem _ hr)
  | matched c rest o under sk n ha hcl hlb hsk hn =>
    rw [ha] at hposa
    rw [hsk] at hposb
    have hposu : ∀ r ∈ under, 1 ≤ r.count := fun r hr => hposb r (by simp [hr])
    obtain ⟨n1, n2, n3⟩ := useN_bounds o c (hposb o (by simp)) (hposa c (List.mem_cons_self ..)) n hn
    refine ⟨?_, fun r hr => ?_⟩
    · have h1 := total_ite_cons { o with count := o.count - n } under
      have h2 := total_ite_cons { c with start := c.start + n, count := c.count - n } rest
      have h3 := length_ite_cons (p := c.count - n = 0) { c with start := c.start + n, count := c.count - n } rest
      simp only [Emphasis.measure, ha, hsk, Emphasis.total_append, Emphasis.total, List.length_cons] at h1 h2 h3 ⊢
      omega
    · rcases List.mem_append.1 hr with hr | hr
      · rcases mem_ite_cons hr with ⟨h0, rfl⟩ | hr
        · exact Nat.pos_of_ne_zero h0
        · exact hposu r hr
      · rcases mem_ite_cons hr with ⟨h0, rfl⟩ | hr
        · exact Nat.pos_of_ne_zero h0
        · exact hposa r (List.mem_cons_of_mem _ hr)

/-- **The number of rounds that `process` allows is enough**: after `measure st` rounds (or more)
    from a state whose entries are not empty, there is no element at `current_position`. -/
theorem run_complete : ∀ (n : Nat) (st : Emphasis.State), Pos st → Emphasis.measure st ≤ n →
    Emphasis.step (Emphasis.run n st) = none
  | 0, st, _, hm => by
    have : st.above = [] := by
      cases ha : st.above with
      | nil => rfl
      | cons c rest => simp [Emphasis.measure, ha] at hm
    simp [Emphasis.run, Emphasis.step, this]
  | n + 1, st, hpos, hm => by
    simp only [Emphasis.run]
    cases hs : Emphasis.step st with
    | none => exact hs
    | some st' =>
      obtain ⟨h1, h2⟩ := step_measure st st' hpos hs
      exact run_complete n st' h2 (by omega)

/-! ### the delimiters of every emphasis node lie inside delimiter runs -/

def InRun (rs : List Emphasis.Run) (a b : Nat) : Prop := ∃ r0 ∈ rs, r0.start ≤ a ∧ b ≤ r0.start + r0.count

/-- invariant of *process emphasis*: what is left of every stack entry, and both delimiters of every node inserted so
    far, lie inside the original runs -/
structure RInv (rs : List Emphasis.Run) (st : Emphasis.State) : Prop where
  stack : ∀ r ∈ st.below ++ st.above, 1 ≤ r.count ∧ InRun rs r.start (r.start + r.count)
  found : ∀ m ∈ st.found, InRun rs m.openStart m.openStop ∧ InRun rs m.closeStart m.closeStop

theorem InRun.sub {rs : List Emphasis.Run} {a b a' b' : Nat} (h : InRun rs a b) (h1 : a ≤ a') (h2 : b' ≤ b) :
    InRun rs a' b' := by
  obtain ⟨r0, hr0, h3, h4⟩ := h
  exact ⟨r0, hr0, by omega, by omega⟩

namespace RInv

theorem step {rs : List Emphasis.Run} {st st' : Emphasis.State} (h : RInv rs st) (hs : Emphasis.step st = some st') :
    RInv rs st' := by
  have hb : ∀ r ∈ st.below, 1 ≤ r.count ∧ InRun rs r.start (r.start + r.count) :=
    fun r hr => h.stack r (List.mem_append_left _ hr)
  have hr : ∀ r ∈ st.above, 1 ≤ r.count ∧ InRun rs r.start (r.start + r.count) :=
    fun r hr => h.stack r (List.mem_append_right _ hr)
  cases step_round hs with
  | shift c rest ha hcl =>
    refine ⟨fun r' hr' => h.stack r' ?_, h.found⟩
    rw [ha]
    exact List.perm_middle.mem_iff.2 hr'
  | noOpener c rest ha hcl hlb =>
    refine ⟨fun r' hr' => h.stack r' ?_, h.found⟩
    rw [ha]
    rcases List.mem_append.1 hr' with hr' | hr'
    · split at hr'
      · exact List.perm_middle.mem_iff.2 (List.mem_append_left rest hr')
      · exact List.mem_append_left _ hr'
    · exact List.mem_append_right _ (List.mem_cons_of_mem _ hr')
  | matched c rest o under sk n ha hcl hlb hsk hn =>
    rw [ha] at hr
    rw [hsk] at hb
    have ho := hb o (by simp)
    have hc := hr c (List.mem_cons_self ..)
    obtain ⟨n1, n2, n3⟩ := useN_bounds o c ho.1 hc.1 n hn
    refine ⟨fun r' hr' => ?_, fun m hm => ?_⟩
    · rcases List.mem_append.1 hr' with hr' | hr'
      · rcases mem_ite_cons hr' with ⟨h0, rfl⟩ | hr'
        · exact ⟨Nat.pos_of_ne_zero h0, ho.2.sub (Nat.le_refl _) (Nat.add_le_add_left (Nat.sub_le _ _) _)⟩
        · exact hb r' (by simp [hr'])
      · rcases mem_ite_cons hr' with ⟨h0, rfl⟩ | hr'
        · exact ⟨Nat.pos_of_ne_zero h0, hc.2.sub (Nat.le_add_right _ _)
            (by show c.start + n + (c.count - n) ≤ c.start + c.count; omega)⟩
        · exact hr r' (List.mem_cons_of_mem _ hr')
    · rcases List.mem_cons.1 hm with rfl | hm
      · exact ⟨ho.2.sub (Nat.le_sub_of_add_le (Nat.add_le_add_left n2 _)) (Nat.le_refl _),
          hc.2.sub (Nat.le_refl _) (Nat.add_le_add_left n3 _)⟩
      · exact h.found m hm

theorem run {rs : List Emphasis.Run} : ∀ (n : Nat) (st : Emphasis.State), RInv rs st → RInv rs (Emphasis.run n st)
  | 0, _, h => h
  | n + 1, st, h => by
    simp only [Emphasis.run]
    cases hs : Emphasis.step st with
    | none => exact h
    | some st' => exact run n st' (h.step hs)

end RInv

theorem process_inRun (rs : List Emphasis.Run) (hpos : ∀ r ∈ rs, 1 ≤ r.count) :
    ∀ m ∈ Emphasis.process rs, InRun rs m.openStart m.openStop ∧ InRun rs m.closeStart m.closeStop := by
  have h0 : RInv rs (Emphasis.initial rs) := by
    refine ⟨fun r hr => ?_, fun m hm => by simp [Emphasis.initial] at hm⟩
    simp only [Emphasis.initial, List.nil_append] at hr
    exact ⟨hpos r hr, r, hr, Nat.le_refl _, Nat.le_refl _⟩
  intro m hm
  exact (RInv.run _ _ h0).found m (List.mem_reverse.1 hm)

/-! ### `openers_bottom` is sound: the opener found is the one found without it -/

/-- `canMatch e c` as a function of `e` and the `openers_bottom` index of the closer `c` -/
def keyMatch (e : Emphasis.Run) (k : Emphasis.Key) : Bool :=
  e.canOpen && e.char == k.1 &&
    (if (e.canOpen && e.canClose) || k.2.1 then (e.orig + k.2.2) % 3 != 0 || (e.orig % 3 == 0 && k.2.2 % 3 == 0)
     else true)

theorem canMatch_key (e c : Emphasis.Run) (hcl : c.canClose = true) :
    Emphasis.canMatch e c = keyMatch e (Emphasis.keyOf c) := by
  simp only [Emphasis.canMatch, keyMatch, Emphasis.ruleOfThree, Emphasis.keyOf, hcl, Bool.and_true, Nat.add_mod_mod,
    Nat.mod_mod]

theorem lookBack_none_all (c : Emphasis.Run) (b : Option Nat) : ∀ (l : List Emphasis.Run),
    (∀ e ∈ l, Emphasis.canMatch e c = false) → Emphasis.lookBack c b l = none
  | [], _ => rfl
  | o :: rest, h => by
    simp only [Emphasis.lookBack, h o (by simp), Bool.false_eq_true, if_false]
    split
    · exact lookBack_none_all c b rest (fun e he => h e (by simp [he]))
    · rfl

theorem lookBack_none_conv (c : Emphasis.Run) : ∀ (l : List Emphasis.Run),
    Emphasis.lookBack c none l = none → ∀ e ∈ l, Emphasis.canMatch e c = false
  | [], _, e, he => by cases he
  | o :: rest, h, e, he => by
    simp only [Emphasis.lookBack, Emphasis.aboveBottom, if_true] at h
    split at h
    · cases h
    · rename_i hno
      rcases List.mem_cons.1 he with rfl | he
      · simpa using hno
      · exact lookBack_none_conv c rest h e he

/-- searching down to a sound bottom = searching down to the bottom of the stack -/
theorem lookBack_bottom (c : Emphasis.Run) (p : Nat) : ∀ (l : List Emphasis.Run),
    l.Pairwise (fun a b => b.start + b.count ≤ a.start) →
    (∀ e ∈ l, e.start ≤ p → Emphasis.canMatch e c = false) →
    Emphasis.lookBack c (some p) l = Emphasis.lookBack c none l
  | [], _, _ => rfl
  | o :: rest, hs, h => by
    have hs' := List.pairwise_cons.1 hs
    by_cases hp : p < o.start
    · simp only [Emphasis.lookBack, Emphasis.aboveBottom, hp, decide_true, if_true]
      rw [lookBack_bottom c p rest hs'.2 (fun e he => h e (by simp [he]))]
    · have hall : ∀ e ∈ o :: rest, Emphasis.canMatch e c = false := by
        intro e he
        apply h e he
        rcases List.mem_cons.1 he with rfl | he
        · omega
        · have := hs'.1 e he; omega
      rw [lookBack_none_all c none _ hall]
      simp [Emphasis.lookBack, Emphasis.aboveBottom, hp]

/-- Invariant of the stack and of `openers_bottom`: the stack is in text order with disjoint
    entries; for every recorded bottom `p` of an index `k`, no entry under `current_position` at or
    below position `p` is an opener that a closer with index `k` matches, and `p` lies before
    `current_position`. -/
structure SInv (st : Emphasis.State) : Prop where
  sortedB : st.below.Pairwise (fun a b => b.start + b.count ≤ a.start)
  sortedA : st.above.Pairwise (fun a b => a.start + a.count ≤ b.start)
  cross : ∀ b ∈ st.below, ∀ a ∈ st.above, b.start + b.count ≤ a.start
  bot : ∀ k p, st.bottoms k = some p →
    (∀ e ∈ st.below, e.start ≤ p → keyMatch e k = false) ∧ ∀ a ∈ st.above, p < a.start

theorem lookBack_sound (st : Emphasis.State) (hinv : SInv st) (c : Emphasis.Run) (hcl : c.canClose = true) :
    Emphasis.lookBack c (st.bottoms (Emphasis.keyOf c)) st.below = Emphasis.lookBack c none st.below := by
  cases hb : st.bottoms (Emphasis.keyOf c) with
  | none => rfl
  | some p =>
    apply lookBack_bottom c p st.below hinv.sortedB
    intro e he hle
    rw [canMatch_key e c hcl]
    exact (hinv.bot _ p hb).1 e he hle

theorem keyMatch_count (e : Emphasis.Run) (n : Nat) (k : Emphasis.Key) :
    keyMatch { e with count := n } k = keyMatch e k := rfl

namespace SInv
variable {st : Emphasis.State} {c : Emphasis.Run} {rest : List Emphasis.Run}

/-- the recorded bottoms `bs` are sound for the part of the stack under `current_position` -/
def BotOK (st : Emphasis.State) (above : List Emphasis.Run) (bs : Emphasis.Key → Option Nat) : Prop :=
  ∀ k p, bs k = some p → (∀ e ∈ st.below, e.start ≤ p → keyMatch e k = false) ∧ ∀ a ∈ above, p < a.start

theorem botOK (hinv : SInv st) (ha : st.above = c :: rest) : BotOK st (c :: rest) st.bottoms := by
  intro k p hk
  have := hinv.bot k p hk
  rwa [ha] at this

theorem push (hinv : SInv st) (ha : st.above = c :: rest) (bs : Emphasis.Key → Option Nat) (hbs : BotOK st (c :: rest) bs) :
    SInv { below := c :: st.below, above := rest, bottoms := bs, found := st.found } := by
  have hsA := hinv.sortedA
  rw [ha] at hsA
  have hsA' := List.pairwise_cons.1 hsA
  have hcross := hinv.cross
  rw [ha] at hcross
  refine ⟨List.pairwise_cons.2 ⟨fun b hb => hcross b hb c (List.mem_cons_self ..), hinv.sortedB⟩, hsA'.2, ?_, ?_⟩
  · intro b hb a ha'
    rcases List.mem_cons.1 hb with rfl | hb
    · exact hsA'.1 a ha'
    · exact hcross b hb a (List.mem_cons_of_mem _ ha')
  · intro k p hk
    obtain ⟨h1, h2⟩ := hbs k p hk
    refine ⟨fun e he hle => ?_, fun a ha' => h2 a (List.mem_cons_of_mem _ ha')⟩
    rcases List.mem_cons.1 he with rfl | he
    · have := h2 e (List.mem_cons_self ..); omega
    · exact h1 e he hle

theorem drop (hinv : SInv st) (ha : st.above = c :: rest) (bs : Emphasis.Key → Option Nat) (hbs : BotOK st (c :: rest) bs) :
    SInv { below := st.below, above := rest, bottoms := bs, found := st.found } := by
  have hsA := hinv.sortedA
  rw [ha] at hsA
  have hcross := hinv.cross
  rw [ha] at hcross
  refine ⟨hinv.sortedB, (List.pairwise_cons.1 hsA).2, fun b hb a ha' => hcross b hb a (List.mem_cons_of_mem _ ha'), ?_⟩
  intro k p hk
  obtain ⟨h1, h2⟩ := hbs k p hk
  exact ⟨h1, fun a ha' => h2 a (List.mem_cons_of_mem _ ha')⟩

/-- **Every round keeps the invariant of `openers_bottom`.** -/
theorem step {st' : Emphasis.State} (hinv : SInv st) (hpos : Pos st) (h : Emphasis.step st = some st') : SInv st' := by
  cases step_round h with
  | shift c rest ha hcl => exact hinv.push ha st.bottoms (hinv.botOK ha)
  | noOpener c rest ha hcl hlb =>
    -- the new bottom for the closer's key is the top of the part below: no entry there matches
    rw [lookBack_sound st hinv c hcl] at hlb
    have hnm := lookBack_none_conv c st.below hlb
    have hbs : BotOK st (c :: rest)
        (fun k => if k = Emphasis.keyOf c then st.below.head?.map (·.start) else st.bottoms k) := by
      intro k p hk
      simp only at hk
      split at hk
      · rename_i hkc
        subst hkc
        cases hb : st.below with
        | nil => rw [hb] at hk; cases hk
        | cons e0 bs =>
          rw [hb] at hk
          simp only [List.head?_cons, Option.map_some, Option.some.injEq] at hk
          subst hk
          have he0 : e0 ∈ st.below := by rw [hb]; exact List.mem_cons_self ..
          refine ⟨fun e he _ => ?_, fun a ha' => ?_⟩
          · rw [← canMatch_key e c hcl]
            exact hnm e (by rw [hb]; exact he)
          · have := hinv.cross e0 he0 a (by rw [ha]; exact ha')
            have := hpos e0 (List.mem_append_left _ he0)
            omega
      · exact hinv.botOK ha k p hk
    split
    · exact hinv.push ha _ hbs
    · exact hinv.drop ha _ hbs
  | matched c rest o under sk n ha hcl hlb hsk hn =>
    have hsA := hinv.sortedA
    rw [ha] at hsA
    have hsA' := List.pairwise_cons.1 hsA
    have hsB := hinv.sortedB
    rw [hsk] at hsB
    have hsB3 := List.pairwise_cons.1 (List.pairwise_append.1 hsB).2.1
    have hmo : o ∈ st.below := by rw [hsk]; simp
    have hmu : ∀ u ∈ under, u ∈ st.below := fun u hu => by rw [hsk]; simp [hu]
    obtain ⟨n1, n2, n3⟩ := useN_bounds o c (hpos o (List.mem_append_left _ hmo))
      (hpos c (by rw [ha]; simp)) n hn
    -- every new entry lies inside an old one on the same side
    have hB : ∀ b ∈ (if o.count - n = 0 then under else { o with count := o.count - n } :: under),
        ∃ b0 ∈ st.below, b.start = b0.start ∧ b.count ≤ b0.count ∧ ∀ k, keyMatch b k = keyMatch b0 k := by
      intro b hb
      rcases mem_ite_cons hb with ⟨_, rfl⟩ | hb
      · exact ⟨o, hmo, rfl, Nat.sub_le _ _, fun _ => rfl⟩
      · exact ⟨b, hmu b hb, rfl, Nat.le_refl _, fun _ => rfl⟩
    have hA : ∀ a ∈ (if c.count - n = 0 then rest else { c with start := c.start + n, count := c.count - n } :: rest),
        ∃ a0 ∈ st.above, a0.start ≤ a.start := by
      intro a ha'
      rw [ha]
      rcases mem_ite_cons ha' with ⟨_, rfl⟩ | ha'
      · exact ⟨c, List.mem_cons_self .., Nat.le_add_right _ _⟩
      · exact ⟨a, List.mem_cons_of_mem _ ha', Nat.le_refl _⟩
    refine ⟨?_, ?_, ?_, ?_⟩
    · show (if o.count - n = 0 then under else { o with count := o.count - n } :: under).Pairwise _
      split
      · exact hsB3.2
      · exact List.pairwise_cons.2 ⟨fun u hu => hsB3.1 u hu, hsB3.2⟩
    · show (if c.count - n = 0 then rest else { c with start := c.start + n, count := c.count - n } :: rest).Pairwise _
      split
      · exact hsA'.2
      · refine List.pairwise_cons.2 ⟨fun a ha' => ?_, hsA'.2⟩
        have := hsA'.1 a ha'
        show c.start + n + (c.count - n) ≤ a.start
        omega
    · intro b hb a ha'
      obtain ⟨b0, hb0, e1, e2, _⟩ := hB b hb
      obtain ⟨a0, ha0, e3⟩ := hA a ha'
      have := hinv.cross b0 hb0 a0 ha0
      omega
    · intro k p hk
      obtain ⟨h1, h2⟩ := hinv.bot k p hk
      refine ⟨fun e he hle => ?_, fun a ha' => ?_⟩
      · obtain ⟨b0, hb0, e1, _, e3⟩ := hB e he
        rw [e3 k]
        exact h1 b0 hb0 (by omega)
      · obtain ⟨a0, ha0, e3⟩ := hA a ha'
        have := h2 a0 ha0
        omega
end SInv

/-! ### simulation: `process_emphasis` without bottoms against the procedure of the specification -/

theorem dsOf_shift (c : Emphasis.Run) (below rest : List Emphasis.Run) :
    dsOf (c :: below) rest = dsOf below (c :: rest) := by
  simp [dsOf]

theorem nextCloser_dsOf (below above : List Emphasis.Run) :
    nextCloser below.length (dsOf below above) = nextCloser.go (above.map toDelim) below.length := by
  have := nextCloser_append (below.reverse.map toDelim) (above.map toDelim)
  simpa [dsOf] using this

theorem nextCloser_go_cons (c : Emphasis.Run) (Y : List Delim) (i : Nat) :
    nextCloser.go (toDelim c :: Y) i = if c.canClose then some i else nextCloser.go Y (i + 1) := by
  simp [nextCloser.go, toDelim]

theorem emphLoopNB_none (s : Str) (fuel : Nat) (ds : List Delim) (ms : List CoreM) (r : List Delim × List CoreM)
    (h : emphLoopNB s none fuel ds ms none = .ok r) : r = (ds, ms) := by
  cases fuel with
  | zero => simp [emphLoopNB] at h
  | succ f => simp only [emphLoopNB, Res.ok.injEq] at h; exact h.symm

theorem emphLoopNB_some (s : Str) (fuel : Nat) (ds : List Delim) (ms : List CoreM) (curr : Nat)
    (r : List Delim × List CoreM) (h : emphLoopNB s none fuel ds ms (some curr) = .ok r) :
    ∃ f ds' ms' c', fuel = f + 1 ∧ emphStepNB s none ds ms curr = .ok ((ds', ms'), c') ∧
      emphLoopNB s none f ds' ms' c' = .ok r := by
  cases fuel with
  | zero => simp [emphLoopNB] at h
  | succ f =>
    simp only [emphLoopNB] at h
    cases hs : emphStepNB s none ds ms curr with
    | err e => rw [hs] at h; cases h
    | ok x =>
      obtain ⟨⟨ds', ms'⟩, c'⟩ := x
      rw [hs] at h
      exact ⟨f, ds', ms', c', rfl, rfl, h⟩

/-- a round without matching opener, model side, in the vocabulary of the specification -/
theorem emphStepNB_noOpener (s : Str) (below rest : List Emphasis.Run) (c : Emphasis.Run) (ms : List CoreM)
    (hpos : ∀ r ∈ below, 1 ≤ r.count) (hc : 1 ≤ c.count) (hlb : Emphasis.lookBack c none below = none)
    (below' : List Emphasis.Run) (hb : below' = if c.canOpen then c :: below else below) :
    emphStepNB s none (dsOf below (c :: rest)) ms below.length =
      .ok ((dsOf below' rest, ms), nextCloser below'.length (dsOf below' rest)) := by
  have hm := matchingOpener_dsOf c hc below rest hpos
  rw [hlb] at hm
  simp only at hm
  have hcur : (dsOf below (c :: rest))[below.length]? = some (toDelim c) := by
    simp [dsOf]
  rw [emphStepNB_none s _ _ _ (toDelim c) c.char hcur (toDelim_head c hc) hm, hb]
  cases hco : c.canOpen with
  | false =>
    have herase : (dsOf below (c :: rest)).eraseIdx below.length = dsOf below rest := by
      simpa [dsOf] using erase_mid (below.reverse.map toDelim) (rest.map toDelim) (toDelim c)
    have hop : (toDelim c).opens = false := hco
    simp only [hop, Bool.not_false, if_true, Bool.false_eq_true, if_false, herase]
  | true =>
    have hop : (toDelim c).opens = true := hco
    simp only [hop, Bool.not_true, Bool.false_eq_true, if_false, if_true, dsOf_shift, List.length_cons]

/-- a matched round, model side, in the vocabulary of the specification -/
theorem emphStepNB_matched (s : Str) (under skipped rest : List Emphasis.Run) (o c : Emphasis.Run) (ms : List CoreM)
    (hpos : ∀ r ∈ skipped ++ o :: under, 1 ≤ r.count) (hc : 1 ≤ c.count)
    (hlb : Emphasis.lookBack c none (skipped ++ o :: under) = some (o, under))
    (n : Nat) (hn : n = if (decide (2 ≤ o.count) && decide (2 ≤ c.count)) = true then 2 else 1)
    (below' above' : List Emphasis.Run)
    (hb : below' = if o.count - n = 0 then under else { o with count := o.count - n } :: under)
    (ha : above' = if c.count - n = 0 then rest else { c with start := c.start + n, count := c.count - n } :: rest) :
    emphStepNB s none (dsOf (skipped ++ o :: under) (c :: rest)) ms (skipped ++ o :: under).length =
      match s[o.start + o.count - n]? with
      | none => .err .index
      | some _ =>
        .ok ((dsOf below' above',
              toCoreM s { openStart := o.start + o.count - n, openStop := o.start + o.count,
                          closeStart := c.start, closeStop := c.start + n, strong := n == 2 } :: ms),
          nextCloser below'.length (dsOf below' above')) := by
  have ho : 1 ≤ o.count := hpos o (by simp)
  have hds : dsOf (skipped ++ o :: under) (c :: rest) =
      under.reverse.map toDelim ++ toDelim o :: (skipped.reverse.map toDelim ++ toDelim c :: rest.map toDelim) := by
    simp [dsOf]
  have hlen : (skipped ++ o :: under).length =
      (under.reverse.map toDelim).length + 1 + (skipped.reverse.map toDelim).length := by
    simp; omega
  have hm := matchingOpener_dsOf c hc (skipped ++ o :: under) rest hpos
  rw [hlb] at hm
  simp only at hm
  rw [hds, hlen] at hm
  have hul : under.length = (under.reverse.map toDelim).length := by simp
  rw [hul] at hm
  rw [hds, hlen, emphStepNB_some s _ _ _ _ _ ms c.char hm (toDelim_head c hc)]
  obtain ⟨_, n2, n3⟩ := useN_bounds o c ho hc n hn
  rw [emphN_toDelim, ← hn, shrink_toDelim o n false n2, shrink_toDelim c n true n3]
  simp only [Bool.false_eq_true, if_false, if_true]
  have hstop : (toDelim o).stop - n = o.start + o.count - n := rfl
  rw [hstop]
  cases hs : s[o.start + o.count - n]? with
  | none => rfl
  | some dch =>
    simp only
    have hmatch : emphMatch (toDelim o) (toDelim c) n dch =
        toCoreM s { openStart := o.start + o.count - n, openStop := o.start + o.count,
                    closeStart := c.start, closeStop := c.start + n, strong := n == 2 } := by
      simp only [emphMatch, toCoreM, toDelim, hs, Option.getD_some, beq_iff_eq]
      congr 1
      · omega
      · omega
    rw [hmatch, hb, ha]
    by_cases h1 : o.count - n = 0 <;> by_cases h2 : c.count - n = 0 <;> simp [h1, h2, dsOf]

theorem run_none (n : Nat) (st : Emphasis.State) (h : Emphasis.step st = none) : Emphasis.run n st = st := by
  cases n with
  | zero => rfl
  | succ n => simp only [Emphasis.run, h]

/-- **Simulation.**  From a stack of the specification that satisfies the invariant of `openers_bottom` and the
    corresponding `delimiters` list, with the same matches so far, the loop of `process_emphasis` without bottoms (if it
    does not fail) returns the matches of the specification's procedure. -/
theorem sim (s : Str) : ∀ (n : Nat) (st : Emphasis.State) (fuelM : Nat) (r : List Delim × List CoreM),
    Pos st → SInv st → Emphasis.measure st ≤ n →
    emphLoopNB s none fuelM (dsOf st.below st.above) (st.found.map (toCoreM s))
      (nextCloser st.below.length (dsOf st.below st.above)) = .ok r →
    r.2 = (Emphasis.run n st).found.map (toCoreM s) := by
  intro n
  induction n with
  | zero =>
    intro st fuelM r hpos _ hm h
    have ha : st.above = [] := by
      cases ha : st.above with
      | nil => rfl
      | cons c rest => simp [Emphasis.measure, ha] at hm
    rw [nextCloser_dsOf, ha] at h
    simp only [List.map_nil, nextCloser.go] at h
    rw [emphLoopNB_none s _ _ _ _ h]
    rfl
  | succ n ih =>
    intro st fuelM r hpos hinv hm h
    cases hs : Emphasis.step st with
    | none =>
      rw [nextCloser_dsOf, step_none hs] at h
      simp only [List.map_nil, nextCloser.go] at h
      rw [emphLoopNB_none s _ _ _ _ h, run_none _ _ hs]
    | some st1 =>
      obtain ⟨hm', hpos'⟩ := step_measure st st1 hpos hs
      have hinv' := hinv.step hpos hs
      simp only [Emphasis.run, hs]
      have hposb : ∀ r ∈ st.below, 1 ≤ r.count := fun r hr => hpos r (List.mem_append_left _ hr)
      cases step_round hs with
      | shift c rest ha hcl =>
        rw [ha, nextCloser_dsOf, List.map_cons, nextCloser_go_cons, hcl] at h
        apply ih _ fuelM r hpos' hinv' (by omega)
        show emphLoopNB s none fuelM (dsOf (c :: st.below) rest) _ (nextCloser (c :: st.below).length (dsOf (c :: st.below) rest)) = _
        rw [nextCloser_dsOf, dsOf_shift, List.length_cons]
        exact h
      | noOpener c rest ha hcl hlb =>
        rw [lookBack_sound st hinv c hcl] at hlb
        have hposc : 1 ≤ c.count := hpos c (by rw [ha]; simp)
        rw [ha, nextCloser_dsOf, List.map_cons, nextCloser_go_cons, hcl] at h
        simp only [if_true] at h
        obtain ⟨f, ds', ms', c', hf, hstepM, hloop⟩ := emphLoopNB_some s _ _ _ _ _ h
        rw [emphStepNB_noOpener s st.below rest c _ hposb hposc hlb _ rfl] at hstepM
        simp only [Res.ok.injEq, Prod.mk.injEq] at hstepM
        obtain ⟨⟨rfl, rfl⟩, rfl⟩ := hstepM
        exact ih _ f r hpos' hinv' (by omega) hloop
      | matched c rest o under skipped n ha hcl hlb hsk hn =>
        rw [lookBack_sound st hinv c hcl] at hlb
        have hposc : 1 ≤ c.count := hpos c (by rw [ha]; simp)
        rw [ha, nextCloser_dsOf, List.map_cons, nextCloser_go_cons, hcl] at h
        simp only [if_true] at h
        obtain ⟨f, ds', ms', c', hf, hstepM, hloop⟩ := emphLoopNB_some s _ _ _ _ _ h
        have hM := emphStepNB_matched s under skipped rest o c (st.found.map (toCoreM s))
          (by rw [← hsk]; exact hposb) hposc (by rw [← hsk]; exact hlb) n hn _ _ rfl rfl
        rw [← hsk, hstepM] at hM
        apply ih _ f r hpos' hinv' (by omega)
        split at hM
        · cases hM
        · simp only [Res.ok.injEq, Prod.mk.injEq] at hM
          obtain ⟨⟨rfl, rfl⟩, rfl⟩ := hM
          simpa using hloop

/-! ### the refinement theorems -/

theorem initial_pos (rs : List Emphasis.Run) (hpos : ∀ r ∈ rs, 1 ≤ r.count) : Pos (Emphasis.initial rs) := by
  intro r hr
  exact hpos r (by simpa [Emphasis.initial] using hr)

theorem initial_sinv (rs : List Emphasis.Run) (hs : rs.Pairwise (fun a b => a.start + a.count ≤ b.start)) :
    SInv (Emphasis.initial rs) :=
  ⟨List.Pairwise.nil, hs, fun b hb => (by cases hb), fun k p hk => (by cases hk)⟩

/-- **`process_emphasis` (without bottoms) computes *process emphasis* of the specification**
    (with `openers_bottom`), on any stack of non-empty entries in text order: if it does not fail,
    its matches are the emphasis nodes of the specification, in the same order. -/
theorem processEmphasisNB_spec (s : Str) (rs : List Emphasis.Run) (hpos : ∀ r ∈ rs, 1 ≤ r.count)
    (hs : rs.Pairwise (fun a b => a.start + a.count ≤ b.start)) (ds' : List Delim) (ms' : List CoreM)
    (h : processEmphasisNB s none (rs.map toDelim) [] = .ok (ds', ms')) :
    ms'.reverse = (Emphasis.process rs).map (toCoreM s) := by
  unfold processEmphasisNB at h
  cases hl : emphLoopNB s none (2 * s.length + 2 * (rs.map toDelim).length + 4) (rs.map toDelim) []
      (nextCloser (Option.getD none 0) (rs.map toDelim)) with
  | err e => rw [hl] at h; cases h
  | ok r =>
    rw [hl] at h
    obtain ⟨rd, rm⟩ := r
    simp only [Res.ok.injEq, Prod.mk.injEq] at h
    obtain ⟨_, rfl⟩ := h
    have hsim := sim s (Emphasis.measure (Emphasis.initial rs)) (Emphasis.initial rs) _ (rd, rm) (initial_pos rs hpos)
      (initial_sinv rs hs) (Nat.le_refl _) (by simpa [Emphasis.initial, dsOf] using hl)
    simp only at hsim
    rw [hsim, ← List.map_reverse]
    rfl

/-- **Refinement, first form (every text without backquote and brackets; backslashes, `<`, `&` allowed).**
    `find_core_tokens(s, root)` returns exactly the emphasis nodes that *process emphasis* of the specification
    computes on the delimiter runs of `s` (runs of unescaped `*` / `_`, sections 2.4 and 6.2), classified as opener /
    closer by mistletoe's own `is_opener` / `is_closer`; and no code span. -/
theorem findCoreTokens_runsME (s : Str) (fn : Footnotes.Table) (hp : ∀ c ∈ s, c ≠ '`' ∧ c ≠ '[' ∧ c ≠ ']') :
    findCoreTokens s fn = .ok ((Emphasis.process (EmphRefineEsc.runsME s)).map (toCoreM s), []) := by
  obtain ⟨r0, hr0⟩ := findCoreTokens_ok s fn
  rw [findCoreTokens_eq_noBottoms, EmphRefineEsc.findCoreTokensNB_esc s fn hp, EmphRefineEsc.spanDelims_eq] at hr0 ⊢
  cases hpe : processEmphasisNB s none ((EmphRefineEsc.runsME s).map toDelim) [] with
  | err e => rw [hpe] at hr0; cases hr0
  | ok x =>
    obtain ⟨ds', ms'⟩ := x
    simp only
    rw [processEmphasisNB_spec s _ (EmphRefineEsc.runsME_pos s) (EmphRefineEsc.runsME_sorted s) ds' ms' hpe]

theorem plain_mem {s : Str} (hp : Emphasis.plain s = true) : ∀ c ∈ s, Emphasis.plainChar c = true := by
  simpa [Emphasis.plain] using hp

theorem plain_no_backslash {s : Str} (hp : Emphasis.plain s = true) : '\\' ∉ s := by
  intro h
  have := plain_mem hp _ h
  revert this; decide

theorem plainEsc_of_plain {s : Str} (hp : Emphasis.plain s = true) : EmphasisEsc.plainEsc s = true := by
  simp only [EmphasisEsc.plainEsc, List.all_eq_true]
  intro c hc
  have := plain_mem hp c hc
  simp only [Emphasis.plainChar, Bool.and_eq_true] at this
  simp only [EmphasisEsc.plainEscChar, Bool.and_eq_true]
  exact ⟨⟨⟨⟨this.1.1.1.1.2, this.1.1.1.2⟩, this.1.1.2⟩, this.1.2⟩, this.2⟩

/-- the delimiter runs of a text with mistletoe's classification -/
def runsM (s : Str) : List Emphasis.Run :=
  (Emphasis.runSpans none 0 s).map (fun r => mkRunM s r.1 r.2.1 r.2.2)

theorem runsME_plain (s : Str) (h : '\\' ∉ s) : EmphRefineEsc.runsME s = runsM s := by
  unfold EmphRefineEsc.runsME runsM
  rw [EmphRefineEsc.runSpansEsc_plain s h]

theorem runsM_eq (s : Str) (hw : StdWs s) (h : '\\' ∉ s) : runsM s = Emphasis.runs s := by
  rw [← runsME_plain s h, EmphRefineEsc.runsME_eq s hw, EmphRefineEsc.runsEsc_plain s h]

/-- **Refinement, first form (every plain text).**  For every text `s` of the fragment (no `\`,
    backtick, `[`, `]`, `<`, `&`) and every table of link reference definitions,
    `find_core_tokens(s, root)` returns exactly the emphasis nodes that *process emphasis* of the
    specification (with `openers_bottom`, the rule of three on original run lengths, strong iff both
    lengths ≥ 2, …) computes on the delimiter runs of `s`, in the same order, with the same four
    positions and the same kind, and no code span.  Here the runs are those of the specification
    (`runSpans`), classified as opener / closer by mistletoe's own `is_opener` / `is_closer`
    (`runsM`); `findCoreTokens_refines_spec_partial` replaces this classification by the specification's. -/
theorem C06_emphasis_is_process (s : Str) (fn : Footnotes.Table) (hp : Emphasis.plain s = true) :
    findCoreTokens s fn = .ok ((Emphasis.process (runsM s)).map (toCoreM s), []) := by
  rw [← runsME_plain s (plain_no_backslash hp)]
  exact findCoreTokens_runsME s fn (EmphRefineEsc.plainEsc_core (plainEsc_of_plain hp))

/-- **Refinement (main theorem).**  For every text `s` of the fragment that contains none of the
    eight code points which `core_tokens.unicode_whitespace` wrongly counts as Unicode whitespace
    (U+000B, U+001C–U+001F, U+0085, U+2028, U+2029: `StdWs s`), and every table of link reference
    definitions, `find_core_tokens(s, root)` returns exactly `Spec.Emphasis.emphasis s`, mapped to
    the model's match record: same `start`/`ts`/`te`/`stop`, same kind, same order; and no code span.

    `_partial`: the hypothesis `StdWs s` is there because the statement is false without it
    (`not_refines_deviant` below): mistletoe treats those eight characters as whitespace in the
    flanking tests, the specification (0.30, section 2.1) does not. -/
theorem findCoreTokens_refines_spec_partial (s : Str) (fn : Footnotes.Table) (hp : Emphasis.plain s = true)
    (hw : StdWs s) :
    findCoreTokens s fn = .ok ((Emphasis.emphasis s).map (toCoreM s), []) := by
  rw [C06_emphasis_is_process s fn hp, runsM_eq s hw (plain_no_backslash hp)]
  rfl

/-- executable form of `StdWs` -/
def stdWs (s : Str) : Bool := s.all (fun c => !deviantWs c)

theorem stdWs_iff (s : Str) : stdWs s = true ↔ StdWs s := by
  simp [stdWs, StdWs]

/-- **The hypothesis `StdWs` cannot be dropped: a disagreement between mistletoe and the
    specification.**  The text `*␟a*` (`*`, U+001F, `a`, `*`) is in the fragment.  U+001F is a control
    character (category `Cc`): not in `Zs`, not tab / line feed / form feed / carriage return, hence
    not a Unicode whitespace character, and not punctuation; so the first `*` is left-flanking, the
    last one right-flanking, and the specification gives `<em>␟a</em>`.  mistletoe has U+001F in
    `core_tokens.unicode_whitespace`, finds that the first `*` is followed by whitespace, and gives
    no emphasis.  The real code does the same: `mistletoe.markdown('*\x1fa*')` is
    `<p>*\x1fa*</p>`.  (The other seven code points, U+000B, U+001C–U+001E, U+0085, U+2028, U+2029,
    behave alike in `find_core_tokens`, but `Document` splits the text at them first, because
    `str.splitlines` does.) -/
theorem not_refines_deviant :
    Emphasis.plain "*\x1fa*".toList = true ∧
    findCoreTokens "*\x1fa*".toList [] = .ok ([], []) ∧
    Emphasis.spans "*\x1fa*".toList = [(0, 1, 3, 4, false)] := by decide +kernel

/-! ### property level (C06, first clause) -/

/-- the matches that stand for emphasis nodes of the specification are `Strong` / `Emphasis` tokens with the nodes'
    four positions and kind -/
theorem toCoreM_spans (s : Str) (l : List Emphasis.Match) :
    (∀ m ∈ l.map (toCoreM s), m.kind = .strong ∨ m.kind = .emphasis) ∧
    (l.map (toCoreM s)).map (fun m => (m.start, m.ts, m.te, m.stop, m.kind == .strong)) =
      l.map (fun m => (m.openStart, m.openStop, m.closeStart, m.closeStop, m.strong)) := by
  constructor
  · intro m hm
    obtain ⟨x, _, rfl⟩ := List.mem_map.1 hm
    simp only [toCoreM]
    cases x.strong <;> simp
  · rw [List.map_map]
    apply List.map_congr_left
    intro x _
    simp only [Function.comp, toCoreM]
    cases x.strong <;> rfl

/-- **C06: the emphasis structure is the specification's.**  For every inline text `s` of the
    fragment (no `\`, backtick, `[`, `]`, `<`, `&`) without the eight deviant whitespace code points,
    and every table of link reference definitions: `find_core_tokens(s, root)` does not fail; it
    returns no code span; every match it returns is a `Strong` or an `Emphasis`; and the matches are,
    one for one and in the same order, the emphasis nodes that the CommonMark 0.30 delimiter
    algorithm computes for `s` (`Spec.Emphasis.emphasis`: delimiter runs, left/right flanking, the
    restrictions on `_`, *process emphasis* with `openers_bottom`, the rule of three on original run
    lengths, strong iff both lengths ≥ 2): same opening delimiter `[start, ts)`, same closing
    delimiter `[te, stop)`, same kind.

    `_partial`: see `findCoreTokens_refines_spec_partial` for the hypothesis `StdWs s`. -/
theorem C06_emphasis_is_spec_partial (s : Str) (fn : Footnotes.Table) (hp : Emphasis.plain s = true) (hw : StdWs s) :
    ∃ ms, findCoreTokens s fn = .ok (ms, []) ∧
      ms = (Emphasis.emphasis s).map (toCoreM s) ∧
      (∀ m ∈ ms, m.kind = .strong ∨ m.kind = .emphasis) ∧
      ms.map (fun m => (m.start, m.ts, m.te, m.stop, m.kind == .strong)) = Emphasis.spans s :=
  ⟨_, findCoreTokens_refines_spec_partial s fn hp hw, rfl, toCoreM_spans s _⟩

/-! non-vacuity: emphasis inside strong inside emphasis, `_` and `*` mixed -/

example : findCoreTokens "_x **y *z* y** x_".toList [] =
    .ok ((Emphasis.emphasis "_x **y *z* y** x_".toList).map (toCoreM "_x **y *z* y** x_".toList), []) :=
  findCoreTokens_refines_spec_partial _ _ (by decide_lit) ((stdWs_iff _).1 (by decide_lit))

example : Emphasis.spans "_x **y *z* y** x_".toList =
    [(7, 8, 9, 10, false), (3, 5, 12, 14, true), (0, 1, 16, 17, false)] := by decide_lit

example : ∃ ms, findCoreTokens "***a** b*".toList [] = .ok (ms, []) ∧
    ms.map (fun m => (m.start, m.ts, m.te, m.stop, m.kind == .strong)) = [(1, 3, 4, 6, true), (0, 1, 8, 9, false)] := by
  obtain ⟨ms, h1, _, _, h4⟩ := C06_emphasis_is_spec_partial "***a** b*".toList [] (by decide_lit)
    ((stdWs_iff _).1 (by decide_lit))
  refine ⟨ms, h1, ?_⟩
  rw [h4]
  decide_lit

end Mistletoe.EmphRefine
