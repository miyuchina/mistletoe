/-
  The token lists of the HTML renderers, of the Markdown renderer and the default ones as values: what `Config.cfgOf`
  returns on the tables regenerated from /repo (`Gen/RenderMaps.lean`), each table evaluated once.  A change of a renderer's token lists in /repo breaks the
  proof of its value here.  (PygmentsRenderer's, GithubWikiRenderer's and MathJaxRenderer's, which only `Proofs/ContribSame.lean` reads, have
  their values there: `Config.pygments_eq`, `githubWiki_eq`, `mathjax_eq`.)
-/
import Mistletoe.Model.Config
namespace Mistletoe.Config
open Mistletoe Mistletoe.Block Mistletoe.Inline Mistletoe.Gen.RenderMaps

/-- HtmlRenderer's block list (also TocRenderer's, GithubWikiRenderer's, MathJaxRenderer's, PygmentsRenderer's) -/
def htmlBlockList : List BTok :=
  [.htmlBlock, .blockCode, .heading, .quote, .codeFence, .thematicBreak, .list, .table, .footnote, .paragraph]

/-- HtmlRenderer's span list (also TocRenderer's and PygmentsRenderer's) -/
def htmlSpanList : List STok :=
  [.escapeSequence, .htmlSpan, .strikethrough, .autoLink, .coreTokens, .inlineCode, .lineBreak]

/-- a configuration is known once its three lists are (`Document.Cfg` has no decidable equality) -/
theorem eq_of_lists (c : Option Document.Cfg) (b : List BTok) (ti : Bool) (s : List STok)
    (h : c.map (fun c => (c.block.types, c.block.tableInterrupt, c.span)) = some (b, ti, s)) :
    c = some ⟨⟨b, ti⟩, s⟩ := by
  obtain _ | ⟨⟨⟨_, _⟩, _⟩⟩ := c
  · cases h
  · cases h; rfl

theorem html_eq : html = some ⟨⟨htmlBlockList, true⟩, htmlSpanList⟩ := eq_of_lists _ _ _ _ (by decide +kernel)

/-- parse-and-render under HtmlRenderer's lists: a test vector stated with `renderHtml` evaluates the parse and the
    rendering, not the name tables again (for a parse that is known: `Pipeline.renderHtml_of_parse`) -/
theorem renderHtml_of {o : Html.Opts} {gas : Nat} {t out : Str}
    (h : (Document.parse ⟨⟨htmlBlockList, true⟩, htmlSpanList⟩ gas t).bind (fun d => .ok (Html.render o d)) = .ok out) :
    renderHtml o gas t = some out := by
  rw [renderHtml, html_eq]
  dsimp only
  cases hp : Document.parse ⟨⟨htmlBlockList, true⟩, htmlSpanList⟩ gas t with
  | err e => rw [hp] at h; cases h
  | ok d => rw [hp] at h; cases h; rfl

/-- TocRenderer's generated lists are, name by name, HtmlRenderer's -/
theorem cfgOf_toc : cfgOf tocBlockTokens tocSpanTokens = some ⟨⟨htmlBlockList, true⟩, htmlSpanList⟩ := html_eq

/-- `HtmlRenderer(process_html_tokens=False)` installs neither `HtmlBlock` nor `HtmlSpan`; the same lists are in
    force again after a TocRenderer's `with` block is left -/
theorem cfgOf_htmlNoHtml : cfgOf htmlNoHtmlBlockTokens htmlNoHtmlSpanTokens =
    some ⟨⟨htmlBlockList.erase .htmlBlock, true⟩, htmlSpanList.erase .htmlSpan⟩ :=
  eq_of_lists _ _ _ _ (by decide +kernel)
theorem cfgOf_tocAfterExit : cfgOf tocBlockTokensAfterExit tocSpanTokensAfterExit =
    some ⟨⟨htmlBlockList.erase .htmlBlock, true⟩, htmlSpanList.erase .htmlSpan⟩ :=
  cfgOf_htmlNoHtml

/-- MarkdownRenderer: `LinkReferenceDefinitionBlock` and `BlankLine` in front, no `Footnote`; HtmlRenderer's span list -/
theorem markdown_eq : markdown = some ⟨⟨[.linkRefDefBlock, .blankLine, .htmlBlock, .blockCode, .heading, .quote, .codeFence,
    .thematicBreak, .list, .table, .paragraph], true⟩, htmlSpanList⟩ :=
  eq_of_lists _ _ _ _ (by decide +kernel)

/-- no renderer active: HtmlRenderer's lists without the two HTML classes -/
theorem default_eq : default = some ⟨⟨htmlBlockList.erase .htmlBlock, true⟩, htmlSpanList.erase .htmlSpan⟩ :=
  eq_of_lists _ _ _ _ (by decide +kernel)

end Mistletoe.Config
