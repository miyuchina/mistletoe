/-
  C09 (Markdown round trip) for trees with LISTS (`MB`), the block phase under the Markdown renderer's token
  list (`markdownTypes`: `LinkReferenceDefinitionBlock`, `BlankLine`, `HtmlBlock`, `BlockCode`, `Heading`,
  `Quote`, `CodeFence`, `ThematicBreak`, `List`, `Table`, `Paragraph`).

  The fragment is a tree `MB`: a leaf is one of the blocks `Blk` of `Proofs/MdRoundBlocks.lean` (prose
  paragraph, ATX heading, thematic break, in the renderer's normal form), an inner node is a LIST — bullet
  (`-`, `+`, `*`) or ordered (number + `.` / `)`), marker at indentation 0, 1…4 spaces behind the marker,
  items made of blocks of the fragment again (nested lists included) separated by single "\n" lines, items
  separated by nothing (`loose = false`) or by one "\n" line (`loose = true`).  `wrs` writes the lines the
  way `MarkdownRenderer` does (`Props.C04.indentDoc`: marker + padding before the first line of an item,
  as many spaces before every other line, "\n" lines left as they are).

  Under this token list every "\n" line is a token of its own (`BlankLine`), so
  * the parse buffer of siblings holds one `BlankLine` entry per separator line (`ents`);
  * the "\n" line between two items of a loose list is read by `ListItem.read` of the item BEFORE it (the
    line is a continuation line) and becomes the last entry of that item's content (`itms`, `blankIf`);
  * the "\n" line behind a list is NOT part of the last item (`ListItem.read` steps back over it): it is a
    `BlankLine` entry of the enclosing buffer;
  * a list that is followed, after a "\n" line, by a list of ANOTHER marker type (`- a`, "\n", `1. x`): the line behind the
    "\n" line carries a marker, so `ListItem.read` does not step back; the "\n" line stays in the last item of the first
    list (`trail`), `List.read` ends the list at the foreign marker, and there is no `BlankLine` between the two lists;
  * no buffer is ever "loose" (the flag is only set for an unmatched line), so every `ListItem.loose` and
    every `List.loose` is false.

  `ListItem.read` in context is taken from `Proofs/ComposeLists.lean` (`item_lines_last`, `item_lines_next`, and an item
  with the items behind it, `readList_item_cons`: all generic in the token configuration; one round of `List.read` is
  `readList_round`, the dispatcher on a marker line `tokLoop_list`, `Proofs/Wrap.lean`); the dispatch loop over siblings is
  followed directly (`tokLoop_blk_step`, `step_list`, `nodes_stepM`), as in `Proofs/MdRoundBlocks.lean`,
  because C05's concatenation theorem needs `BlankLine ∉ types`.

  Main statements: `nodes_claimM` with `NodesClaimM.tokenize` (the block phase of a written forest, in every parser state,
  anywhere the line numbering starts, with or without a final "\n" line) and its case `tokenize_nodes` (from line 1).
  Token constructors, renderer, text and the C09 theorems: `MdRoundLists2.lean`.
-/
import Mistletoe.Proofs.MdRoundBlocks
import Mistletoe.Proofs.ComposeGen
namespace Mistletoe.MdRound
open Mistletoe Mistletoe.Py Mistletoe.Scan Mistletoe.Wrap Mistletoe.Markdown Mistletoe.InertInline
open Mistletoe.Block
open Mistletoe.Props.C14 (markdownTypes numbered numbered_cons numbered_append numbered_length)
open Mistletoe.Props.C04 (indentDoc itemDocOk itemDocOk_spec)
open Mistletoe.ComposeL (leaderOf markerOk leaderOk_of_marker sepS StopLine PostOk stopLineB item_lines_last
  item_lines_next readList_item_cons)

/-- a block of the fragment: a leaf `Blk` (paragraph / ATX heading / thematic break), or a list:
    `list ordered start marker pad loose items` — a bullet list (`ordered = false`, `marker` one of `-`, `+`, `*`) or
    an ordered list (the items are numbered `start`, `start + 1`, …, each number followed by `marker`, "." or ")");
    `pad` spaces (1 … 4) behind every marker; an item is the list of its blocks; `loose = true`: one "\n" line
    between consecutive items. -/
inductive MB where
  | leaf (b : Blk)
  | list (ordered : Bool) (start : Nat) (mk : Char) (pad : Nat) (loose : Bool) (items : List (List MB))

def isListM : MB → Bool
  | .list .. => true
  | _ => false

/-- two lists in a row (`Frag.adj`, `adjOk` of the flat fragments say something else: no two indented code blocks in a row) -/
def adj (t t' : MB) : Bool := isListM t && isListM t'

mutual
/-- the source lines of one block, as the renderer writes them; `trail` (lists only): with the "\n" line that separates
    the list from a following list of another type — the parser makes that line part of the last item -/
def wr (trail : Bool) : MB → List Str
  | .leaf b => b.lines
  | .list o n mk pad loose items => wrItems trail o mk pad loose n items
def wrs : List MB → List Str
  | [] => []
  | t :: rest =>
    match rest with
    | [] => wr false t
    | t' :: _ => if adj t t' then wr true t ++ wrs rest else wr false t ++ ['\n'] :: wrs rest
def wrItems (trail : Bool) (o : Bool) (mk : Char) (pad : Nat) (loose : Bool) (n : Nat) : List (List MB) → List Str
  | [] => []
  | it :: rest =>
    match rest with
    | [] => indentDoc (leaderOf o n mk) pad (wrs it) ++ sepS trail
    | _ :: _ => indentDoc (leaderOf o n mk) pad (wrs it) ++ (sepS loose ++ wrItems trail o mk pad loose (n + 1) rest)
end

def otherTypeB : MB → MB → Bool
  | .list o _ mk _ _ _, .list o' _ mk' _ _ _ => o != o' || mk != mk'
  | _, _ => false

/-- two consecutive siblings: behind a list comes either a list of another marker type (a list of the same type would
    be more items of the first), or a block whose first line begins with a non-whitespace character and carries no list
    marker (`stopLineB`) — otherwise the line would continue the last item or open another item -/
def sepOkM (t t' : MB) : Bool :=
  !isListM t || (if isListM t' then otherTypeB t t' else stopLineB ((wr false t').headD []))

mutual
/-- normal form (decidable).  Leaf: `Blk.ok`.  List:
    * 1 ≤ pad ≤ 4, and pad = 1 when the renderer normalises whitespace (`nw`: `normalize_whitespace=True`
      rewrites every padding to one space); at least one item; every item has at least one block, all in normal form;
    * every marker is `-`, `+`, `*`, or a number below 10⁹ and `.` or `)` (`markerOk`);
    * the lines of an item (`itemDocOk`): the first begins with a non-whitespace character, every other line is "\n"
      or has a non-whitespace character behind its spaces; marker + first line is not a thematic break (`* * *`).
    Siblings: `sepOkM`. -/
def MB.ok (nw : Bool) : MB → Bool
  | .leaf b => b.ok
  | .list o n mk pad _ items =>
    decide (1 ≤ pad) && decide (pad ≤ 4) && (!nw || pad == 1) && !items.isEmpty && MB.okItems nw o mk pad n items
def MB.oks (nw : Bool) : List MB → Bool
  | [] => true
  | t :: rest => MB.ok nw t && MB.oks nw rest && (match rest with | [] => true | t' :: _ => sepOkM t t')
def MB.okItems (nw : Bool) (o : Bool) (mk : Char) (pad : Nat) (n : Nat) : List (List MB) → Bool
  | [] => true
  | it :: rest => !it.isEmpty && MB.oks nw it && markerOk o n mk && itemDocOk (wrs it)
      && !Scan.thematicBreak (leaderOf o n mk ++ List.replicate pad ' ' ++ (wrs it).headD [])
      && MB.okItems nw o mk pad (n + 1) rest
end

def blankIf (b : Bool) (n : Nat) : List Entry := if b then [.blankLine n n] else []

mutual
def ent (trail : Bool) (n : Nat) : MB → Entry
  | .leaf b => itemEntry n n b
  | .list o s mk pad loose items => .list (itms trail o mk pad loose s n items) n n
def ents (n : Nat) : List MB → List Entry
  | [] => []
  | t :: rest =>
    match rest with
    | [] => [ent false n t]
    | t' :: _ =>
      if adj t t' then ent true n t :: ents (n + (wr true t).length) rest
      else ent false n t :: .blankLine (n + (wr false t).length) (n + (wr false t).length) :: ents (n + (wr false t).length + 1) rest
/-- the items: content = the entries of the item's blocks, and — for an item of a loose list that is not the last one,
    and for the last item of a list with `trail` — the `BlankLine` of the separator line behind it; never loose;
    indentation 0; content offset = marker width + pad -/
def itms (trail : Bool) (o : Bool) (mk : Char) (pad : Nat) (loose : Bool) (s : Nat) (n : Nat) : List (List MB) → List Item
  | [] => []
  | it :: rest =>
    .mk (ents n it ++ blankIf ((loose && !rest.isEmpty) || (trail && rest.isEmpty)) (n + (wrs it).length)) false 0
        ((leaderOf o s mk).length + pad) (leaderOf o s mk) n n
      :: itms trail o mk pad loose (s + 1) (n + (wrs it).length + (sepS loose).length) rest
end

mutual
/-- A leaf: 11 = `markdownTypes.length`, what `tokLoop_blk_step` asks beneath its round (`mdTypes_len`).
    A list: 9 = the dispatcher's way past the eight types before `List` and the call (`tokLoop_list` in `step_list`); then
    `List.read` runs.  Siblings: 14 = the block's round, the round of a "\n" line, which asks for `types.length + 1 = 12` beneath
    it (`tokLoop_blank`, from `tokLoop_nl_step`), and the round that meets the end (`nodes_stepM`, `nodes_rest`); the bound
    does not look at whether a "\n" line follows.  Items: 2 = the round of `List.read` and the call of the nested
    `tokenize_block` (`items_lastM`, `NodesClaimM.tokenize`). -/
def needM : MB → Nat
  | .leaf _ => 11
  | .list _ _ _ _ _ items => needItemsM items + 9
def needsM : List MB → Nat
  | [] => 0
  | t :: rest => needM t + needsM rest + 14
def needItemsM : List (List MB) → Nat
  | [] => 0
  | it :: rest => needsM it + needItemsM rest + 2
end

/-- the "\n" line behind `t` belongs to `t` (to its last item): `t` is a list and a list follows (`adj`; in a well-formed forest
    that list is of another marker type, `sepOkM`, which is what `postM_adj` uses) -/
def trailOf (t : MB) (rest : List MB) : Bool :=
  match rest with
  | t' :: _ => adj t t'
  | [] => false
/-- a "\n" line of its own separates `t` from the siblings behind it -/
def gapOf (t : MB) (rest : List MB) : Bool := !rest.isEmpty && !trailOf t rest

@[simp] theorem trailOf_nil (t : MB) : trailOf t [] = false := rfl
@[simp] theorem trailOf_cons (t t' : MB) (r : List MB) : trailOf t (t' :: r) = adj t t' := rfl
@[simp] theorem gapOf_nil (t : MB) : gapOf t [] = false := rfl
@[simp] theorem gapOf_cons (t t' : MB) (r : List MB) : gapOf t (t' :: r) = !adj t t' := rfl
theorem gapOf_ne {t : MB} {rest : List MB} (h : gapOf t rest = true) : rest ≠ [] := by rintro rfl; cases h

theorem wrItems_single (trail o : Bool) (mk : Char) (pad : Nat) (loose : Bool) (n : Nat) (it : List MB) :
    wrItems trail o mk pad loose n [it] = indentDoc (leaderOf o n mk) pad (wrs it) ++ sepS trail := by simp [wrItems]
theorem wrItems_cons2 (trail o : Bool) (mk : Char) (pad : Nat) (loose : Bool) (n : Nat) (it it' : List MB) (r : List (List MB)) :
    wrItems trail o mk pad loose n (it :: it' :: r) =
      indentDoc (leaderOf o n mk) pad (wrs it) ++ (sepS loose ++ wrItems trail o mk pad loose (n + 1) (it' :: r)) := by
  simp [wrItems]

theorem wrs_cons (t : MB) (rest : List MB) :
    wrs (t :: rest) = wr (trailOf t rest) t ++ (sepS (gapOf t rest) ++ wrs rest) := by
  cases rest with
  | nil => simp [wrs, sepS]
  | cons t' r => cases ha : adj t t' <;> simp [wrs, sepS, ha]
theorem ents_cons (n : Nat) (t : MB) (rest : List MB) :
    ents n (t :: rest) = ent (trailOf t rest) n t :: (blankIf (gapOf t rest) (n + (wr (trailOf t rest) t).length) ++
      ents (n + (wr (trailOf t rest) t).length + (sepS (gapOf t rest)).length) rest) := by
  cases rest with
  | nil => simp [ents, blankIf]
  | cons t' r => cases ha : adj t t' <;> simp [ents, sepS, blankIf, ha]
theorem wrItems_cons (trail o : Bool) (mk : Char) (pad : Nat) (loose : Bool) (n : Nat) (it : List MB) (rest : List (List MB)) :
    wrItems trail o mk pad loose n (it :: rest) = indentDoc (leaderOf o n mk) pad (wrs it) ++
      (sepS ((loose && !rest.isEmpty) || (trail && rest.isEmpty)) ++ wrItems trail o mk pad loose (n + 1) rest) := by
  cases rest <;> simp [wrItems]
theorem needsM_cons (t : MB) (rest : List MB) : needsM (t :: rest) = needM t + needsM rest + 14 := by simp [needsM]
theorem needItemsM_cons (it : List MB) (rest : List (List MB)) : needItemsM (it :: rest) = needsM it + needItemsM rest + 2 := by
  simp [needItemsM]
theorem itms_single (trail o : Bool) (mk : Char) (pad : Nat) (loose : Bool) (s n : Nat) (it : List MB) :
    itms trail o mk pad loose s n [it] =
      [.mk (ents n it ++ blankIf trail (n + (wrs it).length)) false 0 ((leaderOf o s mk).length + pad) (leaderOf o s mk) n n] := by
  simp [itms]
theorem itms_cons2 (trail o : Bool) (mk : Char) (pad : Nat) (loose : Bool) (s n : Nat) (it it' : List MB) (r : List (List MB)) :
    itms trail o mk pad loose s n (it :: it' :: r) =
      .mk (ents n it ++ blankIf loose (n + (wrs it).length)) false 0 ((leaderOf o s mk).length + pad) (leaderOf o s mk) n n ::
        itms trail o mk pad loose (s + 1) (n + (wrs it).length + (sepS loose).length) (it' :: r) := by
  simp [itms]

theorem oksM_cons (nw : Bool) (t : MB) (rest : List MB) (h : MB.oks nw (t :: rest) = true) :
    t.ok nw = true ∧ MB.oks nw rest = true ∧ ∀ t' r, rest = t' :: r → sepOkM t t' = true := by
  simp only [MB.oks, Bool.and_eq_true] at h
  refine ⟨h.1.1, h.1.2, ?_⟩
  rintro t' r rfl
  exact h.2

theorem okItemsM_cons (nw o : Bool) (mk : Char) (pad n : Nat) (it : List MB) (rest : List (List MB))
    (h : MB.okItems nw o mk pad n (it :: rest) = true) :
    it ≠ [] ∧ MB.oks nw it = true ∧ leaderOk o (leaderOf o n mk) = true ∧ itemDocOk (wrs it) = true ∧
    Scan.thematicBreak (leaderOf o n mk ++ List.replicate pad ' ' ++ (wrs it).headD []) = false ∧
    MB.okItems nw o mk pad (n + 1) rest = true := by
  simp only [MB.okItems, Bool.and_eq_true, Bool.not_eq_eq_eq_not, Bool.not_true, List.isEmpty_eq_false_iff] at h
  obtain ⟨⟨⟨⟨⟨a, b⟩, c⟩, d⟩, e⟩, f⟩ := h
  exact ⟨a, b, leaderOk_of_marker o n mk c, d, e, f⟩

structure ListOkM (nw o : Bool) (n : Nat) (mk : Char) (pad : Nat) (items : List (List MB)) : Prop where
  p1 : 1 ≤ pad
  p4 : pad ≤ 4
  pnw : nw = true → pad = 1
  ne : items ≠ []
  its : MB.okItems nw o mk pad n items = true

theorem listOkM_of (nw o : Bool) (n : Nat) (mk : Char) (pad : Nat) (loose : Bool) (items : List (List MB))
    (h : (MB.list o n mk pad loose items).ok nw = true) : ListOkM nw o n mk pad items := by
  simp only [MB.ok, Bool.and_eq_true, decide_eq_true_eq, Bool.not_eq_eq_eq_not, Bool.not_true, List.isEmpty_eq_false_iff,
    Bool.or_eq_true, beq_iff_eq] at h
  obtain ⟨⟨⟨⟨a, b⟩, c⟩, d⟩, e⟩ := h
  refine ⟨a, b, ?_, d, e⟩
  intro hn
  rcases c with c | c
  · rw [hn] at c; cases c
  · exact c

theorem wrs_cons_of_doc (it : List MB) (h : itemDocOk (wrs it) = true) : ∃ c0 cs, wrs it = c0 :: cs :=
  List.exists_cons_of_ne_nil (Mistletoe.ComposeL.itemDocOk_ne _ h)

theorem wrItems_head (trail o : Bool) (mk : Char) (pad : Nat) (loose : Bool) (n : Nat) (it : List MB) (rest : List (List MB))
    (c0 : Str) (cs : List Str) (h : wrs it = c0 :: cs) :
    ∃ tl, wrItems trail o mk pad loose n (it :: rest) = (leaderOf o n mk ++ List.replicate pad ' ' ++ c0) :: tl := by
  cases rest with
  | nil => rw [wrItems_single, h]; exact ⟨_, rfl⟩
  | cons a b => rw [wrItems_cons2, h]; exact ⟨_, rfl⟩

/-- the first line of a block (it does not depend on `trail`) -/
def firstOf (t : MB) : Str := (wr false t).headD []

theorem wr_head (nw : Bool) (t : MB) (h : t.ok nw = true) : ∃ ss, wr false t = firstOf t :: ss := by
  cases hw : wr false t with
  | cons s ss => exact ⟨ss, by simp [firstOf, hw]⟩
  | nil =>
    cases t with
    | leaf b => exact absurd hw (blk_lines_ne b h)
    | list o n mk pad loose items =>
      have hl := listOkM_of nw o n mk pad loose items h
      cases items with
      | nil => exact absurd rfl hl.ne
      | cons it r =>
        obtain ⟨c0, cs, hc⟩ := wrs_cons_of_doc it (okItemsM_cons nw o mk pad n it r hl.its).2.2.2.1
        obtain ⟨tl, htl⟩ := wrItems_head false o mk pad loose n it r c0 cs hc
        rw [wr, htl] at hw
        cases hw

theorem wrItems_trail (o : Bool) (mk : Char) (pad : Nat) (loose : Bool) : ∀ (n : Nat) (items : List (List MB)), items ≠ [] →
    wrItems true o mk pad loose n items = wrItems false o mk pad loose n items ++ [['\n']]
  | _, [], h => absurd rfl h
  | n, [it], _ => by simp [wrItems_single, sepS]
  | n, it :: it' :: r, _ => by
    rw [wrItems_cons2, wrItems_cons2, wrItems_trail o mk pad loose (n + 1) (it' :: r) (by simp)]
    simp

/-- the text of siblings: whether the parser gives the "\n" line behind `t` to `t` (`trailOf`) or leaves it between the
    blocks (`gapOf`), the blocks are separated by exactly one "\n" line -/
theorem wrs_cons_text (nw : Bool) (t : MB) (rest : List MB) (h : t.ok nw = true) :
    wrs (t :: rest) = wr false t ++ (sepS (!rest.isEmpty) ++ wrs rest) := by
  cases rest with
  | nil => simp [wrs, sepS]
  | cons t' r =>
    cases ha : adj t t' with
    | false => simp [wrs, ha, sepS]
    | true =>
      cases t with
      | leaf => cases ha
      | list o n mk pad loose items =>
        simp [wrs, ha, sepS, wr, wrItems_trail o mk pad loose n items (listOkM_of nw o n mk pad loose items h).ne]

theorem wrs_head (nw : Bool) (t : MB) (r : List MB) (h : t.ok nw = true) (tail : Bool) :
    ∃ ss, wrs (t :: r) ++ sepS tail = firstOf t :: ss := by
  obtain ⟨ss, hs⟩ := wr_head nw t h
  rw [wrs_cons_text nw t r h, hs]
  exact ⟨_, rfl⟩

/-- markers of lists of different types are of different types for `List.same_marker_type` (a number has at least one
    digit, so an ordered marker is longer than a bullet) -/
theorem otherType_marker (o o' : Bool) (mk mk' : Char) (n0 n' : Nat) (h : (o != o' || mk != mk') = true) :
    sameMarkerType (leaderOf o n0 mk) (leaderOf o' n' mk') = false := by
  have hd : Html.natDigits n0 ≠ [] := natDigitsAux_ne_nil n0 n0 []
  have hd' : Html.natDigits n' ≠ [] := natDigitsAux_ne_nil n' n' []
  cases o with
  | false =>
    cases o' with
    | false =>
      have hne : mk ≠ mk' := by simpa using h
      simp [leaderOf, sameMarkerType, hne]
    | true => simp [leaderOf, sameMarkerType, List.cons_eq_append_iff, hd']
  | true =>
    cases o' with
    | false => simp [sameMarkerType, leaderOf, hd]
    | true =>
      have hne : mk ≠ mk' := by simpa using h
      simp [sameMarkerType, leaderOf, hne]

/-- a line that opens a list item; `mm`: what `ListItem.parse_marker` reads off it -/
structure MarkerLine (s : Str) (mm : Nat × Nat × Str × Str) : Prop where
  lead : ∃ c r, s = c :: r ∧ LeadChar c
  marker : parseMarker s = some mm
  noHr : Scan.thematicBreak s = false

theorem MarkerLine.noCont {s : Str} {mm : Nat × Nat × Str × Str} (h : MarkerLine s mm) (W : Nat) (hW : 1 ≤ W) :
    parseContinuation s W = none := by
  obtain ⟨c, r, rfl, hc⟩ := h.lead
  exact parseContinuation_short 0 W c r hW hc.n_sp hc.n_tab (by rintro rfl; exact absurd hc.nsp (by decide))

theorem MarkerLine.noEarly {s : Str} {mm : Nat × Nat × Str × Str} (h : MarkerLine s mm) : NoEarly s := by
  obtain ⟨c, r, rfl, hc⟩ := h.lead
  exact noEarly_lead rfl hc h.noHr

/-- the first line of a list of another marker type than `o`, `mk` (`List.same_marker_type`) -/
def OtherList (o : Bool) (mk : Char) (s : Str) : Prop :=
  ∃ c r mm, s = c :: r ∧ LeadChar c ∧ parseMarker s = some mm ∧ Scan.thematicBreak s = false ∧
    ∀ n0, leaderOk o (leaderOf o n0 mk) = true → sameMarkerType (leaderOf o n0 mk) mm.2.2.1 = false

theorem otherList_iff {o : Bool} {mk : Char} {s : Str} : OtherList o mk s ↔
    ∃ mm, MarkerLine s mm ∧ ∀ n0, leaderOk o (leaderOf o n0 mk) = true → sameMarkerType (leaderOf o n0 mk) mm.2.2.1 = false :=
  ⟨fun ⟨c, r, mm, hs, hc, hm, htb, ho⟩ => ⟨mm, ⟨⟨c, r, hs, hc⟩, hm, htb⟩, ho⟩,
   fun ⟨mm, ⟨⟨c, r, hs, hc⟩, hm, htb⟩, ho⟩ => ⟨c, r, mm, hs, hc, hm, htb, ho⟩⟩

/-- what follows the lines of a list in its buffer: `trail` — the marker line of a list of another type (the list's own
    lines end with the "\n" line); otherwise `ComposeL.PostOk` -/
def PostI : Bool → Bool → Char → List Line → Prop
  | true, o, mk, post => ∃ l' post', post = l' :: post' ∧ OtherList o mk l'.s
  | false, _, _, post => PostOk post

/-- what may follow the lines of a block in its buffer: nothing, or a "\n" line — and behind a list that line is
    followed by nothing or by a line that neither continues the last item nor carries a marker; with `trail`: the marker
    line of a list of another type -/
def PostM : Bool → MB → List Line → Prop
  | true, .list o _ mk _ _ _, post => PostI true o mk post
  | true, .leaf _, _ => False
  | false, t, post =>
    post = [] ∨ ∃ nlL rest, post = nlL :: rest ∧ nlL.s = ['\n'] ∧ (isListM t = true → ∀ s, rest.head? = some s → StopLine s.s)

def StepClaim (cfg : Cfg) (trail : Bool) (t : MB) : Prop :=
  ∀ (pre post : List Line) (start k : Nat) (st : St) (g : Nat) (acc : List Entry) (lo : Bool),
    start + pre.length = k + 1 → needM t ≤ g → PostM trail t post →
    tokLoop cfg (g + 1) ⟨pre ++ (numbered k (wr trail t) ++ post), pre.length, start⟩ st acc lo =
      tokLoop cfg g ⟨(pre ++ numbered k (wr trail t)) ++ post, (pre ++ numbered k (wr trail t)).length, start⟩ st
        (ent trail (k + 1) t :: acc) lo

/-- siblings at the end of a buffer, with or without a final "\n" line (the buffer of an item that is not the last one
    of a loose list ends in one) -/
def NodesClaimM (cfg : Cfg) (ts : List MB) : Prop :=
  ∀ (tail : Bool) (pre : List Line) (start k : Nat) (st : St) (gas : Nat) (acc : List Entry) (lo : Bool),
    start + pre.length = k + 1 → needsM ts ≤ gas →
    tokLoop cfg gas ⟨pre ++ numbered k (wrs ts ++ sepS tail), pre.length, start⟩ st acc lo =
      .ok ({ entries := acc.reverse ++ (ents (k + 1) ts ++ blankIf tail (k + 1 + (wrs ts).length)), loose := lo }, st)

def firstLn (items : List (List MB)) : Str :=
  match items with
  | it :: _ => (wrs it).headD []
  | [] => []

/-- `List.read` entered on the first item, or re-entered on a later item: `ComposeG.LdNm` at the first line of the items,
    `ComposeG.LdNm o mk pad n (firstLn items)` -/
def LdNmM (o : Bool) (mk : Char) (pad n : Nat) (items : List (List MB)) (ld : Option Str) (nm : Option (Nat × Nat × Str × Str)) : Prop :=
  (ld = none ∧ nm = none) ∨
  (∃ n0, ld = some (leaderOf o n0 mk) ∧ leaderOk o (leaderOf o n0 mk) = true ∧
    nm = some (0, (leaderOf o n mk).length + pad, leaderOf o n mk, firstLn items))

def ItemsClaimM (cfg : Cfg) (trail : Bool) (o : Bool) (mk : Char) (pad : Nat) (loose : Bool) (n : Nat) (items : List (List MB)) : Prop :=
  ∀ (pre post : List Line) (start k : Nat) (st : St) (gas : Nat) (acc : List Item) ld nm,
    start + pre.length = k + 1 → needItemsM items ≤ gas → PostI trail o mk post → LdNmM o mk pad n items ld nm →
    readList cfg gas ⟨pre ++ numbered k (wrItems trail o mk pad loose n items) ++ post, pre.length, start⟩ st ld nm acc =
      .ok (acc.reverse ++ itms trail o mk pad loose n (k + 1) items,
           ⟨pre ++ numbered k (wrItems trail o mk pad loose n items) ++ post,
            pre.length + (wrItems trail o mk pad loose n items).length, start⟩, st)

theorem NodesClaimM.tokenize (cfg : Cfg) (ts : List MB) (hN : NodesClaimM cfg ts) (tail : Bool) (k : Nat) (st : St) (g : Nat)
    (hg : needsM ts + 1 ≤ g) :
    tokenizeBlock cfg g (numbered k (wrs ts ++ sepS tail)) (k + 1) st =
      .ok ({ entries := ents (k + 1) ts ++ blankIf tail (k + 1 + (wrs ts).length), loose := false }, st) := by
  obtain ⟨g', rfl⟩ := Nat.exists_eq_add_of_le' (Nat.le_trans (Nat.le_add_left 1 _) hg)
  have := hN tail [] (k + 1) k st g' [] false (by simp) (Nat.le_of_add_le_add_right hg)
  simpa [tokenizeBlock] using this

theorem wrItems_first (nw trail o : Bool) (mk : Char) (pad : Nat) (loose : Bool) (n : Nat) (it : List MB) (rest : List (List MB))
    (h1 : 1 ≤ pad) (h4 : pad ≤ 4) (hok : MB.okItems nw o mk pad n (it :: rest) = true) :
    (∃ tl, wrItems trail o mk pad loose n (it :: rest) =
      (leaderOf o n mk ++ List.replicate pad ' ' ++ firstLn (it :: rest)) :: tl) ∧
    MarkerLine (leaderOf o n mk ++ List.replicate pad ' ' ++ firstLn (it :: rest))
      (0, (leaderOf o n mk).length + pad, leaderOf o n mk, firstLn (it :: rest)) := by
  obtain ⟨_, _, hlead, hdoc, htb, _⟩ := okItemsM_cons nw o mk pad n it rest hok
  have hm := listLeader_of o _ hlead
  obtain ⟨c0, cs, hw⟩ := wrs_cons_of_doc it hdoc
  have hf : firstLn (it :: rest) = c0 := by simp [firstLn, hw]
  rw [hw] at hdoc htb
  obtain ⟨⟨ch, r0, rfl, hch⟩, _, _⟩ := itemDocOk_spec c0 cs hdoc
  obtain ⟨c, m', hmc, hc⟩ := hm.lead
  rw [hf]
  exact ⟨wrItems_head trail o mk pad loose n it rest _ cs hw,
    ⟨c, m' ++ List.replicate pad ' ' ++ ch :: r0, by rw [hmc]; simp, hc⟩, parseMarker_first _ hm pad h1 h4 ch r0 hch, htb⟩

theorem item_factsM (nw o : Bool) (mk : Char) (pad n : Nat) (it : List MB) (rest : List (List MB))
    (hok : MB.okItems nw o mk pad n (it :: rest) = true) (ld nm) (hln : LdNmM o mk pad n (it :: rest) ld nm) :
    ∃ c0 cs, wrs it = c0 :: cs ∧ itemDocOk (c0 :: cs) = true ∧ ListLeader (leaderOf o n mk) ∧
      (nm = none ∨ nm = some (0, (leaderOf o n mk).length + pad, leaderOf o n mk, c0)) ∧ otherMarkerType ld nm = false := by
  obtain ⟨_, _, hlead, hdoc, _, _⟩ := okItemsM_cons nw o mk pad n it rest hok
  obtain ⟨c0, cs, hw⟩ := wrs_cons_of_doc it hdoc
  have hf : firstLn (it :: rest) = c0 := by simp [firstLn, hw]
  exact ⟨c0, cs, hw, hw ▸ hdoc, listLeader_of o _ hlead, hf ▸ ComposeG.ldnm_prev hln, ComposeG.otherMarker_of_ldnm hln hlead⟩

/-- the last item, followed by nothing, or by a "\n" line that `ListItem.read` steps back over -/
theorem items_lastM (cfg : Cfg) (nw o : Bool) (mk : Char) (pad : Nat) (loose : Bool) (n : Nat) (it : List MB)
    (h1 : 1 ≤ pad) (h4 : pad ≤ 4) (hok : MB.okItems nw o mk pad n [it] = true) (hN : NodesClaimM cfg it) :
    ItemsClaimM cfg false o mk pad loose n [it] := by
  intro pre post start k st gas acc ld nm hk hg hpost hln
  obtain ⟨c0, cs, hw, hdoc, hm, hprev, hom⟩ := item_factsM nw o mk pad n it [] hok ld nm hln
  have hg : needsM it + 1 + 1 ≤ gas := by rw [needItemsM_cons] at hg; exact hg
  obtain ⟨g, rfl⟩ := Nat.exists_eq_add_of_le' (Nat.le_trans (Nat.le_add_left 1 _) hg)
  have hil := item_lines_last cfg _ hm pad h1 h4 c0 cs hdoc pre post start k hk hpost nm hprev
  have htok := NodesClaimM.tokenize cfg it hN false k st g (Nat.le_of_add_le_add_right hg)
  rw [hw, show c0 :: cs ++ sepS false = c0 :: cs from List.append_nil _] at htok
  rw [wrItems_single, hw, show indentDoc (leaderOf o n mk) pad (c0 :: cs) ++ sepS false = _ from List.append_nil _,
    readList_round hom hil, htok]
  simp [itms_single, blankIf, indentDoc]

/-- the last item, followed by a "\n" line and the first line of a list of another type: the "\n" line stays in the item,
    `List.read` stops at the foreign marker -/
theorem items_lastT (cfg : Cfg) (nw o : Bool) (mk : Char) (pad : Nat) (loose : Bool) (n : Nat) (it : List MB)
    (h1 : 1 ≤ pad) (h4 : pad ≤ 4) (hok : MB.okItems nw o mk pad n [it] = true) (hN : NodesClaimM cfg it) :
    ItemsClaimM cfg true o mk pad loose n [it] := by
  intro pre post start k st gas acc ld nm hk hg hpost hln
  obtain ⟨l', post', rfl, hol⟩ := hpost
  obtain ⟨mm, hl', hother⟩ := otherList_iff.mp hol
  obtain ⟨c0, cs, hw, hdoc, hm, hprev, hom⟩ := item_factsM nw o mk pad n it [] hok ld nm hln
  have hlead := (okItemsM_cons nw o mk pad n it [] hok).2.2.1
  have hg : needsM it + 1 + 1 ≤ gas := by rw [needItemsM_cons] at hg; exact hg
  obtain ⟨g, rfl⟩ := Nat.exists_eq_add_of_le' (Nat.le_trans (Nat.le_add_left 2 _) hg)
  have hot : otherMarkerType (some (ld.getD (leaderOf o n mk))) (some mm) = true := by
    simp only [otherMarkerType, Bool.not_eq_eq_eq_not, Bool.not_true]
    rcases hln with ⟨rfl, _⟩ | ⟨n0, rfl, h0, _⟩
    · exact hother n hlead
    · exact hother n0 h0
  -- the item with its "\n" line, then `List.read` again, on the foreign marker
  have hil := item_lines_next cfg _ hm pad h1 h4 c0 cs hdoc true pre post' l' start k hk mm
    (hl'.noCont _ (Nat.le_trans h1 (Nat.le_add_left _ _))) hl'.marker hl'.noEarly nm hprev
  have htok := NodesClaimM.tokenize cfg it hN true k st (g + 1) (Nat.le_of_add_le_add_right hg)
  rw [hw] at htok
  rw [wrItems_single, hw, readList_round hom hil, htok]
  simp +arith [readList, hot, itms_single, hw, indentDoc]

/-- an item and the items behind it: `ComposeL.readList_item_cons` (any token configuration), the item's own lines by `hN` -/
theorem items_consM (cfg : Cfg) (trail : Bool) (nw o : Bool) (mk : Char) (pad : Nat) (loose : Bool) (n : Nat) (it it' : List MB) (r : List (List MB))
    (h1 : 1 ≤ pad) (h4 : pad ≤ 4) (hok : MB.okItems nw o mk pad n (it :: it' :: r) = true) (hN : NodesClaimM cfg it)
    (hR : ItemsClaimM cfg trail o mk pad loose (n + 1) (it' :: r)) :
    ItemsClaimM cfg trail o mk pad loose n (it :: it' :: r) := by
  intro pre post start k st gas acc ld nm hk hg hpost hln
  obtain ⟨_, _, hlead, _, _, hok'⟩ := okItemsM_cons nw o mk pad n it (it' :: r) hok
  obtain ⟨_, _, hlead', hdoc', htb', _⟩ := okItemsM_cons nw o mk pad (n + 1) it' r hok'
  obtain ⟨c0, cs, hw, hdoc, _, hprev, hom⟩ := item_factsM nw o mk pad n it (it' :: r) hok ld nm hln
  obtain ⟨c0', cs', hw'⟩ := wrs_cons_of_doc it' hdoc'
  rw [hw'] at hdoc' htb'
  obtain ⟨⟨ch', r0', rfl, hch'⟩, _, _⟩ := itemDocOk_spec c0' cs' hdoc'
  obtain ⟨tl, htl⟩ := wrItems_head trail o mk pad loose (n + 1) it' r _ cs' hw'
  rw [needItemsM_cons] at hg
  obtain ⟨g, rfl⟩ := Nat.exists_eq_add_of_le' (Nat.le_trans (Nat.le_add_left 1 _) hg)
  have htok := NodesClaimM.tokenize cfg it hN loose k st g (by omega)
  have hln' : LdNmM o mk pad (n + 1) (it' :: r) (some (ld.getD (leaderOf o n mk)))
      (some (0, (leaderOf o (n + 1) mk).length + pad, leaderOf o (n + 1) mk, ch' :: r0')) := by
    right
    rcases hln with ⟨rfl, _⟩ | ⟨n0, rfl, h0, _⟩
    · exact ⟨n, rfl, hlead, by simp [firstLn, hw']⟩
    · exact ⟨n0, rfl, h0, by simp [firstLn, hw']⟩
  rw [hw] at htok
  rw [readList_item_cons cfg o mk pad h1 h4 n hlead hlead' c0 cs hdoc loose ch' r0' hch' htb' tl _ _ htl
    (by rw [wrItems_cons2, hw]) pre post start k hk st g acc ld nm hom hprev _ _ htok _ _
    (fun pre2 acc' hk2 => hR pre2 post start _ st g acc' _ _ hk2 (by omega) hpost hln')]
  rw [itms_cons2, hw]
  simp +arith

theorem needM_list (o : Bool) (n : Nat) (mk : Char) (pad : Nat) (loose : Bool) (items : List (List MB)) :
    needM (.list o n mk pad loose items) = needItemsM items + 9 := by simp [needM]

theorem step_list (cfg : Cfg) (hty : cfg.types = markdownTypes) (nw trail o : Bool) (n : Nat) (mk : Char) (pad : Nat) (loose : Bool)
    (items : List (List MB)) (hok : (MB.list o n mk pad loose items).ok nw = true) (hI : ItemsClaimM cfg trail o mk pad loose n items) :
    StepClaim cfg trail (.list o n mk pad loose items) := by
  intro pre post start k st G acc lo hk hg hpost
  have hl := listOkM_of nw o n mk pad loose items hok
  rw [needM_list] at hg
  obtain ⟨g, rfl⟩ := Nat.exists_eq_add_of_le' (Nat.le_trans (Nat.le_add_left 9 _) hg)
  have hpost' : PostI trail o mk post := by
    cases trail with
    | true => exact hpost
    | false =>
      rcases hpost with h | ⟨nlL, rest, h1, h2, h3⟩
      · exact Or.inl h
      · exact Or.inr ⟨nlL, rest, h1, h2, h3 rfl⟩
  cases items with
  | nil => exact absurd rfl hl.ne
  | cons it rest =>
    obtain ⟨⟨tl, htl⟩, hml⟩ := wrItems_first nw trail o mk pad loose n it rest hl.p1 hl.p4 hl.its
    have hstart := listStart_first _ (listLeader_of o _ (okItemsM_cons nw o mk pad n it rest hl.its).2.2.1) pad hl.p1
      (firstLn (it :: rest))
    have hrl := hI pre post start k st g [] none none hk (Nat.le_of_add_le_add_right hg) hpost' (Or.inl ⟨rfl, rfl⟩)
    simp only [wr, ent]
    rw [htl, numbered_cons] at hrl ⊢
    have h := tokLoop_list (cfg := cfg) (post := [.table, .paragraph])
      (pre := [.linkRefDefBlock, .blankLine, .htmlBlock, .blockCode, .heading, .quote, .codeFence, .thematicBreak])
      (by rw [hty]; rfl) (by decide) (by decide) (by decide) (peek_at pre ⟨_, k + 1⟩ (numbered (k + 1) tl ++ post) start) hml.noEarly hstart
      g st acc lo
    simp only [List.append_assoc, List.cons_append, List.reverse_nil, List.nil_append] at hrl h ⊢
    rw [hrl] at h
    refine h.trans ?_
    simp only [List.length_append, numbered_length, List.length_cons, hk]
    rfl

theorem postM_sep (nw : Bool) (t t' : MB) (r : List MB) (hok : MB.oks nw (t :: t' :: r) = true) (ha : adj t t' = false)
    (tail : Bool) (k' : Nat) (b : Line) (hb : b.s = ['\n']) :
    PostM false t (b :: numbered k' (wrs (t' :: r) ++ sepS tail)) := by
  obtain ⟨_, hok', hsep⟩ := oksM_cons nw _ _ hok
  have hsep := hsep t' r rfl
  refine Or.inr ⟨b, _, rfl, hb, ?_⟩
  intro hli s hs
  have hnl : isListM t' = false := by simpa [adj, hli] using ha
  simp only [sepOkM, hli, Bool.not_true, Bool.false_or, hnl, Bool.false_eq_true, if_false] at hsep
  have hok1 := (oksM_cons nw _ _ hok').1
  obtain ⟨ss, hss⟩ := wrs_head nw t' r hok1 tail
  rw [hss, numbered_cons] at hs
  simp only [List.head?_cons, Option.some.injEq] at hs
  subst hs
  cases t' with
  | list => cases hnl
  | leaf bl =>
    obtain ⟨ss0, h0⟩ := wr_head nw (.leaf bl) hok1
    have hbl : bl.lines = firstOf (.leaf bl) :: ss0 := h0
    exact Mistletoe.ComposeL.stopLine_of_nlEnd (firstOf (.leaf bl)) hsep
      (nlEnd_of_oneLine _ (blk_oneLine bl hok1 _ (by rw [hbl]; simp)))

theorem postM_adj (nw : Bool) (t t' : MB) (r : List MB) (hok : MB.oks nw (t :: t' :: r) = true) (ha : adj t t' = true)
    (tail : Bool) (k' : Nat) : PostM true t (numbered k' (wrs (t' :: r) ++ sepS tail)) := by
  obtain ⟨_, hok', hsep⟩ := oksM_cons nw _ _ hok
  have hsep := hsep t' r rfl
  have hok1 := (oksM_cons nw _ _ hok').1
  obtain ⟨ss, hss⟩ := wrs_head nw t' r hok1 tail
  rw [hss, numbered_cons]
  cases t with
  | leaf => cases ha
  | list o n mk pad loose items =>
    cases t' with
    | leaf => cases ha
    | list o' n' mk' pad' loose' items' =>
      have hl' := listOkM_of nw o' n' mk' pad' loose' items' hok1
      cases items' with
      | nil => exact absurd rfl hl'.ne
      | cons it' r' =>
        obtain ⟨⟨tl, htl⟩, hml⟩ := wrItems_first nw false o' mk' pad' loose' n' it' r' hl'.p1 hl'.p4 hl'.its
        have hf : firstOf (.list o' n' mk' pad' loose' (it' :: r')) =
            leaderOf o' n' mk' ++ List.replicate pad' ' ' ++ firstLn (it' :: r') := by simp [firstOf, wr, htl]
        refine ⟨_, _, rfl, otherList_iff.mpr ⟨_, hf ▸ hml, ?_⟩⟩
        intro n0 _
        exact otherType_marker o o' mk mk' n0 n' (by simpa [sepOkM, isListM, otherTypeB] using hsep)

theorem tokLoop_blank (cfg : Cfg) (hty : cfg.types = markdownTypes) (g : Nat) (hg : 12 ≤ g) (b : Line) (hb : b.s = ['\n'])
    (pre post : List Line) (start : Nat) (st : St) (acc : List Entry) (lo : Bool) :
    tokLoop cfg (g + 1) ⟨pre ++ b :: post, pre.length, start⟩ st acc lo =
      tokLoop cfg g ⟨(pre ++ [b]) ++ post, (pre ++ [b]).length, start⟩ st (.blankLine (start + pre.length) b.origin :: acc) lo := by
  rw [tokLoop_nl_step cfg g (by rw [mdTypes_len cfg hty]; exact hg) b pre post start st acc lo hb, mdTypes_bl cfg hty]
  rfl

theorem postM_of (nw : Bool) (t : MB) (rest : List MB) (hok : MB.oks nw (t :: rest) = true) (tail : Bool) (k' : Nat) :
    PostM (trailOf t rest) t (numbered k' (sepS (gapOf t rest) ++ (wrs rest ++ sepS tail))) := by
  cases rest with
  | nil =>
    cases tail
    · exact Or.inl rfl
    · exact Or.inr ⟨_, [], rfl, rfl, by simp⟩
  | cons t' r =>
    cases ha : adj t t' with
    | false =>
      simpa [ha, sepS, numbered_cons] using postM_sep nw t t' r hok ha tail (k' + 1) ⟨['\n'], k' + 1⟩ rfl
    | true => simpa [ha, sepS] using postM_adj nw t t' r hok ha tail k'

theorem nodes_rest (cfg : Cfg) (hty : cfg.types = markdownTypes) (rest : List MB) (hR : rest ≠ [] → NodesClaimM cfg rest)
    (tail : Bool) (pre : List Line) (start k : Nat) (st : St) (gas : Nat) (acc : List Entry) (lo : Bool)
    (hk : start + pre.length = k + 1) (hg : needsM rest ≤ gas) (hg0 : rest = [] → 13 ≤ gas) :
    tokLoop cfg gas ⟨pre ++ numbered k (wrs rest ++ sepS tail), pre.length, start⟩ st acc lo =
      .ok ({ entries := acc.reverse ++ (ents (k + 1) rest ++ blankIf tail (k + 1 + (wrs rest).length)), loose := lo }, st) := by
  cases rest with
  | cons t' r => exact hR (by simp) tail pre start k st gas acc lo hk hg
  | nil =>
    obtain ⟨g, rfl⟩ := Nat.exists_eq_add_of_le' (hg0 rfl)
    cases tail with
    | false =>
      rw [show pre ++ numbered k (wrs [] ++ sepS false) = pre from List.append_nil _, tokLoop_end]
      simp [ents, blankIf]
    | true =>
      rw [show numbered k (wrs [] ++ sepS true) = [⟨['\n'], k + 1⟩] from rfl, tokLoop_blank cfg hty (g + 12) (Nat.le_add_left _ _) _ rfl,
        List.append_nil, tokLoop_end, hk]
      simp [ents, blankIf, wrs]

/-- a block, then what `trailOf` / `gapOf` say: the block's own step, the "\n" line between the blocks if it is one of its
    own, the siblings behind -/
theorem nodes_stepM (cfg : Cfg) (hty : cfg.types = markdownTypes) (nw : Bool) (t : MB) (rest : List MB)
    (hok : MB.oks nw (t :: rest) = true) (hT : ∀ tr, StepClaim cfg tr t) (hR : rest ≠ [] → NodesClaimM cfg rest) : NodesClaimM cfg (t :: rest) := by
  intro tail pre start k st gas acc lo hk hg
  rw [needsM_cons] at hg
  obtain ⟨G, rfl⟩ := Nat.exists_eq_add_of_le' (Nat.le_trans (Nat.le_add_left 3 _) hg)
  have ⟨hg1, hg2, hg3⟩ : needM t ≤ G + 2 ∧ 12 ≤ G + 1 ∧ needsM rest ≤ G + 1 := by omega
  have hpost := postM_of nw t rest hok tail (k + (wr (trailOf t rest) t).length)
  rw [wrs_cons, ents_cons, List.append_assoc, List.append_assoc, numbered_append]
  generalize trailOf t rest = tr at hpost ⊢
  rw [hT tr pre _ start k st (G + 2) acc lo hk hg1 hpost]
  have hk1 : start + (pre ++ numbered k (wr tr t)).length = k + (wr tr t).length + 1 := by
    rw [List.length_append, numbered_length, ← Nat.add_assoc, hk, Nat.add_right_comm]
  cases hgp : gapOf t rest with
  | false =>
    rw [show sepS false ++ (wrs rest ++ sepS tail) = wrs rest ++ sepS tail from rfl,
      nodes_rest cfg hty rest hR tail _ start _ st (G + 2) _ lo hk1 (Nat.le_succ_of_le hg3) (fun _ => by omega)]
    simp [blankIf, sepS, Nat.add_assoc, Nat.add_comm, Nat.add_left_comm]
  | true =>
    rw [show numbered (k + (wr tr t).length) (sepS true ++ (wrs rest ++ sepS tail)) =
        ⟨['\n'], k + (wr tr t).length + 1⟩ :: numbered (k + (wr tr t).length + 1) (wrs rest ++ sepS tail) from numbered_cons _ _ _,
      tokLoop_blank cfg hty (G + 1) hg2 _ rfl,
      nodes_rest cfg hty rest hR tail _ start _ st (G + 1) _ lo
        (by rw [List.length_append, List.length_singleton, ← Nat.add_assoc, hk1]) hg3 (fun e => absurd e (gapOf_ne hgp)), hk1]
    simp [blankIf, sepS, Nat.add_assoc, Nat.add_comm, Nat.add_left_comm]

theorem step_leaf (cfg : Cfg) (hty : cfg.types = markdownTypes) (tr : Bool) (b : Blk) (hok : b.ok = true) : StepClaim cfg tr (.leaf b) := by
  intro pre post start k st G acc lo hk hg hpost
  cases tr with
  | true => exact absurd hpost (by simp [PostM])
  | false =>
    have hb : ∀ x, post.head? = some x → x.s = ['\n'] := by
      rcases hpost with rfl | ⟨nlL, rest, rfl, h, _⟩
      · simp
      · intro x hx
        simp only [List.head?_cons, Option.some.injEq] at hx
        subst hx; exact h
    have := tokLoop_blk_step cfg hty b hok G (by rw [mdTypes_len cfg hty]; exact hg) pre post k hb start st acc lo
    simp only [wr, ent]
    rw [this, hk]

mutual
theorem step_claimM (cfg : Cfg) (hty : cfg.types = markdownTypes) (nw : Bool) :
    ∀ (t : MB), t.ok nw = true → ∀ tr, StepClaim cfg tr t
  | .leaf b, h, tr => step_leaf cfg hty tr b h
  | .list o n mk pad loose items, h, tr =>
    have hl := listOkM_of nw o n mk pad loose items h
    step_list cfg hty nw tr o n mk pad loose items h (items_claimM cfg hty nw tr o mk pad loose hl.p1 hl.p4 n items hl.its hl.ne)
theorem nodes_claimM (cfg : Cfg) (hty : cfg.types = markdownTypes) (nw : Bool) :
    ∀ (ts : List MB), MB.oks nw ts = true → ts ≠ [] → NodesClaimM cfg ts
  | [], _, hne => absurd rfl hne
  | t :: rest, h, _ =>
    nodes_stepM cfg hty nw t rest h (step_claimM cfg hty nw t (oksM_cons nw _ _ h).1)
      (fun hne => nodes_claimM cfg hty nw rest (oksM_cons nw _ _ h).2.1 hne)
theorem items_claimM (cfg : Cfg) (hty : cfg.types = markdownTypes) (nw trail o : Bool) (mk : Char) (pad : Nat) (loose : Bool)
    (h1 : 1 ≤ pad) (h4 : pad ≤ 4) :
    ∀ (n : Nat) (items : List (List MB)), MB.okItems nw o mk pad n items = true → items ≠ [] →
      ItemsClaimM cfg trail o mk pad loose n items
  | _, [], _, hne => absurd rfl hne
  | n, [it], h, _ =>
    have hN := nodes_claimM cfg hty nw it (okItemsM_cons nw o mk pad n it [] h).2.1 (okItemsM_cons nw o mk pad n it [] h).1
    match trail with
    | false => items_lastM cfg nw o mk pad loose n it h1 h4 h hN
    | true => items_lastT cfg nw o mk pad loose n it h1 h4 h hN
  | n, it :: it' :: r, h, _ =>
    items_consM cfg trail nw o mk pad loose n it it' r h1 h4 h
      (nodes_claimM cfg hty nw it (okItemsM_cons nw o mk pad n it _ h).2.1 (okItemsM_cons nw o mk pad n it _ h).1)
      (items_claimM cfg hty nw trail o mk pad loose h1 h4 (n + 1) (it' :: r) (okItemsM_cons nw o mk pad n it _ h).2.2.2.2.2 (by simp))
end

/-- **the block parse of a written forest, in every parser state**: one entry per block, one `BlankLine` per separator
    line (between two lists: inside the last item of the first); the buffer is not loose; the state is unchanged (no
    definitions, `parse_setext` untouched) -/
theorem tokenize_nodes (cfg : Cfg) (hty : cfg.types = markdownTypes) (nw : Bool) (ts : List MB) (hok : MB.oks nw ts = true)
    (hne : ts ≠ []) (gas : Nat) (st : St) :
    tokenizeBlock cfg (gas + (needsM ts + 1)) (numbered 0 (wrs ts)) 1 st =
      .ok ({ entries := ents 1 ts, loose := false }, st) := by
  have := NodesClaimM.tokenize cfg ts (nodes_claimM cfg hty nw ts hok hne) false 0 st (gas + (needsM ts + 1)) (Nat.le_add_left _ _)
  simpa [sepS, blankIf] using this

end Mistletoe.MdRound
