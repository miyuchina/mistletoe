/-
  The HTML tag scanners of Model/Scan.lean that return the rest of their input return a SUFFIX of it, said once per
  scanner; "no longer than the input" (`.length_le`) and "made of characters of the input" (`.subset`) are two
  readings of it.  Namespace `Mistletoe.Block`, beside `span_suffix` of Proofs/Block.lean on which every proof rests.  Used by
  DocTotal (`.length_le`: the fuelled tag scanners never truncate, `attrValue_len`) and InertWide (`.subset`:
  `HtmlSpan.pattern` matches nothing without `>`, `htmlSpanAt_gt`).
-/
import Mistletoe.Proofs.Block
namespace Mistletoe.Block
open Mistletoe Mistletoe.Py Mistletoe.Scan

theorem cons_suffix {c : Char} {r s : Str} (h : c :: r <:+ s) : r <:+ s := (List.suffix_cons c r).trans h

theorem attrValue_suffix (s : Str) : attrValue s <:+ s := by
  unfold attrValue
  simp only
  have h0 := span_suffix ws s
  split
  · rename_i r1 heq
    rw [heq] at h0
    have h1 := span_suffix ws r1
    split
    · rename_i r3 heq2
      rw [heq2] at h1
      have h2 := span_suffix (· != '\'') r3
      split
      · rename_i r5 heq3
        rw [heq3] at h2
        exact ((cons_suffix h2).trans (cons_suffix h1)).trans (cons_suffix h0)
      · exact List.suffix_refl _
    · rename_i r3 heq2
      rw [heq2] at h1
      have h2 := span_suffix (· != '"') r3
      split
      · rename_i r5 heq3
        rw [heq3] at h2
        exact ((cons_suffix h2).trans (cons_suffix h1)).trans (cons_suffix h0)
      · exact List.suffix_refl _
    · have h2 := span_suffix unquotedChar (span ws r1).2
      split
      · exact List.suffix_refl _
      · exact (h2.trans h1).trans (cons_suffix h0)
  · exact List.suffix_refl _

theorem attrs_suffix : ∀ (fuel : Nat) (s : Str), attrs fuel s <:+ s
  | 0, s => List.suffix_refl _
  | fuel + 1, s => by
    unfold attrs
    simp only
    split
    · exact List.suffix_refl _
    · split
      · split
        · exact ((attrs_suffix fuel _).trans (attrValue_suffix _)).trans ((span_suffix nameChar _).trans (span_suffix ws s))
        · exact List.suffix_refl _
      · exact List.suffix_refl _

/-- `_open_tag` matched: the rest, with the closing `>` before it, is a suffix of what follows the `<` -/
theorem openTag_suffix {s r : Str} (h : openTag s = some r) : '>' :: r <:+ s.tail := by
  unfold openTag at h
  split at h
  · rename_i c t
    simp only at h
    split at h
    · cases h
    · have h3 := ((span_suffix ws _).trans ((attrs_suffix (('<' :: c :: t).length + 1) _).trans
        (span_suffix (fun d => isAlnum d || d == '-') t))).trans (List.suffix_cons c t)
      split at h
      · rename_i r5 heq
        cases h
        split at heq
        · rename_i x hx
          rw [hx, heq] at h3
          exact cons_suffix h3
        · rw [heq] at h3; exact h3
      · cases h
  · cases h

theorem closingTag_suffix {s r : Str} (h : closingTag s = some r) : '>' :: r <:+ s.tail := by
  unfold closingTag at h
  split at h
  · rename_i c t
    simp only at h
    split at h
    · cases h
    · have h2 := ((span_suffix ws _).trans (span_suffix (fun d => isAlnum d || d == '-') t)).trans
        ((List.suffix_cons c t).trans (List.suffix_cons '/' _))
      split at h
      · rename_i r3 heq
        cases h
        rw [heq] at h2; exact h2
      · cases h
  · cases h

end Mistletoe.Block
