/-
  The inline core (`Mistletoe.Core`, the model of mistletoe/core_tokens.py) is total, and the shape
  of the emphasis matches it returns.  Property theorems are in Props/C06.lean.

  One iteration of the `process_emphasis` loop is isolated as `emphStep` and described as a relation `StepRel` on the
  delimiter stack written `A ++ o :: (B ++ c :: C)` around opener `o` and closer `c`; `emphLoop_rule` is the loop for
  any invariant kept by the iterations and any measure they lower.  The invariants are layers of one: `Chain` (the stack
  is well formed, ordered, inside `[lo, hi]`), `DInv` (geometry and nesting of the emphasis matches), `CInv` (emphasis
  delimiters are runs of `*` or `_` in the source), `GInv` (adjacent delimiters are never runs of the same character,
  hence emphasis content is not empty; where every match comes from, `Origin`).  Their step lemmas read the case of a
  match off `Chain.around` and `shrink_spec` / `shrink_mem` (what `remove` leaves), and each survives dropping delimiters.  The
  character loop is treated once, for any invariant that provides `LoopInv`: `FInv` is the invariant of the loop built
  on it, and `stepWith_finv` is read off the four equations of an iteration in Proofs/CoreStep.lean; `loopInv_ginv`
  instantiates it with `GInv`, and `findCoreTokens_inv` is the invariant of what `find_core_tokens` returns, from which
  Props/C06.lean reads well-formedness, nesting and the delimiter characters.  `findLinkImage_cases` is the case
  analysis of `find_link_image` that the invariants share (a stack of known shape is computed directly:
  `findLinkImage_none`, `findLinkImage_fail`, `findLinkImage_single` in the files of C14 and C07).
-/
import Mistletoe.Model.Inline
import Mistletoe.Proofs.CoreStep
namespace Mistletoe.Core
open Mistletoe Mistletoe.Py Mistletoe.Scan Mistletoe.InlineScan

/-! ### the delimiter invariant -/

structure DelimOK (d : Delim) : Prop where
  len : d.type.length = d.number
  pos : 1 ≤ d.number
  span : d.start + d.number = d.stop

/-- `Chain lo hi ds`: the delimiters are well formed, ordered, pairwise disjoint and inside `[lo, hi]`. -/
def Chain : Nat → Nat → List Delim → Prop
  | lo, hi, [] => lo ≤ hi
  | lo, hi, d :: rest => lo ≤ d.start ∧ DelimOK d ∧ Chain d.stop hi rest

/-- number of delimiter characters still on the stack -/
def total : List Delim → Nat
  | [] => 0
  | d :: rest => d.number + total rest

theorem DelimOK.type_ne {d : Delim} (h : DelimOK d) : d.type ≠ [] := fun e => by
  have hl := h.len
  rw [e] at hl
  exact absurd (hl ▸ h.pos) (by decide)

theorem Chain.le : ∀ {ds : List Delim} {lo hi : Nat}, Chain lo hi ds → lo ≤ hi
  | [], _, _, h => h
  | d :: rest, lo, hi, h => by
    have := Chain.le h.2.2
    have := h.2.1.span
    have := h.1
    omega

theorem Chain.mono : ∀ {ds : List Delim} {lo hi lo' hi' : Nat}, lo' ≤ lo → hi ≤ hi' → Chain lo hi ds → Chain lo' hi' ds
  | [], _, _, _, _, h1, h2, h => by simp only [Chain] at h ⊢; omega
  | d :: rest, _, _, _, _, h1, h2, h => ⟨Nat.le_trans h1 h.1, h.2.1, Chain.mono (Nat.le_refl _) h2 h.2.2⟩

theorem Chain.join : ∀ {A B : List Delim} {lo mid hi : Nat}, Chain lo mid A → Chain mid hi B → Chain lo hi (A ++ B)
  | [], _, _, _, _, hA, hB => Chain.mono hA (Nat.le_refl _) hB
  | _ :: _, _, _, _, _, hA, hB => ⟨hA.1, hA.2.1, Chain.join hA.2.2 hB⟩

theorem Chain.split : ∀ {A B : List Delim} {lo hi : Nat}, Chain lo hi (A ++ B) → ∃ mid, Chain lo mid A ∧ Chain mid hi B
  | [], B, lo, hi, h => ⟨lo, Nat.le_refl _, h⟩
  | d :: A, B, lo, hi, h => by
    obtain ⟨mid, h1, h2⟩ := Chain.split (A := A) (B := B) h.2.2
    exact ⟨mid, ⟨h.1, h.2.1, h1⟩, h2⟩

theorem Chain.total_le : ∀ {ds : List Delim} {lo hi : Nat}, Chain lo hi ds → lo + total ds ≤ hi
  | [], _, _, h => by simp only [Chain] at h; simp only [total]; omega
  | d :: rest, lo, hi, h => by
    have := Chain.total_le h.2.2
    have := h.2.1.span
    have := h.1
    simp only [total]; omega

theorem Chain.mem : ∀ {ds : List Delim} {lo hi : Nat}, Chain lo hi ds → ∀ d ∈ ds, DelimOK d ∧ lo ≤ d.start ∧ d.stop ≤ hi
  | [], _, _, _, d, hd => by cases hd
  | e :: rest, lo, hi, h, d, hd => by
    rcases List.mem_cons.1 hd with rfl | hd
    · exact ⟨h.2.1, h.1, Chain.le h.2.2⟩
    · have h3 := Chain.mem h.2.2 d hd
      have := h.2.1.span
      have := h.1
      exact ⟨h3.1, by omega, h3.2.2⟩

theorem Chain.all_ok {ds : List Delim} {lo hi n : Nat} (h : Chain lo hi ds) (hn : hi ≤ n) :
    ∀ d ∈ ds, DelimOK d ∧ d.stop ≤ n := fun d hd =>
  ⟨(h.mem d hd).1, Nat.le_trans (h.mem d hd).2.2 hn⟩

theorem Chain.around {A B C : List Delim} {o c : Delim} {lo hi : Nat} (h : Chain lo hi (A ++ o :: (B ++ c :: C))) :
    ∃ m, Chain lo m A ∧ m ≤ o.start ∧ DelimOK o ∧ o.stop ≤ c.start ∧ DelimOK c ∧ Chain c.stop hi C := by
  obtain ⟨m, hA, hm, hoOK, h2⟩ := Chain.split h
  obtain ⟨m2, hB, hm2, hcOK, hC⟩ := Chain.split h2
  exact ⟨m, hA, hm, hoOK, Nat.le_trans hB.le hm2, hcOK, hC⟩

theorem Chain.sublist {ds ds' : List Delim} (hs : ds'.Sublist ds) : ∀ {lo hi : Nat}, Chain lo hi ds → Chain lo hi ds' := by
  induction hs with
  | slnil => exact id
  | cons d _ ih => exact fun h => (ih h.2.2).mono (by have := h.2.1.span; have := h.1; omega) (Nat.le_refl _)
  | cons_cons d _ ih => exact fun h => ⟨h.1, h.2.1, ih h.2.2⟩

theorem total_append (A B : List Delim) : total (A ++ B) = total A + total B := by
  induction A with
  | nil => simp [total]
  | cons d A ih => simp only [List.cons_append, total, ih]; omega

theorem total_eraseIdx_le (ds : List Delim) (k : Nat) : total (ds.eraseIdx k) ≤ total ds := by
  induction ds generalizing k with
  | nil => simp
  | cons d ds ih =>
    cases k with
    | zero => simp only [List.eraseIdx_cons_zero, total]; omega
    | succ k => simp only [List.eraseIdx_cons_succ, total]; have := ih k; omega

theorem split_two {α} (ds : List α) (i j : Nat) (a b : α) (hi : ds[i]? = some a) (hj : ds[j]? = some b) (hij : i < j) :
    ∃ A B C, ds = A ++ a :: (B ++ b :: C) ∧ A.length = i ∧ i + 1 + B.length = j := by
  have hil : i < ds.length := (List.getElem?_eq_some_iff.1 hi).1
  have hjl : j < ds.length := (List.getElem?_eq_some_iff.1 hj).1
  refine ⟨ds.take i, (ds.drop (i + 1)).take (j - (i + 1)), ds.drop (j + 1), ?_, ?_, ?_⟩
  · have h1 : ds = ds.take i ++ a :: ds.drop (i + 1) := by
      have := List.getElem_cons_drop (as := ds) (i := i) hil
      rw [(List.getElem?_eq_some_iff.1 hi).2] at this
      rw [this, List.take_append_drop]
    have hj' : (ds.drop (i + 1))[j - (i + 1)]? = some b := by
      rw [List.getElem?_drop]; rw [← hj]; congr 1; omega
    have hjl' : j - (i + 1) < (ds.drop (i + 1)).length := (List.getElem?_eq_some_iff.1 hj').1
    have h2 : ds.drop (i + 1) = (ds.drop (i + 1)).take (j - (i + 1)) ++ b :: ds.drop (j + 1) := by
      have := List.getElem_cons_drop (as := ds.drop (i + 1)) (i := j - (i + 1)) hjl'
      rw [(List.getElem?_eq_some_iff.1 hj').2] at this
      rw [List.drop_drop] at this
      have e : i + 1 + (j - (i + 1) + 1) = j + 1 := by omega
      rw [e] at this
      rw [this, List.take_append_drop]
    rw [← h2]; exact h1
  · simp; omega
  · simp; omega

/-! ### `next_closer`, `closed_by`, `matching_opener` -/

theorem nextCloser_go_spec (l : List Delim) (i k : Nat) (h : nextCloser.go l i = some k) :
    i ≤ k ∧ ∃ d, l[k - i]? = some d ∧ d.emph = true ∧ d.closes = true := by
  fun_induction nextCloser.go l i
  case case1 => cases h
  case case2 d rest i hc =>
    cases h
    simp only [Bool.and_eq_true] at hc
    exact ⟨Nat.le_refl _, d, by simp, hc.1, hc.2⟩
  case case3 d rest i _ ih =>
    obtain ⟨h1, d', h2, h3⟩ := ih h
    have e : k - i = (k - (i + 1)) + 1 := by omega
    exact ⟨by omega, d', by rw [e, List.getElem?_cons_succ]; exact h2, h3⟩

theorem nextCloser_spec (from_ : Nat) (ds : List Delim) (k : Nat) (h : nextCloser from_ ds = some k) :
    from_ ≤ k ∧ ∃ d, ds[k]? = some d ∧ d.emph = true ∧ d.closes = true := by
  obtain ⟨h1, d, h2, h3⟩ := nextCloser_go_spec _ _ _ h
  refine ⟨h1, d, ?_, h3⟩
  rw [List.getElem?_drop] at h2
  rw [← h2]; congr 1; omega

theorem closedBy_ok (d c : Delim) (hd : d.type ≠ []) (hc : c.type ≠ []) : ∃ b, closedBy d c = .ok b := by
  fun_cases closedBy d c
  case case1 | case2 | case3 => exact ⟨_, rfl⟩
  case case4 hno =>
    cases h1 : d.type with
    | nil => exact absurd h1 hd
    | cons a _ =>
      cases h2 : c.type with
      | nil => exact absurd h2 hc
      | cons b _ => exact (hno a b (by rw [h1]; rfl) (by rw [h2]; rfl)).elim

theorem closedBy_true_head (d c : Delim) (h : closedBy d c = .ok true) : d.type.head? = c.type.head? ∧ d.type ≠ [] := by
  revert h
  fun_cases closedBy d c
  case case1 | case4 => intro h; cases h
  case case2 a b hb ha hab _ | case3 a b hb ha hab _ =>
    intro _
    have : a = b := by simpa using hab
    exact ⟨by rw [ha, hb, this], fun e => by rw [e] at ha; cases ha⟩

def NonAcc (ds : List Delim) (closer : Delim) (j : Nat) : Prop :=
  ∀ d, ds[j]? = some d → ¬(d.emph = true ∧ d.opens = true) ∨ closedBy d closer = .ok false

/-- lower end of the opener search -/
def loOf : Option Nat → Nat
  | none => 0
  | some b => b + 1

def Accepts (ds : List Delim) (closer : Delim) (j : Nat) : Prop :=
  ∃ d, ds[j]? = some d ∧ d.emph = true ∧ d.opens = true ∧ closedBy d closer = .ok true

/-- `r` is the answer of the search in `[lo, hi)`: the greatest index with an accepted opener, or `none` -/
def Found (ds : List Delim) (closer : Delim) (lo hi : Nat) : Option Nat → Prop
  | none => ∀ j, lo ≤ j → j < hi → NonAcc ds closer j
  | some o => lo ≤ o ∧ o < hi ∧ Accepts ds closer o ∧ ∀ j, o < j → j < hi → NonAcc ds closer j

theorem Accepts.not_nonAcc {ds : List Delim} {closer : Delim} {j : Nat} (h : Accepts ds closer j) (h' : NonAcc ds closer j) : False := by
  obtain ⟨d, hd, he, ho, hcb⟩ := h
  rcases h' d hd with h1 | h1
  · exact h1 ⟨he, ho⟩
  · rw [hcb] at h1; cases h1

/-- the answer does not depend on the lower end of the range, as long as the part left out holds no accepted opener -/
theorem Found.unique {ds : List Delim} {closer : Delim} {lo lo' hi : Nat} {r r' : Option Nat}
    (h : Found ds closer lo hi r) (h' : Found ds closer lo' hi r') (hle : lo' ≤ lo)
    (hskip : ∀ j, lo' ≤ j → j < lo → NonAcc ds closer j) : r = r' := by
  cases r with
  | none =>
    cases r' with
    | none => rfl
    | some o' =>
      obtain ⟨h1, h2, h3, _⟩ := h'
      by_cases hlo : lo ≤ o'
      · exact (h3.not_nonAcc (h o' hlo h2)).elim
      · exact (h3.not_nonAcc (hskip o' h1 (by omega))).elim
  | some o =>
    obtain ⟨h1, h2, h3, h4⟩ := h
    cases r' with
    | none => exact (h3.not_nonAcc (h' o (by omega) h2)).elim
    | some o' =>
      obtain ⟨g1, g2, g3, g4⟩ := h'
      rcases Nat.lt_trichotomy o o' with hlt | heq | hgt
      · exact (g3.not_nonAcc (h4 o' hlt g2)).elim
      · rw [heq]
      · exact (h3.not_nonAcc (g4 o hgt h2)).elim

theorem go_found (ds : List Delim) (closer : Delim) (lo : Nat) (hne : closer.type ≠ [])
    (hall : ∀ d ∈ ds, d.emph = true → d.type ≠ []) (n idx : Nat) (hn : idx < n) (hl : idx < ds.length) :
    ∃ r, matchingOpener.go ds closer lo n idx = .ok r ∧ Found ds closer lo (idx + 1) r := by
  have here : ∀ {idx d}, ds[idx]? = some d → (¬(d.emph = true ∧ d.opens = true) ∨ closedBy d closer = .ok false) →
      NonAcc ds closer idx := by
    intro idx d hd h' d' hd'
    rw [hd] at hd'; cases hd'; exact h'
  have down : ∀ {idx r}, NonAcc ds closer idx → Found ds closer lo (idx - 1 + 1) r → idx ≠ 0 → Found ds closer lo (idx + 1) r := by
    intro idx r hna hf h0
    have e : idx - 1 + 1 = idx := by omega
    rw [e] at hf
    cases r with
    | none => exact fun j h1 h2 => if hj : j = idx then hj ▸ hna else hf j h1 (by omega)
    | some o =>
      exact ⟨hf.1, by have := hf.2.1; omega, hf.2.2.1, fun j h1 h2 => if hj : j = idx then hj ▸ hna else hf.2.2.2 j h1 (by omega)⟩
  fun_induction matchingOpener.go ds closer lo n idx
  case case1 => omega
  case case2 => exact ⟨none, rfl, fun j h1 h2 => by omega⟩
  case case3 hd => rw [List.getElem?_eq_getElem hl] at hd; cases hd
  case case4 n idx _ d hd heo e hcb =>
    simp only [Bool.and_eq_true] at heo
    obtain ⟨b, hb⟩ := closedBy_ok d closer (hall d (List.mem_of_getElem? hd) heo.1) hne
    rw [hb] at hcb; cases hcb
  case case5 n idx hlo d hd heo hcb =>
    simp only [Bool.and_eq_true] at heo
    exact ⟨some idx, rfl, by omega, Nat.lt_succ_self _, ⟨d, hd, heo.1, heo.2, hcb⟩, fun j h1 h2 => by omega⟩
  case case6 hcb _ hd =>
    exact ⟨none, rfl, fun j _ h2 => by rw [show j = 0 by omega]; exact here hd (Or.inr hcb)⟩
  case case8 heo _ hd =>
    exact ⟨none, rfl, fun j _ h2 => by rw [show j = 0 by omega]; exact here hd (Or.inl (by simpa using heo))⟩
  case case7 n idx _ d hd _ hcb h0 ih =>
    obtain ⟨r, e, hf⟩ := ih (by omega) (by omega)
    exact ⟨r, e, down (here hd (Or.inr hcb)) hf h0⟩
  case case9 n idx _ d hd heo h0 ih =>
    obtain ⟨r, e, hf⟩ := ih (by omega) (by omega)
    exact ⟨r, e, down (here hd (Or.inl (by simpa using heo))) hf h0⟩

/-- **`matching_opener` returns the nearest accepted opener of its range.** -/
theorem matchingOpener_found (ds : List Delim) (curr : Nat) (bottom : Option Nat) (closer : Delim)
    (hc : ds[curr]? = some closer) (hne : closer.type ≠ []) (hall : ∀ d ∈ ds, d.emph = true → d.type ≠ []) :
    ∃ r, matchingOpener curr ds bottom = .ok r ∧ Found ds closer (loOf bottom) curr r := by
  have hl := (List.getElem?_eq_some_iff.1 hc).1
  unfold matchingOpener
  by_cases h0 : curr = 0
  · rw [if_pos h0]
    exact ⟨none, rfl, fun j _ h2 => by omega⟩
  · rw [if_neg h0, hc]
    simp only
    have := go_found ds closer (loOf bottom) hne hall curr (curr - 1) (by omega) (by omega)
    rwa [show curr - 1 + 1 = curr by omega] at this

/-! ### one iteration of the `process_emphasis` loop -/

/-- what is left of a delimiter after `remove(n, left)`, as a list of zero or one delimiters -/
def shrink (d : Delim) (n : Nat) (left : Bool) : List Delim := (delimRemove d n left).toList

/-- the match `process_emphasis` records for `opener`/`closer` -/
def emphMatch (opener closer : Delim) (n : Nat) (dch : Char) : CoreM :=
  { start := opener.stop - n, stop := closer.start + n, kind := if n = 2 then .strong else .emphasis,
    ts := opener.stop - n + n, te := closer.start + n - n, dest := [], title := [], delimiter := dch }

def emphN (opener closer : Delim) : Nat := if closer.number ≥ 2 && opener.number ≥ 2 then 2 else 1

/-- body of `emphLoop` for `curr_pos = curr`: new state and the next `curr_pos` -/
def emphStep (s : Str) (stackBottom : Option Nat) (st : EState) (curr : Nat) : Res (EState × Option Nat) :=
  match st.ds[curr]? with
  | none => .err .index
  | some closer =>
    match closer.type.head? with
    | none => .err .index
    | some ch =>
      let key : BKey := (ch, closer.opens, closer.runLength % 3)
      let bottom := bottomsGet st.bottoms key stackBottom
      match matchingOpener curr st.ds bottom with
      | .err e => .err e
      | .ok (some openPos) =>
        (match st.ds[openPos]? with
         | none => .err .index
         | some opener =>
           let n := if closer.number ≥ 2 && opener.number ≥ 2 then 2 else 1
           let start := opener.stop - n
           let stop := closer.start + n
           match s[start]? with
           | none => .err .index
           | some dch =>
             let m : CoreM := { start := start, stop := stop, kind := if n = 2 then .strong else .emphasis,
                                ts := start + n, te := stop - n, dest := [], title := [], delimiter := dch }
             let ds1 := st.ds.take (openPos + 1) ++ st.ds.drop curr
             let bottoms1 := st.bottoms.map (fun e =>
               match e.2 with
               | some b => if b ≥ openPos then (e.1, if openPos > 0 then some (openPos - 1) else stackBottom) else e
               | none => e)
             let (ds2, curr2) : List Delim × Nat :=
               match delimRemove opener n false with
               | some o' => (ds1.set openPos o', openPos + 1)
               | none => (ds1.eraseIdx openPos, openPos)
             let ds3 := match delimRemove closer n true with
               | some c' => ds2.set curr2 c'
               | none => ds2.eraseIdx curr2
             .ok ({ ds := ds3, ms := m :: st.ms, bottoms := bottoms1 }, nextCloser curr2 ds3))
      | .ok none =>
        let bottoms1 := bottomsSet st.bottoms key (if curr > 0 then some (curr - 1) else stackBottom)
        if !closer.opens then
          let ds1 := st.ds.eraseIdx curr
          .ok ({ st with ds := ds1, bottoms := bottoms1 }, nextCloser curr ds1)
        else
          .ok ({ st with bottoms := bottoms1 }, nextCloser (curr + 1) st.ds)

theorem emphLoop_succ (s : Str) (sb : Option Nat) (fuel : Nat) (st : EState) (curr : Nat) :
    emphLoop s sb (fuel + 1) st (some curr) =
      match emphStep s sb st curr with
      | .err e => .err e
      | .ok (st', c') => emphLoop s sb fuel st' c' := by
  rw [emphLoop, emphStep]
  cases st.ds[curr]? with
  | none => rfl
  | some closer =>
    simp only
    cases closer.type.head? with
    | none => rfl
    | some ch =>
      simp only
      cases matchingOpener curr st.ds (bottomsGet st.bottoms (ch, closer.opens, closer.runLength % 3) sb) with
      | err e => rfl
      | ok r =>
        cases r with
        | none =>
          simp only
          split <;> rfl
        | some openPos =>
          simp only
          cases st.ds[openPos]? with
          | none => rfl
          | some opener =>
            simp only
            generalize s[opener.stop - (if (closer.number ≥ 2 && opener.number ≥ 2) = true then 2 else 1)]? = x
            cases x <;> rfl

theorem take_drop_two {α} (A B C : List α) (o c : α) :
    (A ++ o :: (B ++ c :: C)).take (A.length + 1) ++ (A ++ o :: (B ++ c :: C)).drop (A.length + 1 + B.length) = A ++ o :: c :: C := by
  have h1 : (A ++ o :: (B ++ c :: C)).take (A.length + 1) = A ++ [o] := by
    rw [List.take_append]; simp [List.take_of_length_le]
  have h2 : (A ++ o :: (B ++ c :: C)).drop (A.length + 1 + B.length) = c :: C := by
    rw [Nat.add_assoc, ← List.drop_drop, List.drop_left, Nat.add_comm, ← List.drop_drop]
    simp
  rw [h1, h2]; simp

theorem erase_mid {α} (A X : List α) (o : α) : (A ++ o :: X).eraseIdx A.length = A ++ X := by
  rw [List.eraseIdx_append_of_length_le (Nat.le_refl _)]; simp

theorem erase_mid1 {α} (A X : List α) (o c : α) : (A ++ o :: c :: X).eraseIdx (A.length + 1) = A ++ o :: X := by
  rw [List.eraseIdx_append_of_length_le (Nat.le_add_right _ _)]; simp

/-- One iteration of the loop, on the decomposed delimiter list.  The last component is the
    position from which `next_closer` searches. -/
inductive StepRel (s : Str) : List Delim → List CoreM → Nat → List Delim → List CoreM → Nat → Prop
  | matched (A B C : List Delim) (o c : Delim) (ms : List CoreM) (dch : Char) :
      o.emph = true → o.opens = true → c.emph = true → c.closes = true → closedBy o c = .ok true →
      s[o.stop - emphN o c]? = some dch →
      StepRel s (A ++ o :: (B ++ c :: C)) ms (A.length + 1 + B.length)
        (A ++ (shrink o (emphN o c) false ++ (shrink c (emphN o c) true ++ C)))
        (emphMatch o c (emphN o c) dch :: ms) (A.length + (shrink o (emphN o c) false).length)
  | erased (ds : List Delim) (ms : List CoreM) (curr : Nat) (c : Delim) :
      ds[curr]? = some c → StepRel s ds ms curr (ds.eraseIdx curr) ms curr
  | skipped (ds : List Delim) (ms : List CoreM) (curr : Nat) (c : Delim) :
      ds[curr]? = some c → StepRel s ds ms curr ds ms (curr + 1)

/-- the re-indexing of a recorded bottom after a match whose opener is at position `o` -/
def remap (o : Nat) (sb : Option Nat) (e : BKey × Option Nat) : BKey × Option Nat :=
  match e.2 with
  | some b => if b ≥ o then (e.1, if o > 0 then some (o - 1) else sb) else e
  | none => e

/-- what one iteration does to `bottoms` (and the little of the delimiter list that matters for
    them): no opener found, or an opener found at position `o`.  Nothing in this file reads it: it is the third part of
    `emphStep_spec` for Proofs/EmphSpec.lean (the bottoms never change the opener found) -/
def BRel (sb : Option Nat) (ds : List Delim) (bs : List (BKey × Option Nat)) (curr : Nat) (closer : Delim)
    (ds' : List Delim) (bs' : List (BKey × Option Nat)) (from' : Nat) : Prop :=
  (∃ ch, closer.type.head? = some ch ∧
    matchingOpener curr ds (bottomsGet bs (ch, closer.opens, closer.runLength % 3) sb) = .ok none ∧
    bs' = bottomsSet bs (ch, closer.opens, closer.runLength % 3) (if curr > 0 then some (curr - 1) else sb) ∧
    curr ≤ from' ∧ (ds' = ds.eraseIdx curr ∨ ds' = ds)) ∨
  (∃ ch o, closer.type.head? = some ch ∧
    matchingOpener curr ds (bottomsGet bs (ch, closer.opens, closer.runLength % 3) sb) = .ok (some o) ∧ o < curr ∧
    bs' = bs.map (remap o sb) ∧ ds'.take o = ds.take o ∧ o ≤ from')

theorem getElem?_two {α} (A B C : List α) (o c : α) : (A ++ o :: (B ++ c :: C))[A.length + 1 + B.length]? = some c := by
  rw [List.getElem?_append_right (by omega)]
  have : A.length + 1 + B.length - A.length = B.length + 1 := by omega
  rw [this, List.getElem?_cons_succ, List.getElem?_append_right (Nat.le_refl _)]
  simp

/-- One iteration that finds the opener `o` for the closer `c`, computed on the decomposed delimiter list: the
    delimiters between the two go, each of the two is replaced by what `remove` leaves of it, and the search for the
    next closer starts behind what is left of the opener. -/
theorem emphStep_matched (s : Str) (sb : Option Nat) (st : EState) (A B C : List Delim) (o c : Delim) (ch : Char)
    (hds : st.ds = A ++ o :: (B ++ c :: C)) (hh : c.type.head? = some ch)
    (hm : matchingOpener (A.length + 1 + B.length) st.ds (bottomsGet st.bottoms (ch, c.opens, c.runLength % 3) sb) =
      .ok (some A.length)) :
    emphStep s sb st (A.length + 1 + B.length) =
      match s[o.stop - emphN o c]? with
      | none => .err .index
      | some dch =>
        .ok ({ ds := A ++ (shrink o (emphN o c) false ++ (shrink c (emphN o c) true ++ C)),
               ms := emphMatch o c (emphN o c) dch :: st.ms, bottoms := st.bottoms.map (remap A.length sb) },
          nextCloser (A.length + (shrink o (emphN o c) false).length)
            (A ++ (shrink o (emphN o c) false ++ (shrink c (emphN o c) true ++ C)))) := by
  have hc : st.ds[A.length + 1 + B.length]? = some c := hds ▸ getElem?_two A B C o c
  have ho : st.ds[A.length]? = some o := by rw [hds]; simp
  unfold emphStep
  rw [hc]; simp only
  rw [hh]; simp only
  rw [hm]; simp only
  rw [ho]; simp only
  have hN : (if (decide (c.number ≥ 2) && decide (o.number ≥ 2)) = true then 2 else 1) = emphN o c := rfl
  simp only [hN]
  cases s[o.stop - emphN o c]? with
  | none => rfl
  | some dch =>
    simp only
    rw [hds, take_drop_two]
    have set_mid : ∀ (X : List Delim) (a b : Delim), (A ++ a :: X).set A.length b = A ++ b :: X := by
      intro X a b; simp
    have set_mid1 : ∀ (X : List Delim) (a b c : Delim), (A ++ a :: b :: X).set (A.length + 1) c = A ++ a :: c :: X := by
      intro X a b c; simp
    -- what `remove` leaves of the opener and of the closer: nothing (the entry is erased) or a shorter delimiter
    cases hor : delimRemove o (emphN o c) false with
    | none =>
      cases hcr : delimRemove c (emphN o c) true with
      | none => simp only [erase_mid, shrink, hor, hcr, Option.toList, List.nil_append, List.length_nil, Nat.add_zero]; rfl
      | some c' => simp only [erase_mid, set_mid, shrink, hor, hcr, Option.toList, List.nil_append, List.length_nil, Nat.add_zero]; rfl
    | some o' =>
      cases hcr : delimRemove c (emphN o c) true with
      | none => simp only [erase_mid1, set_mid, shrink, hor, hcr, Option.toList, List.nil_append, List.length_cons, List.length_nil]; rfl
      | some c' => simp only [set_mid1, set_mid, shrink, hor, hcr, Option.toList, List.length_cons, List.length_nil]; rfl

theorem matchingOpener_cases (ds : List Delim) (curr : Nat) (bottom : Option Nat) (c : Delim)
    (hty : ∀ d ∈ ds, d.type ≠ []) (hc : ds[curr]? = some c) :
    matchingOpener curr ds bottom = .ok none ∨
      ∃ A B C o, ds = A ++ o :: (B ++ c :: C) ∧ curr = A.length + 1 + B.length ∧
        matchingOpener curr ds bottom = .ok (some A.length) ∧
        o.emph = true ∧ o.opens = true ∧ closedBy o c = .ok true := by
  obtain ⟨r, e, hf⟩ := matchingOpener_found ds curr bottom c hc (hty c (List.mem_of_getElem? hc)) (fun d hd _ => hty d hd)
  cases r with
  | none => exact Or.inl e
  | some i =>
    obtain ⟨_, hlt, ⟨o, ho, he, hop, hcb⟩, _⟩ := hf
    obtain ⟨A, B, C, hds, rfl, rfl⟩ := split_two ds i curr o c ho hc hlt
    exact Or.inr ⟨A, B, C, o, hds, rfl, e, he, hop, hcb⟩

/-- One iteration that finds no opener for the closer `c`: the bound for the closer's key is recorded; a closer that
    cannot open is dropped, one that can is stepped over. -/
theorem emphStep_noOpener (s : Str) (sb : Option Nat) (st : EState) (curr : Nat) (c : Delim) (ch : Char)
    (hc : st.ds[curr]? = some c) (hh : c.type.head? = some ch)
    (hm : matchingOpener curr st.ds (bottomsGet st.bottoms (ch, c.opens, c.runLength % 3) sb) = .ok none) :
    emphStep s sb st curr =
      .ok ({ st with ds := if c.opens then st.ds else st.ds.eraseIdx curr,
                     bottoms := bottomsSet st.bottoms (ch, c.opens, c.runLength % 3)
                       (if curr > 0 then some (curr - 1) else sb) },
        nextCloser (if c.opens then curr + 1 else curr) (if c.opens then st.ds else st.ds.eraseIdx curr)) := by
  unfold emphStep
  rw [hc]; simp only
  rw [hh]; simp only
  rw [hm]; simp only
  cases c.opens <;> rfl

theorem head_ne_nil {d : Delim} {ch : Char} (h : d.type.head? = some ch) : d.type ≠ [] :=
  fun e => by rw [e] at h; cases h

theorem head_of_ne_nil {d : Delim} (h : d.type ≠ []) : ∃ ch, d.type.head? = some ch := by
  cases ht : d.type with
  | nil => exact absurd ht h
  | cons a _ => exact ⟨a, rfl⟩

theorem emphStep_spec (s : Str) (sb : Option Nat) (st : EState) (curr : Nat) (closer : Delim)
    (hall : ∀ d ∈ st.ds, DelimOK d ∧ d.stop ≤ s.length)
    (hc : st.ds[curr]? = some closer) (he : closer.emph = true) (hcl : closer.closes = true) :
    ∃ ds' ms' bs' from', emphStep s sb st curr = .ok ({ ds := ds', ms := ms', bottoms := bs' }, nextCloser from' ds') ∧
      StepRel s st.ds st.ms curr ds' ms' from' ∧ BRel sb st.ds st.bottoms curr closer ds' bs' from' := by
  have hty : ∀ d ∈ st.ds, d.type ≠ [] := fun d hd => (hall d hd).1.type_ne
  obtain ⟨ch, hh⟩ := head_of_ne_nil (hty closer (List.mem_of_getElem? hc))
  rcases matchingOpener_cases st.ds curr (bottomsGet st.bottoms (ch, closer.opens, closer.runLength % 3) sb) closer hty hc
    with h | ⟨A, B, C, o, hds, rfl, h, hoe, hoo, hcb⟩
  · rw [emphStep_noOpener s sb st curr closer ch hc hh h]
    refine ⟨_, _, _, _, rfl, ?_, Or.inl ⟨ch, hh, h, rfl, ?_, ?_⟩⟩ <;> cases closer.opens
    · exact .erased _ _ _ closer hc
    · exact .skipped _ _ _ closer hc
    · exact Nat.le_refl _
    · exact Nat.le_succ _
    · exact Or.inl rfl
    · exact Or.inr rfl
  · -- the character before the end of the opener exists
    obtain ⟨hoOK, hos⟩ := hall o (by rw [hds]; simp)
    have hn : 1 ≤ emphN o closer := by unfold emphN; split <;> omega
    have hlt : o.stop - emphN o closer < s.length := by have := hoOK.span; have := hoOK.pos; omega
    have hdch : s[o.stop - emphN o closer]? = some s[o.stop - emphN o closer] := List.getElem?_eq_getElem hlt
    rw [emphStep_matched s sb st A B C o closer ch hds hh h, hdch]
    refine ⟨_, _, _, _, rfl, ?_, Or.inr ⟨ch, A.length, hh, h, by omega, rfl, ?_, Nat.le_add_right _ _⟩⟩
    · rw [hds]; exact .matched A B C o closer st.ms _ hoe hoo he hcl hcb hdch
    · rw [hds]; simp

/-! ### `Delimiter.remove` keeps the invariant -/

theorem forall_mem_around {P : Delim → Prop} {A B C : List Delim} {o c : Delim}
    (h : ∀ d ∈ A ++ o :: (B ++ c :: C), P d) : (∀ d ∈ A, P d) ∧ P o ∧ P c ∧ ∀ d ∈ C, P d := by
  simp only [List.forall_mem_append, List.forall_mem_cons] at h
  exact ⟨h.1, h.2.1, h.2.2.2.1, h.2.2.2.2⟩

theorem forall_mem_remaining {P : Delim → Prop} {A O R C : List Delim} (hA : ∀ d ∈ A, P d) (hO : ∀ d ∈ O, P d)
    (hR : ∀ d ∈ R, P d) (hC : ∀ d ∈ C, P d) : ∀ d ∈ A ++ (O ++ (R ++ C)), P d :=
  List.forall_mem_append.2 ⟨hA, List.forall_mem_append.2 ⟨hO, List.forall_mem_append.2 ⟨hR, hC⟩⟩⟩

theorem emphN_bounds (o c : Delim) (ho : DelimOK o) (hc : DelimOK c) :
    1 ≤ emphN o c ∧ emphN o c ≤ 2 ∧ emphN o c ≤ o.number ∧ emphN o c ≤ c.number := by
  have := ho.pos; have := hc.pos
  unfold emphN
  split
  · rename_i h; simp only [Bool.and_eq_true, decide_eq_true_eq] at h; omega
  · omega

theorem shrink_spec (d : Delim) (n : Nat) (left : Bool) (hd : DelimOK d) (_ : 1 ≤ n) (hn : n ≤ d.number) :
    (shrink d n left = [] ∧ d.number = n) ∨
    ∃ d', shrink d n left = [d'] ∧ DelimOK d' ∧ d'.number + n = d.number ∧
      d'.start = (if left then d.start + n else d.start) ∧ d'.stop = (if left then d.stop else d.stop - n) ∧
      d'.emph = d.emph ∧ d'.opens = d.opens ∧ d'.closes = d.closes ∧ d'.runLength = d.runLength ∧
      d'.type = d.type.drop n := by
  have := hd.len; have := hd.pos; have := hd.span
  unfold shrink delimRemove
  by_cases he : d.number = n
  · left; simp [he]
  · right
    simp only [he, if_false]
    cases left with
    | true =>
      refine ⟨_, rfl, ⟨?_, ?_, ?_⟩, ?_, ?_⟩ <;> simp <;> omega
    | false =>
      refine ⟨_, rfl, ⟨?_, ?_, ?_⟩, ?_, ?_⟩ <;> simp <;> omega

theorem shrink_mem {d d' : Delim} {n : Nat} {left : Bool} (hd : DelimOK d) (h1 : 1 ≤ n) (hn : n ≤ d.number)
    (h : d' ∈ shrink d n left) :
    DelimOK d' ∧ d'.number + n = d.number ∧
      d'.start = (if left then d.start + n else d.start) ∧ d'.stop = (if left then d.stop else d.stop - n) ∧
      d'.emph = d.emph ∧ d'.opens = d.opens ∧ d'.closes = d.closes ∧ d'.runLength = d.runLength ∧
      d'.type = d.type.drop n := by
  rcases shrink_spec d n left hd h1 hn with ⟨e, _⟩ | ⟨d'', e, h'⟩
  · rw [e] at h; cases h
  · rw [e, List.mem_singleton] at h; rw [h]; exact h'

theorem total_shrink {d : Delim} {n : Nat} (left : Bool) (hd : DelimOK d) (h1 : 1 ≤ n) (hn : n ≤ d.number) :
    total (shrink d n left) + n = d.number ∧ (shrink d n left).length ≤ 1 := by
  rcases shrink_spec d n left hd h1 hn with ⟨e, h⟩ | ⟨d', e, _, h, _⟩
  · rw [e]; exact ⟨by simp only [total]; omega, Nat.zero_le _⟩
  · rw [e]; exact ⟨by simp only [total]; omega, Nat.le_refl _⟩

theorem Chain.shrink {d : Delim} {n : Nat} (left : Bool) {rest : List Delim} {lo hi : Nat} (hd : DelimOK d) (h1 : 1 ≤ n)
    (hn : n ≤ d.number) (hlo : lo ≤ d.start) (h : Chain d.stop hi rest) : Chain lo hi (shrink d n left ++ rest) := by
  have := hd.span
  rcases shrink_spec d n left hd h1 hn with ⟨e, _⟩ | ⟨d', e, hOK, _, hst, hsp, _⟩
  · rw [e]; exact h.mono (by omega) (Nat.le_refl _)
  · rw [e]
    refine ⟨?_, hOK, h.mono ?_ (Nat.le_refl _)⟩
    · rw [hst]; split <;> omega
    · rw [hsp]; split <;> omega

theorem StepRel.chain {s : Str} {ds ms curr ds' ms' from'} (h : StepRel s ds ms curr ds' ms' from')
    {lo hi : Nat} (hC : Chain lo hi ds) : Chain lo hi ds' := by
  cases h with
  | erased _ _ _ c hc => exact hC.sublist (List.eraseIdx_sublist _ _)
  | skipped _ _ _ c hc => exact hC
  | matched A B C o c _ dch hoe hoo hce hcc hcb hs =>
    obtain ⟨m, hA, hm, hoOK, hoc, hcOK, hCC⟩ := hC.around
    obtain ⟨hn1, _, hn3, hn4⟩ := emphN_bounds o c hoOK hcOK
    exact hA.join (Chain.shrink false hoOK hn1 hn3 hm (Chain.shrink true hcOK hn1 hn4 hoc hCC))

theorem StepRel.measure {s : Str} {ds ms curr ds' ms' from'} (h : StepRel s ds ms curr ds' ms' from')
    {lo hi : Nat} (hC : Chain lo hi ds) :
    total ds' + (ds'.length - from') < total ds + (ds.length - curr) := by
  cases h with
  | erased _ _ _ c hc =>
    have hl := (List.getElem?_eq_some_iff.1 hc).1
    have := total_eraseIdx_le ds curr
    rw [List.length_eraseIdx_of_lt hl]; omega
  | skipped _ _ _ c hc =>
    have hl := (List.getElem?_eq_some_iff.1 hc).1
    omega
  | matched A B C o c _ dch hoe hoo hce hcc hcb hs =>
    obtain ⟨_, _, _, hoOK, _, hcOK, _⟩ := hC.around
    obtain ⟨hn1, _, hn3, hn4⟩ := emphN_bounds o c hoOK hcOK
    have ho := total_shrink false hoOK hn1 hn3
    have hc := total_shrink true hcOK hn1 hn4
    simp only [total_append, total, List.length_append, List.length_cons]
    omega

/-! ### the loop: no error, fuel suffices, invariants carried through -/

/-- `curr_pos` is `None` or the position of an emphasis delimiter that can close -/
def CurrOK (ds : List Delim) (c : Option Nat) : Prop :=
  ∀ k, c = some k → ∃ d, ds[k]? = some d ∧ d.emph = true ∧ d.closes = true

theorem CurrOK_nextCloser (from_ : Nat) (ds : List Delim) : CurrOK ds (nextCloser from_ ds) :=
  fun k hk => (nextCloser_spec from_ ds k hk).2

/-- `μ`: a measure of the delimiters and of the position the search for the next closer starts from; the loop ends
    without error when `fuel` exceeds it.  `hμ`: an iteration hands `next_closer` a position `from'`, and the next
    `curr_pos` is any position at or behind it, so `μ` may only fall as the position grows; `hstep` then need speak of
    `from'` alone. -/
theorem emphLoop_rule (s : Str) (sb : Option Nat) (P : EState → Prop) (μ : List Delim → Nat → Nat)
    (hμ : ∀ ds a b, a ≤ b → μ ds b ≤ μ ds a)
    (hstep : ∀ st curr c, P st → st.ds[curr]? = some c → c.emph = true → c.closes = true →
      ∃ st' from', emphStep s sb st curr = .ok (st', nextCloser from' st'.ds) ∧ P st' ∧ μ st'.ds from' < μ st.ds curr) :
    ∀ (fuel : Nat) (st : EState) (c : Option Nat), P st → CurrOK st.ds c → 0 < fuel → (∀ k, c = some k → μ st.ds k < fuel) →
      ∃ st', emphLoop s sb fuel st c = .ok st' ∧ P st'
  | 0, _, _, _, _, h, _ => absurd h (Nat.lt_irrefl _)
  | fuel + 1, st, none, hp, _, _, _ => ⟨st, by simp [emphLoop], hp⟩
  | fuel + 1, st, some curr, hp, hc, _, hf => by
    obtain ⟨c, hcl, he, hcc⟩ := hc curr rfl
    obtain ⟨st', from', hs, hp', hm⟩ := hstep st curr c hp hcl he hcc
    rw [emphLoop_succ, hs]
    have := hf curr rfl
    exact emphLoop_rule s sb P μ hμ hstep fuel st' _ hp' (CurrOK_nextCloser _ _) (by omega) (fun k hk =>
      Nat.lt_of_le_of_lt (hμ _ _ _ (nextCloser_spec _ _ _ hk).1) (by omega))

/-- `process_emphasis` returns, and keeps every invariant of delimiters and matches that implies the chain, is kept by
    an iteration and survives dropping delimiters (the stack above `stack_bottom` is dropped at the end). -/
theorem processEmphasis_inv (s : Str) (sb : Option Nat) (lo hi : Nat) (hhi : hi ≤ s.length)
    (P : List Delim → List CoreM → Prop)
    (hPC : ∀ ds ms, P ds ms → Chain lo hi ds)
    (hP : ∀ ds ms curr ds' ms' from', P ds ms → StepRel s ds ms curr ds' ms' from' → P ds' ms')
    (hsub : ∀ ds ds' ms, P ds ms → ds'.Sublist ds → P ds' ms)
    (ds : List Delim) (ms : List CoreM) (h : P ds ms) :
    ∃ ds' ms', processEmphasis s sb ds ms = .ok (ds', ms') ∧ P ds' ms' := by
  obtain ⟨st', h1, h2⟩ := emphLoop_rule s sb (fun st => P st.ds st.ms) (fun ds k => total ds + (ds.length - k))
    (fun _ _ _ _ => by omega)
    (fun st curr c hp hcl he hcc => by
      obtain ⟨ds', ms', bs', from', hstep, hrel, _⟩ := emphStep_spec s sb st curr c ((hPC _ _ hp).all_ok hhi) hcl he hcc
      exact ⟨_, from', hstep, hP _ _ _ _ _ _ hp hrel, hrel.measure (hPC _ _ hp)⟩)
    (2 * s.length + 2 * ds.length + 4) { ds := ds, ms := ms, bottoms := [] } (nextCloser (sb.getD 0) ds) h
    (CurrOK_nextCloser _ _) (by omega) (fun k _ => by have := (hPC _ _ h).total_le; simp only; omega)
  unfold processEmphasis
  rw [h1]
  cases sb with
  | none => exact ⟨_, _, rfl, hsub _ _ _ h2 (List.nil_sublist _)⟩
  | some b => exact ⟨_, _, rfl, hsub _ _ _ h2 (List.take_sublist _ _)⟩

theorem processEmphasis_ok (s : Str) (sb : Option Nat) (lo hi : Nat) (hhi : hi ≤ s.length)
    (ds : List Delim) (ms : List CoreM) (h : Chain lo hi ds) :
    ∃ ds' ms', processEmphasis s sb ds ms = .ok (ds', ms') ∧ Chain lo hi ds' :=
  processEmphasis_inv s sb lo hi hhi (fun ds _ => Chain lo hi ds) (fun _ _ h => h) (fun _ _ _ _ _ _ h hr => hr.chain h)
    (fun _ _ _ h hs => h.sublist hs) ds ms h

/-! ### `code_pattern.search`: a code match is not empty and lies inside the string -/

theorem countLeading_le (ch : Char) (l : Str) : countLeading ch l ≤ l.length := by
  fun_induction countLeading ch l
  case case1 | case3 => exact Nat.zero_le _
  case case2 ih => exact Nat.succ_le_succ ih

theorem closeRun_le (n fuel j : Nat) (pt : Bool) (l : Str) (j' : Nat)
    (h : closeRun n fuel j pt l = some j') : j' + n ≤ j + l.length := by
  fun_induction closeRun n fuel j pt l
  case case1 | case2 => cases h
  case case3 c rest _ run hr =>
    cases h
    have := countLeading_le '`' (c :: rest)
    omega
  case case4 c rest _ run _ ih =>
    have := ih h
    have := countLeading_le '`' (c :: rest)
    rw [List.length_drop] at *
    omega
  case case5 ih =>
    have := ih h
    rw [List.length_cons]
    omega

theorem codeAt_len (prev : Option Char) (r : Str) (len n gs ge : Nat) (h : codeAt prev r = some (len, n, gs, ge)) :
    0 < len ∧ len ≤ r.length := by
  unfold codeAt at h
  split at h
  · cases h
  · simp only at h
    split at h
    · cases h
    · split at h
      · cases h
      · rename_i hn
        split at h
        · rename_i j hj
          cases h
          have h1 := closeRun_le _ _ _ _ _ _ hj
          have h2 := countLeading_le '\\' r
          have h3 := countLeading_le '`' (r.drop (leadingBackslashes r))
          simp only [List.length_drop, leadingBackslashes] at *
          omega
        · cases h

theorem codeSearchAux_spec (fuel pos : Nat) (prev : Option Char) (l : Str) (cm : CodeM)
    (h : codeSearchAux fuel pos prev l = some cm) : cm.start < cm.stop ∧ cm.stop ≤ pos + l.length := by
  fun_induction codeSearchAux fuel pos prev l
  case case1 | case2 => cases h
  case case3 hc =>
    cases h
    have := codeAt_len _ _ _ _ _ _ hc
    exact ⟨Nat.lt_add_of_pos_right this.1, Nat.add_le_add_left this.2 _⟩
  case case4 ih =>
    have := ih h
    rw [List.length_cons]
    omega

theorem codeSearch_spec (s : Str) (pos : Nat) (cm : CodeM) (h : codeSearch s pos = some cm) :
    cm.start < cm.stop ∧ cm.stop ≤ s.length := by
  unfold codeSearch at h
  have := codeSearchAux_spec _ _ _ _ _ h
  simp only [List.length_drop] at this
  by_cases hp : pos ≤ s.length
  · omega
  · have hd : s.drop pos = [] := List.drop_eq_nil_of_le (by omega)
    rw [hd] at h
    simp [codeSearchAux] at h

/-! ### `match_link_image`: the match ends after `offset` and inside the string -/

theorem destAngle_le (s : Str) (offset : Nat) (l : Str) (i : Nat) (esc : Bool) (r : Nat × Nat × Str)
    (h : destAngle s offset l i esc = some r) : i ≤ r.2.1 := by
  fun_induction destAngle s offset l i esc
  case case1 | case3 => cases h
  case case2 ih | case5 ih => exact Nat.le_of_succ_le (ih h)
  case case4 => cases h; exact Nat.le_succ _

theorem destPlain_le (s : Str) (offset : Nat) (l : Str) (i : Nat) (esc : Bool) (cnt : Nat) (r : Nat × Nat × Str)
    (h : destPlain s offset l i esc cnt = some r) : i ≤ r.2.1 := by
  fun_induction destPlain s offset l i esc cnt
  case case1 | case6 => cases h
  case case2 ih | case5 ih | case8 ih => exact Nat.le_of_succ_le (ih h)
  case case3 | case4 | case7 => cases h; exact Nat.le_refl _

theorem titleGo_lt (s : Str) (offset : Nat) (cl : Char) : ∀ (l : Str) (i : Nat) (esc : Bool) (r : Nat × Nat × Str),
    titleGo s offset cl l i esc = some r → r.1 = offset ∧ i < r.2.1
  | [], _, _, _, h => by simp [titleGo] at h
  | c :: rest, i, esc, r, h => by
    simp only [titleGo] at h
    split at h
    · have := titleGo_lt s offset cl rest (i + 1) true r h; omega
    · split at h
      · cases h; simp
      · have := titleGo_lt s offset cl rest (i + 1) false r h; omega

theorem labelGo_spec (s : Str) (fn : Footnotes.Table) (l : Str) (i : Nat) (st : Option Nat) (esc : Bool)
    (r : (Nat × Str) × (Str × Str)) (h : labelGo s fn l i st esc = some r) :
    i < r.1.1 ∧ r.1.1 ≤ i + l.length ∧ l[r.1.1 - 1 - i]? = some ']' := by
  have step : ∀ {c : Char} {rest : Str} {i : Nat},
      i + 1 < r.1.1 ∧ r.1.1 ≤ i + 1 + rest.length ∧ rest[r.1.1 - 1 - (i + 1)]? = some ']' →
      i < r.1.1 ∧ r.1.1 ≤ i + (c :: rest).length ∧ (c :: rest)[r.1.1 - 1 - i]? = some ']' := by
    intro c rest i ⟨h1, h2, h3⟩
    have e : r.1.1 - 1 - i = (r.1.1 - 1 - (i + 1)) + 1 := by omega
    exact ⟨by omega, by rw [List.length_cons]; omega, by rw [e, List.getElem?_cons_succ]; exact h3⟩
  fun_induction labelGo s fn l i st esc
  case case1 | case4 | case6 | case7 => cases h
  case case2 ih | case3 ih | case8 ih => exact step (ih h)
  case case5 hc _ _ _ _ =>
    cases h
    simp only [Bool.and_eq_true, decide_eq_true_eq] at hc
    exact ⟨Nat.lt_succ_self _, Nat.add_le_add_left (Nat.le_add_left 1 _) _, by simp [hc.1]⟩

theorem shiftWhitespace_le (s : Str) (i : Nat) : i ≤ shiftWhitespace s i := by
  unfold shiftWhitespace; omega

theorem matchLinkDest_le (s : Str) (o : Nat) (r : Nat × Nat × Str) (h : matchLinkDest s o = some r) : o + 1 ≤ r.2.1 := by
  unfold matchLinkDest at h
  have := shiftWhitespace_le s (o + 1)
  simp only at h
  split at h
  · cases h
  · split at h
    · cases h
    · split at h
      · have := destAngle_le _ _ _ _ _ _ h; omega
      · have := destPlain_le _ _ _ _ _ _ _ h; omega

theorem matchLinkTitle_le (s : Str) (o : Nat) (r : Nat × Nat × Str) (h : matchLinkTitle s o = some r) : o ≤ r.2.1 := by
  have := shiftWhitespace_le s o
  revert h
  fun_cases matchLinkTitle s o
  case case1 | case2 | case4 => intro h; cases h
  case case3 => intro h; cases h; exact this
  case case5 => intro h; have := (titleGo_lt _ _ _ _ _ _ _ h).2; omega

theorem follows_lt (s : Str) (i : Nat) (ch : Char) (h : follows s i ch = true) : i + 1 < s.length := by
  unfold follows at h
  simp only [beq_iff_eq] at h
  exact (List.getElem?_eq_some_iff.1 h).1

/-- The four ways `match_link_image` finds a match at the `]` in position `offset`, with what distinguishes them: where
    the match ends, `dest_type`, the label, the title delimiter. -/
inductive LinkForm (s : Str) (offset : Nat) (fn : Footnotes.Table) (dest title : Str) :
    Nat → Str → Option Str → Option Char → Prop
  | inline (ds de tls tle : Nat) : follows s offset '(' = true → matchLinkDest s (offset + 1) = some (ds, de, dest) →
      matchLinkTitle s de = some (tls, tle, title) → s[shiftWhitespace s tle]? = some ')' →
      LinkForm s offset fn dest title (shiftWhitespace s tle + 1)
        (if ds < de && s[ds]? == some '<' then "angle_uri".toList else "uri".toList) none
        (if tls < tle then s[tls]? else none)
  | full (stop : Nat) (label : Str) : follows s offset '[' = true →
      matchLinkLabel s (offset + 1) fn = some ((stop, label), (dest, title)) →
      LinkForm s offset fn dest title stop "full".toList (some label) none
  | collapsed : follows s offset '[' = true → follows s (offset + 1) ']' = true →
      LinkForm s offset fn dest title (offset + 3) "collapsed".toList none none
  | shortcut : LinkForm s offset fn dest title (offset + 1) "shortcut".toList none none

/-- **What `match_link_image` returns**: a link or image from the bracket delimiter `d` to one of the four forms. -/
theorem matchLinkImage_cases {s : Str} {offset : Nat} {d : Delim} {fn : Footnotes.Table} {m : CoreM}
    (h : matchLinkImage s offset d fn = some m) :
    ∃ stop dest title dt lbl td, LinkForm s offset fn dest title stop dt lbl td ∧
      m = { start := d.start, stop := stop, kind := if d.type == ['!', '['] then .image else .link,
            ts := d.start + d.number, te := offset, dest := dest, title := title, destType := dt, label := lbl,
            titleDelim := td } := by
  revert h
  fun_cases matchLinkImage s offset d fn
  case case4 | case5 | case7 => intro h; cases h
  case case1 =>
    rename_i inline m' hin
    intro h; cases h
    simp only [inline] at hin
    split at hin
    · rename_i hf
      split at hin
      · cases hin
      · rename_i a e dest hd
        split at hin
        · cases hin
        · rename_i tls tle title ht
          split at hin
          · rename_i hp
            cases hin
            exact ⟨_, _, _, _, _, _, .inline a e tls tle hf hd ht (by simpa using hp), rfl⟩
          · cases hin
    · cases hin
  case case2 =>
    rename_i hf stop label dest title hl
    intro h; cases h
    exact ⟨_, _, _, _, _, _, .full stop label hf hl, rfl⟩
  case case3 =>
    rename_i hf _ _ _ _ hf2
    intro h; cases h
    exact ⟨_, _, _, _, _, _, .collapsed hf hf2, rfl⟩
  case case6 =>
    intro h; cases h
    exact ⟨_, _, _, _, _, _, .shortcut, rfl⟩

theorem matchLinkImage_spec (s : Str) (offset : Nat) (d : Delim) (fn : Footnotes.Table) (m : CoreM)
    (ho : offset < s.length) (h : matchLinkImage s offset d fn = some m) :
    offset < m.stop ∧ m.stop ≤ s.length ∧ (m.kind = .link ∨ m.kind = .image) ∧
      (s[m.stop - 1]? = some ')' ∨ s[m.stop - 1]? = some ']' ∨ m.stop = offset + 1) := by
  obtain ⟨stop, dest, title, dt, lbl, td, hform, rfl⟩ := matchLinkImage_cases h
  have hk : (if (d.type == ['!', '[']) = true then Kind.image else Kind.link) = .link ∨
      (if (d.type == ['!', '[']) = true then Kind.image else Kind.link) = .image := by
    cases d.type == ['!', '['] <;> simp
  cases hform with
  | inline ds de tls tle hf hd ht hp =>
    have h1 := matchLinkDest_le _ _ _ hd
    have h2 := matchLinkTitle_le _ _ _ ht
    have h3 := shiftWhitespace_le s tle
    have h4 := (List.getElem?_eq_some_iff.1 hp).1
    simp only at h1 h2
    exact ⟨by simp only; omega, by simp only; omega, hk, Or.inl (by simpa using hp)⟩
  | full stop label hf hl =>
    have hf' := follows_lt _ _ _ hf
    unfold matchLinkLabel at hl
    obtain ⟨h1, h2, h3⟩ := labelGo_spec _ _ _ _ _ _ _ hl
    simp only [List.length_drop] at h1 h2 h3
    rw [List.getElem?_drop] at h3
    refine ⟨by simp only; omega, by simp only; omega, hk, Or.inr (Or.inl ?_)⟩
    simp only
    rw [← h3]; congr 1; omega
  | collapsed hf hf2 =>
    have hf' := follows_lt _ _ _ hf
    have := follows_lt _ _ _ hf2
    unfold follows at hf2
    simp only [beq_iff_eq] at hf2
    exact ⟨by simp only; omega, by simp only; omega, hk, Or.inr (Or.inl (by simpa using hf2))⟩
  | shortcut => exact ⟨by simp only; omega, by simp only; omega, hk, Or.inr (Or.inr rfl)⟩

/-! ### `find_link_image` -/

theorem lastBracket_spec (l : List Delim) (i : Nat) (acc : Option Nat) (k : Nat)
    (h : lastBracket l i acc = some k) : acc = some k ∨ (i ≤ k ∧ k < i + l.length) := by
  fun_induction lastBracket l i acc
  case case1 => exact Or.inl h
  case case2 d rest i acc ih =>
    rw [List.length_cons]
    rcases ih h with h1 | h1
    · split at h1
      · cases h1; exact Or.inr ⟨Nat.le_refl _, by omega⟩
      · exact Or.inl h1
    · exact Or.inr ⟨by omega, by omega⟩

def deactivate (x : Delim) : Delim := if x.type == ['['] then { x with active := false } else x

theorem deactivate_fields (x : Delim) : (deactivate x).type = x.type ∧ (deactivate x).number = x.number ∧
    (deactivate x).start = x.start ∧ (deactivate x).stop = x.stop ∧ (deactivate x).emph = x.emph ∧
    (deactivate x).opens = x.opens ∧ (deactivate x).closes = x.closes ∧ (deactivate x).runLength = x.runLength := by
  unfold deactivate; split <;> simp

theorem Chain.deactivate : ∀ {ds : List Delim} {lo hi : Nat}, Chain lo hi ds → Chain lo hi (ds.map deactivate)
  | [], _, _, h => h
  | d :: rest, lo, hi, h => by
    obtain ⟨h1, h2, h3, h4, _⟩ := deactivate_fields d
    refine ⟨by rw [h3]; exact h.1, ⟨by rw [h1, h2]; exact h.2.1.len, by rw [h2]; exact h.2.1.pos,
      by rw [h2, h3, h4]; exact h.2.1.span⟩, ?_⟩
    rw [h4]; exact Chain.deactivate h.2.2

/-- What `find_link_image` returns when the `process_emphasis` it may call succeeds with a result satisfying `Q`:
    either nothing is matched and at most one delimiter is dropped, or a link or image `m` is recorded on top of
    the matches of `process_emphasis`, whose delimiters are kept, `[` delimiters possibly deactivated. -/
theorem findLinkImage_cases (s : Str) (offset : Nat) (ds : List Delim) (ms : List CoreM) (fn : Footnotes.Table)
    (Q : List Delim → List CoreM → Prop)
    (hpe : ∀ i, ∃ ds1 ms1, processEmphasis s (some i) ds ms = .ok (ds1, ms1) ∧ Q ds1 ms1) :
    (∃ ds', findLinkImage s offset ds ms fn = .ok (offset, ds', ms) ∧ (ds' = ds ∨ ∃ i, ds' = ds.eraseIdx i)) ∨
    ∃ d ∈ ds, ∃ m ds1 ms1 ds', matchLinkImage s offset d fn = some m ∧ Q ds1 ms1 ∧
      findLinkImage s offset ds ms fn = .ok (m.stop - 1, ds', m :: ms1) ∧ (ds' = ds1 ∨ ds' = ds1.map deactivate) := by
  fun_cases findLinkImage s offset ds ms fn
  case case1 => exact Or.inl ⟨_, rfl, Or.inl rfl⟩
  case case3 i _ _ _ _ | case4 i _ _ _ _ _ => exact Or.inl ⟨_, rfl, Or.inr ⟨i, rfl⟩⟩
  case case2 i hl hd =>
    rcases lastBracket_spec ds 0 none i hl with h | h
    · cases h
    · rw [List.getElem?_eq_none_iff] at hd; omega
  case case5 i _ _ _ _ _ _ _ hp =>
    obtain ⟨_, _, hp', _⟩ := hpe i
    rw [hp'] at hp; cases hp
  case case6 i _ d hd _ m hm ds1 ms1 hp ds2 =>
    obtain ⟨_, _, hp', hQ⟩ := hpe i
    rw [hp'] at hp; cases hp
    refine Or.inr ⟨d, List.mem_of_getElem? hd, m, ds1, ms1, ds2, hm, hQ, rfl, ?_⟩
    simp only [ds2]
    split
    · exact Or.inr rfl
    · exact Or.inl rfl

theorem findLinkImage_ok (s : Str) (offset : Nat) (ds : List Delim) (ms : List CoreM) (fn : Footnotes.Table)
    (lo hi : Nat) (hC : Chain lo hi ds) (hhi : hi ≤ s.length) (ho : offset < s.length) :
    ∃ i' ds' ms', findLinkImage s offset ds ms fn = .ok (i', ds', ms') ∧ offset ≤ i' ∧ i' < s.length ∧ Chain lo hi ds' := by
  rcases findLinkImage_cases s offset ds ms fn (fun ds1 _ => Chain lo hi ds1)
      (fun i => processEmphasis_ok s (some i) lo hi hhi ds ms hC) with
    ⟨ds', h, hds⟩ | ⟨d, _, m, ds1, ms1, ds', hm, hC1, h, hds⟩
  · refine ⟨_, _, _, h, Nat.le_refl _, ho, ?_⟩
    rcases hds with rfl | ⟨i, rfl⟩
    · exact hC
    · exact hC.sublist (List.eraseIdx_sublist _ _)
  · obtain ⟨h1, h2, _⟩ := matchLinkImage_spec s offset d fn m ho hm
    refine ⟨_, _, _, h, by omega, by omega, ?_⟩
    rcases hds with rfl | rfl
    · exact hC1
    · exact hC1.deactivate

/-! ### a delimiter pushed onto the chain -/

theorem mkDelim_ok (s : Str) (a b : Nat) (hab : a < b) (hb : b ≤ s.length) :
    DelimOK (mkDelim a b s) ∧ (mkDelim a b s).start = a ∧ (mkDelim a b s).stop = b := by
  refine ⟨⟨?_, ?_, ?_⟩, rfl, rfl⟩
  · simp only [mkDelim, slice, List.length_take, List.length_drop]; omega
  · simp only [mkDelim]; omega
  · simp only [mkDelim]; omega

theorem Chain.push {ds : List Delim} {lo hi hi' : Nat} (h : Chain lo hi ds) (s : Str) (a b : Nat)
    (h1 : hi ≤ a) (hab : a < b) (h2 : b ≤ hi') (hb : b ≤ s.length) : Chain lo hi' (ds ++ [mkDelim a b s]) := by
  obtain ⟨h3, h4, h5⟩ := mkDelim_ok s a b hab hb
  refine Chain.join h ⟨by rw [h4]; exact h1, h3, ?_⟩
  rw [h5]; exact h2

/-! ### shape of the emphasis matches -/

def isEmphM (m : CoreM) : Prop := m.kind = .strong ∨ m.kind = .emphasis

instance (m : CoreM) : Decidable (isEmphM m) := by unfold isEmphM; exact inferInstance

structure EmphWF (s : Str) (m : CoreM) : Prop where
  lt_ts : m.start < m.ts
  ts_le : m.ts ≤ m.te
  te_lt : m.te < m.stop
  stop_le : m.stop ≤ s.length
  width : m.ts - m.start = m.stop - m.te
  kind : (m.kind = .strong ∧ m.ts - m.start = 2) ∨ (m.kind = .emphasis ∧ m.ts - m.start = 1)
  delim : s[m.start]? = some m.delimiter

/-- a match found later (`newer`) and one found earlier: apart, or the older one inside the text
    of the newer one -/
def NestRel (newer older : CoreM) : Prop :=
  isEmphM newer → isEmphM older →
    older.stop ≤ newer.start ∨ newer.stop ≤ older.start ∨ (newer.ts ≤ older.start ∧ older.stop ≤ newer.te)

/-- invariant of delimiters and matches (matches newest first) -/
structure DInv (s : Str) (lo hi : Nat) (ds : List Delim) (ms : List CoreM) : Prop where
  chain : Chain lo hi ds
  wf : ∀ m ∈ ms, isEmphM m → EmphWF s m ∧ m.stop ≤ hi ∧ ∀ d ∈ ds, d.stop ≤ m.start ∨ m.stop ≤ d.start
  nest : ms.Pairwise NestRel

theorem DInv.mono {s : Str} {lo hi hi' : Nat} {ds : List Delim} {ms : List CoreM} (hh : hi ≤ hi')
    (h : DInv s lo hi ds ms) : DInv s lo hi' ds ms :=
  ⟨h.chain.mono (Nat.le_refl _) hh, fun m hm he => by
    obtain ⟨h1, h2, h3⟩ := h.wf m hm he
    exact ⟨h1, by omega, h3⟩, h.nest⟩

theorem DInv.sub {s : Str} {lo hi : Nat} {ds ds' : List Delim} {ms : List CoreM} (h : DInv s lo hi ds ms)
    (hC : Chain lo hi ds') (hanc : ∀ d' ∈ ds', ∃ d ∈ ds, d.start ≤ d'.start ∧ d'.stop ≤ d.stop) :
    DInv s lo hi ds' ms :=
  ⟨hC, fun m hm he => by
    obtain ⟨h1, h2, h3⟩ := h.wf m hm he
    refine ⟨h1, h2, fun d' hd' => ?_⟩
    obtain ⟨d, hd, h4, h5⟩ := hanc d' hd'
    rcases h3 d hd with h6 | h6
    · left; omega
    · right; omega, h.nest⟩

theorem DInv.sublist {s : Str} {lo hi : Nat} {ds ds' : List Delim} {ms : List CoreM} (h : DInv s lo hi ds ms)
    (hs : ds'.Sublist ds) : DInv s lo hi ds' ms :=
  h.sub (h.chain.sublist hs) (fun d hd => ⟨d, hs.subset hd, Nat.le_refl _, Nat.le_refl _⟩)

theorem DInv.deactivate {s : Str} {lo hi : Nat} {ds : List Delim} {ms : List CoreM} (h : DInv s lo hi ds ms) :
    DInv s lo hi (ds.map deactivate) ms :=
  h.sub h.chain.deactivate (fun d' hd' => by
    obtain ⟨d, hd, rfl⟩ := List.mem_map.1 hd'
    obtain ⟨_, _, h3, h4, _⟩ := deactivate_fields d
    exact ⟨d, hd, by omega, by omega⟩)

theorem DInv.push {s : Str} {lo hi hi' : Nat} {ds : List Delim} {ms : List CoreM} (h : DInv s lo hi ds ms)
    (a b : Nat) (h1 : hi ≤ a) (hab : a < b) (h2 : b ≤ hi') (hb : b ≤ s.length) :
    DInv s lo hi' (ds ++ [mkDelim a b s]) ms :=
  ⟨h.chain.push s a b h1 hab h2 hb, fun m hm he => by
    obtain ⟨h3, h4, h5⟩ := h.wf m hm he
    refine ⟨h3, by omega, fun d hd => ?_⟩
    rcases List.mem_append.1 hd with hd | hd
    · exact h5 d hd
    · simp only [List.mem_singleton] at hd
      subst hd
      right
      show m.stop ≤ a
      omega, h.nest⟩

theorem DInv.cons_other {s : Str} {lo hi : Nat} {ds : List Delim} {ms : List CoreM} (h : DInv s lo hi ds ms)
    (m : CoreM) (hm : ¬ isEmphM m) : DInv s lo hi ds (m :: ms) :=
  ⟨h.chain, fun m' hm' he => by
    rcases List.mem_cons.1 hm' with rfl | hm'
    · exact absurd he hm
    · exact h.wf m' hm' he, List.pairwise_cons.2 ⟨fun m' _ he => absurd he hm, h.nest⟩⟩

theorem emphMatch_wf {s : Str} {o c : Delim} {n : Nat} {dch : Char} (hoOK : DelimOK o) (hcOK : DelimOK c)
    (hoc : o.stop ≤ c.start) (hhi : c.stop ≤ s.length) (h1 : 1 ≤ n) (h2 : n ≤ 2) (hno : n ≤ o.number)
    (hnc : n ≤ c.number) (hs : s[o.stop - n]? = some dch) : EmphWF s (emphMatch o c n dch) := by
  have := hoOK.span; have := hcOK.span
  have hte : (emphMatch o c n dch).te = c.start := show c.start + n - n = c.start from Nat.add_sub_cancel ..
  have hw : (emphMatch o c n dch).ts - (emphMatch o c n dch).start = n :=
    show o.stop - n + n - (o.stop - n) = n from Nat.add_sub_cancel_left ..
  refine ⟨?_, ?_, ?_, ?_, ?_, ?_, hs⟩
  · show o.stop - n < o.stop - n + n; omega
  · rw [hte]; show o.stop - n + n ≤ c.start; omega
  · rw [hte]; show c.start < c.start + n; omega
  · show c.start + n ≤ s.length; omega
  · rw [hw, hte]; exact (Nat.add_sub_cancel_left ..).symm
  · rw [hw]
    by_cases h : n = 2
    · exact Or.inl ⟨if_pos h, h⟩
    · exact Or.inr ⟨if_neg h, by omega⟩

theorem DInv.step {s : Str} {lo hi : Nat} (hhi : hi ≤ s.length) {ds ms curr ds' ms' from'}
    (h : DInv s lo hi ds ms) (hr : StepRel s ds ms curr ds' ms' from') : DInv s lo hi ds' ms' := by
  have hC' := hr.chain h.chain
  cases hr with
  | erased _ _ _ c hc => exact h.sublist (List.eraseIdx_sublist _ _)
  | skipped _ _ _ c hc => exact h
  | matched A B C o c _ dch hoe hoo hce hcc hcb hs =>
    obtain ⟨m, hA, hm, hoOK, hoc, hcOK, hCC⟩ := h.chain.around
    obtain ⟨hn1, hn2, hn3, hn4⟩ := emphN_bounds o c hoOK hcOK
    have ho1 := hoOK.span; have hc1 := hcOK.span
    have hmo : o ∈ A ++ o :: (B ++ c :: C) := by simp
    have hmc : c ∈ A ++ o :: (B ++ c :: C) := by simp
    -- every remaining delimiter lies inside an old one, and outside the new match
    have hgeo : ∀ d' ∈ A ++ (shrink o (emphN o c) false ++ (shrink c (emphN o c) true ++ C)),
        (d'.stop ≤ o.stop - emphN o c ∨ c.start + emphN o c ≤ d'.start) ∧
        ∃ d ∈ A ++ o :: (B ++ c :: C), d.start ≤ d'.start ∧ d'.stop ≤ d.stop := by
      refine forall_mem_remaining (fun d' hd' => ?_) (fun d' hd' => ?_) (fun d' hd' => ?_) (fun d' hd' => ?_)
      · have := (hA.mem d' hd').2.2
        exact ⟨Or.inl (by omega), d', by simp [hd'], Nat.le_refl _, Nat.le_refl _⟩
      · obtain ⟨_, _, hst, hsp, _⟩ := shrink_mem hoOK hn1 hn3 hd'
        have hst : d'.start = o.start := hst
        have hsp : d'.stop = o.stop - emphN o c := hsp
        exact ⟨Or.inl (Nat.le_of_eq hsp), o, hmo, Nat.le_of_eq hst.symm, hsp ▸ Nat.sub_le ..⟩
      · obtain ⟨_, _, hst, hsp, _⟩ := shrink_mem hcOK hn1 hn4 hd'
        have hst : d'.start = c.start + emphN o c := hst
        have hsp : d'.stop = c.stop := hsp
        exact ⟨Or.inr (Nat.le_of_eq hst.symm), c, hmc, hst ▸ Nat.le_add_right .., Nat.le_of_eq hsp⟩
      · have := (hCC.mem d' hd').2.1
        exact ⟨Or.inr (by omega), d', by simp [hd'], Nat.le_refl _, Nat.le_refl _⟩
    have hold := h.sub hC' (fun d' hd' => (hgeo d' hd').2)
    have hwf := emphMatch_wf hoOK hcOK hoc (Nat.le_trans hCC.le hhi) hn1 hn2 hn3 hn4 hs
    refine ⟨hC', fun m hm he => ?_, List.pairwise_cons.2 ⟨fun m0 hm0 _ he0 => ?_, h.nest⟩⟩
    · rcases List.mem_cons.1 hm with rfl | hm
      · exact ⟨hwf, by have := hCC.le; show c.start + emphN o c ≤ hi; omega, fun d' hd' => (hgeo d' hd').1⟩
      · exact hold.wf m hm he
    · -- an older match contains neither `o` nor `c`
      obtain ⟨_, _, h3⟩ := h.wf m0 hm0 he0
      have h4 := h3 o hmo
      have h5 := h3 c hmc
      show m0.stop ≤ o.stop - emphN o c ∨ c.start + emphN o c ≤ m0.start ∨
        (o.stop - emphN o c + emphN o c ≤ m0.start ∧ m0.stop ≤ c.start + emphN o c - emphN o c)
      rw [Nat.add_sub_cancel, Nat.sub_add_cancel (by omega)]
      omega

/-! ### the character loop of `find_core_tokens` -/

/-- What the character loop needs of an invariant.  `I hi ds ms`: the delimiters (all ending at or
    before `hi`) and the matches; `R a b ch`: `[a, b)` is a run of the delimiter character `ch`;
    `J i`: the character before `i` is harmless as first character of a delimiter that is no run;
    `T i c ds`: no delimiter that ends exactly at `i` is an emphasis run of the character `c`.
    One law for each thing an iteration does to the delimiters: nothing (`mono`, `T_lt`), a run pushed (`run`), a
    `[` or `![` pushed (`plain`), `find_link_image` called (`link`); the others say how `R` and `J` come about. -/
structure LoopInv (s : Str) (fn : Footnotes.Table) (I : Nat → List Delim → List CoreM → Prop)
    (R : Nat → Nat → Char → Prop) (J : Nat → Prop) (T : Nat → Char → List Delim → Prop) : Prop where
  mono : ∀ {hi hi' : Nat} {ds : List Delim} {ms : List CoreM}, hi ≤ hi' → I hi ds ms → I hi' ds ms
  T_lt : ∀ {hi : Nat} {ds : List Delim} {ms : List CoreM} (i : Nat) (c : Char), I hi ds ms → hi < i → T i c ds
  run : ∀ {hi hi' : Nat} {ds : List Delim} {ms : List CoreM} (a b : Nat) (ch : Char), I hi ds ms → R a b ch →
    T a ch ds → hi ≤ a → a < b → b ≤ hi' → b ≤ s.length →
    I hi' (ds ++ [mkDelim a b s]) ms ∧ ∀ c, c ≠ ch → T b c (ds ++ [mkDelim a b s])
  plain : ∀ {hi hi' : Nat} {ds : List Delim} {ms : List CoreM} (i b : Nat), I hi ds ms → J i →
    hi ≤ i - 1 → i - 1 < b → b ≤ hi' → b ≤ s.length →
    I hi' (ds ++ [mkDelim (i - 1) b s]) ms ∧ ∀ c, T b c (ds ++ [mkDelim (i - 1) b s])
  link : ∀ {hi : Nat} {ds : List Delim} {ms : List CoreM} (offset : Nat), I hi ds ms → hi ≤ s.length →
    s[offset]? = some ']' →
    ∃ i' ds' ms', findLinkImage s offset ds ms fn = .ok (i', ds', ms') ∧ offset ≤ i' ∧ i' < s.length ∧
      I hi ds' ms' ∧ J (i' + 1)
  R_new : ∀ (i : Nat) (c : Char), s[i]? = some c → (c = '*' ∨ c = '_') → R i (i + 1) c
  R_ext : ∀ (a i : Nat) (ch : Char), R a i ch → s[i]? = some ch → R a (i + 1) ch
  J_new : ∀ (i : Nat) (c : Char), s[i]? = some c → c ≠ '*' → c ≠ '_' → J (i + 1)

/-- invariant of the `while i < len(string)` loop at position `i` -/
structure FInv (s : Str) (I : Nat → List Delim → List CoreM → Prop) (R : Nat → Nat → Char → Prop) (J : Nat → Prop)
    (T : Nat → Char → List Delim → Prop) (i : Nat) (st : FState) : Prop where
  ile : i ≤ s.length
  run : ∀ ch, st.inRun = some ch → (ch = '*' ∨ ch = '_') ∧ st.start + (if st.escaped then 1 else 0) < i ∧
    I st.start st.ds st.ms ∧ st.inImage = false ∧ R st.start (i - (if st.escaped then 1 else 0)) ch ∧
    T st.start ch st.ds
  norun : st.inRun = none → I (if st.inImage then i - 1 else i) st.ds st.ms
  tight : st.inRun = none → ∀ c, T i c st.ds
  code : ∀ cm, st.code = some cm → cm.start < cm.stop ∧ cm.stop ≤ s.length
  img : st.inImage = true → J i

section loop
variable {s : Str} {fn : Footnotes.Table} {I : Nat → List Delim → List CoreM → Prop}
  {R : Nat → Nat → Char → Prop} {J : Nat → Prop} {T : Nat → Char → List Delim → Prop} (L : LoopInv s fn I R J T)
include L

/-- With the pending run, if there is one, closed (at the position, or at the escaping backslash before it), no run
    is pending, the invariant holds up to the position, and what was closed is not a run of the character `c` that
    comes next. -/
theorem FInv.endRun {i : Nat} {st : FState} (h : FInv s I R J T i st) :
    ∃ ds', endRun s (if !st.escaped then i else i - 1) st = { st with ds := ds', inRun := none } ∧
      I (if st.inImage then i - 1 else i) ds' st.ms ∧ (st.escaped = false → ∀ c, st.inRun ≠ some c → T i c ds') := by
  cases hr : st.inRun with
  | none =>
    refine ⟨st.ds, ?_, h.norun hr, fun _ c _ => h.tight hr c⟩
    rw [endRun_none hr]
    cases st; cases hr; rfl
  | some ch =>
    -- the run becomes the delimiter `[st.start, i)`, or `[st.start, i - 1)` before an escaping backslash
    obtain ⟨_, hlt, hC, him, hR, hT⟩ := h.run ch hr
    have hile := h.ile
    have hb : (if !st.escaped then i else i - 1) = i - (if st.escaped then 1 else 0) := by cases st.escaped <;> rfl
    rw [endRun_some hr, hb]
    obtain ⟨hI, hT'⟩ := L.run _ _ ch hC hR hT (Nat.le_refl _) (by omega) (Nat.sub_le _ _) (by omega)
    refine ⟨_, rfl, by rw [him]; exact hI, fun he c hne => ?_⟩
    rw [he] at hT' ⊢
    exact hT' c (fun e => hne (by rw [e]))

omit L in
theorem finv_norun (i : Nat) (X : FState) (hi : i ≤ s.length) (hX : X.inRun = none)
    (hC : I (if X.inImage then i - 1 else i) X.ds X.ms) (hT : ∀ c, T i c X.ds)
    (hcode : ∀ cm, X.code = some cm → cm.start < cm.stop ∧ cm.stop ≤ s.length)
    (himg : X.inImage = true → J i) : FInv s I R J T i X :=
  ⟨hi, fun ch h => (by rw [hX] at h; cases h), fun _ => hC, fun _ => hT, hcode, himg⟩

theorem stepWith_finv (i : Nat) (c : Char) (st : FState) (h : FInv s I R J T i st) (hc : s[i]? = some c) :
    ∃ i' st', stepWith (linkOf s fn) s i c st = .ok (i', st') ∧ i < i' ∧ i' ≤ s.length ∧ FInv s I R J T i' st' := by
  have hi : i < s.length := (List.getElem?_eq_some_iff.1 hc).1
  have no : ∀ {p : Prop}, false = true → p := fun h => by cases h
  obtain ⟨ds', hX, hI, hT⟩ := h.endRun L
  have hle : (if st.inImage then i - 1 else i) ≤ i := by split <;> omega
  by_cases hcode : NoCode st i
  rotate_left
  · -- a code span starts here
    obtain ⟨cm, hcm, hcs⟩ := NoCode.of_not hcode
    obtain ⟨hcm1, hcm2⟩ := h.code cm hcm
    rw [stepWith_code c hcm hcs, hX]
    exact ⟨_, _, rfl, by omega, hcm2, finv_norun _ _ hcm2 rfl (show I cm.stop ds' st.ms from L.mono (by omega) hI)
      (fun c' => L.T_lt cm.stop c' hI (by omega)) (fun cm' h' => codeSearch_spec s cm.stop cm' h') no⟩
  have hTlt : ∀ c', T (i + 1) c' ds' := fun c' => L.T_lt (i + 1) c' hI (by omega)
  cases he : st.escaped with
  | true =>
    -- the escaped character: the run, if any, ended before the backslash
    rw [he] at hX
    simp only [Bool.not_true, Bool.false_eq_true, if_false] at hX
    rw [stepWith_esc c hcode he, hX]
    exact ⟨_, _, rfl, Nat.lt_succ_self _, hi, finv_norun _ _ hi rfl (show I (i + 1) ds' st.ms from L.mono (by omega) hI)
      hTlt h.code no⟩
  | false =>
    rw [he] at hX
    simp only [Bool.not_false, if_true] at hX
    by_cases hbs : c = '\\'
    · subst hbs
      rw [stepWith_bs hcode he]
      refine ⟨_, _, rfl, Nat.lt_succ_self _, hi, hi, fun ch hch => ?_, fun hn => ?_, fun hn c' => ?_, h.code,
        fun _ => L.J_new i _ hc (by decide) (by decide)⟩
      · obtain ⟨h1, h2, h3, h4, h5, h6⟩ := h.run ch hch
        rw [he] at h2 h5
        exact ⟨h1, by simp at h2 ⊢; omega, h3, h4, by simpa using h5, h6⟩
      · exact L.mono (by dsimp only; split <;> omega) (h.norun hn)
      · exact L.T_lt (i + 1) c' (h.norun hn) (by omega)
    rw [stepWith_char hcode he hbs (fun hr => (h.run c hr).1)]
    by_cases hrun : st.inRun = some c
    · -- the run goes on
      rw [if_pos hrun]
      obtain ⟨hch, hlt, hC, him, hR, hT'⟩ := h.run c hrun
      rw [he] at hlt hR
      have e : { st with inImage := false } = st := by cases st; cases him; rfl
      rw [e]
      refine ⟨_, _, rfl, Nat.lt_succ_self _, hi, hi, fun ch hch' => ?_, fun hn => ?_, fun hn => ?_, h.code,
        fun h' => no (him ▸ h')⟩
      · rw [hrun] at hch'; cases hch'
        rw [he]
        exact ⟨hch, by simp at hlt ⊢; omega, hC, him, L.R_ext _ _ _ (by simpa using hR) hc, hT'⟩
      · rw [hrun] at hn; cases hn
      · rw [hrun] at hn; cases hn
    rw [if_neg hrun, hX]
    have hTc := hT he c hrun
    by_cases hd : c = '*' ∨ c = '_'
    · -- a new run starts
      rw [if_pos hd]
      refine ⟨_, _, rfl, Nat.lt_succ_self _, hi, hi, fun ch hch => ?_, fun hn => (nomatch hn), fun hn => (nomatch hn),
        h.code, no⟩
      cases hch
      exact ⟨hd, by simp, L.mono hle hI, rfl, by simpa [he] using L.R_new i c hc hd, hTc⟩
    rw [if_neg hd]
    by_cases h1 : c = '['
    · rw [if_pos h1]
      rw [h1] at hc
      -- the delimiter starts at the `!` before the position when there is one
      have hp : I (i + 1) (ds' ++ [mkDelim (if st.inImage then i - 1 else i) (i + 1) s]) st.ms ∧
          ∀ c', T (i + 1) c' (ds' ++ [mkDelim (if st.inImage then i - 1 else i) (i + 1) s]) := by
        cases him : st.inImage with
        | false =>
          rw [him] at hI
          exact L.plain (i + 1) (i + 1) hI (L.J_new i _ hc (by decide) (by decide)) (Nat.le_refl _)
            (Nat.lt_succ_self _) (Nat.le_refl _) hi
        | true =>
          rw [him] at hI
          exact L.plain i (i + 1) hI (h.img him) (Nat.le_refl _) (by omega) (Nat.le_refl _) hi
      exact ⟨_, _, rfl, Nat.lt_succ_self _, hi, finv_norun _ _ hi rfl hp.1 hp.2 h.code no⟩
    rw [if_neg h1]
    by_cases h2 : c = '!'
    · rw [if_pos h2]
      rw [h2] at hc
      exact ⟨_, _, rfl, Nat.lt_succ_self _, hi, finv_norun _ _ hi rfl (L.mono hle hI) hTlt h.code
        (fun _ => L.J_new i _ hc (by decide) (by decide))⟩
    rw [if_neg h2]
    by_cases h3 : c = ']'
    · rw [if_pos h3]
      rw [h3] at hc
      obtain ⟨i', ds2, ms2, hf, hle', hlt', hI', hJ⟩ := L.link i hI (by omega) hc
      rw [linkOf, hf]
      exact ⟨_, _, rfl, by omega, hlt', finv_norun _ _ hlt' rfl (L.mono (by dsimp only; split <;> omega) hI')
        (fun c' => L.T_lt (i' + 1) c' hI' (by omega)) (fun cm hcm => codeSearch_spec s i' cm hcm) (fun _ => hJ)⟩
    rw [if_neg h3]
    exact ⟨_, _, rfl, Nat.lt_succ_self _, hi, finv_norun _ _ hi rfl (show I (i + 1) ds' st.ms from L.mono (by omega) hI)
      hTlt h.code no⟩

/-- Under the invariant an iteration calls `find_link_image` only on delimiters and matches that satisfy it: an
    iteration with another `link'` that agrees with `find_link_image` there is the same iteration. -/
theorem stepWith_link (link' : Link) (i : Nat) (c : Char) (st : FState) (h : FInv s I R J T i st) (hc : s[i]? = some c)
    (hl : ∀ hi ds ms, I hi ds ms → hi ≤ s.length → link' i ds ms = findLinkImage s i ds ms fn) :
    stepWith link' s i c st = stepWith (linkOf s fn) s i c st := by
  have hi : i < s.length := (List.getElem?_eq_some_iff.1 hc).1
  by_cases hcode : NoCode st i
  rotate_left
  · obtain ⟨cm, hcm, hcs⟩ := NoCode.of_not hcode
    rw [stepWith_code c hcm hcs, stepWith_code c hcm hcs]
  cases he : st.escaped with
  | true => rw [stepWith_esc c hcode he, stepWith_esc c hcode he]
  | false =>
    by_cases hbs : c = '\\'
    · rw [hbs, stepWith_bs hcode he, stepWith_bs hcode he]
    have hr := fun hr => (h.run c hr).1
    obtain ⟨ds', hX, hI, _⟩ := h.endRun L
    rw [he] at hX
    simp only [Bool.not_false, if_true] at hX
    rw [stepWith_char hcode he hbs hr, stepWith_char hcode he hbs hr, hX, linkOf]
    have := hl _ ds' st.ms hI (by split <;> omega)
    simp only [this]

theorem coreLoop_inv (fuel i : Nat) (st : FState) (h : FInv s I R J T i st) (hf : s.length + 1 ≤ fuel + i) :
    ∃ st', coreLoop s fn fuel i st = .ok (s.length, st') ∧ FInv s I R J T s.length st' := by
  rw [coreLoop_eq]
  exact loopWith_induct _ (stepWith_finv L) fuel i st h h.ile hf

/-- `find_core_tokens` runs the character loop to the end without failing, and the invariant holds
    for the delimiters and matches handed to the final `process_emphasis`. -/
theorem findCoreTokens_loop (h0 : I 0 [] []) (hT0 : ∀ c, T 0 c []) :
    ∃ st, coreLoop s fn (s.length + 2) 0 { code := codeSearch s 0 } = .ok (s.length, st) ∧
      I s.length (endRun s (if !st.escaped then s.length else s.length - 1) st).ds st.ms := by
  have hinit : FInv s I R J T 0 { code := codeSearch s 0 } :=
    finv_norun 0 _ (Nat.zero_le _) rfl h0 hT0 (fun cm h => codeSearch_spec s 0 cm h) (fun h => by cases h)
  obtain ⟨st, h1, h2⟩ := coreLoop_inv L (s.length + 2) 0 _ hinit (by omega)
  obtain ⟨ds', hX, hI, _⟩ := h2.endRun L
  exact ⟨st, h1, by rw [hX]; exact L.mono (by split <;> omega) hI⟩

end loop

/-! ### delimiter characters and non-empty content -/

def RunOf (s : Str) (a b : Nat) (ch : Char) : Prop :=
  (ch = '*' ∨ ch = '_') ∧ ∀ k, a ≤ k → k < b → s[k]? = some ch

def Harmless (s : Str) (i : Nat) : Prop := 1 ≤ i ∧ ∃ c0, s[i - 1]? = some c0 ∧ c0 ≠ '*' ∧ c0 ≠ '_'

/-- a delimiter that takes part in `process_emphasis` is a run of `*` or of `_` in the source -/
def EOK (s : Str) (d : Delim) : Prop :=
  d.emph = true → ∃ ch, d.type = List.replicate d.number ch ∧ RunOf s d.start d.stop ch

structure EmphCh (s : Str) (m : CoreM) : Prop where
  star : m.delimiter = '*' ∨ m.delimiter = '_'
  opening : ∀ k, m.start ≤ k → k < m.ts → s[k]? = some m.delimiter
  closing : ∀ k, m.te ≤ k → k < m.stop → s[k]? = some m.delimiter

structure CInv (s : Str) (hi : Nat) (ds : List Delim) (ms : List CoreM) : Prop where
  dinv : DInv s 0 hi ds ms
  eok : ∀ d ∈ ds, EOK s d
  ch : ∀ m ∈ ms, isEmphM m → EmphCh s m

theorem slice_head {α} (s : List α) (a b : Nat) (h : a < b) : (slice s a b).head? = s[a]? := by
  unfold slice
  rw [List.head?_take, if_neg (by omega), List.head?_drop]

theorem slice_eq_replicate (s : Str) (a b : Nat) (ch : Char) (_ : b ≤ s.length)
    (h : ∀ k, a ≤ k → k < b → s[k]? = some ch) : slice s a b = List.replicate (b - a) ch := by
  apply List.ext_getElem?
  intro k
  unfold slice
  rw [List.getElem?_take, List.getElem?_replicate]
  split
  · rw [List.getElem?_drop]; exact h _ (by omega) (by omega)
  · rfl

theorem EOK.shrink {s : Str} {d d' : Delim} {n : Nat} {left : Bool} (h : EOK s d) (hd : DelimOK d) (h1 : 1 ≤ n)
    (hn : n ≤ d.number) (hd' : d' ∈ shrink d n left) : EOK s d' := by
  obtain ⟨_, hnum, hst, hsp, hem, _, _, _, hty⟩ := shrink_mem hd h1 hn hd'
  intro hemph
  obtain ⟨ch, hty0, hch, hrun⟩ := h (hem ▸ hemph)
  have := hd.span
  refine ⟨ch, ?_, hch, fun k hk1 hk2 => hrun k ?_ ?_⟩
  · rw [hty, hty0, List.drop_replicate]
    congr 1; omega
  · rw [hst] at hk1; split at hk1 <;> omega
  · rw [hsp] at hk2; split at hk2 <;> omega


theorem EOK.head {s : Str} {d : Delim} (h : EOK s d) (hd : DelimOK d) (he : d.emph = true) :
    ∃ ch, d.type.head? = some ch ∧ RunOf s d.start d.stop ch := by
  obtain ⟨ch, hty, hrun⟩ := h he
  have := hd.pos
  exact ⟨ch, by rw [hty, List.head?_replicate, if_neg (by omega)], hrun⟩

theorem CInv.step {s : Str} {hi : Nat} (hhi : hi ≤ s.length) {ds ms curr ds' ms' from'}
    (h : CInv s hi ds ms) (hr : StepRel s ds ms curr ds' ms' from') : CInv s hi ds' ms' := by
  refine ⟨h.dinv.step hhi hr, ?_, ?_⟩
  · cases hr with
    | erased _ _ _ c hc => exact fun d hd => h.eok d (List.mem_of_mem_eraseIdx hd)
    | skipped _ _ _ c hc => exact h.eok
    | matched A B C o c _ dch hoe hoo hce hcc hcb hs =>
      obtain ⟨_, _, _, hoOK, _, hcOK, _⟩ := h.dinv.chain.around
      obtain ⟨hn1, _, hn3, hn4⟩ := emphN_bounds o c hoOK hcOK
      obtain ⟨eA, eo, ec, eC⟩ := forall_mem_around h.eok
      exact forall_mem_remaining eA (fun d hd => eo.shrink hoOK hn1 hn3 hd) (fun d hd => ec.shrink hcOK hn1 hn4 hd) eC
  · cases hr with
    | erased _ _ _ c hc => exact h.ch
    | skipped _ _ _ c hc => exact h.ch
    | matched A B C o c _ dch hoe hoo hce hcc hcb hs =>
      obtain ⟨_, _, _, hoOK, _, hcOK, _⟩ := h.dinv.chain.around
      obtain ⟨hn1, _, hn3, hn4⟩ := emphN_bounds o c hoOK hcOK
      obtain ⟨_, eo, ec, _⟩ := forall_mem_around h.eok
      have ho1 := hoOK.span; have hc1 := hcOK.span
      intro m hm he
      rcases List.mem_cons.1 hm with rfl | hm
      · -- both delimiters are runs of the character `closed_by` compared, and `dch` is one of them
        obtain ⟨cho, hho, hro1, hro2⟩ := eo.head hoOK hoe
        obtain ⟨chc, hhc, _, hrc2⟩ := ec.head hcOK hce
        have hoc : cho = chc := by
          have := (closedBy_true_head o c hcb).1
          rw [hho, hhc] at this
          exact Option.some.inj this
        have hd : dch = cho := by
          have := hro2 (o.stop - emphN o c) (by omega) (by omega)
          rw [hs] at this
          exact Option.some.inj this
        subst hd hoc
        refine ⟨hro1, fun k hk1 hk2 => hro2 k ?_ ?_, fun k hk1 hk2 => hrc2 k ?_ ?_⟩
        · have : o.stop - emphN o c ≤ k := hk1
          omega
        · have : k < o.stop - emphN o c + emphN o c := hk2
          omega
        · have : c.start + emphN o c - emphN o c ≤ k := hk1
          omega
        · have : k < c.start + emphN o c := hk2
          omega
      · exact h.ch m hm he

theorem EOK_deactivate (s : Str) (d : Delim) (h : EOK s d) : EOK s (deactivate d) := by
  obtain ⟨h1, h2, h3, h4, h5, _⟩ := deactivate_fields d
  intro he
  rw [h5] at he
  rw [h1, h2, h3, h4]
  exact h he

theorem mkDelim_head (s : Str) (a b : Nat) (hab : a < b) : (mkDelim a b s).type.head? = s[a]? := by
  simp only [mkDelim]; exact slice_head s a b hab

/-- `hasattr(delimiter, 'open')`, read off the source -/
theorem mkDelim_emph (s : Str) (a b : Nat) (hab : a < b) :
    (mkDelim a b s).emph = (s[a]? == some '*' || s[a]? == some '_') := by
  simp only [mkDelim, slice_head s a b hab]

theorem mkDelim_emph_false (s : Str) (a b : Nat) (hab : a < b) (c0 : Char) (h : s[a]? = some c0)
    (h1 : c0 ≠ '*') (h2 : c0 ≠ '_') : (mkDelim a b s).emph = false := by
  rw [mkDelim_emph s a b hab, h]
  simp [h1, h2]

theorem mkDelim_not_emph (s : Str) (a b : Nat) (hab : a < b) (c0 : Char) (h : s[a]? = some c0)
    (h1 : c0 ≠ '*') (h2 : c0 ≠ '_') : EOK s (mkDelim a b s) := by
  intro he
  rw [mkDelim_emph_false s a b hab c0 h h1 h2] at he
  cases he

/-- two delimiters, the first before the second: not adjacent, or not both emphasis runs of the
    same character -/
def Sep (x y : Delim) : Prop :=
  x.stop < y.start ∨ ¬(x.emph = true ∧ y.emph = true ∧ x.type.head? = y.type.head?)

def TightAt (a : Nat) (c : Char) (ds : List Delim) : Prop :=
  ∀ x ∈ ds, x.stop < a ∨ ¬(x.emph = true ∧ x.type.head? = some c)

/-- where a match comes from: `process_emphasis` recorded it for an opener and a closer, or `match_link_image`
    returned it -/
def Origin (s : Str) (m : CoreM) : Prop :=
  (∃ o c n dch, m = emphMatch o c n dch) ∨ ∃ offset d fn, matchLinkImage s offset d fn = some m

/-- the full invariant: geometry and nesting (`DInv`), delimiter characters (`CInv`), adjacent
    delimiters are not runs of the same character, emphasis matches have non-empty content, every match is an `emphMatch`
    or a result of `match_link_image` (`origin`) -/
structure GInv (s : Str) (hi : Nat) (ds : List Delim) (ms : List CoreM) : Prop where
  cinv : CInv s hi ds ms
  sep : ds.Pairwise Sep
  nonempty : ∀ m ∈ ms, isEmphM m → m.ts < m.te
  origin : ∀ m ∈ ms, Origin s m

theorem GInv.init (s : Str) : GInv s 0 [] [] :=
  ⟨⟨⟨Nat.le_refl _, fun m hm => (by cases hm), List.Pairwise.nil⟩, fun d hd => (by cases hd),
    fun m hm => (by cases hm)⟩, List.Pairwise.nil, fun m hm => (by cases hm), fun m hm => (by cases hm)⟩

/-- every clause about the delimiters speaks of each of them or of pairs in their order: the invariant survives
    dropping delimiters from the stack -/
theorem GInv.sublist {s : Str} {hi : Nat} {ds ds' : List Delim} {ms : List CoreM} (h : GInv s hi ds ms)
    (hs : ds'.Sublist ds) : GInv s hi ds' ms :=
  ⟨⟨h.cinv.dinv.sublist hs, fun d hd => h.cinv.eok d (hs.subset hd), h.cinv.ch⟩, h.sep.sublist hs, h.nonempty, h.origin⟩

theorem Sep.mono_left {x x' y : Delim} (h : Sep x y) (hs : x'.stop ≤ x.stop) (he : x'.emph = x.emph)
    (hh : x'.type.head? = x.type.head?) : Sep x' y :=
  h.imp (Nat.lt_of_le_of_lt hs) (fun h h' => h (by rw [← he, ← hh]; exact h'))

theorem Sep.mono_right {x y y' : Delim} (h : Sep x y) (hs : y.start ≤ y'.start) (he : y'.emph = y.emph)
    (hh : y'.type.head? = y.type.head?) : Sep x y' :=
  h.imp (fun h => Nat.lt_of_lt_of_le h hs) (fun h h' => h (by rw [← he, ← hh]; exact h'))

theorem shrink_pairwise {R : Delim → Delim → Prop} (d : Delim) (n : Nat) (left : Bool) : (shrink d n left).Pairwise R := by
  unfold shrink
  cases delimRemove d n left <;> simp

theorem shrink_head {s : Str} {d d' : Delim} {n : Nat} {left : Bool} (h : EOK s d) (he : d.emph = true) (hd : DelimOK d)
    (h1 : 1 ≤ n) (hn : n ≤ d.number) (hd' : d' ∈ shrink d n left) : d'.type.head? = d.type.head? := by
  obtain ⟨hOK, hnum, _, _, _, _, _, _, hty⟩ := shrink_mem hd h1 hn hd'
  obtain ⟨ch, hty0, _⟩ := h he
  have := hOK.pos
  rw [hty, hty0, List.drop_replicate, List.head?_replicate, List.head?_replicate, if_neg (by omega), if_neg (by omega)]

theorem GInv.step {s : Str} {hi : Nat} (hhi : hi ≤ s.length) {ds ms curr ds' ms' from'}
    (h : GInv s hi ds ms) (hr : StepRel s ds ms curr ds' ms' from') : GInv s hi ds' ms' := by
  refine ⟨h.cinv.step hhi hr, ?_, ?_, ?_⟩
  · cases hr with
    | erased _ _ _ c hc => exact h.sep.sublist (List.eraseIdx_sublist _ _)
    | skipped _ _ _ c hc => exact h.sep
    | matched A B C o c _ dch hoe hoo hce hcc hcb hs =>
      obtain ⟨m, hA, hm, hoOK, hoc, hcOK, hCC⟩ := h.cinv.dinv.chain.around
      obtain ⟨hn1, _, hn3, hn4⟩ := emphN_bounds o c hoOK hcOK
      obtain ⟨_, eo, ec, _⟩ := forall_mem_around h.cinv.eok
      have hos : o.start < o.stop := by have := hoOK.span; have := hoOK.pos; omega
      have hcs : c.start < c.stop := by have := hcOK.span; have := hcOK.pos; omega
      obtain ⟨pA, pR, xA⟩ := List.pairwise_append.1 h.sep
      obtain ⟨pB, pcC, xB⟩ := List.pairwise_append.1 (List.pairwise_cons.1 pR).2
      obtain ⟨xc, pC⟩ := List.pairwise_cons.1 pcC
      have hAstop : ∀ x ∈ A, x.stop ≤ o.start := fun x hx => Nat.le_trans (hA.mem x hx).2.2 hm
      have hCstart : ∀ y ∈ C, c.stop ≤ y.start := fun y hy => (hCC.mem y hy).2.1
      -- the remainder of the opener keeps the left end of the opener, that of the closer its right end
      have hO : ∀ o' ∈ shrink o (emphN o c) false,
          (∀ x ∈ A, Sep x o') ∧ (∀ y ∈ C, Sep o' y) ∧ o'.stop ≤ c.start := by
        intro o' ho'
        obtain ⟨_, _, hst, hsp, hem, _⟩ := shrink_mem hoOK hn1 hn3 ho'
        have hst : o'.start = o.start := hst
        have hle : o'.stop ≤ c.start := hsp ▸ Nat.le_trans (Nat.sub_le ..) hoc
        exact ⟨fun x hx => (xA x hx o (List.mem_cons_self ..)).mono_right (Nat.le_of_eq hst.symm) hem
            (shrink_head eo hoe hoOK hn1 hn3 ho'),
          fun y hy => Or.inl (Nat.lt_of_le_of_lt hle (Nat.lt_of_lt_of_le hcs (hCstart y hy))), hle⟩
      have hCl : ∀ c' ∈ shrink c (emphN o c) true,
          (∀ x ∈ A, Sep x c') ∧ (∀ y ∈ C, Sep c' y) ∧ c.start < c'.start := by
        intro c' hc'
        obtain ⟨_, _, hst, hsp, hem, _⟩ := shrink_mem hcOK hn1 hn4 hc'
        have hlt : c.start < c'.start := hst ▸ Nat.lt_add_of_pos_right hn1
        have hsp : c'.stop = c.stop := hsp
        exact ⟨fun x hx => Or.inl (calc
              x.stop ≤ o.start := hAstop x hx
              _ < o.stop := hos
              _ ≤ c.start := hoc
              _ < c'.start := hlt),
          fun y hy => (xc y hy).mono_left (Nat.le_of_eq hsp) hem (shrink_head ec hce hcOK hn1 hn4 hc'), hlt⟩
      refine List.pairwise_append.2 ⟨pA, List.pairwise_append.2 ⟨shrink_pairwise .., List.pairwise_append.2
        ⟨shrink_pairwise .., pC, fun x hx y hy => (hCl x hx).2.1 y hy⟩, fun x hx y hy => ?_⟩, fun x hx y hy => ?_⟩
      · rcases List.mem_append.1 hy with hy | hy
        · exact Or.inl (Nat.lt_of_le_of_lt (hO x hx).2.2 (hCl y hy).2.2)
        · exact (hO x hx).2.1 y hy
      · rcases List.mem_append.1 hy with hy | hy
        · exact (hO y hy).1 x hx
        rcases List.mem_append.1 hy with hy | hy
        · exact (hCl y hy).1 x hx
        · exact xA x hx y (List.mem_cons_of_mem _ (List.mem_append_right _ (List.mem_cons_of_mem _ hy)))
  · cases hr with
    | erased _ _ _ c hc => exact h.nonempty
    | skipped _ _ _ c hc => exact h.nonempty
    | matched A B C o c _ dch hoe hoo hce hcc hcb hs =>
      intro m hm he
      rcases List.mem_cons.1 hm with rfl | hm
      · -- opener and closer are runs of the same character, so they are not adjacent
        obtain ⟨_, _, _, hoOK, _, hcOK, _⟩ := h.cinv.dinv.chain.around
        obtain ⟨_, _, hn3, _⟩ := emphN_bounds o c hoOK hcOK
        have ho1 := hoOK.span
        have xo := (List.pairwise_cons.1 (List.pairwise_append.1 h.sep).2.1).1 c
          (List.mem_append_right _ (List.mem_cons_self ..))
        have hlt : o.stop < c.start :=
          xo.resolve_right (fun h' => h' ⟨hoe, hce, (closedBy_true_head o c hcb).1⟩)
        show o.stop - emphN o c + emphN o c < c.start + emphN o c - emphN o c
        omega
      · exact h.nonempty m hm he
  · cases hr with
    | erased _ _ _ c hc => exact h.origin
    | skipped _ _ _ c hc => exact h.origin
    | matched A B C o c _ dch hoe hoo hce hcc hcb hs => exact List.forall_mem_cons.2 ⟨Or.inl ⟨_, _, _, _, rfl⟩, h.origin⟩

theorem processEmphasis_ginv (s : Str) (sb : Option Nat) (hi : Nat) (hhi : hi ≤ s.length)
    (ds : List Delim) (ms : List CoreM) (h : GInv s hi ds ms) :
    ∃ ds' ms', processEmphasis s sb ds ms = .ok (ds', ms') ∧ GInv s hi ds' ms' :=
  processEmphasis_inv s sb 0 hi hhi (GInv s hi) (fun _ _ h => h.cinv.dinv.chain)
    (fun _ _ _ _ _ _ h hr => h.step hhi hr) (fun _ _ _ h hs => h.sublist hs) ds ms h

theorem GInv.cons_other {s : Str} {hi : Nat} {ds : List Delim} {ms : List CoreM} (h : GInv s hi ds ms)
    (m : CoreM) (hm : ¬ isEmphM m) (ho : Origin s m) : GInv s hi ds (m :: ms) :=
  ⟨⟨h.cinv.dinv.cons_other m hm, h.cinv.eok, fun m' hm' he => by
      rcases List.mem_cons.1 hm' with rfl | hm'
      · exact absurd he hm
      · exact h.cinv.ch m' hm' he⟩,
    h.sep, fun m' hm' he => by
      rcases List.mem_cons.1 hm' with rfl | hm'
      · exact absurd he hm
      · exact h.nonempty m' hm' he, List.forall_mem_cons.2 ⟨ho, h.origin⟩⟩

theorem GInv.deactivate {s : Str} {hi : Nat} {ds : List Delim} {ms : List CoreM} (h : GInv s hi ds ms) :
    GInv s hi (ds.map deactivate) ms := by
  refine ⟨⟨h.cinv.dinv.deactivate, fun d' hd' => ?_, h.cinv.ch⟩, ?_, h.nonempty, h.origin⟩
  · obtain ⟨d, hd, rfl⟩ := List.mem_map.1 hd'
    exact EOK_deactivate s d (h.cinv.eok d hd)
  · rw [List.pairwise_map]
    refine h.sep.imp (fun {x y} hxy => ?_)
    obtain ⟨x1, _, x3, x4, x5, _⟩ := deactivate_fields x
    obtain ⟨y1, _, y3, y4, y5, _⟩ := deactivate_fields y
    show Sep (Core.deactivate x) (Core.deactivate y)
    unfold Sep
    rw [x1, x4, x5, y1, y3, y5]
    exact hxy

theorem findLinkImage_ginv (s : Str) (offset : Nat) (ds : List Delim) (ms : List CoreM) (fn : Footnotes.Table)
    (hi : Nat) (hD : GInv s hi ds ms) (hhi : hi ≤ s.length) (ho : s[offset]? = some ']') :
    ∃ i' ds' ms', findLinkImage s offset ds ms fn = .ok (i', ds', ms') ∧ offset ≤ i' ∧ i' < s.length ∧
      GInv s hi ds' ms' ∧ Harmless s (i' + 1) := by
  have ho' : offset < s.length := (List.getElem?_eq_some_iff.1 ho).1
  have hJ0 : Harmless s (offset + 1) := ⟨by omega, ']', by simpa using ho, by decide, by decide⟩
  rcases findLinkImage_cases s offset ds ms fn (GInv s hi)
      (fun i => processEmphasis_ginv s (some i) hi hhi ds ms hD) with
    ⟨ds', h, hds⟩ | ⟨d, _, m, ds1, ms1, ds', hm, hD1, h, hds⟩
  · refine ⟨_, _, _, h, Nat.le_refl _, ho', ?_, hJ0⟩
    rcases hds with rfl | ⟨i, rfl⟩
    · exact hD
    · exact hD.sublist (List.eraseIdx_sublist _ _)
  · obtain ⟨h1, h2, hk, h4⟩ := matchLinkImage_spec s offset d fn m ho' hm
    have hne : ¬ isEmphM m := by
      unfold isEmphM
      rcases hk with hk | hk <;> rw [hk] <;> simp
    have hJ : Harmless s (m.stop - 1 + 1) := by
      refine ⟨by omega, ?_⟩
      rcases h4 with h4 | h4 | h4
      · exact ⟨')', by simpa using h4, by decide, by decide⟩
      · exact ⟨']', by simpa using h4, by decide, by decide⟩
      · exact ⟨']', by rw [h4]; simpa using ho, by decide, by decide⟩
    refine ⟨_, _, _, h, by omega, by omega, ?_, hJ⟩
    rcases hds with rfl | rfl
    · exact hD1.cons_other m hne (Or.inr ⟨_, _, _, hm⟩)
    · exact hD1.deactivate.cons_other m hne (Or.inr ⟨_, _, _, hm⟩)

theorem GInv.push_ok {s : Str} {hi hi' : Nat} {ds : List Delim} {ms : List CoreM} (h : GInv s hi ds ms)
    (a b : Nat) (h1 : hi ≤ a) (hab : a < b) (h2 : b ≤ hi') (hb : b ≤ s.length) (he : EOK s (mkDelim a b s))
    (hsep : ∀ x ∈ ds, Sep x (mkDelim a b s)) :
    GInv s hi' (ds ++ [mkDelim a b s]) ms :=
  ⟨⟨h.cinv.dinv.push a b h1 hab h2 hb, fun d hd => by
      rcases List.mem_append.1 hd with hd | hd
      · exact h.cinv.eok d hd
      · simp only [List.mem_singleton] at hd; subst hd; exact he, h.cinv.ch⟩,
    List.pairwise_append.2 ⟨h.sep, List.pairwise_singleton _ _, fun x hx y hy => by
      simp only [List.mem_singleton] at hy; subst hy; exact hsep x hx⟩,
    h.nonempty, h.origin⟩

theorem tightAt_push (s : Str) (hi : Nat) (ds : List Delim) (ms : List CoreM) (h : GInv s hi ds ms) (a b : Nat) (c : Char)
    (h1 : hi ≤ a) (hab : a < b)
    (hd : ¬((mkDelim a b s).emph = true ∧ (mkDelim a b s).type.head? = some c)) :
    TightAt b c (ds ++ [mkDelim a b s]) := by
  intro x hx
  rcases List.mem_append.1 hx with hx | hx
  · have := (h.cinv.dinv.chain.mem x hx).2.2
    exact Or.inl (by omega)
  · simp only [List.mem_singleton] at hx; subst hx
    exact Or.inr hd

theorem loopInv_ginv (s : Str) (fn : Footnotes.Table) :
    LoopInv s fn (GInv s) (RunOf s) (Harmless s) TightAt where
  mono := fun hh h => ⟨⟨h.cinv.dinv.mono hh, h.cinv.eok, h.cinv.ch⟩, h.sep, h.nonempty, h.origin⟩
  T_lt := fun {hi ds ms} i c h hlt x hx => Or.inl (by have := (h.cinv.dinv.chain.mem x hx).2.2; omega)
  run := fun {hi hi' ds ms} a b ch h hR hT h1 hab h2 hb => by
    have hhead : (mkDelim a b s).type.head? = some ch := by
      rw [mkDelim_head s a b hab]; exact hR.2 a (Nat.le_refl _) hab
    refine ⟨h.push_ok a b h1 hab h2 hb (fun _ =>
      ⟨ch, by simp only [mkDelim]; exact slice_eq_replicate s a b ch hb hR.2, hR⟩) (fun x hx => ?_),
      fun c hne => tightAt_push s hi ds ms h a b c h1 hab (fun hh => ?_)⟩
    · rcases hT x hx with h' | h'
      · exact Or.inl h'
      · exact Or.inr (fun hh => h' ⟨hh.1, by rw [hh.2.2, hhead]⟩)
    · rw [hhead] at hh
      exact hne (Option.some.inj hh.2).symm
  plain := fun {hi hi' ds ms} i b h hJ h1 hab h2 hb => by
    -- a delimiter that does not begin with `*` or `_` takes no part in `process_emphasis`
    obtain ⟨_, c0, hc0, hc1, hc2⟩ := hJ
    have hne := mkDelim_emph_false s (i - 1) b hab c0 hc0 hc1 hc2
    exact ⟨h.push_ok _ b h1 hab h2 hb (fun he => by rw [hne] at he; cases he)
        (fun x hx => Or.inr (fun hh => by rw [hne] at hh; cases hh.2.1)),
      fun c => tightAt_push s hi ds ms h _ b c h1 hab (fun hh => by rw [hne] at hh; cases hh.1)⟩
  link := fun {hi ds ms} offset h hhi ho => findLinkImage_ginv s offset ds ms fn hi h hhi ho
  R_new := fun i c hc hcc => ⟨hcc, fun k hk1 hk2 => by
    have : k = i := by omega
    subst this; exact hc⟩
  R_ext := fun a i ch hR hc => ⟨hR.1, fun k hk1 hk2 => by
    by_cases hk : k < i
    · exact hR.2 k hk1 hk
    · have : k = i := by omega
      subst this; exact hc⟩
  J_new := fun i c hc h1 h2 => ⟨by omega, c, by simpa using hc, h1, h2⟩

/-- existence form: `find_core_tokens` returns; its matches (here newest first) satisfy the invariant -/
theorem findCoreTokens_ginv (s : Str) (fn : Footnotes.Table) :
    ∃ ms codes, findCoreTokens s fn = .ok (ms.reverse, codes) ∧ GInv s s.length [] ms := by
  obtain ⟨st, h1, h2⟩ := findCoreTokens_loop (loopInv_ginv s fn) (GInv.init s) (fun c x hx => by cases hx)
  obtain ⟨ds', ms', hpe, hD⟩ := processEmphasis_ginv s none s.length (Nat.le_refl _) _ st.ms h2
  exact ⟨ms', st.codes.reverse, by rw [findCoreTokens_of_loop h1, hpe], hD.sublist (List.nil_sublist _)⟩

theorem findCoreTokens_ok (s : Str) (fn : Footnotes.Table) : ∃ r, findCoreTokens s fn = .ok r := by
  obtain ⟨ms, codes, h, _⟩ := findCoreTokens_ginv s fn
  exact ⟨_, h⟩

theorem tokenizeInner_ok (types : List Inline.STok) (fn : Footnotes.Table) (s : Str) :
    ∃ ks, Inline.tokenizeInner types fn s = .ok ks := by
  obtain ⟨r, hr⟩ := findCoreTokens_ok s fn
  unfold Inline.tokenizeInner Inline.findAll
  rw [hr]
  cases h : types.contains Inline.STok.coreTokens <;> simp

/-- elimination form of `findCoreTokens_ginv`, for a result that is given: `GInv` takes the matches newest first,
    `find_core_tokens` returns them oldest first, hence `ms.reverse` -/
theorem findCoreTokens_inv {s : Str} {fn : Footnotes.Table} {ms : List CoreM} {codes : List CodeM}
    (h : findCoreTokens s fn = .ok (ms, codes)) : GInv s s.length [] ms.reverse := by
  obtain ⟨ms', codes', h', hD⟩ := findCoreTokens_ginv s fn
  rw [h] at h'
  cases h'
  rwa [List.reverse_reverse]

/-- Every match is one that `process_emphasis` built from an opener and a closer or one that `match_link_image`
    returned: a property of all such matches holds of all matches of `find_core_tokens`. -/
theorem findCoreTokens_origin (s : Str) (fn : Footnotes.Table) (ms : List CoreM) (codes : List CodeM)
    (h : findCoreTokens s fn = .ok (ms, codes)) : ∀ m ∈ ms, Origin s m := fun m hm =>
  (findCoreTokens_inv h).origin m (List.mem_reverse.2 hm)

end Mistletoe.Core
