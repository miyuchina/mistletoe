/-
  C13, block token constructors: `make_tokens` (Document.mkBlock / mkBlocks / mkItems, tableRow /
  tableRows) copies the line numbers of the parse buffer into the tokens and never recomputes them.
  The pre-order listing (kind, line_number) of the blocks of a document equals the listing computed
  from the parse buffer alone.
-/
import Mistletoe.Proofs.DocTotal
namespace Mistletoe.Document
open Mistletoe Mistletoe.Py Mistletoe.Scan Mistletoe.Block Mistletoe.Inline

/-- kinds of block tokens (one per AST constructor) -/
inductive BKind where
  | paragraph | heading | setextHeading | quote | blockCode | codeFence | list | listItem
  | table | tableRow | tableCell | thematicBreak | htmlBlock | blankLine | linkRefDefBlock
  deriving Repr, DecidableEq, Inhabited

/-- `token.line_number` -/
def blockLn : Mistletoe.Block → Nat
  | .paragraph _ ln => ln
  | .heading _ _ _ ln => ln
  | .setextHeading _ _ _ ln => ln
  | .quote _ ln => ln
  | .blockCode _ ln => ln
  | .codeFence _ _ _ _ _ ln => ln
  | .list _ _ _ ln => ln
  | .listItem _ _ _ _ _ ln => ln
  | .table _ _ _ ln => ln
  | .tableRow _ _ ln => ln
  | .tableCell _ _ ln => ln
  | .thematicBreak _ ln => ln
  | .htmlBlock _ ln => ln
  | .blankLine ln => ln
  | .linkRefDefBlock _ ln => ln

def blockKind : Mistletoe.Block → BKind
  | .paragraph _ _ => .paragraph
  | .heading _ _ _ _ => .heading
  | .setextHeading _ _ _ _ => .setextHeading
  | .quote _ _ => .quote
  | .blockCode _ _ => .blockCode
  | .codeFence _ _ _ _ _ _ => .codeFence
  | .list _ _ _ _ => .list
  | .listItem _ _ _ _ _ _ => .listItem
  | .table _ _ _ _ => .table
  | .tableRow _ _ _ => .tableRow
  | .tableCell _ _ _ => .tableCell
  | .thematicBreak _ _ => .thematicBreak
  | .htmlBlock _ _ => .htmlBlock
  | .blankLine _ => .blankLine
  | .linkRefDefBlock _ _ => .linkRefDefBlock

mutual
/-- pre-order listing (kind, line_number) of a block and everything nested in it: list items,
    the children of quotes and items, table header, rows and cells -/
def blockLns : Mistletoe.Block → List (BKind × Nat)
  | .paragraph _ ln => [(.paragraph, ln)]
  | .heading _ _ _ ln => [(.heading, ln)]
  | .setextHeading _ _ _ ln => [(.setextHeading, ln)]
  | .quote kids ln => (.quote, ln) :: blocksLns kids
  | .blockCode _ ln => [(.blockCode, ln)]
  | .codeFence _ _ _ _ _ ln => [(.codeFence, ln)]
  | .list _ _ items ln => (.list, ln) :: blocksLns items
  | .listItem _ _ _ _ kids ln => (.listItem, ln) :: blocksLns kids
  | .table _ header rows ln => (.table, ln) :: (blocksLns header ++ blocksLns rows)
  | .tableRow _ cells ln => (.tableRow, ln) :: blocksLns cells
  | .tableCell _ _ ln => [(.tableCell, ln)]
  | .thematicBreak _ ln => [(.thematicBreak, ln)]
  | .htmlBlock _ ln => [(.htmlBlock, ln)]
  | .blankLine ln => [(.blankLine, ln)]
  | .linkRefDefBlock _ ln => [(.linkRefDefBlock, ln)]
def blocksLns : List Mistletoe.Block → List (BKind × Nat)
  | [] => []
  | b :: bs => blockLns b ++ blocksLns bs
end

def docLns (d : Doc) : List (BKind × Nat) := blocksLns d.kids

theorem blockLns_head (b : Mistletoe.Block) : (blockLns b).head? = some (blockKind b, blockLn b) := by
  cases b <;> simp [blockLns, blockKind, blockLn]

/-! ### The same listing, computed from the parse buffer alone -/

/-- the cells `TableRow.__init__` finds in a line -/
def cellsOf (line : Str) : List Str := (splitPipes (strip line) none []).filter (fun c => !c.isEmpty)

/-- one table row numbered `n`: the row and its cells (`zip_longest` of the cells and the alignment) -/
def rowLns (line : Str) (nAlign : Nat) (n : Nat) : List (BKind × Nat) :=
  (.tableRow, n) :: List.replicate (max (cellsOf line).length (if nAlign = 0 then 1 else nAlign)) (.tableCell, n)

def rowsLns : List Str → Nat → Nat → List (BKind × Nat)
  | [], _, _ => []
  | l :: rest, nAlign, n => rowLns l nAlign n ++ rowsLns rest nAlign (n + 1)

mutual
/-- listing of an entry.  `useOg = false`: the numbers the entry reports (`ln`, and `startLine` for
    the rows of a table); `useOg = true`: the ghost origin of the line the entry was found on
    (header row = that line, body row k = that line + 2 + k).  A Footnote entry yields no token. -/
def entryLnsG (useOg : Bool) : Entry → List (BKind × Nat)
  | .blockCode _ ln og => [(.blockCode, if useOg then og else ln)]
  | .heading _ _ _ ln og => [(.heading, if useOg then og else ln)]
  | .quote inner _ ln og => (.quote, if useOg then og else ln) :: entriesLnsG useOg inner
  | .codeFence _ _ _ _ _ ln og => [(.codeFence, if useOg then og else ln)]
  | .thematicBreak _ ln og => [(.thematicBreak, if useOg then og else ln)]
  | .list items ln og => (.list, if useOg then og else ln) :: itemsLnsG useOg items
  | .table lines startLine ln og =>
    let sl := if useOg then og else startLine
    (.table, if useOg then og else ln) ::
      (match lines with
       | l0 :: l1 :: rest =>
         if l1.contains '-' then rowLns l0 (findAligns l1).length sl ++ rowsLns rest (findAligns l1).length (sl + 2)
         else rowsLns lines 0 sl
       | _ => [])
  | .footnote _ _ _ => []
  | .linkRefDefs _ ln og => [(.linkRefDefBlock, if useOg then og else ln)]
  | .paragraph _ ln og => [(.paragraph, if useOg then og else ln)]
  | .setext _ ln og => [(.setextHeading, if useOg then og else ln)]
  | .htmlBlock _ ln og => [(.htmlBlock, if useOg then og else ln)]
  | .blankLine ln og => [(.blankLine, if useOg then og else ln)]
def entriesLnsG (useOg : Bool) : List Entry → List (BKind × Nat)
  | [] => []
  | e :: es => entryLnsG useOg e ++ entriesLnsG useOg es
def itemsLnsG (useOg : Bool) : List Item → List (BKind × Nat)
  | [] => []
  | .mk inner _ _ _ _ ln og :: is => ((.listItem, if useOg then og else ln) :: entriesLnsG useOg inner) ++ itemsLnsG useOg is
end

/-- listing from the numbers the buffer reports -/
abbrev entryLns := entryLnsG false
abbrev entriesLns := entriesLnsG false
/-- listing from the ghost origins -/
abbrev entriesOgs := entriesLnsG true

/-! ### The constructors copy the numbers -/

theorem blocksLns_append : ∀ (a b : List Mistletoe.Block), blocksLns (a ++ b) = blocksLns a ++ blocksLns b
  | [], b => by simp [blocksLns]
  | x :: xs, b => by simp [blocksLns, blocksLns_append xs b]

theorem zipLongest_length : ∀ (cs : List Str) (as : List (Option Nat)), (zipLongest cs as).length = max cs.length as.length
  | [], as => by simp [zipLongest]
  | c :: cs, [] => by simp [zipLongest, zipLongest_length cs []]
  | c :: cs, a :: as => by simp only [zipLongest, List.length_cons, zipLongest_length cs as]; omega

theorem tableRow_go_lns (cfg : Cfg) (fn : Footnotes.Table) (ln : Nat) :
    ∀ (zs : List (Option Str × Option Nat)) (cs : List Mistletoe.Block), tableRow.go cfg fn ln zs = .ok cs →
      blocksLns cs = List.replicate zs.length (.tableCell, ln)
  | [], cs, h => by simp only [tableRow.go] at h; cases h; rfl
  | (c, a) :: rest, cs, h => by
    simp only [tableRow.go] at h
    split at h
    · cases h
    · split at h
      · cases h
      · rename_i more hmore
        cases h
        simp only [blocksLns, blockLns, List.length_cons, List.replicate_succ, tableRow_go_lns cfg fn ln rest more hmore]
        rfl

/-- `TableRow(line, row_align, line_number)`: the row and every cell carry `line_number` -/
theorem tableRow_lns (cfg : Cfg) (fn : Footnotes.Table) (line : Str) (al : List (Option Nat)) (n : Nat) (r : Mistletoe.Block)
    (h : tableRow cfg fn line al n = .ok r) : blockLns r = rowLns line al.length n := by
  unfold tableRow at h
  simp only at h
  split at h
  · cases h
  · rename_i cs hcs
    cases h
    have := tableRow_go_lns cfg fn n _ cs hcs
    simp only [blockLns, rowLns, this, zipLongest_length, cellsOf]
    congr 3
    cases al with
    | nil => simp
    | cons a as => simp

theorem tableRows_lns (cfg : Cfg) (fn : Footnotes.Table) : ∀ (ls : List Str) (al : List (Option Nat)) (n : Nat) (rs : List Mistletoe.Block),
    tableRows cfg fn ls al n = .ok rs → blocksLns rs = rowsLns ls al.length n
  | [], _, _, rs, h => by simp only [tableRows] at h; cases h; rfl
  | l :: rest, al, n, rs, h => by
    simp only [tableRows] at h
    split at h
    · cases h
    · rename_i r hr
      split at h
      · cases h
      · rename_i more hmore
        cases h
        simp only [blocksLns, rowsLns, tableRow_lns cfg fn l al n r hr, tableRows_lns cfg fn rest al (n + 1) more hmore]

theorem mapRes_length {α β} (f : α → Res β) : ∀ (xs : List α) (ys : List β), mapRes f xs = .ok ys → ys.length = xs.length
  | [], ys, h => by simp only [mapRes] at h; cases h; rfl
  | x :: xs, ys, h => by
    simp only [mapRes] at h
    split at h
    · cases h
    · split at h
      · cases h
      · rename_i zs hzs
        cases h
        simp only [List.length_cons, mapRes_length f xs zs hzs]

/-- listing of what `mkBlock` returns (`None` for a Footnote entry) -/
def optLns : Option Mistletoe.Block → List (BKind × Nat)
  | some b => blockLns b
  | none => []

mutual
theorem mkBlock_lns (cfg : Cfg) (fn : Footnotes.Table) :
    ∀ (e : Entry) (b : Option Mistletoe.Block), mkBlock cfg fn e = .ok b → optLns b = entryLns e
  | .blockCode ls ln og, b, h => by simp only [mkBlock] at h; cases h; rfl
  | .heading lvl content closing ln og, b, h => by obtain ⟨_, _, rfl⟩ := mkBlock_heading_ok h; rfl
  | .quote inner lo ln og, b, h => by
    obtain ⟨kids, hk, rfl⟩ := mkBlock_quote_ok h
    exact congrArg (_ :: ·) (mkBlocks_lns cfg fn inner kids hk)
  | .codeFence ls p ld info lang ln og, b, h => by simp only [mkBlock] at h; cases h; rfl
  | .thematicBreak line ln og, b, h => by simp only [mkBlock] at h; cases h; rfl
  | .list items ln og, b, h => by
    -- taken before `items` is taken apart, so that the call is on a visible part of the entry
    have ih := mkItems_lns cfg fn items
    obtain ⟨_, _, _, _, _, _, _, _, its, _, hits, rfl⟩ := mkBlock_list_ok h
    exact congrArg (_ :: ·) (ih its hits)
  | .table lines sl ln og, b, h => by
    obtain ⟨l0, l1, rest, rfl, ⟨hd, al, hdr, rows, hal, hh, hr, rfl⟩ | ⟨hd, rows, hr, rfl⟩⟩ := mkBlock_table_ok h
    · simp only [optLns, blockLns, blocksLns, entryLns, entryLnsG, hd, if_true, List.append_nil, tableRow_lns cfg fn l0 al sl hdr hh,
        tableRows_lns cfg fn rest al (sl + 2) rows hr, mapRes_length parseAlign _ al hal]
      rfl
    · simp only [optLns, blockLns, blocksLns, entryLns, entryLnsG, hd, tableRows_lns cfg fn _ [] sl rows hr, List.length_nil,
        List.nil_append]
      rfl
  | .footnote ms ln og, b, h => by simp only [mkBlock] at h; cases h; rfl
  | .linkRefDefs ms ln og, b, h => by simp only [mkBlock] at h; cases h; rfl
  | .paragraph lines ln og, b, h => by obtain ⟨_, _, rfl⟩ := mkBlock_paragraph_ok h; rfl
  | .setext lines ln og, b, h => by obtain ⟨_, _, _, _, rfl⟩ := mkBlock_setext_ok h; rfl
  | .htmlBlock lines ln og, b, h => by simp only [mkBlock] at h; cases h; rfl
  | .blankLine ln og, b, h => by simp only [mkBlock] at h; cases h; rfl
theorem mkBlocks_lns (cfg : Cfg) (fn : Footnotes.Table) :
    ∀ (es : List Entry) (bs : List Mistletoe.Block), mkBlocks cfg fn es = .ok bs → blocksLns bs = entriesLns es
  | [], bs, h => by simp only [mkBlocks] at h; cases h; rfl
  | e :: es, bs, h => by
    obtain ⟨b, more, hb, hm, rfl⟩ := mkBlocks_cons_ok h
    have h1 : optLns b = entryLnsG false e := mkBlock_lns cfg fn e b hb
    have h2 : blocksLns more = entriesLnsG false es := mkBlocks_lns cfg fn es more hm
    simp only [entriesLns, entriesLnsG, ← h1, ← h2]
    cases b <;> rfl
theorem mkItems_lns (cfg : Cfg) (fn : Footnotes.Table) :
    ∀ (is : List Item) (bs : List Mistletoe.Block), mkItems cfg fn is = .ok bs → blocksLns bs = itemsLnsG false is
  | [], bs, h => by simp only [mkItems] at h; cases h; rfl
  | .mk inner lo ind pre ld ln og :: rest, bs, h => by
    obtain ⟨kids, more, hk, hmo, rfl⟩ := mkItems_cons_ok h
    simp only [blocksLns, blockLns, itemsLnsG, mkBlocks_lns cfg fn inner kids hk, mkItems_lns cfg fn rest more hmo]
    rfl
end

/-! ### Reported numbers = ghost origins -/

mutual
theorem entryLns_eq_ogs : ∀ (e : Entry), EntryOk e → entryLnsG false e = entryLnsG true e
  | .blockCode _ ln og, h => by simp only [EntryOk] at h; subst h; rfl
  | .heading _ _ _ ln og, h => by simp only [EntryOk] at h; subst h; rfl
  | .quote inner _ ln og, h => by
    simp only [EntryOk] at h
    obtain ⟨h1, h2⟩ := h; subst h1
    simp only [entryLnsG, entriesLns_eq_ogs inner h2]; rfl
  | .codeFence _ _ _ _ _ ln og, h => by simp only [EntryOk] at h; subst h; rfl
  | .thematicBreak _ ln og, h => by simp only [EntryOk] at h; subst h; rfl
  | .list items ln og, h => by
    simp only [EntryOk] at h
    obtain ⟨h1, h2⟩ := h; subst h1
    simp only [entryLnsG, itemsLns_eq_ogs items h2]; rfl
  | .table lines sl ln og, h => by
    simp only [EntryOk] at h
    obtain ⟨h1, h2⟩ := h; subst h1; subst h2
    rfl
  | .footnote _ ln og, _ => rfl
  | .linkRefDefs _ ln og, h => by simp only [EntryOk] at h; subst h; rfl
  | .paragraph _ ln og, h => by simp only [EntryOk] at h; subst h; rfl
  | .setext _ ln og, h => by simp only [EntryOk] at h; subst h; rfl
  | .htmlBlock _ ln og, h => by simp only [EntryOk] at h; subst h; rfl
  | .blankLine ln og, h => by simp only [EntryOk] at h; subst h; rfl
theorem entriesLns_eq_ogs : ∀ (es : List Entry), EntriesOk es → entriesLnsG false es = entriesLnsG true es
  | [], _ => rfl
  | e :: es, h => by
    simp only [EntriesOk] at h
    simp only [entriesLnsG, entryLns_eq_ogs e h.1, entriesLns_eq_ogs es h.2]
theorem itemsLns_eq_ogs : ∀ (is : List Item), ItemsOk is → itemsLnsG false is = itemsLnsG true is
  | [], _ => rfl
  | .mk inner _ _ _ _ ln og :: is, h => by
    simp only [ItemsOk, ItemOk] at h
    obtain ⟨⟨h1, h2⟩, h3⟩ := h; subst h1
    simp only [itemsLnsG, entriesLns_eq_ogs inner h2, itemsLns_eq_ogs is h3]; rfl
end

/-- C13 for the block phase of `Document(lines)`: the lines handed to `tokenize_block` carry the origins `1, 2, …` -/
theorem _root_.Mistletoe.Block.blockPhase_ok (cfg : Block.Cfg) (gas : Nat) (lines : List Str) (b : Buf) (st : St)
    (hl : ∀ s ∈ lines, NlEnd s) (h : blockPhase cfg gas lines = .ok (b, st)) : EntriesOk b.entries :=
  tokenizeBlock_ok cfg gas _ _ _ _ _ h (by simpa using originsFrom_zipIdx lines 0) (allNlEnd_zipIdx lines 0 hl)

/-- **`Document(lines)`: every block token at every depth reports the origin of the line it was found
    on.**  The pre-order listing (kind, line_number) of the document equals the listing of ghost
    origins computed from the parse buffer. -/
theorem parseLines_lns (cfg : Cfg) (gas : Nat) (lines : List Str) (d : Doc) (hl : ∀ s ∈ lines, NlEnd s)
    (h : parseLines cfg gas lines = .ok d) :
    ∃ b st, blockPhase cfg.block gas lines = .ok (b, st) ∧ docLns d = entriesLns b.entries ∧ docLns d = entriesOgs b.entries := by
  obtain ⟨buf, st, hb, hk, _⟩ := Pipeline.parseLines_ok h
  have h1 : docLns d = entriesLns buf.entries := mkBlocks_lns cfg _ buf.entries _ hk
  exact ⟨buf, st, hb, h1, h1.trans (entriesLns_eq_ogs _ (blockPhase_ok cfg.block gas lines buf st hl hb))⟩

theorem rowsLns_eq : ∀ (ls : List Str) (a n : Nat), rowsLns ls a n = (ls.zipIdx n).flatMap (fun (l, k) => rowLns l a k)
  | [], _, _ => rfl
  | l :: rest, a, n => by
    simp only [rowsLns, List.zipIdx_cons, List.flatMap_cons, rowsLns_eq rest a (n + 1)]

end Mistletoe.Document
