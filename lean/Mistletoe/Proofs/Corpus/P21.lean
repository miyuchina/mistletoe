/- C02, chunk 21 of the corpus: every example is evaluated by the kernel. -/
import Mistletoe.Model.SpecCheck
import Mistletoe.Gen.Corpus.C21
namespace Mistletoe.Proofs.Corpus
theorem chunk21_ok : Gen.Corpus.C21.examples.all SpecCheck.exampleOk = true := by decide +kernel
end Mistletoe.Proofs.Corpus
