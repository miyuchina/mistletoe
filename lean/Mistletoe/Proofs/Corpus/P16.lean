/- C02, chunk 16 of the corpus: every example is evaluated by the kernel. -/
import Mistletoe.Model.SpecCheck
import Mistletoe.Gen.Corpus.C16
namespace Mistletoe.Proofs.Corpus
theorem chunk16_ok : Gen.Corpus.C16.examples.all SpecCheck.exampleOk = true := by decide +kernel
end Mistletoe.Proofs.Corpus
