/- C02, chunk 19 of the corpus: every example is evaluated by the kernel. -/
import Mistletoe.Model.SpecCheck
import Mistletoe.Gen.Corpus.C19
namespace Mistletoe.Proofs.Corpus
theorem chunk19_ok : Gen.Corpus.C19.examples.all SpecCheck.exampleOk = true := by decide +kernel
end Mistletoe.Proofs.Corpus
