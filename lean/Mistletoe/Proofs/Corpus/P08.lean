/- C02, chunk 08 of the corpus: every example is evaluated by the kernel. -/
import Mistletoe.Model.SpecCheck
import Mistletoe.Gen.Corpus.C08
namespace Mistletoe.Proofs.Corpus
theorem chunk08_ok : Gen.Corpus.C08.examples.all SpecCheck.exampleOk = true := by decide +kernel
end Mistletoe.Proofs.Corpus
