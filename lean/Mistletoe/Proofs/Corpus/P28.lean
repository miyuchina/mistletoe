/- C02, chunk 28 of the corpus: every example is evaluated by the kernel. -/
import Mistletoe.Model.SpecCheck
import Mistletoe.Gen.Corpus.C28
namespace Mistletoe.Proofs.Corpus
theorem chunk28_ok : Gen.Corpus.C28.examples.all SpecCheck.exampleOk = true := by decide +kernel
end Mistletoe.Proofs.Corpus
