/- C02, chunk 09 of the corpus: every example is evaluated by the kernel. -/
import Mistletoe.Model.SpecCheck
import Mistletoe.Gen.Corpus.C09
namespace Mistletoe.Proofs.Corpus
theorem chunk09_ok : Gen.Corpus.C09.examples.all SpecCheck.exampleOk = true := by decide +kernel
end Mistletoe.Proofs.Corpus
