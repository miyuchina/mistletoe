/- C02, chunk 22 of the corpus: every example is evaluated by the kernel. -/
import Mistletoe.Model.SpecCheck
import Mistletoe.Gen.Corpus.C22
namespace Mistletoe.Proofs.Corpus
theorem chunk22_ok : Gen.Corpus.C22.examples.all SpecCheck.exampleOk = true := by decide +kernel
end Mistletoe.Proofs.Corpus
