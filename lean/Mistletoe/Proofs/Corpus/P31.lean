/- C02, chunk 31 of the corpus: every example is evaluated by the kernel. -/
import Mistletoe.Model.SpecCheck
import Mistletoe.Gen.Corpus.C31
namespace Mistletoe.Proofs.Corpus
theorem chunk31_ok : Gen.Corpus.C31.examples.all SpecCheck.exampleOk = true := by decide +kernel
end Mistletoe.Proofs.Corpus
