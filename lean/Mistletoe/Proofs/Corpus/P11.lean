/- C02, chunk 11 of the corpus: every example is evaluated by the kernel. -/
import Mistletoe.Model.SpecCheck
import Mistletoe.Gen.Corpus.C11
namespace Mistletoe.Proofs.Corpus
theorem chunk11_ok : Gen.Corpus.C11.examples.all SpecCheck.exampleOk = true := by decide +kernel
end Mistletoe.Proofs.Corpus
