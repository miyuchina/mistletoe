/- C02, chunk 14 of the corpus: every example is evaluated by the kernel. -/
import Mistletoe.Model.SpecCheck
import Mistletoe.Gen.Corpus.C14
namespace Mistletoe.Proofs.Corpus
theorem chunk14_ok : Gen.Corpus.C14.examples.all SpecCheck.exampleOk = true := by decide +kernel
end Mistletoe.Proofs.Corpus
