/- C02, chunk 29 of the corpus: every example is evaluated by the kernel. -/
import Mistletoe.Model.SpecCheck
import Mistletoe.Gen.Corpus.C29
namespace Mistletoe.Proofs.Corpus
theorem chunk29_ok : Gen.Corpus.C29.examples.all SpecCheck.exampleOk = true := by decide +kernel
end Mistletoe.Proofs.Corpus
