/- C02, chunk 20 of the corpus: every example is evaluated by the kernel. -/
import Mistletoe.Model.SpecCheck
import Mistletoe.Gen.Corpus.C20
namespace Mistletoe.Proofs.Corpus
theorem chunk20_ok : Gen.Corpus.C20.examples.all SpecCheck.exampleOk = true := by decide +kernel
end Mistletoe.Proofs.Corpus
