/- C02, chunk 04 of the corpus: every example is evaluated by the kernel. -/
import Mistletoe.Model.SpecCheck
import Mistletoe.Gen.Corpus.C04
namespace Mistletoe.Proofs.Corpus
theorem chunk04_ok : Gen.Corpus.C04.examples.all SpecCheck.exampleOk = true := by decide +kernel
end Mistletoe.Proofs.Corpus
