/- C02, chunk 13 of the corpus: every example is evaluated by the kernel. -/
import Mistletoe.Model.SpecCheck
import Mistletoe.Gen.Corpus.C13
namespace Mistletoe.Proofs.Corpus
theorem chunk13_ok : Gen.Corpus.C13.examples.all SpecCheck.exampleOk = true := by decide +kernel
end Mistletoe.Proofs.Corpus
