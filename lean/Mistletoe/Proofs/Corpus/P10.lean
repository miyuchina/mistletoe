/- C02, chunk 10 of the corpus: every example is evaluated by the kernel. -/
import Mistletoe.Model.SpecCheck
import Mistletoe.Gen.Corpus.C10
namespace Mistletoe.Proofs.Corpus
theorem chunk10_ok : Gen.Corpus.C10.examples.all SpecCheck.exampleOk = true := by decide +kernel
end Mistletoe.Proofs.Corpus
