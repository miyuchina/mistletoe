/- C02, chunk 15 of the corpus: every example is evaluated by the kernel. -/
import Mistletoe.Model.SpecCheck
import Mistletoe.Gen.Corpus.C15
namespace Mistletoe.Proofs.Corpus
theorem chunk15_ok : Gen.Corpus.C15.examples.all SpecCheck.exampleOk = true := by decide +kernel
end Mistletoe.Proofs.Corpus
