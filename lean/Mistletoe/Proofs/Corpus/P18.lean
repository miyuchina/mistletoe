/- C02, chunk 18 of the corpus: every example is evaluated by the kernel. -/
import Mistletoe.Model.SpecCheck
import Mistletoe.Gen.Corpus.C18
namespace Mistletoe.Proofs.Corpus
theorem chunk18_ok : Gen.Corpus.C18.examples.all SpecCheck.exampleOk = true := by decide +kernel
end Mistletoe.Proofs.Corpus
