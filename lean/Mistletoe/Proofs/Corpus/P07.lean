/- C02, chunk 07 of the corpus: every example is evaluated by the kernel. -/
import Mistletoe.Model.SpecCheck
import Mistletoe.Gen.Corpus.C07
namespace Mistletoe.Proofs.Corpus
theorem chunk07_ok : Gen.Corpus.C07.examples.all SpecCheck.exampleOk = true := by decide +kernel
end Mistletoe.Proofs.Corpus
