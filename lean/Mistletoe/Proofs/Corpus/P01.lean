/- C02, chunk 01 of the corpus: every example is evaluated by the kernel. -/
import Mistletoe.Model.SpecCheck
import Mistletoe.Gen.Corpus.C01
namespace Mistletoe.Proofs.Corpus
theorem chunk01_ok : Gen.Corpus.C01.examples.all SpecCheck.exampleOk = true := by decide +kernel
end Mistletoe.Proofs.Corpus
