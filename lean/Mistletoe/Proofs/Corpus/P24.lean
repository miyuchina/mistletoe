/- C02, chunk 24 of the corpus: every example is evaluated by the kernel. -/
import Mistletoe.Model.SpecCheck
import Mistletoe.Gen.Corpus.C24
namespace Mistletoe.Proofs.Corpus
theorem chunk24_ok : Gen.Corpus.C24.examples.all SpecCheck.exampleOk = true := by decide +kernel
end Mistletoe.Proofs.Corpus
