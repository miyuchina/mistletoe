/- C02, chunk 12 of the corpus: every example is evaluated by the kernel. -/
import Mistletoe.Model.SpecCheck
import Mistletoe.Gen.Corpus.C12
namespace Mistletoe.Proofs.Corpus
theorem chunk12_ok : Gen.Corpus.C12.examples.all SpecCheck.exampleOk = true := by decide +kernel
end Mistletoe.Proofs.Corpus
