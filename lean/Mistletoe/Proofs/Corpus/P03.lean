/- C02, chunk 03 of the corpus: every example is evaluated by the kernel. -/
import Mistletoe.Model.SpecCheck
import Mistletoe.Gen.Corpus.C03
namespace Mistletoe.Proofs.Corpus
theorem chunk03_ok : Gen.Corpus.C03.examples.all SpecCheck.exampleOk = true := by decide +kernel
end Mistletoe.Proofs.Corpus
