/- C02, chunk 06 of the corpus: every example is evaluated by the kernel. -/
import Mistletoe.Model.SpecCheck
import Mistletoe.Gen.Corpus.C06
namespace Mistletoe.Proofs.Corpus
theorem chunk06_ok : Gen.Corpus.C06.examples.all SpecCheck.exampleOk = true := by decide +kernel
end Mistletoe.Proofs.Corpus
