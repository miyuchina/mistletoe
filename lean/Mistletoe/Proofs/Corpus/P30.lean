/- C02, chunk 30 of the corpus: every example is evaluated by the kernel. -/
import Mistletoe.Model.SpecCheck
import Mistletoe.Gen.Corpus.C30
namespace Mistletoe.Proofs.Corpus
theorem chunk30_ok : Gen.Corpus.C30.examples.all SpecCheck.exampleOk = true := by decide +kernel
end Mistletoe.Proofs.Corpus
