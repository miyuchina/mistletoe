/- C02, chunk 05 of the corpus: every example is evaluated by the kernel. -/
import Mistletoe.Model.SpecCheck
import Mistletoe.Gen.Corpus.C05
namespace Mistletoe.Proofs.Corpus
theorem chunk05_ok : Gen.Corpus.C05.examples.all SpecCheck.exampleOk = true := by decide +kernel
end Mistletoe.Proofs.Corpus
