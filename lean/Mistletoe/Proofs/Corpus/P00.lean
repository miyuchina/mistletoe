/- C02, chunk 00 of the corpus: every example is evaluated by the kernel. -/
import Mistletoe.Model.SpecCheck
import Mistletoe.Gen.Corpus.C00
namespace Mistletoe.Proofs.Corpus
theorem chunk00_ok : Gen.Corpus.C00.examples.all SpecCheck.exampleOk = true := by decide +kernel
end Mistletoe.Proofs.Corpus
