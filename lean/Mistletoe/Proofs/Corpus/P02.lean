/- C02, chunk 02 of the corpus: every example is evaluated by the kernel. -/
import Mistletoe.Model.SpecCheck
import Mistletoe.Gen.Corpus.C02
namespace Mistletoe.Proofs.Corpus
theorem chunk02_ok : Gen.Corpus.C02.examples.all SpecCheck.exampleOk = true := by decide +kernel
end Mistletoe.Proofs.Corpus
