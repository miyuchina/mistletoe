/- C02, chunk 25 of the corpus: every example is evaluated by the kernel. -/
import Mistletoe.Model.SpecCheck
import Mistletoe.Gen.Corpus.C25
namespace Mistletoe.Proofs.Corpus
theorem chunk25_ok : Gen.Corpus.C25.examples.all SpecCheck.exampleOk = true := by decide +kernel
end Mistletoe.Proofs.Corpus
