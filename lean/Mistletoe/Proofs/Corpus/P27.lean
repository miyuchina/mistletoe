/- C02, chunk 27 of the corpus: every example is evaluated by the kernel. -/
import Mistletoe.Model.SpecCheck
import Mistletoe.Gen.Corpus.C27
namespace Mistletoe.Proofs.Corpus
theorem chunk27_ok : Gen.Corpus.C27.examples.all SpecCheck.exampleOk = true := by decide +kernel
end Mistletoe.Proofs.Corpus
