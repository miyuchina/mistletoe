/- C02, chunk 17 of the corpus: every example is evaluated by the kernel. -/
import Mistletoe.Model.SpecCheck
import Mistletoe.Gen.Corpus.C17
namespace Mistletoe.Proofs.Corpus
theorem chunk17_ok : Gen.Corpus.C17.examples.all SpecCheck.exampleOk = true := by decide +kernel
end Mistletoe.Proofs.Corpus
