/- C02, chunk 23 of the corpus: every example is evaluated by the kernel. -/
import Mistletoe.Model.SpecCheck
import Mistletoe.Gen.Corpus.C23
namespace Mistletoe.Proofs.Corpus
theorem chunk23_ok : Gen.Corpus.C23.examples.all SpecCheck.exampleOk = true := by decide +kernel
end Mistletoe.Proofs.Corpus
