/- C02, chunk 26 of the corpus: every example is evaluated by the kernel. -/
import Mistletoe.Model.SpecCheck
import Mistletoe.Gen.Corpus.C26
namespace Mistletoe.Proofs.Corpus
theorem chunk26_ok : Gen.Corpus.C26.examples.all SpecCheck.exampleOk = true := by decide +kernel
end Mistletoe.Proofs.Corpus
