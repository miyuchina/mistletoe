/-
  C18 at TEXT level: parsing under the token lists of GithubWikiRenderer / MathJaxRenderer /
  TocRenderer / PygmentsRenderer gives the same document as parsing under HtmlRenderer's lists when
  the text does not use the extension (no "[[" resp. no '$'; Toc and Pygments install no token).

  The span resolver never reads `Cand.cls` (`tokenize_strip`, along the resolver's normal form
  `Span.resolveSorted_reverse`: sort, one fold of `evalNewChild`, `makeTokensRev`) and `build` looks matches up by
  `ord` (`builds_strip`), so `tokenizeInner` depends on the token list only through `findAll` (`tokenizeInner_eq`)
  and a class whose `find` returns nothing may be inserted (`tokenizeInner_insert`).  `LineInv Q R` lists the
  closure properties of a predicate `Q` on lines and `R` on inline texts under which (`blockPhase_inv`,
  simultaneous induction over `gas`) every line of the parse buffer that reaches the inline phase satisfies `Q`
  and every heading content `R`, at every nesting depth; hence `mkBlocks_congr`, `parseLines_congr_buf`
  (hypothesis on the parse buffer), `parse_insert`.  The instance here is Math (`noD_inv`: no '$'); the instance
  for GithubWiki and its theorems are in Proofs/ContribSame2.lean.
-/
import Mistletoe.Proofs.ConfigValues
import Mistletoe.Proofs.Block
import Mistletoe.Proofs.Span
import Mistletoe.Props.C18
import Mistletoe.Proofs.Lit
import Mistletoe.Proofs.ScanNone
import Mistletoe.Proofs.Pipeline

namespace Mistletoe.ContribSame
open Mistletoe Mistletoe.Py Mistletoe.Scan Mistletoe.InlineScan Mistletoe.Inline Mistletoe.Block

theorem findOne_math_nil (s : Str) (core : List Core.CoreM) (codes : List CodeM) (h : '$' ∉ s) :
    findOne s core codes .math = [] := by
  simp [findOne, findIter_nil_notin mathAt '$' mathAt_none s h]

/-! ### The resolver does not read `cls` -/

open Mistletoe.Span in
def stripC (c : Span.Cand) : Span.Cand := { c with cls := 0 }

open Mistletoe.Span

mutual
def stripP : PTok → PTok
  | .mk c kids => .mk (stripC c) (stripPs kids)
def stripPs : List PTok → List PTok
  | [] => []
  | p :: ps => stripP p :: stripPs ps
end

mutual
def stripO : Out → Out
  | .raw a b => .raw a b
  | .tok c kids => .tok (stripC c) (stripOs kids)
def stripOs : List Out → List Out
  | [] => []
  | o :: os => stripO o :: stripOs os
end

@[simp] theorem stripC_start (c : Cand) : (stripC c).start = c.start := rfl
@[simp] theorem stripC_stop (c : Cand) : (stripC c).stop = c.stop := rfl
@[simp] theorem stripC_ord (c : Cand) : (stripC c).ord = c.ord := rfl

theorem stripOs_append : ∀ (a b : List Out), stripOs (a ++ b) = stripOs a ++ stripOs b
  | [], _ => rfl
  | x :: xs, b => by simp [stripOs, stripOs_append xs b]

theorem stripP_c (p : PTok) : (stripP p).c = stripC p.c := by
  cases p; rfl

theorem relation_strip (x y : Cand) : relation (stripC x) (stripC y) = relation x y := rfl

mutual
theorem appendChild_strip : ∀ (p child : PTok), appendChild (stripP p) (stripP child) = stripP (appendChild p child)
  | .mk c kids, child => by
    simp only [stripP, appendChild]
    show (if c.inner = true then _ else _) = _
    split
    · simp only [stripP]; rw [evalNewChild_strip kids child]
    · simp only [stripP]
theorem evalNewChild_strip : ∀ (kids : List PTok) (child : PTok),
    evalNewChild (stripPs kids) (stripP child) = stripPs (evalNewChild kids child)
  | [], child => by simp [stripPs, evalNewChild]
  | last :: rest, child => by
    simp only [stripPs, evalNewChild, stripP_c, relation_strip]
    split
    · simp [stripPs]
    · show (if last.c.prec < child.c.prec then _ else _) = _
      split <;> simp [stripPs]
    · simp only [stripPs]; rw [appendChild_strip last child]
    · simp [stripPs]
end

/-- the one fold of the resolver (`Span.resolveSorted_reverse`: the top-level loop is `evalNewChild` on a virtual root) -/
theorem foldl_evalNewChild_strip : ∀ (ys a : List PTok),
    (stripPs ys).foldl evalNewChild (stripPs a) = stripPs (ys.foldl evalNewChild a)
  | [], _ => rfl
  | y :: ys, a => by
    simp only [stripPs, List.foldl_cons, evalNewChild_strip]
    exact foldl_evalNewChild_strip ys _

theorem leaves_strip : ∀ (cs : List Cand),
    (cs.map stripC).map (fun c => PTok.mk c []) = stripPs (cs.map (fun c => PTok.mk c []))
  | [] => rfl
  | c :: cs => by simp only [List.map_cons, stripPs, stripP, leaves_strip cs]

theorem insertByStart_strip (x : Cand) : ∀ (cs : List Cand),
    insertByStart (stripC x) (cs.map stripC) = (insertByStart x cs).map stripC
  | [] => rfl
  | y :: ys => by
    simp only [List.map_cons, insertByStart]
    show (if x.start ≤ y.start then _ else _) = _
    split
    · simp
    · simp [insertByStart_strip x ys]

theorem sortByStart_strip : ∀ (cs : List Cand), sortByStart (cs.map stripC) = (sortByStart cs).map stripC
  | [] => rfl
  | c :: cs => by
    show insertByStart (stripC c) (sortByStart (cs.map stripC)) = (insertByStart c (sortByStart cs)).map stripC
    rw [sortByStart_strip cs, insertByStart_strip]

mutual
theorem make_strip : ∀ (t : PTok), make (stripP t) = stripO (make t)
  | .mk c kids => by
    simp only [stripP, make]
    show (if c.inner = true then _ else _) = _
    split
    · simp only [stripO]
      rw [makeTokensRev_strip kids]; rfl
    · simp [stripO, stripOs]
theorem makeTokensRev_strip : ∀ (ts : List PTok) (s e : Nat),
    makeTokensRev (stripPs ts) s e = stripOs (makeTokensRev ts s e)
  | [], s, e => by
    simp only [stripPs, makeTokensRev]
    split <;> simp [stripOs, stripO]
  | t :: earlier, s, e => by
    simp only [stripPs, makeTokensRev, stripP_c, stripOs_append]
    rw [makeBefore_strip earlier, make_strip t]
    show _ ++ _ ++ (if t.c.stop ≠ e then _ else _) = _
    split <;> simp [stripOs, stripO]
theorem makeBefore_strip : ∀ (ts : List PTok) (s upto : Nat),
    makeBefore (stripPs ts) s upto = stripOs (makeBefore ts s upto)
  | [], s, upto => by
    simp only [stripPs, makeBefore]
    split <;> simp [stripOs, stripO]
  | t :: earlier, s, upto => by
    simp only [stripPs, makeBefore, stripP_c, stripOs_append]
    rw [makeBefore_strip earlier, make_strip t]
    show _ ++ _ ++ (if upto > t.c.stop then _ else _) = _
    split <;> simp [stripOs, stripO]
end

theorem tokenize_strip (cs : List Cand) (n : Nat) : tokenize (cs.map stripC) n = stripOs (tokenize cs n) := by
  simp only [tokenize, resolve, Span.resolveSorted_reverse, sortByStart_strip, leaves_strip]
  exact (congrArg (makeTokensRev · 0 n) (foldl_evalNewChild_strip _ [])).trans (makeTokensRev_strip _ 0 n)

mutual
/-- `ParseToken.make` looks the match up by `ord` only -/
theorem build_strip (s : Str) (found : List Found) : ∀ (o : Out), build s found (stripO o) = build s found o
  | .raw a b => rfl
  | .tok c kids => by
    have ih := builds_strip s found kids
    simp only [stripO, build, stripC_ord, ih]
theorem builds_strip (s : Str) (found : List Found) : ∀ (os : List Out), builds s found (stripOs os) = builds s found os
  | [] => rfl
  | o :: os => by
    simp only [stripOs, builds]
    rw [build_strip s found o, builds_strip s found os]
end

/-- the candidates with their class index forgotten: a function of `found` alone (with the class, `EmphHtml.candsF`) -/
def candsNoCls (found : List Found) : List Cand :=
  found.zipIdx.map (fun (f, i) =>
    { start := f.start, stop := f.stop, pstart := f.pstart, pend := f.pend, prec := prec f.cls,
      inner := parseInner f.cls, cls := 0, ord := i })

/-- **`tokenize_inner` in terms of `find_tokens` alone**: the token list enters only through `findAll` -/
theorem tokenizeInner_eq (types : List STok) (fn : Footnotes.Table) (s : Str) :
    tokenizeInner types fn s =
      (match findAll s types fn with
       | .err e => .err e
       | .ok found => .ok (builds s found (tokenize (candsNoCls found) s.length))) := by
  unfold tokenizeInner
  cases findAll s types fn with
  | err e => rfl
  | ok found =>
    simp only
    rw [← builds_strip, ← tokenize_strip]
    simp only [List.map_map, candsNoCls]
    rfl

theorem tokenizeInner_congr (types types' : List STok) (fn : Footnotes.Table) (s : Str)
    (h : findAll s types fn = findAll s types' fn) : tokenizeInner types fn s = tokenizeInner types' fn s := by
  rw [tokenizeInner_eq, tokenizeInner_eq, h]

theorem findAll_insert (pre post : List STok) (x : STok) (fn : Footnotes.Table) (s : Str)
    (hx : ∀ core codes, findOne s core codes x = []) :
    findAll s (pre ++ x :: post) fn = findAll s (pre ++ post) fn := by
  have hne : x ≠ .coreTokens := by
    intro e
    have := hx [default] []
    rw [e] at this
    simp [findOne] at this
  have hc : (pre ++ x :: post).contains .coreTokens = (pre ++ post).contains .coreTokens := by
    rw [Bool.eq_iff_iff]
    simp only [List.contains_eq_mem, List.mem_append, List.mem_cons, decide_eq_true_eq]
    constructor
    · rintro (h | h | h)
      · exact Or.inl h
      · exact absurd h.symm hne
      · exact Or.inr h
    · rintro (h | h)
      · exact Or.inl h
      · exact Or.inr (Or.inr h)
  unfold findAll
  rw [hc]
  simp only
  split
  · rfl
  · simp [hx]

/-- **inserting a token class whose `find` returns nothing on `s` does not change `tokenize_inner(s)`**
    (the class indexes of the classes behind the insertion point shift by one; the resolver never
    reads them) -/
theorem tokenizeInner_insert (pre post : List STok) (x : STok) (fn : Footnotes.Table) (s : Str)
    (hx : ∀ core codes, findOne s core codes x = []) :
    tokenizeInner (pre ++ x :: post) fn s = tokenizeInner (pre ++ post) fn s :=
  tokenizeInner_congr _ _ fn s (findAll_insert pre post x fn s hx)


open Mistletoe.Document

theorem headingTail_prefix : ∀ (r acc g2 g3 : Str), headingTail r acc = some (g2, g3) → g2 <+: acc.reverse ++ r
  | [], acc, g2, g3, h => by
    simp only [headingTail] at h
    split at h
    · cases h; simp
    · cases h
  | c :: rest, acc, g2, g3, h => by
    simp only [headingTail] at h
    split at h
    · cases h; exact List.prefix_append _ _
    · split at h
      · cases h; exact List.prefix_append _ _
      · have := headingTail_prefix rest (c :: acc) g2 g3 h
        simpa using this

theorem upTo3_suffix (line : Str) (n : Nat) (r : Str) (h : upTo3Spaces line = some (n, r)) : r <:+ line := by
  unfold upTo3Spaces at h
  simp only at h
  split at h
  · cases h
  · cases h; exact List.drop_suffix _ _

theorem heading_g2_infix (line : Str) (m : HeadingMatch) (g : Str) (h : Scan.heading line = some m) (hg : m.g2 = some g) :
    g <:+: line := by
  unfold Scan.heading at h
  split at h
  · cases h
  · rename_i n r hu
    have hr := upTo3_suffix line n r hu
    simp only at h
    split at h
    · cases h
    · have hs := span_suffix (· == '#') r
      split at h
      · cases h; cases hg
      · rename_i c r2 _ heq
        split at h
        · split at h
          · rename_i g2 g3 ht
            cases h
            cases hg
            have hp := headingTail_prefix r2 [] g g3 ht
            simp only [List.reverse_nil, List.nil_append] at hp
            have h2 : r2 <:+ r := by
              have := (List.suffix_cons c r2).trans (heq ▸ hs)
              exact this
            exact hp.isInfix.trans (h2.trans hr).isInfix
          · cases h
        · cases h
      · cases h

/-- closure properties of a predicate `Q` on the lines the block phase handles and a predicate `R` on
    the strings handed to `tokenize_inner` -/
structure LineInv (Q R : Str → Prop) : Prop where
  suffix : ∀ s t, Q s → t <:+ s → Q t
  spaces : ∀ s n, Q s → Q (List.replicate n ' ' ++ s)
  gt : ∀ s, Q s → Q ('>' :: s)
  tab : ∀ s, Q s → Q (replaceFirst ['>', '\t'] [' ', ' ', ' '] s)
  nl : Q ['\n']
  nlcut : ∀ a b, Q (a ++ '\n' :: b) → Q (a ++ ['\n'])
  toR : ∀ s u, Q s → u <:+: s → R u
  flat : ∀ ls : List Str, (∀ l ∈ ls, Q l) → R ls.flatten
  rinfix : ∀ s u, R s → u <:+: s → R u
  rnil : R []
  join : ∀ ls : List Str, (∀ l ∈ ls, R l) → R (joinNl ls)
  unesc : ∀ n p t, R t → R (unescapePipes n p t)

def AllQ (Q : Str → Prop) (ls : List Line) : Prop := ∀ l ∈ ls, Q l.s

section Readers
variable {Q R : Str → Prop}

theorem readHeading_R (inv : LineInv Q R) (fw : FW) (line : Str) (lvl : Nat) (c cl : Str) (fw' : FW) (hq : Q line)
    (h : readHeading fw line = some (lvl, c, cl, fw')) : R c := by
  obtain ⟨m, hm, -, rfl, -⟩ := readHeading_ok h
  split
  · exact inv.rnil
  · cases hg : m.g2 with
    | none => simp only [Option.getD_none]; exact inv.rinfix [] _ inv.rnil (Strip.strip_infix [])
    | some g =>
      simp only [Option.getD_some]
      exact inv.toR line _ hq ((Strip.strip_infix g).trans (heading_g2_infix line m g hm hg))

theorem paragraphLoop_Q (cfg : Block.Cfg) (so : Bool) : ∀ (fuel : Nat) (fw : FW) (buf : List Str) (r),
    paragraphLoop cfg so fuel fw buf = .ok r → AllQ Q fw.lines → (∀ x ∈ buf, Q x) → ∀ x ∈ r.1, Q x
  | 0, _, _, _, h, _, _ => by simp [paragraphLoop] at h
  | fuel + 1, fw, buf, r, h, hl, hb => by
    have push : ∀ l, fw.peek = some l → ∀ x ∈ l.s :: buf, Q x :=
      fun l hp => List.forall_mem_cons.mpr ⟨hl l (peek_mem fw l hp), hb⟩
    rcases paragraphLoop_ok h with rfl | ⟨l, hp, _, rfl | h'⟩
    · exact hb
    · exact push l hp
    · exact paragraphLoop_Q cfg so fuel fw.next _ r h' hl (push l hp)

theorem readParagraph_Q (cfg : Block.Cfg) (so : Bool) (fw : FW) (l0 : Str) (r)
    (h : readParagraph cfg so fw l0 = .ok r) (hl : AllQ Q fw.lines) (h0 : Q l0) : ∀ x ∈ r.1, Q x := by
  obtain ⟨buf, heq, hb⟩ := readParagraph_ok h
  have := paragraphLoop_Q cfg so _ fw.next [l0] _ heq hl (List.forall_mem_singleton.mpr h0)
  intro x hx
  exact this x (by simpa [hb] using hx)

theorem readTable_Q (fw : FW) (b : List Str) (sl : Nat) (fw' : FW) (h : readTable fw = some (b, sl, fw'))
    (hl : AllQ Q fw.lines) : ∀ x ∈ b, Q x := by
  obtain ⟨l0, hp, rfl, _⟩ := readTable_ok h
  obtain ⟨taken, rest, hd, h1, -, -⟩ := loop_taken (fun _ _ _ => tableStep_push) (fw.remaining + 1) fw.next [l0.s]
  rw [tableLoop_eq, h1]
  intro x hx
  simp only [List.reverse_append, List.reverse_reverse, List.reverse_singleton, List.singleton_append, List.mem_cons,
    List.mem_map] at hx
  rcases hx with rfl | ⟨l, hm, rfl⟩
  · exact hl l0 (peek_mem fw l0 hp)
  · exact hl l (List.mem_of_mem_drop (hd ▸ List.mem_append_left _ hm))

theorem convertLeadingTabs_Q (inv : LineInv Q R) (s t : Str) (hq : Q s) (h : convertLeadingTabs s = .ok t) : Q t := by
  unfold convertLeadingTabs at h
  have hr := inv.tab s hq
  simp only at h
  split at h
  · cases h
  · split at h
    · cases h; exact hr
    · cases h
      exact inv.gt _ (inv.spaces _ _ (inv.suffix _ _ hr (List.drop_suffix _ _)))

theorem quoteLoop_Q (inv : LineInv Q R) (cfg : Block.Cfg) (fuel : Nat) (fw : FW) (buf : List Line) (fl : QFlags) (r)
    (h : quoteLoop cfg fuel fw buf fl = .ok r) (hl : AllQ Q fw.lines) (hb : AllQ Q buf) : AllQ Q r.1 ∧ r.2.lines = fw.lines :=
  ⟨(quoteLoop_reads cfg fuel fw buf fl r h).all (P := fun l => Q l.s) (fun l p hp hq => by
      rcases hp with rfl | ⟨t, c1, hcv, _, rfl⟩
      · exact hq
      · exact inv.suffix _ _ (convertLeadingTabs_Q inv _ _ (inv.suffix _ _ hq (Strip.lstrip_suffix _)) hcv) (List.drop_suffix _ _))
    hl hb, (quoteLoop_reads cfg fuel fw buf fl r h).1.1⟩

theorem dropSp_Q (inv : LineInv Q R) : ∀ (after : Str), Q after → Q (match after with | ' ' :: r => r | r => r) := by
  intro after h
  split
  · exact inv.suffix _ _ h (List.suffix_cons _ _)
  · exact h

theorem quoteLines_Q (inv : LineInv Q R) (cfg : Block.Cfg) (fw : FW) (l0 : Line) (r) (h : quoteLines cfg fw l0 = .ok r)
    (hl : AllQ Q fw.lines) (h0 : Q l0.s) : AllQ Q r.1 ∧ r.2.2.lines = fw.lines := by
  obtain ⟨t, a, after, buf, fw2, hcv, hso, heq, rfl⟩ := quoteLines_ok h
  have hst : Q t := convertLeadingTabs_Q inv _ _ (inv.suffix _ _ h0 (Strip.lstrip_suffix _)) hcv
  have hsp := splitOnce_spec '>' t a after hso
  have h1 : Q after := inv.suffix _ _ hst ⟨a ++ ['>'], by rw [hsp]; simp⟩
  have := quoteLoop_Q inv cfg _ fw.next _ _ _ heq hl (List.forall_mem_singleton.mpr (dropSp_Q inv after h1))
  exact ⟨fun x hx => this.1 x (by simpa using hx), this.2⟩

theorem parseMarker_Q (inv : LineInv Q R) (line : Str) (m : Nat × Nat × Str × Str) (hq : Q line) (h : parseMarker line = some m) :
    Q m.2.2.2 := by
  unfold parseMarker at h
  split at h
  · cases h
  · rename_i im hi
    have hs := inv.suffix _ _ hq ⟨_, (listItem_decomp line im hi).1.symm⟩
    simp only at h
    split at h
    · cases h; exact inv.spaces _ _ hs
    · cases h; exact hs

theorem expandtabsAux_spaces : ∀ (s : Str) (col : Nat), (∀ x ∈ s, (x == ' ' || x == '\t') = true) →
    ∃ k, expandtabsAux s col = List.replicate k ' '
  | [], _, _ => ⟨0, rfl⟩
  | c :: rest, col, h => by
    have hc := h c (List.mem_cons_self ..)
    have hr : ∀ x ∈ rest, (x == ' ' || x == '\t') = true := fun x hx => h x (List.mem_cons_of_mem _ hx)
    simp only [expandtabsAux]
    split
    · obtain ⟨k, hk⟩ := expandtabsAux_spaces rest (col + (4 - col % 4)) hr
      exact ⟨(4 - col % 4) + k, by rw [hk, List.replicate_append_replicate]⟩
    · rename_i hne
      have hsp : c = ' ' := by
        simp only [Bool.or_eq_true, beq_iff_eq] at hc
        rcases hc with e | e
        · exact e
        · exact absurd e hne
      subst hsp
      split
      · rename_i hh; rcases hh with e | e <;> exact absurd e (by decide)
      · obtain ⟨k, hk⟩ := expandtabsAux_spaces rest (col + 1) hr
        exact ⟨k + 1, by rw [hk]; rfl⟩

/-- the two groups of the continuation pattern: blanks, and a piece of the line cut after its newline -/
theorem continuation_Q (inv : LineInv Q R) (line g1 g2 : Str) (hq : Q line) (hc : continuation line = some (g1, g2)) :
    (∀ x ∈ g1, (x == ' ' || x == '\t') = true) ∧ Q g2 := by
  unfold continuation at hc
  simp only at hc
  have hg1 := span_all (fun c => c == ' ' || c == '\t') line
  have hsuf := span_suffix (fun c => c == ' ' || c == '\t') line
  split at hc
  · cases hc; exact ⟨hg1, inv.nl⟩
  · split at hc
    · cases hc
    · split at hc
      · cases hc
        rename_i c rest _ heq _ _ tail hr2
        refine ⟨hg1, ?_⟩
        have h1 : Q (c :: rest) := inv.suffix _ _ hq (heq ▸ hsuf)
        have h2 := span_append (· != '\n') rest
        rw [hr2] at h2
        rw [← h2] at h1
        exact inv.nlcut (c :: (span (· != '\n') rest).1) tail h1
      · cases hc
  · cases hc

theorem parseContinuation_Q (inv : LineInv Q R) (line : Str) (p : Nat) (cont : Str) (hq : Q line)
    (h : parseContinuation line p = some cont) : Q cont := by
  unfold parseContinuation at h
  split at h
  · cases h
  · rename_i g1 g2 hc
    obtain ⟨hg1, hg2⟩ := continuation_Q inv line g1 g2 hq hc
    split at h
    · cases h; exact inv.nl
    · simp only at h
      split at h
      · cases h
        obtain ⟨k, hk⟩ := expandtabsAux_spaces g1 0 hg1
        rw [expandtabs, hk, List.drop_replicate]
        exact inv.spaces _ _ hg2
      · cases h

def MarkerQ (Q : Str → Prop) (nm : Option (Nat × Nat × Str × Str)) : Prop := ∀ m, nm = some m → Q m.2.2.2

theorem itemLoop_Q (inv : LineInv Q R) (cfg : Block.Cfg) (prepend : Nat) (fuel : Nat) (fw : FW) (buf : List Line) (nl : Nat) (r)
    (h : itemLoop cfg prepend fuel fw buf nl = .ok r) (hl : AllQ Q fw.lines) (hb : AllQ Q buf) :
    AllQ Q r.1 ∧ r.2.1.lines = fw.lines ∧ MarkerQ Q r.2.2 :=
  have hs := (itemLoop_reads cfg prepend fuel fw buf nl r h).1.1
  ⟨(itemLoop_reads cfg prepend fuel fw buf nl r h).all (P := fun l => Q l.s) (fun l p hp hq => by
      rcases hp with rfl | ⟨cont, hcont, rfl⟩
      · exact hq
      · exact parseContinuation_Q inv _ _ _ hq hcont)
    hl hb, hs, fun m hm => by
      obtain ⟨l, hpl, hpm⟩ := itemLoop_next_marker cfg prepend fuel fw buf nl r h m hm
      exact parseMarker_Q inv l.s m (hl l (hs ▸ peek_mem _ l hpl)) hpm⟩

theorem itemLines_Q (inv : LineInv Q R) (cfg : Block.Cfg) (fw : FW) (prev) (il : ItemLines) (h : itemLines cfg fw prev = .ok il)
    (hl : AllQ Q fw.lines) (hprev : MarkerQ Q prev) :
    match il with
    | .empty _ _ _ _ _ next fw' => fw'.lines = fw.lines ∧ MarkerQ Q next
    | .lines buf _ _ _ _ _ _ next fw' => AllQ Q buf ∧ fw'.lines = fw.lines ∧ MarkerQ Q next := by
  obtain ⟨l0, ind, pre0, ld, content, hp, hmk, hcase⟩ := itemLines_ok h
  have hmok : Q content := by
    cases prev with
    | some m => simp only [Option.some.injEq] at hmk; subst hmk; exact hprev _ rfl
    | none => exact parseMarker_Q inv l0.s _ (hl l0 (peek_mem fw l0 hp)) hmk
  have hsk : (skipBlanks (fw.remaining + 1) fw.next 1).1.lines = fw.lines :=
    skipBlanks_lines (fw.remaining + 1) fw.next 1
  rcases hcase with ⟨_, _, rfl⟩ | ⟨_, _, buf, fw3, next, heq, rfl⟩ | ⟨_, buf, fw3, next, heq, rfl⟩
  · refine ⟨hsk, fun m hm => ?_⟩
    split at hm
    · rename_i l hpl
      exact parseMarker_Q inv l.s m (hl l (hsk ▸ peek_mem _ l hpl)) hm
    · cases hm
  · have := itemLoop_Q inv cfg _ _ _ _ _ _ heq (by rw [hsk]; exact hl) (by intro x hx; cases hx)
    exact ⟨fun x hx => this.1 x (by simpa using hx), this.2.1.trans hsk, this.2.2⟩
  · have := itemLoop_Q inv cfg _ _ fw.next _ _ _ heq hl (List.forall_mem_singleton.mpr hmok)
    exact ⟨fun x hx => this.1 x (by simpa using hx), this.2.1, this.2.2⟩

end Readers


mutual
/-- every line of a leaf entry that reaches the inline phase satisfies `Q`, every heading content `R` -/
def EntryQ (Q R : Str → Prop) : Entry → Prop
  | .blockCode _ _ _ => True
  | .heading _ content _ _ _ => R content
  | .quote inner _ _ _ => EntriesQ Q R inner
  | .codeFence _ _ _ _ _ _ _ => True
  | .thematicBreak _ _ _ => True
  | .list items _ _ => ItemsQ Q R items
  | .table lines _ _ _ => ∀ l ∈ lines, Q l
  | .footnote _ _ _ => True
  | .linkRefDefs _ _ _ => True
  | .paragraph lines _ _ => ∀ l ∈ lines, Q l
  | .setext lines _ _ => ∀ l ∈ lines, Q l
  | .htmlBlock _ _ _ => True
  | .blankLine _ _ => True
def EntriesQ (Q R : Str → Prop) : List Entry → Prop
  | [] => True
  | e :: es => EntryQ Q R e ∧ EntriesQ Q R es
def ItemQ (Q R : Str → Prop) : Item → Prop
  | .mk inner _ _ _ _ _ _ => EntriesQ Q R inner
def ItemsQ (Q R : Str → Prop) : List Item → Prop
  | [] => True
  | i :: is => ItemQ Q R i ∧ ItemsQ Q R is
end

section Induction
variable {Q R : Str → Prop}

theorem entriesQ_append : ∀ (a b : List Entry), EntriesQ Q R a → EntriesQ Q R b → EntriesQ Q R (a ++ b)
  | [], _, _, hb => by simpa using hb
  | x :: xs, b, ha, hb => by
    simp only [List.cons_append, EntriesQ] at ha ⊢
    exact ⟨ha.1, entriesQ_append xs b ha.2 hb⟩

theorem entriesQ_reverse : ∀ (a : List Entry), EntriesQ Q R a → EntriesQ Q R a.reverse
  | [], _ => by simp [EntriesQ]
  | x :: xs, h => by
    simp only [EntriesQ] at h
    rw [List.reverse_cons]
    exact entriesQ_append _ _ (entriesQ_reverse xs h.2) (by simp [EntriesQ, h.1])

theorem itemsQ_append : ∀ (a b : List Item), ItemsQ Q R a → ItemsQ Q R b → ItemsQ Q R (a ++ b)
  | [], _, _, hb => by simpa using hb
  | x :: xs, b, ha, hb => by
    simp only [List.cons_append, ItemsQ] at ha ⊢
    exact ⟨ha.1, itemsQ_append xs b ha.2 hb⟩

theorem itemsQ_reverse : ∀ (a : List Item), ItemsQ Q R a → ItemsQ Q R a.reverse
  | [], _ => by simp [ItemsQ]
  | x :: xs, h => by
    simp only [ItemsQ] at h
    rw [List.reverse_cons]
    exact itemsQ_append _ _ (itemsQ_reverse xs h.2) (by simp [ItemsQ, h.1])

def TokQ (Q R : Str → Prop) (cfg : Block.Cfg) (gas : Nat) : Prop :=
  ∀ (lines : List Line) (start : Nat) (st : St) (b : Buf) (st' : St),
    tokenizeBlock cfg gas lines start st = .ok (b, st') → AllQ Q lines → EntriesQ Q R b.entries

def LoopQ (Q R : Str → Prop) (cfg : Block.Cfg) (gas : Nat) : Prop :=
  ∀ (fw : FW) (st : St) (acc : List Entry) (loose : Bool) (b) (st'),
    tokLoop cfg gas fw st acc loose = .ok (b, st') → AllQ Q fw.lines → EntriesQ Q R acc → EntriesQ Q R b.entries

def TryQ (Q R : Str → Prop) (cfg : Block.Cfg) (gas : Nat) : Prop :=
  ∀ (fw : FW) (st : St) (l : Line) (ts : List BTok) (e : Entry) (fw' : FW) (st' : St),
    tryTypes cfg gas fw st l ts = .ok (some (e, fw', st')) → AllQ Q fw.lines → Q l.s →
    fw'.lines = fw.lines ∧ EntryQ Q R e

def ListQ (Q R : Str → Prop) (cfg : Block.Cfg) (gas : Nat) : Prop :=
  ∀ (fw : FW) (st : St) (ld) (nm) (acc : List Item) (r),
    readList cfg gas fw st ld nm acc = .ok r → AllQ Q fw.lines → ItemsQ Q R acc → MarkerQ Q nm →
    r.2.1.lines = fw.lines ∧ ItemsQ Q R r.1

theorem itemsQ_lastTight : ∀ (items : List Item), ItemsQ Q R items → ItemsQ Q R (lastTight items)
  | [], h => h
  | .mk .. :: _, h => h

theorem list_Q (inv : LineInv Q R) (cfg : Block.Cfg) (gas : Nat) (hT : TokQ Q R cfg gas) (hL : ListQ Q R cfg gas) :
    ListQ Q R cfg (gas + 1) := by
  intro fw st ld nm acc r h hl hacc hnm
  rcases readList_ok h with ⟨_, rfl⟩ | ⟨il, item, st', hil, hit, hr⟩
  · exact ⟨rfl, itemsQ_reverse _ (itemsQ_lastTight _ hacc)⟩
  have hq := itemLines_Q inv cfg fw nm il hil hl hnm
  have hk : il.fw.lines = fw.lines ∧ ItemQ Q R item ∧ MarkerQ Q il.next := by
    rcases readItem_ok hit with ⟨_, _, _, _, _, _, _, rfl, rfl, _⟩ | ⟨_, _, _, _, _, _, _, _, _, b, rfl, hb, rfl⟩
    · exact ⟨hq.1, trivial, hq.2⟩
    · exact ⟨hq.2.1, hT _ _ _ _ _ hb hq.1, hq.2.2⟩
  have hacc' : ItemsQ Q R (item :: acc) := ⟨hk.2.1, hacc⟩
  rcases hr with ⟨_, rfl⟩ | ⟨_, h⟩
  · exact ⟨hk.1, itemsQ_reverse _ (itemsQ_lastTight _ hacc')⟩
  · have := hL il.fw st' _ _ _ r h (by rw [hk.1]; exact hl) hacc' hk.2.2
    exact ⟨this.1.trans hk.1, this.2⟩

theorem try_Q (inv : LineInv Q R) (cfg : Block.Cfg) (gas : Nat) (hT : TokQ Q R cfg gas) (hL : ListQ Q R cfg gas)
    (hY : TryQ Q R cfg gas) : TryQ Q R cfg (gas + 1) := by
  intro fw st l ts e fw' st' h hl hq
  cases ts with
  | nil => simp [tryTypes] at h
  | cons t ts =>
    have ih := fun fw2 st2 (h2 : tryTypes cfg gas fw2 st2 l ts = .ok (some (e, fw', st'))) (hs : fw2.lines = fw.lines) =>
      (fun r => (⟨r.1.trans hs, r.2⟩ : fw'.lines = fw.lines ∧ EntryQ Q R e))
        (hY fw2 st2 l ts e fw' st' h2 (by rw [hs]; exact hl) hq)
    rcases tryTypes_some h with ⟨_, _, h⟩ | ⟨ms, fwf, _, _, _, hf, _, h⟩ | ⟨_, ec, _⟩ | _ | ⟨lvl, c, cl, _, hh⟩ |
      ⟨qls, qstart, _, b, stb, _, hqq, hb⟩ | ⟨m, _⟩ | _ | ⟨items, _, _, _, hrl⟩ | ⟨b, sl, _, _, ht⟩ |
      ⟨ms, _, _, hf, _⟩ | ⟨ms, _, _, hf, _⟩ | ⟨b, _, _, hpp⟩ | ⟨b, _, _, hpp⟩ | _
    · exact ih fw st h rfl
    · exact ih fwf _ h (readFootnote_same fw ms fwf hf).1
    · exact ⟨(readHtmlBlock_same fw ec).1, trivial⟩
    · exact ⟨(readBlockCode_same fw).1, trivial⟩
    · exact ⟨(readHeading_same fw l.s _ hh).1, readHeading_R inv fw l.s lvl c cl _ hq hh⟩
    · have hql := quoteLines_Q inv cfg fw l _ hqq hl hq
      exact ⟨hql.2, hT _ _ _ _ _ hb hql.1⟩
    · exact ⟨(readCodeFence_same fw m).1, trivial⟩
    · exact ⟨rfl, trivial⟩
    · exact hL fw st none none [] _ hrl hl trivial (fun m hm => by cases hm)
    · exact ⟨(readTable_same fw _ ht).1.1, readTable_Q fw b sl _ ht hl⟩
    · exact ⟨(readFootnote_same fw ms _ hf).1, trivial⟩
    · exact ⟨(readFootnote_same fw ms _ hf).1, trivial⟩
    · exact ⟨(readParagraph_same cfg _ fw l.s _ hpp).1, readParagraph_Q cfg _ fw l.s _ hpp hl hq⟩
    · exact ⟨(readParagraph_same cfg _ fw l.s _ hpp).1, readParagraph_Q cfg _ fw l.s _ hpp hl hq⟩
    · exact ⟨rfl, trivial⟩

theorem loop_Q (cfg : Block.Cfg) (gas : Nat) (hY : TryQ Q R cfg gas) (hP : LoopQ Q R cfg gas) : LoopQ Q R cfg (gas + 1) := by
  intro fw st acc loose b st' h hl hacc
  rcases tokLoop_ok h with ⟨_, rfl, rfl⟩ | ⟨l, hp, ⟨e, fw2, st2, ht, h⟩ | ⟨_, h⟩⟩
  · exact entriesQ_reverse acc hacc
  · have := hY fw st l cfg.types e fw2 st2 ht hl (hl l (peek_mem fw l hp))
    exact hP fw2 st2 _ loose b st' h (by rw [this.1]; exact hl) ⟨this.2, hacc⟩
  · exact hP fw.next st acc true b st' h hl hacc

theorem tok_Q (cfg : Block.Cfg) (gas : Nat) (hP : LoopQ Q R cfg gas) : TokQ Q R cfg (gas + 1) := by
  intro lines start st b st' h hl
  simp only [tokenizeBlock] at h
  exact hP _ _ _ _ _ _ h hl trivial

theorem all_Q (inv : LineInv Q R) (cfg : Block.Cfg) :
    ∀ (gas : Nat), TokQ Q R cfg gas ∧ LoopQ Q R cfg gas ∧ TryQ Q R cfg gas ∧ ListQ Q R cfg gas
  | 0 => by
    refine ⟨?_, ?_, ?_, ?_⟩
    · intro lines start st b st' h; simp [tokenizeBlock] at h
    · intro fw st acc loose b st' h; simp [tokLoop] at h
    · intro fw st l ts e fw' st' h; simp [tryTypes] at h
    · intro fw st ld nm acc r h; simp [readList] at h
  | gas + 1 => by
    obtain ⟨hT, hP, hY, hL⟩ := all_Q inv cfg gas
    exact ⟨tok_Q cfg gas hP, loop_Q cfg gas hY hP, try_Q inv cfg gas hT hL hY, list_Q inv cfg gas hT hL⟩

theorem blockPhase_inv (inv : LineInv Q R) (cfg : Block.Cfg) (gas : Nat) (lines : List Str) (b : Buf) (st : St)
    (hq : ∀ s ∈ lines, Q s) (h : blockPhase cfg gas lines = .ok (b, st)) : EntriesQ Q R b.entries := by
  refine (all_Q inv cfg gas).1 _ 1 {} b st h ?_
  intro l hl
  obtain ⟨⟨s, i⟩, hm, rfl⟩ := List.mem_map.mp hl
  exact hq s (List.mem_zipIdx hm |>.2.2 ▸ List.getElem_mem _) 

end Induction


/-! ### the block token constructors under two span-token lists -/

theorem splitPipes_infix : ∀ (s : Str) (p : Option Char) (cur : Str), ∀ cell ∈ splitPipes s p cur, cell <:+: cur.reverse ++ s
  | [], p, cur, cell, h => by
    simp only [splitPipes, List.mem_singleton] at h
    subst h; simp
  | c :: rest, p, cur, cell, h => by
    simp only [splitPipes] at h
    split at h
    · rcases List.mem_cons.mp h with rfl | h
      · exact (List.prefix_append _ _).isInfix
      · have := splitPipes_infix rest (some c) [] cell h
        simp only [List.reverse_nil, List.nil_append] at this
        exact this.trans ((List.suffix_cons c rest).isInfix.trans (List.suffix_append _ _).isInfix)
    · have := splitPipes_infix rest (some c) (c :: cur) cell h
      simpa using this

theorem zipLongest_mem : ∀ (cs : List Str) (as : List (Option Nat)), ∀ z ∈ zipLongest cs as, ∀ c, z.1 = some c → c ∈ cs
  | [], as, z, hz, c, hc => by
    simp only [zipLongest, List.mem_map] at hz
    obtain ⟨a, _, rfl⟩ := hz
    cases hc
  | x :: xs, [], z, hz, c, hc => by
    simp only [zipLongest] at hz
    rcases List.mem_cons.mp hz with rfl | hz
    · cases hc; exact List.mem_cons_self ..
    · exact List.mem_cons_of_mem _ (zipLongest_mem xs [] z hz c hc)
  | x :: xs, a :: as, z, hz, c, hc => by
    simp only [zipLongest] at hz
    rcases List.mem_cons.mp hz with rfl | hz
    · cases hc; exact List.mem_cons_self ..
    · exact List.mem_cons_of_mem _ (zipLongest_mem xs as z hz c hc)

section Congr
variable {Q R : Str → Prop}

def InlSame (R : Str → Prop) (cfg' cfg : Document.Cfg) (fn : Footnotes.Table) : Prop :=
  ∀ u, R u → inl cfg' fn u = inl cfg fn u

theorem tableRow_go_congr (inv : LineInv Q R) (cfg' cfg : Document.Cfg) (fn : Footnotes.Table)
    (H : InlSame R cfg' cfg fn) (ln : Nat) :
    ∀ (zs : List (Option Str × Option Nat)), (∀ z ∈ zs, ∀ c, z.1 = some c → R c) →
      tableRow.go cfg' fn ln zs = tableRow.go cfg fn ln zs
  | [], _ => by simp only [tableRow.go]
  | (c, a) :: rest, hz => by
    have ih := tableRow_go_congr inv cfg' cfg fn H ln rest (fun z hm => hz z (List.mem_cons_of_mem _ hm))
    cases c with
    | none =>
      simp only [tableRow.go]
      rw [H [] inv.rnil, ih]
    | some cell =>
      have hc : R cell := hz _ (List.mem_cons_self ..) cell rfl
      have hr : R (unescapePipes ((strip cell).length + 1) none (strip cell)) :=
        inv.unesc _ _ _ (inv.rinfix _ _ hc (Strip.strip_infix cell))
      simp only [tableRow.go]
      rw [H _ hr, ih]

theorem tableRow_congr (inv : LineInv Q R) (cfg' cfg : Document.Cfg) (fn : Footnotes.Table)
    (H : InlSame R cfg' cfg fn) (line : Str) (hq : Q line) (al : List (Option Nat)) (ln : Nat) :
    tableRow cfg' fn line al ln = tableRow cfg fn line al ln := by
  unfold Document.tableRow
  simp only
  rw [tableRow_go_congr inv cfg' cfg fn H ln]
  intro z hz c hc
  have hm := zipLongest_mem _ _ z hz c hc
  have hm2 := (List.mem_filter.mp hm).1
  have := splitPipes_infix _ _ _ c hm2
  simp only [List.reverse_nil, List.nil_append] at this
  exact inv.toR line c hq (this.trans (Strip.strip_infix line))

theorem tableRows_congr (inv : LineInv Q R) (cfg' cfg : Document.Cfg) (fn : Footnotes.Table)
    (H : InlSame R cfg' cfg fn) : ∀ (ls : List Str), (∀ l ∈ ls, Q l) → ∀ (al : List (Option Nat)) (ln : Nat),
    tableRows cfg' fn ls al ln = tableRows cfg fn ls al ln
  | [], _, _, _ => by simp only [tableRows]
  | l :: rest, hq, al, ln => by
    simp only [tableRows]
    rw [tableRow_congr inv cfg' cfg fn H l (hq l (List.mem_cons_self ..)),
      tableRows_congr inv cfg' cfg fn H rest (fun x hx => hq x (List.mem_cons_of_mem _ hx))]

mutual
theorem mkBlock_congr (inv : LineInv Q R) (cfg' cfg : Document.Cfg) (fn : Footnotes.Table) (H : InlSame R cfg' cfg fn) :
    ∀ (e : Entry), EntryQ Q R e → mkBlock cfg' fn e = mkBlock cfg fn e
  | .blockCode .., _ => by simp only [mkBlock]
  | .heading lvl content closing ln og, hq => by
    simp only [mkBlock]; rw [H content hq]
  | .quote inner lo ln og, hq => by
    simp only [mkBlock]; rw [mkBlocks_congr inv cfg' cfg fn H inner hq]
  | .codeFence .., _ => by simp only [mkBlock]
  | .thematicBreak .., _ => by simp only [mkBlock]
  | .list items ln og, hq => by
    simp only [mkBlock]; rw [mkItems_congr inv cfg' cfg fn H items hq]
  | .table lines sl ln og, hq => by
    match lines, hq with
    | [], _ => simp only [mkBlock]
    | [_], _ => simp only [mkBlock]
    | l0 :: l1 :: rest, hq =>
      have e1 := tableRow_congr inv cfg' cfg fn H l0 (hq l0 (List.mem_cons_self ..))
      have e2 := tableRows_congr inv cfg' cfg fn H rest
        (fun x hx => hq x (List.mem_cons_of_mem _ (List.mem_cons_of_mem _ hx)))
      have e3 := tableRows_congr inv cfg' cfg fn H (l0 :: l1 :: rest) hq
      simp only [mkBlock, e1, e2, e3]
  | .footnote .., _ => by simp only [mkBlock]
  | .linkRefDefs .., _ => by simp only [mkBlock]
  | .paragraph lines ln og, hq => by
    have hr : R (strip (lines.map lstrip).flatten) := by
      refine inv.rinfix _ _ (inv.flat _ ?_) (Strip.strip_infix _)
      intro l hl
      obtain ⟨l', hl', rfl⟩ := List.mem_map.mp hl
      exact inv.suffix _ _ (hq l' hl') (Strip.lstrip_suffix l')
    simp only [mkBlock]; rw [H _ hr]
  | .setext lines ln og, hq => by
    have hr : R (joinNl (lines.dropLast.map strip)) := by
      refine inv.join _ ?_
      intro l hl
      obtain ⟨l', hl', rfl⟩ := List.mem_map.mp hl
      exact inv.toR _ _ (hq l' (List.dropLast_subset _ hl')) (Strip.strip_infix l')
    simp only [mkBlock]; rw [H _ hr]
  | .htmlBlock .., _ => by simp only [mkBlock]
  | .blankLine .., _ => by simp only [mkBlock]
theorem mkBlocks_congr (inv : LineInv Q R) (cfg' cfg : Document.Cfg) (fn : Footnotes.Table) (H : InlSame R cfg' cfg fn) :
    ∀ (es : List Entry), EntriesQ Q R es → mkBlocks cfg' fn es = mkBlocks cfg fn es
  | [], _ => by simp only [mkBlocks]
  | e :: es, hq => by
    simp only [mkBlocks]
    rw [mkBlock_congr inv cfg' cfg fn H e hq.1, mkBlocks_congr inv cfg' cfg fn H es hq.2]
theorem mkItems_congr (inv : LineInv Q R) (cfg' cfg : Document.Cfg) (fn : Footnotes.Table) (H : InlSame R cfg' cfg fn) :
    ∀ (is : List Item), ItemsQ Q R is → mkItems cfg' fn is = mkItems cfg fn is
  | [], _ => by simp only [mkItems]
  | .mk inner lo ind pre ld ln og :: rest, hq => by
    simp only [mkItems]
    rw [mkBlocks_congr inv cfg' cfg fn H inner hq.1, mkItems_congr inv cfg' cfg fn H rest hq.2]
end

theorem parseLines_congr_buf (inv : LineInv Q R) (cfg' cfg : Document.Cfg) (hb : cfg'.block = cfg.block)
    (H : ∀ fn, InlSame R cfg' cfg fn) (gas : Nat) (lines : List Str)
    (hbuf : ∀ buf st, blockPhase cfg.block gas lines = .ok (buf, st) → EntriesQ Q R buf.entries) :
    parseLines cfg' gas lines = parseLines cfg gas lines := by
  unfold parseLines
  rw [hb]
  cases hbp : blockPhase cfg.block gas lines with
  | err e => rfl
  | ok p =>
    obtain ⟨buf, st⟩ := p
    simp only
    rw [mkBlocks_congr inv cfg' cfg _ (H _) buf.entries (hbuf buf st hbp)]

theorem parseLines_congr (inv : LineInv Q R) (cfg' cfg : Document.Cfg) (hb : cfg'.block = cfg.block)
    (H : ∀ fn, InlSame R cfg' cfg fn) (gas : Nat) (lines : List Str) (hq : ∀ s ∈ lines, Q s) :
    parseLines cfg' gas lines = parseLines cfg gas lines :=
  parseLines_congr_buf inv cfg' cfg hb H gas lines
    (fun buf st h => blockPhase_inv inv cfg.block gas lines buf st hq h)

/-- **`Document(text)` under a span-token list with one more class `x`** whose `find` returns nothing on
    every `R` string: the same document (`Q` = invariant of the lines, `R` = of the inline texts) -/
theorem parse_insert (inv : LineInv Q R) (cfg' cfg : Document.Cfg) (pre post : List STok) (x : STok)
    (hb : cfg'.block = cfg.block) (hs' : cfg'.span = pre ++ x :: post) (hs : cfg.span = pre ++ post)
    (htrig : ∀ u, R u → ∀ core codes, findOne u core codes x = [])
    (gas : Nat) (t : Str) (ht : ∀ l ∈ Lines.normalize (.str t), Q l) :
    Document.parse cfg' gas t = Document.parse cfg gas t := by
  unfold Document.parse
  refine parseLines_congr inv cfg' cfg hb ?_ gas _ ht
  intro fn u hu
  show tokenizeInner cfg'.span fn u = tokenizeInner cfg.span fn u
  rw [hs', hs]
  exact tokenizeInner_insert pre post x fn u (htrig u hu)

end Congr


/-! ### the lines of a text are pieces of the text -/

/-- `splitlines(keepends=True)` loses nothing -/
theorem flatten_splitlinesAux (s acc : Str) : (Lines.splitlinesAux s acc).flatten = acc.reverse ++ s := by
  fun_induction Lines.splitlinesAux s acc <;> simp_all

theorem pySplitlines_infix (t : Str) : ∀ l ∈ Lines.pySplitlines t, l <:+: t := by
  intro l hl
  have := List.infix_of_mem_flatten hl
  rwa [Lines.pySplitlines, flatten_splitlinesAux] at this

theorem endsWithNl_getLast : ∀ (l : Str), endsWithNl l = true → l.getLast? = some '\n'
  | [], h => by simp [endsWithNl] at h
  | [c], h => by simp only [endsWithNl, beq_iff_eq] at h; simp [h]
  | _ :: y :: rest, h => by
    simp only [endsWithNl] at h
    have := endsWithNl_getLast (y :: rest) h
    rw [List.getLast?_cons, this]; rfl

/-! ### no '$' -/

def NoD (s : Str) : Prop := '$' ∉ s

theorem mem_replaceFirst (pat rep : Str) : ∀ (s : Str) (c : Char), c ∈ replaceFirst pat rep s → c ∈ rep ∨ c ∈ s
  | [], _, h => by simp [replaceFirst] at h
  | x :: rest, c, h => by
    simp only [replaceFirst] at h
    split at h
    · rcases List.mem_append.mp h with h1 | h1
      · exact Or.inl h1
      · exact Or.inr (List.mem_of_mem_drop h1)
    · rcases List.mem_cons.mp h with rfl | h1
      · exact Or.inr (List.mem_cons_self ..)
      · rcases mem_replaceFirst pat rep rest c h1 with h2 | h2
        · exact Or.inl h2
        · exact Or.inr (List.mem_cons_of_mem _ h2)

theorem mem_unescapePipes : ∀ (n : Nat) (p : Option Char) (t : Str) (c : Char),
    c ∈ unescapePipes n p t → c ∈ t ∨ c = '\\' ∨ c = '|'
  | 0, _, _, _, h => by simp only [unescapePipes] at h; exact Or.inl h
  | _ + 1, _, [], _, h => by simp [unescapePipes] at h
  | n + 1, p, x :: rest, c, h => by
    simp only [unescapePipes] at h
    split at h
    · rcases List.mem_append.mp h with h1 | h1
      · rcases List.mem_append.mp h1 with h2 | h2
        · split at h2
          · simp only [List.mem_cons, List.not_mem_nil, or_false, or_self] at h2
            exact Or.inr (Or.inl h2)
          · cases h2
        · simp only [List.mem_singleton] at h2
          exact Or.inr (Or.inr h2)
      · rcases mem_unescapePipes n _ _ c h1 with h2 | h2
        · exact Or.inl (List.mem_of_mem_drop h2)
        · exact Or.inr h2
    · rcases List.mem_cons.mp h with rfl | h1
      · exact Or.inl (List.mem_cons_self ..)
      · rcases mem_unescapePipes n _ _ c h1 with h2 | h2
        · exact Or.inl (List.mem_cons_of_mem _ h2)
        · exact Or.inr h2

theorem noD_inv : LineInv NoD NoD where
  suffix := fun _ _ h hs hm => h (hs.subset hm)
  spaces := fun _ _ h hm => by
    rcases List.mem_append.mp hm with h1 | h1
    · exact absurd (List.eq_of_mem_replicate h1) (by decide)
    · exact h h1
  gt := fun _ h hm => by
    rcases List.mem_cons.mp hm with h1 | h1
    · exact absurd h1 (by decide)
    · exact h h1
  tab := fun s h hm => by
    rcases mem_replaceFirst _ _ s _ hm with h1 | h1
    · simp at h1
    · exact h h1
  nl := by simp [NoD]
  nlcut := fun a b h hm => by
    apply h
    rcases List.mem_append.mp hm with h1 | h1
    · exact List.mem_append_left _ h1
    · simp at h1
  toR := fun _ _ h hs hm => h (hs.subset hm)
  flat := fun ls h hm => by
    obtain ⟨l, hl, hc⟩ := List.mem_flatten.mp hm
    exact h l hl hc
  rinfix := fun _ _ h hs hm => h (hs.subset hm)
  rnil := by simp [NoD]
  join := fun ls h hm => by
    rcases of_mem_joinNl ls _ hm with h1 | ⟨l, hl, hc⟩
    · exact absurd h1 (by decide)
    · exact h l hl hc
  unesc := fun n p t h hm => by
    rcases mem_unescapePipes n p t _ hm with h1 | h1 | h1
    · exact h h1
    · exact absurd h1 (by decide)
    · exact absurd h1 (by decide)

theorem normalize_noD (t : Str) (h : '$' ∉ t) : ∀ l ∈ Lines.normalize (.str t), NoD l := by
  intro l hl
  simp only [Lines.normalize, List.mem_map] at hl
  obtain ⟨l0, hl0, rfl⟩ := hl
  have h0 : '$' ∉ l0 := fun hm => h ((pySplitlines_infix t l0 hl0).subset hm)
  unfold Lines.complete
  split
  · exact h0
  · intro hm
    rcases List.mem_append.mp hm with h1 | h1
    · exact h0 h1
    · simp at h1

theorem parse_insert_math (cfg' cfg : Document.Cfg) (pre post : List STok)
    (hb : cfg'.block = cfg.block) (hs' : cfg'.span = pre ++ .math :: post) (hs : cfg.span = pre ++ post)
    (gas : Nat) (t : Str) (ht : '$' ∉ t) : Document.parse cfg' gas t = Document.parse cfg gas t :=
  parse_insert noD_inv cfg' cfg pre post .math hb hs' hs
    (fun u hu core codes => findOne_math_nil u core codes hu) gas t (normalize_noD t ht)

end Mistletoe.ContribSame

namespace Mistletoe.Config
open Mistletoe

/-- token lists while a `GithubWikiRenderer` is active (regenerated from /repo) -/
def githubWiki : Option Document.Cfg := cfgOf Gen.RenderMaps.githubWikiBlockTokens Gen.RenderMaps.githubWikiSpanTokens
/-- token lists while a `MathJaxRenderer` is active (regenerated from /repo) -/
def mathjax : Option Document.Cfg := cfgOf Gen.RenderMaps.mathjaxBlockTokens Gen.RenderMaps.mathjaxSpanTokens
/-- token lists while a `TocRenderer` is active (regenerated from /repo) -/
def toc : Option Document.Cfg := cfgOf Gen.RenderMaps.tocBlockTokens Gen.RenderMaps.tocSpanTokens
/-- token lists while a `PygmentsRenderer` is active (regenerated from /repo) -/
def pygments : Option Document.Cfg := cfgOf Gen.RenderMaps.pygmentsBlockTokens Gen.RenderMaps.pygmentsSpanTokens

/-- `R(**opts).render(Document(text))` for a renderer R of the HTML family with token lists `c`:
    parse under `c`, render with the flavoured HTML renderer (`opts.flavor` selects the suffix) -/
def renderContrib (c : Option Document.Cfg) (opts : Html.Opts) (gas : Nat) (text : Str) : Option Str :=
  match c with
  | none => none
  | some cfg =>
    match Document.parse cfg gas text with
    | .ok d => some (Html.renderFlavored opts d)
    | .err _ => none

end Mistletoe.Config

namespace Mistletoe.Config

/-! **The regenerated lists**, as the model reads them: TocRenderer's and PygmentsRenderer's are, name by name,
    HtmlRenderer's (`Proofs/ConfigValues.lean`); GithubWikiRenderer's have `GithubWiki` and MathJaxRenderer's `Math`
    inserted in the span list, evaluated here on the tables regenerated from /repo (a change there breaks these proofs). -/

theorem toc_eq : toc = some ⟨⟨htmlBlockList, true⟩, htmlSpanList⟩ := cfgOf_toc
theorem pygments_eq : pygments = some ⟨⟨htmlBlockList, true⟩, htmlSpanList⟩ := html_eq
theorem githubWiki_eq : githubWiki = some ⟨⟨htmlBlockList, true⟩,
    [.escapeSequence, .githubWiki, .htmlSpan, .strikethrough, .autoLink, .coreTokens, .inlineCode, .lineBreak]⟩ :=
  eq_of_lists _ _ _ _ (by decide +kernel)
theorem mathjax_eq : mathjax = some ⟨⟨htmlBlockList, true⟩,
    [.escapeSequence, .htmlSpan, .math, .strikethrough, .autoLink, .coreTokens, .inlineCode, .lineBreak]⟩ :=
  eq_of_lists _ _ _ _ (by decide +kernel)

end Mistletoe.Config

namespace Mistletoe.ContribSame
open Mistletoe Mistletoe.Py Mistletoe.Inline Mistletoe.Html

/-- **C18, MathJaxRenderer, text level**: on every text without '$' the parse under MathJaxRenderer's
    token lists is the parse under HtmlRenderer's token lists -/
theorem C18_mathjax_same_text (cfgM cfgH : Document.Cfg) (hM : Config.mathjax = some cfgM)
    (hH : Config.html = some cfgH) (gas : Nat) (t : Str) (ht : '$' ∉ t) :
    Document.parse cfgM gas t = Document.parse cfgH gas t := by
  rw [Config.mathjax_eq] at hM
  rw [Config.html_eq] at hH
  cases hM; cases hH
  exact parse_insert_math _ _ (Config.htmlSpanList.take 2) (Config.htmlSpanList.drop 2) (by rfl) (by rfl) (by rfl)
    gas t ht

/-- **C18, TocRenderer, text level**: TocRenderer installs no token; every text parses as under HtmlRenderer -/
theorem C18_toc_same_text (cfgT cfgH : Document.Cfg) (hT : Config.toc = some cfgT)
    (hH : Config.html = some cfgH) (gas : Nat) (t : Str) :
    Document.parse cfgT gas t = Document.parse cfgH gas t := by
  rw [Config.toc_eq, ← Config.html_eq, hH] at hT
  cases hT; rfl

/-- **C18, PygmentsRenderer, text level**: PygmentsRenderer installs no token; every text parses as under
    HtmlRenderer (the renderers differ on `BlockCode` / `CodeFence` only: `C18_resolution`) -/
theorem C18_pygments_same_text (cfgP cfgH : Document.Cfg) (hP : Config.pygments = some cfgP)
    (hH : Config.html = some cfgH) (gas : Nat) (t : Str) :
    Document.parse cfgP gas t = Document.parse cfgH gas t := by
  rw [Config.pygments_eq, ← Config.html_eq, hH] at hP
  cases hP; rfl

theorem renderFlavored_eq (o : Opts) (fl : Flavor) (d : Doc) :
    renderFlavored { o with flavor := fl } d = render o d ++ suffix fl := by
  simp [renderFlavored, render, Opts.q]

theorem renderContrib_eq (c : Option Document.Cfg) (cfgC cfgH : Document.Cfg) (hc : c = some cfgC)
    (hH : Config.html = some cfgH) (o : Opts) (fl : Flavor) (gas : Nat) (t : Str)
    (hp : Document.parse cfgC gas t = Document.parse cfgH gas t) :
    Config.renderContrib c { o with flavor := fl } gas t = (Config.renderHtml o gas t).map (· ++ suffix fl) := by
  subst hc
  rw [Config.renderHtml, hH]
  simp only [Config.renderContrib, hp]
  cases Document.parse cfgH gas t with
  | ok d => simp [renderFlavored_eq]
  | err e => rfl

theorem renderContrib_same (c : Option Document.Cfg) (cfgC cfgH : Document.Cfg) (hc : c = some cfgC)
    (hH : Config.html = some cfgH) (o : Opts) (fl : Flavor) (hfl : suffix fl = []) (gas : Nat) (t : Str)
    (hp : Document.parse cfgC gas t = Document.parse cfgH gas t) :
    Config.renderContrib c { o with flavor := fl } gas t = Config.renderHtml o gas t := by
  rw [renderContrib_eq c cfgC cfgH hc hH o fl gas t hp, hfl]
  cases Config.renderHtml o gas t <;> simp

/-- **C18, MathJaxRenderer, end to end**: on every text without '$' the output is HtmlRenderer's output
    followed by the generated script line `MathJaxRenderer.mathjax_src` -/
theorem C18_mathjax_same_output (o : Opts) (gas : Nat) (t : Str) (ht : '$' ∉ t) :
    Config.renderContrib Config.mathjax { o with flavor := .mathjax } gas t =
      (Config.renderHtml o gas t).map (· ++ Gen.RenderMaps.mathjaxSrc) :=
  renderContrib_eq _ _ _ Config.mathjax_eq Config.html_eq o .mathjax gas t
    (C18_mathjax_same_text _ _ Config.mathjax_eq Config.html_eq gas t ht)

/-- **C18, TocRenderer, end to end**: on every text the output is HtmlRenderer's -/
theorem C18_toc_same_output (o : Opts) (gas : Nat) (t : Str) :
    Config.renderContrib Config.toc { o with flavor := .toc } gas t = Config.renderHtml o gas t :=
  renderContrib_same _ _ _ Config.toc_eq Config.html_eq o .toc rfl gas t
    (C18_toc_same_text _ _ Config.toc_eq Config.html_eq gas t)

/-- **C18, PygmentsRenderer, end to end, as far as the model goes**: the model's `renderFlavored` is
    HtmlRenderer's output on every tree; the real PygmentsRenderer departs from it on `BlockCode` /
    `CodeFence` only, which the model records in `supported` (see `supported_pygments` below) -/
theorem C18_pygments_same_output (o : Opts) (gas : Nat) (t : Str) :
    Config.renderContrib Config.pygments { o with flavor := .pygments } gas t = Config.renderHtml o gas t :=
  renderContrib_same _ _ _ Config.pygments_eq Config.html_eq o .pygments rfl gas t
    (C18_pygments_same_text _ _ Config.pygments_eq Config.html_eq gas t)


/-! ### Pygments: where the model claims to follow the real renderer -/

mutual
def noCodeBlock : Block → Bool
  | .blockCode .. => false
  | .codeFence .. => false
  | .quote kids _ => noCodeBlocks kids
  | .list _ _ items _ => noCodeBlocks items
  | .listItem _ _ _ _ kids _ => noCodeBlocks kids
  | .table _ _ rows _ => noCodeBlocks rows
  | _ => true
def noCodeBlocks : List Block → Bool
  | [] => true
  | b :: bs => noCodeBlock b && noCodeBlocks bs
end

mutual
theorem supportedInline_pyg (o : Opts) : ∀ (i : Inline),
    supportedInline { o with flavor := .pygments } i = supportedInline { o with flavor := .html } i
  | .rawText _ => rfl
  | .strong _ k => by simp only [supportedInline]; exact supportedInlines_pyg o k
  | .emphasis _ k => by simp only [supportedInline]; exact supportedInlines_pyg o k
  | .inlineCode .. => rfl
  | .strikethrough k => by simp only [supportedInline]; exact supportedInlines_pyg o k
  | .image .. => rfl
  | .link _ _ _ _ _ k => by simp only [supportedInline]; exact supportedInlines_pyg o k
  | .autoLink .. => rfl
  | .escapeSequence _ => rfl
  | .lineBreak .. => rfl
  | .htmlSpan _ => rfl
  | .math _ => rfl
  | .githubWiki _ k => by simp only [supportedInline]; rfl
  | .xwikiMacroStart _ => rfl
  | .xwikiMacroEnd _ => rfl
  | .linkRefDef .. => rfl
theorem supportedInlines_pyg (o : Opts) : ∀ (k : List Inline),
    supportedInlines { o with flavor := .pygments } k = supportedInlines { o with flavor := .html } k
  | [] => rfl
  | i :: is => by
    simp only [supportedInlines]
    rw [supportedInline_pyg o i, supportedInlines_pyg o is]
end

/-- table rows and cells hold inline content only -/
theorem supportedCells_pyg (o : Opts) : ∀ (bs : List Block),
    supportedCells { o with flavor := .pygments } bs = supportedCells { o with flavor := .html } bs
  | [] => rfl
  | b :: rest => by
    cases b <;> simp only [supportedCells, supportedInlines_pyg o, supportedCells_pyg o rest]

theorem supportedRows_pyg (o : Opts) : ∀ (bs : List Block),
    supportedRows { o with flavor := .pygments } bs = supportedRows { o with flavor := .html } bs
  | [] => rfl
  | b :: rest => by
    cases b <;> simp only [supportedRows, supportedCells_pyg o, supportedRows_pyg o rest]

mutual
theorem supportedBlock_pyg (o : Opts) : ∀ (b : Block),
    supportedBlock { o with flavor := .pygments } b = (supportedBlock { o with flavor := .html } b && noCodeBlock b)
  | .paragraph k _ => by simp only [supportedBlock, noCodeBlock, Bool.and_true]; exact supportedInlines_pyg o k
  | .heading _ _ k _ => by simp only [supportedBlock, noCodeBlock, Bool.and_true]; exact supportedInlines_pyg o k
  | .setextHeading _ _ k _ => by simp only [supportedBlock, noCodeBlock, Bool.and_true]; exact supportedInlines_pyg o k
  | .quote kids _ => by simp only [supportedBlock, noCodeBlock]; exact supportedBlocks_pyg o kids
  | .blockCode .. => by simp [supportedBlock, noCodeBlock]
  | .codeFence .. => by simp [supportedBlock, noCodeBlock]
  | .list _ _ items _ => by simp only [supportedBlock, noCodeBlock]; exact supportedBlocks_pyg o items
  | .listItem _ _ _ _ kids _ => by simp only [supportedBlock, noCodeBlock]; exact supportedBlocks_pyg o kids
  | .table _ header rows _ => by
    simp only [supportedBlock, noCodeBlock]
    rw [supportedRows_pyg o header, supportedBlocks_pyg o rows, Bool.and_assoc]
  | .tableRow _ cells _ => by simp only [supportedBlock, noCodeBlock, Bool.and_true]; exact supportedCells_pyg o cells
  | .tableCell a k _ => by simp only [supportedBlock, noCodeBlock, Bool.and_true]; rw [supportedInlines_pyg o k]
  | .thematicBreak .. => rfl
  | .htmlBlock .. => by simp [supportedBlock, noCodeBlock]
  | .blankLine _ => rfl
  | .linkRefDefBlock .. => rfl
theorem supportedBlocks_pyg (o : Opts) : ∀ (bs : List Block),
    supportedBlocks { o with flavor := .pygments } bs = (supportedBlocks { o with flavor := .html } bs && noCodeBlocks bs)
  | [] => rfl
  | b :: bs => by
    simp only [supportedBlocks, noCodeBlocks]
    rw [supportedBlock_pyg o b, supportedBlocks_pyg o bs, Bool.and_and_and_comm]
end

/-- **Pygments**: the model declares the pygments flavour faithful (`supported`) exactly on the trees that
    HtmlRenderer supports and that contain no `BlockCode` / `CodeFence` at any depth; on those trees
    (`C18_render_same`) the output is HtmlRenderer's -/
theorem supported_pygments (o : Opts) (d : Doc) :
    supported { o with flavor := .pygments } d = (supported { o with flavor := .html } d && noCodeBlocks d.kids) :=
  supportedBlocks_pyg o d.kids

/-! ### Non-vacuity -/

/-- emphasis, a link, raw HTML, an unmatched '[', a table with emphasis and inline code in its cells —
    no "[[" and no '$' -/
def sample : Str := "*a* [l](u) <b>d</b> [x\n\n|a|b|\n|-|-|\n|*c*|`d`|\n".toList

/-- the expected output, as a character list (string literals are slow in the kernel):
    `<p><em>a</em> <a href="u">l</a> <b>d</b> [x</p>`, then the table with `<em>c</em>` and `<code>d</code>` cells -/
def sampleHtml : Str :=
  ['<', 'p', '>', '<', 'e', 'm', '>', 'a', '<', '/', 'e', 'm', '>', ' ', '<', 'a', ' ', 'h', 'r', 'e', 'f', '=', '"', 'u', '"', '>', 'l', '<', '/', 'a', '>', ' ', '<', 'b', '>', 'd', '<', '/', 'b', '>', ' ', '[', 'x', '<', '/', 'p', '>', '\n',
   '<', 't', 'a', 'b', 'l', 'e', '>', '\n',
   '<', 't', 'h', 'e', 'a', 'd', '>', '\n',
   '<', 't', 'r', '>', '\n',
   '<', 't', 'h', ' ', 'a', 'l', 'i', 'g', 'n', '=', '"', 'l', 'e', 'f', 't', '"', '>', 'a', '<', '/', 't', 'h', '>', '\n',
   '<', 't', 'h', ' ', 'a', 'l', 'i', 'g', 'n', '=', '"', 'l', 'e', 'f', 't', '"', '>', 'b', '<', '/', 't', 'h', '>', '\n',
   '<', '/', 't', 'r', '>', '\n',
   '<', '/', 't', 'h', 'e', 'a', 'd', '>', '\n',
   '<', 't', 'b', 'o', 'd', 'y', '>', '\n',
   '<', 't', 'r', '>', '\n',
   '<', 't', 'd', ' ', 'a', 'l', 'i', 'g', 'n', '=', '"', 'l', 'e', 'f', 't', '"', '>', '<', 'e', 'm', '>', 'c', '<', '/', 'e', 'm', '>', '<', '/', 't', 'd', '>', '\n',
   '<', 't', 'd', ' ', 'a', 'l', 'i', 'g', 'n', '=', '"', 'l', 'e', 'f', 't', '"', '>', '<', 'c', 'o', 'd', 'e', '>', 'd', '<', '/', 'c', 'o', 'd', 'e', '>', '<', '/', 't', 'd', '>', '\n',
   '<', '/', 't', 'r', '>', '\n',
   '<', '/', 't', 'b', 'o', 'd', 'y', '>', '\n',
   '<', '/', 't', 'a', 'b', 'l', 'e', '>', '\n']

example : isInfix ['[', '['] sample = false ∧ '$' ∉ sample := by unfold sample; decide_lit

/-- kernel evaluation: the models of the three renderers return HtmlRenderer's output (+ the script line) -/
example : Config.renderHtml {} 200 sample = some sampleHtml := Config.renderHtml_of (by unfold sample; decide_lit)
example : Config.renderContrib Config.githubWiki { flavor := .githubWiki } 200 sample = some sampleHtml := by
  rw [Config.githubWiki_eq]; unfold sample; decide_lit
example : Config.renderContrib Config.toc { flavor := .toc } 200 sample = some sampleHtml := by
  rw [Config.toc_eq]; unfold sample; decide_lit
example : Config.renderContrib Config.mathjax { flavor := .mathjax } 200 sample =
    some (sampleHtml ++ Gen.RenderMaps.mathjaxSrc) := by rw [Config.mathjax_eq]; unfold sample; decide_lit

/-- WITH the extension the parses differ: "[[a|b]]" is a GithubWiki token under GithubWikiRenderer's lists -/
def wikiSample : Str := "x [[a|b]] y\n".toList

example : ∀ cW cH, Config.githubWiki = some cW → Config.html = some cH →
    Document.parse cW 50 wikiSample ≠ Document.parse cH 50 wikiSample := by
  intro cW cH hW hH he
  have h1 : Config.renderContrib Config.githubWiki { flavor := .githubWiki } 50 wikiSample =
      some "<p>x <a href=\"b\">a</a> y</p>\n".toList := by rw [Config.githubWiki_eq]; unfold wikiSample; decide_lit
  have h2 : Config.renderContrib Config.html { flavor := .githubWiki } 50 wikiSample =
      some "<p>x [[a|b]] y</p>\n".toList := by rw [Config.html_eq]; unfold wikiSample; decide_lit
  rw [hW] at h1
  rw [hH] at h2
  simp only [Config.renderContrib, he] at h1 h2
  rw [h1] at h2
  revert h2
  decide

/-- … and with '$': "$x$" is a Math token under MathJaxRenderer's lists -/
example : Config.renderContrib Config.mathjax { flavor := .mathjax } 50 "a $x$ b\n".toList =
      some ("<p>a \\(x\\) b</p>\n".toList ++ Gen.RenderMaps.mathjaxSrc) ∧
    Config.renderHtml {} 50 "a $x$ b\n".toList = some "<p>a $x$ b</p>\n".toList :=
  ⟨by decide_lit, Config.renderHtml_of (by decide_lit)⟩

end Mistletoe.ContribSame
