/-
  C10 (reflow), prose inside block quotes — the Markdown renderer WITH a line limit (`max_line_length = L`) on
  documents made of paragraphs of plain words inside `k` nested block quotes written with "> " markers.

  Fragment: as in Proofs/Reflow.lean (`plainPara`: lines of `plainWord`s joined by single spaces), every line of the
  document — the empty separator lines included — behind `k` markers "> " (`linesQ`, `textOfQ`; this is how the
  renderer itself writes quotes, C09).  The mechanism of the property: `render_quote` hands
  `max(max_line_length - 2, 1)` to its children, so at depth `k` the paragraphs are filled with the budget
  `qBudget L k = max (L - 2k) 1` (`qBud`, `qBud_eq`): the prefix width is taken off the limit, and the clamp keeps
  the budget truthy (wrapping never switches off inside a container, `C10_wrapping_stays_on`).

  `Document(text)` is `k` nested `Quote`s around the paragraphs (`parse_quoted`, by `parseLines_quoted` of
  Proofs/MdRound.lean: C04 iterated, the inner buffer may be loose).  The clauses, for every covered token configuration
  and every depth `k ≥ 0` (`QuoteCfg`; `k = 0`: the document at the top level, any token lists with `Paragraph`):
  (1) `reflowQ_render`, the output is `k` markers before the paragraphs re-filled with `Wrap.fill (qBudget L k)`;
  (2) `reflowQ_bound`, `reflowQ_line_bound`, the limit after the container prefix; (3) `reflowQ_meaning`, same words and,
  after "\n" ↦ " " (`nlToSp`), the same HTML, in closed form (`qHtml`); (4) `reflowQ_idempotent`; `reflowQ_all` collects
  (1), (2) and the words of (3).  Their instances for `Config.markdown` (`Config.html` for the meaning), and at depth 0
  for arbitrary covered lists, are in Props/C10_Reflow.lean.  The clamp does not break idempotence, because the budget
  is a function of `L` and `k` only and the output has the same depth `k`.
-/
import Mistletoe.Proofs.Reflow
namespace Mistletoe.ReflowQuote
open Mistletoe Mistletoe.Py Mistletoe.Wrap Mistletoe.Markdown Mistletoe.InertInline Mistletoe.MdRound Mistletoe.Reflow
open Mistletoe.Block (BTok)
open Mistletoe.Props.C10 (joinWords joinWords_mem)
open Mistletoe.Props.C14 (joinBlank)

/-- every line behind `k` markers "> ", the empty lines between the paragraphs too (they become "> … > \n") -/
abbrev linesQ (k : Nat) (p : List (List Str)) (rest : List (List (List Str))) : List Str :=
  qStrs k (joinBlank (paraLines p) (rest.map paraLines))

/-- the document as a `str`; `textOfQ 0` unfolds to `Reflow.textOf`: the top level is depth 0 -/
abbrev textOfQ (k : Nat) (p : List (List Str)) (rest : List (List (List Str))) : Str := (linesQ k p rest).flatten

def qPre : Nat → Str
  | 0 => []
  | k + 1 => '>' :: ' ' :: qPre k

theorem qPre_length : ∀ k, (qPre k).length = 2 * k
  | 0 => rfl
  | k + 1 => by simp only [qPre, List.length_cons, qPre_length k]; omega

theorem qStrs_eq_map : ∀ (k : Nat) (ss : List Str), qStrs k ss = ss.map (qPre k ++ ·)
  | 0, ss => by simp [qStrs, qPre]
  | k + 1, ss => by simp [qStrs, qPre, qStrs_eq_map k ss]

theorem lineOf_notab (ws : List Str) (h : plainWords ws = true) : '\t' ∉ lineOf ws := by
  obtain ⟨_, hw⟩ := plainWords_facts ws h
  intro hm
  simp only [lineOf, List.mem_append, List.mem_singleton] at hm
  rcases hm with hm | hm
  · rcases joinWords_mem ws _ hm with h | ⟨w, hw', hx⟩
    · revert h; decide
    · have := wordChar_nsp _ ((hw w hw').chars _ hx)
      revert this; decide
  · revert hm; decide

theorem linesQ_notab (p : List (List Str)) (rest : List (List (List Str))) (hp : plainPara p = true)
    (hrest : ∀ q ∈ rest, plainPara q = true) : ∀ l ∈ joinBlank (paraLines p) (rest.map paraLines), '\t' ∉ l := by
  have h : ∀ q, plainPara q = true → ∀ l ∈ paraLines q, '\t' ∉ l := fun q hq =>
    List.forall_mem_map.mpr (fun ws hws => lineOf_notab ws ((plainPara_facts q hq).2 ws hws))
  exact joinBlank_all (fun l => '\t' ∉ l) (by decide) _ _ (h p hp) (List.forall_mem_map.mpr (fun q hq => h q (hrest q hq)))

/-- what the theorems at depth `k` ask of the token lists: `Paragraph` is a block type, the span classes are covered ones
    with `LineBreak` once; and for `k > 0` the block types are `pre ++ Quote :: post` with neither `Quote` nor `Paragraph`
    in `pre` (C04's hypothesis).  At depth 0 nothing is asked of `pre`, `post`: the top-level theorems take `[] [] 0`. -/
structure QuoteCfg (cfg : Document.Cfg) (pre post : List BTok) (k : Nat) : Prop where
  q : k = 0 ∨ (cfg.block.types = pre ++ .quote :: post ∧ .quote ∉ pre ∧ .paragraph ∉ pre)
  par : .paragraph ∈ cfg.block.types
  span : ∀ t ∈ cfg.span, inertClass t = true
  lb : cfg.span.count .lineBreak = 1

theorem QuoteCfg.top {cfg : Document.Cfg} (hpar : .paragraph ∈ cfg.block.types) (ht : ∀ t ∈ cfg.span, inertClass t = true)
    (hc : cfg.span.count .lineBreak = 1) : QuoteCfg cfg [] [] 0 := ⟨Or.inl rfl, hpar, ht, hc⟩

/-- **`Document(text)` on plain-word paragraphs inside `k ≥ 0` nested block quotes** (`QuoteCfg`): the tree is `k` nested
    `Quote`s around the `Paragraph`s (lines as `RawText`s with soft `LineBreak`s; `BlankLine`s between them iff
    `BlankLine` is a token type); no link definitions.
    Gas: `2 * rest.length + types.length + 4` is what `C14.tokenize_blank_separated` asks for the paragraphs and the empty lines
    between them, `pre.length + 3` per quote level what `MdRound.parseLines_quoted` adds (the dispatcher's way past `pre` to
    `Quote`, and the nested call); every theorem of this file carries this term. -/
theorem parse_quoted (cfg : Document.Cfg) (pre post : List BTok) (k : Nat) (hq : QuoteCfg cfg pre post k)
    (p : List (List Str)) (rest : List (List (List Str))) (hp : plainPara p = true) (hrest : ∀ q ∈ rest, plainPara q = true)
    (gas : Nat) :
    Document.parse cfg (gas + (2 * rest.length + cfg.block.types.length + 4) + k * (pre.length + 3)) (textOfQ k p rest) =
      .ok { kids := qBlocks 1 (proseBlocksB (cfg.block.types.contains .blankLine) 1 (paraLines p) (rest.map paraLines)) k,
            footnotes := Document.footnotesOf [] } := by
  have fp := paraFacts p hp
  have fr := paraFacts_rest rest hrest
  rw [show textOfQ k p rest = (qStrs k (joinBlank (paraLines p) (rest.map paraLines))).flatten from rfl,
    parse_lines cfg _ _ (qStrs_oneLine k _ (Mistletoe.Props.C09.oneLine_joinBlank _ _ fp.one (fun q hq => (fr q hq).one)))]
  have hphase := Mistletoe.Props.C14.tokenize_blank_separated cfg.block hq.par (paraLines p) (rest.map paraLines) ⟨fp.ne, fp.inert⟩
    (fun q hq => ⟨(fr q hq).ne, (fr q hq).inert⟩) gas
  have hmk := mkBlocks_paraEntriesB cfg (Document.footnotesOf []) hq.span hq.lb (cfg.block.types.contains .blankLine)
    (rest.map paraLines) (paraLines p) 1 fp.para (fun q hq => (fr q hq).para)
  -- at the top level the block phase starts in the initial state and nothing is asked of the list of block types
  rcases hq.q with rfl | ⟨hty, hnq, hnp⟩
  · have h := parseLines_of_phase cfg _ _ _ _ rfl (hphase {}) _ hmk
    rw [List.length_map] at h
    rw [Nat.zero_mul]
    exact h
  · have h := parseLines_quoted cfg pre post hty hnq hnp _ _ (joinBlank_ne _ _ fp.ne) (linesQ_notab p rest hp hrest) _ _
      hphase _ hmk k
    rwa [List.length_map] at h

/-- the limit the model hands down through `k` quotes: `max(· - 2, 1)` at every level (`render_quote`) -/
def qBud : Int → Nat → Int
  | n, 0 => n
  | n, k + 1 => qBud (max (n - 2) 1) k

theorem qBud_ne : ∀ (k : Nat) (n : Int), n ≠ 0 → qBud n k ≠ 0
  | 0, _, h => h
  | k + 1, n, _ => qBud_ne k (max (n - 2) 1) (by omega)

theorem qBud_eq : ∀ (k : Nat) (n : Int), 1 ≤ n → qBud n k = max (n - 2 * k) 1
  | 0, n, h => by simp only [qBud]; omega
  | k + 1, n, h => by
    simp only [qBud]
    rw [qBud_eq k (max (n - 2) 1) (by omega)]
    omega

def qBudget (L k : Nat) : Nat := max (L - 2 * k) 1

theorem qBudget_zero (L : Nat) (hL : 1 ≤ L) : qBudget L 0 = L := by
  simp only [qBudget]; omega

theorem qBud_toNat (L k : Nat) (hL : 1 ≤ L) : (qBud (L : Int) k).toNat = qBudget L k := by
  rw [qBud_eq k L (by omega)]
  simp only [qBudget]
  omega

theorem childBudget_quote (n : Int) (hn : n ≠ 0) : childBudget (some n) 2 = some (max (n - 2) 1) :=
  Mistletoe.Props.C10.childBudget_some n 2 hn

/-- **`render_quote` with a line limit, iterated**: `k` quotes around blocks `B` render to `k` markers before what
    `B` renders to under the budget handed down (`qBud n k`); for the limits `P` (all but 0, or the positive ones) -/
theorem renderBlocks_qBlocks_wrap (o : Opts) (ln : Nat) (B : List Mistletoe.Block) (f : Int → List Str) (P : Int → Prop)
    (hP : ∀ m, P m → m ≠ 0 ∧ P (max (m - 2) 1)) (h : ∀ m : Int, P m → renderBlocks o (some m) B = .ok (f m)) :
    ∀ (k : Nat) (n : Int), P n → renderBlocks o (some n) (qBlocks ln B k) = .ok (qStrs k (f (qBud n k)))
  | 0, n, hn => h n hn
  | k + 1, n, hn => by
    have ih := renderBlocks_qBlocks_wrap o ln B f P hP h k (max (n - 2) 1) (hP n hn).2
    simp only [qBlocks, qStrs, qBud, renderBlocks, renderBlock, childBudget_quote n (hP n hn).1, ih, prefixLines_quote,
      List.append_nil]

theorem reflowQ_lines_eq (L : Nat) (p : List (List Str)) (rest : List (List (List Str))) (hp : plainPara p = true)
    (hrest : ∀ q ∈ rest, plainPara q = true) :
    joinBlank (reflowLines L p) (rest.map (reflowLines L)) =
      joinBlank (paraLines (reflowG L p)) ((rest.map (reflowG L)).map paraLines) := by
  rw [reflowLines_eq L p hp, map_reflowG L paraLines _ (fun q hq => (reflowLines_eq L q hq).symm) rest hrest]

/-- **(1) the renderer with a line limit refills every paragraph inside the quotes with the budget of its depth.**
    `n` = `max_line_length` (truthy); the output is the text of the same fragment at the same depth whose
    paragraphs are regrouped by the greedy fill with the limit `qBud n k` handed down through `k` quotes.
    `hbl`: without `BlankLine` tokens the renderer writes no empty line between the paragraphs. -/
theorem reflowQ_render (cfg : Document.Cfg) (pre post : List BTok) (k : Nat)
    (hq : QuoteCfg cfg pre post k) (hbl : .blankLine ∈ cfg.block.types)
    (p : List (List Str)) (rest : List (List (List Str))) (hp : plainPara p = true) (hrest : ∀ q ∈ rest, plainPara q = true)
    (o : Opts) (n : Int) (hn : n ≠ 0) (ho : o.maxLineLength = some n) (gas : Nat) :
    ∃ d, Document.parse cfg (gas + (2 * rest.length + cfg.block.types.length + 4) + k * (pre.length + 3)) (textOfQ k p rest) = .ok d ∧
      d.kids = qBlocks 1 (proseBlocks 1 (paraLines p) (rest.map paraLines)) k ∧
      renderRes o d = .ok (textOfQ k (reflowG (qBud n k).toNat p) (rest.map (reflowG (qBud n k).toNat))) := by
  have hparse := parse_quoted cfg pre post k hq p rest hp hrest gas
  rw [List.contains_iff_mem.mpr hbl, proseBlocksB_true] at hparse
  refine ⟨_, hparse, rfl, ?_⟩
  have hr := renderBlocks_qBlocks_wrap o 1 (proseBlocks 1 (paraLines p) (rest.map paraLines))
    (fun m => wrapOut m.toNat p rest) (· ≠ 0) (fun m hm => ⟨hm, by omega⟩)
    (fun m hm => renderBlocks_wrap o m hm rest p 1 (plainPara_facts p hp).2 (fun q hq => (plainPara_facts q (hrest q hq)).2))
    k n hn
  simp only [renderRes, ho, hr]
  rw [joinLines_eq, qStrs_nl, wrapOut_lines, reflowQ_lines_eq _ p rest hp hrest]

/-- **(2) the bound at depth `k`.**  `body` is an output line of a paragraph without its `k` markers.  If it is
    longer than the budget of its depth it is one single word of the paragraph — no whitespace, so no breakable
    space after the container prefix.  In terms of the whole line `"> " * k ++ body`: if THAT is longer than `L`, the
    body is one single word as well (when the budget is clamped to 1 — `L ≤ 2k` — every line holds exactly one word,
    and every line is longer than `L`). -/
theorem reflowQ_bound (L k : Nat) (g : List (List Str)) (hg : plainPara g = true) :
    ∀ body ∈ fill (qBudget L k) g.flatten,
      (qBudget L k < body.length ∨ L < (qPre k ++ body).length) → body ∈ g.flatten ∧ ∀ c ∈ body, pyIsSpace c = false := by
  intro body hb hlong
  apply fill_single (qBudget L k) g hg body hb
  by_cases h1 : qBudget L k < body.length
  · exact Or.inl h1
  · right
    have h := hlong.resolve_left h1
    rw [List.length_append, qPre_length] at h
    simp only [qBudget] at h1
    omega

/-- **(2) for the lines of the output text**, each `"> " * k ++ body ++ "\n"` with the body empty (a separator line) or a
    line the fill loop made of one paragraph's words -/
theorem reflowQ_line_bound (L k : Nat) (p : List (List Str)) (rest : List (List (List Str))) (hp : plainPara p = true)
    (hrest : ∀ q ∈ rest, plainPara q = true) :
    ∀ l ∈ linesQ k (reflowG (qBudget L k) p) (rest.map (reflowG (qBudget L k))),
      ∃ body, l = qPre k ++ body ++ ['\n'] ∧ (body = [] ∨ ∃ q ∈ p :: rest, body ∈ fill (qBudget L k) q.flatten) ∧
        ((qBudget L k < body.length ∨ L < (qPre k ++ body).length) → ∀ c ∈ body, pyIsSpace c = false) := by
  intro l hl
  rw [linesQ, qStrs_eq_map] at hl
  obtain ⟨x, hx, rfl⟩ := List.mem_map.mp hl
  rw [← reflowQ_lines_eq _ p rest hp hrest] at hx
  have h : ∀ q ∈ p :: rest, ∀ l ∈ reflowLines (qBudget L k) q,
      ∃ body, l = body ++ ['\n'] ∧ (body = [] ∨ ∃ q ∈ p :: rest, body ∈ fill (qBudget L k) q.flatten) :=
    fun q hq => List.forall_mem_map.mpr (fun b hb => ⟨b, rfl, Or.inr ⟨q, hq, hb⟩⟩)
  obtain ⟨body, rfl, hb⟩ := joinBlank_all _ ⟨[], rfl, Or.inl rfl⟩ _ _ (h p (by simp))
    (List.forall_mem_map.mpr (fun q hq => h q (List.mem_cons_of_mem _ hq))) x hx
  refine ⟨body, by simp, hb, fun hlong => ?_⟩
  rcases hb with rfl | ⟨q, hq, hb⟩
  · intro c hc; cases hc
  · exact (reflowQ_bound L k q (plainPara_cons p rest hp hrest q hq) body hb hlong).2

def bqOpen : Str := ['<', 'b', 'l', 'o', 'c', 'k', 'q', 'u', 'o', 't', 'e', '>', '\n']
def bqClose : Str := ['<', '/', 'b', 'l', 'o', 'c', 'k', 'q', 'u', 'o', 't', 'e', '>']

/-- the HTML of `k` nested block quotes around content whose HTML (every child followed by "\n") is `s` -/
def qHtml : Nat → Str → Str
  | 0, s => s
  | k + 1, s => bqOpen ++ qHtml k s ++ bqClose ++ ['\n']

theorem flat_nl : Html.flat [Html.nl] = ['\n'] := rfl
theorem flat_nil' : Html.flat [] = [] := rfl
theorem flat_open : Html.flat [Html.Ev.otag "blockquote".toList [], Html.nl] = bqOpen := by
  rw [String.toList_ofList]; rfl
theorem flat_close : Html.flat [Html.Ev.ctag "blockquote".toList] = bqClose := by
  rw [String.toList_ofList]; rfl

theorem flat_quote (q : Html.Quotes) (K : List Mistletoe.Block) (ln : Nat) :
    Html.flat (Html.renderBlock q false (.quote K ln)) =
      bqOpen ++ Html.flat (Html.renderAfterEach q false K) ++ bqClose := by
  simp only [Html.renderBlock, Pipeline.flat_append, flat_open, flat_close]

theorem flat_afterEach_one (q : Html.Quotes) (K : List Mistletoe.Block) (ln : Nat) :
    Html.flat (Html.renderAfterEach q false [.quote K ln]) =
      bqOpen ++ Html.flat (Html.renderAfterEach q false K) ++ bqClose ++ ['\n'] := by
  simp only [Html.renderAfterEach, Pipeline.flat_append, flat_quote, flat_nl, List.append_nil]

theorem flat_afterEach_q (q : Html.Quotes) (ln : Nat) (B : List Mistletoe.Block) : ∀ k,
    Html.flat (Html.renderAfterEach q false (qBlocks ln B k)) = qHtml k (Html.flat (Html.renderAfterEach q false B))
  | 0 => by rw [qBlocks, qHtml]
  | k + 1 => by
    rw [qBlocks, qHtml, flat_afterEach_one, flat_afterEach_q q ln B k]

theorem flat_afterEach_prose (q : Html.Quotes) (bl : Bool) (n : Nat) (p : List Str) (rest : List (List Str)) :
    Html.flat (Html.renderAfterEach q false (proseBlocksB bl n p rest)) =
      htmlParas q.dq q.sq (paraSep bl) (Document.joinNl (p.map strip)) (rest.map (fun x => Document.joinNl (x.map strip))) := by
  rw [← Pipeline.flat_sep_afterEach q false _ (proseBlocksB_ne bl n p rest), flat_sep]

theorem render_one_quote (o : Html.Opts) (K : List Mistletoe.Block) (ln : Nat) (fn : Footnotes.Table) :
    Html.render o { kids := [.quote K ln], footnotes := fn } = Html.flat (Html.renderAfterEach o.q false [.quote K ln]) := by
  rw [Pipeline.render_cons o _ [] fn (by rw [flat_quote]; simp [bqOpen])]
  simp only [Html.renderSep, Html.renderAfterEach, Pipeline.flat_append, flat_nl, List.append_nil]

theorem render_qProse (o : Html.Opts) (bl : Bool) (n : Nat) (p : List Str) (rest : List (List Str)) (fn : Footnotes.Table) :
    ∀ k, Html.render o { kids := qBlocks n (proseBlocksB bl n p rest) k, footnotes := fn } =
      qHtml k (htmlParas o.dq o.sq (paraSep bl) (Document.joinNl (p.map strip))
        (rest.map (fun x => Document.joinNl (x.map strip))))
  | 0 => render_proseB o bl n p rest fn
  | k + 1 => by
    have h := flat_afterEach_q o.q n (proseBlocksB bl n p rest) (k + 1)
    rw [flat_afterEach_prose] at h
    simp only [qBlocks] at h ⊢
    rw [render_one_quote, h]
    rfl

theorem nlToSp_qHtml (s s' : Str) (h : nlToSp s = nlToSp s') : ∀ k, nlToSp (qHtml k s) = nlToSp (qHtml k s')
  | 0 => by rw [qHtml, qHtml]; exact h
  | k + 1 => by simp only [qHtml, nlToSp_append, nlToSp_qHtml s s' h k]

theorem html_normQ (o : Html.Opts) (bl : Bool) (fn : Footnotes.Table) (k : Nat)
    (p : List (List Str)) (rest : List (List (List Str))) (hp : plainPara p = true) (hrest : ∀ q ∈ rest, plainPara q = true) :
    nlToSp (Html.render o { kids := qBlocks 1 (proseBlocksB bl 1 (paraLines p) (rest.map paraLines)) k, footnotes := fn }) =
      nlToSp (qHtml k (htmlParas o.dq o.sq (paraSep bl) (joinWords p.flatten) (rest.map (fun q => joinWords q.flatten)))) := by
  have e := html_norm o bl 1 fn p rest hp hrest
  rw [render_proseB] at e
  rw [render_qProse]
  exact nlToSp_qHtml _ _ e k

/-- **(3) same words, same meaning.**  Under every token configuration `pre ++ Quote :: post` with `Paragraph`,
    covered span classes and `LineBreak` once, and for every fill limit `B`: the re-broken text is again in the
    fragment at the same depth with the same word sequence per paragraph; both texts parse, to `k` nested `Quote`s
    around their paragraphs; and their HTML (every quote option) is equal once every "\n" is replaced by a space,
    the common value being `k` `<blockquote>`s around the paragraphs written on one line each. -/
theorem reflowQ_meaning (cfg : Document.Cfg) (pre post : List BTok) (k : Nat)
    (hq : QuoteCfg cfg pre post k)
    (p : List (List Str)) (rest : List (List (List Str))) (hp : plainPara p = true) (hrest : ∀ q ∈ rest, plainPara q = true)
    (B : Nat) (gas : Nat) :
    (∀ q ∈ p :: rest, plainPara (reflowG B q) = true ∧ (reflowG B q).flatten = q.flatten) ∧
    ∃ d d', Document.parse cfg (gas + (2 * rest.length + cfg.block.types.length + 4) + k * (pre.length + 3)) (textOfQ k p rest) = .ok d ∧
      Document.parse cfg (gas + (2 * rest.length + cfg.block.types.length + 4) + k * (pre.length + 3))
        (textOfQ k (reflowG B p) (rest.map (reflowG B))) = .ok d' ∧
      d.kids = qBlocks 1 (proseBlocksB (cfg.block.types.contains .blankLine) 1 (paraLines p) (rest.map paraLines)) k ∧
      d'.kids = qBlocks 1 (proseBlocksB (cfg.block.types.contains .blankLine) 1 (paraLines (reflowG B p))
        ((rest.map (reflowG B)).map paraLines)) k ∧
      ∀ o : Html.Opts, nlToSp (Html.render o d') = nlToSp (Html.render o d) ∧
        nlToSp (Html.render o d) = nlToSp (qHtml k (htmlParas o.dq o.sq (paraSep (cfg.block.types.contains .blankLine))
          (joinWords p.flatten) (rest.map (fun q => joinWords q.flatten)))) := by
  refine ⟨fun q hm => ?_, ?_⟩
  · have f := reflowFacts B q (plainPara_cons p rest hp hrest q hm)
    exact ⟨f.plain, f.words⟩
  have hp' := (reflowFacts B p hp).plain
  have hrest' := reflow_plain B rest hrest
  have h2 := parse_quoted cfg pre post k hq _ _ hp' hrest' gas
  rw [List.length_map] at h2
  refine ⟨_, _, parse_quoted cfg pre post k hq p rest hp hrest gas, h2, rfl, rfl, fun o => ?_⟩
  have e1 := html_normQ o (cfg.block.types.contains .blankLine) (Document.footnotesOf []) k p rest hp hrest
  have e2 := html_normQ o (cfg.block.types.contains .blankLine) (Document.footnotesOf []) k _ _ hp' hrest'
  rw [htmlParas_reflow _ _ _ B p rest hp hrest] at e2
  exact ⟨e2.trans e1.symm, e1⟩

/-- **(4) reflowing the output again with the same limit changes nothing**: the output is in the fragment at the
    same depth, so the budget is the same; its words are the same sequence; the fill loop is a function of the word
    sequence. -/
theorem reflowQ_idempotent (cfg : Document.Cfg) (pre post : List BTok) (k : Nat)
    (hq : QuoteCfg cfg pre post k) (hbl : .blankLine ∈ cfg.block.types)
    (p : List (List Str)) (rest : List (List (List Str))) (hp : plainPara p = true) (hrest : ∀ q ∈ rest, plainPara q = true)
    (o : Opts) (n : Int) (hn : n ≠ 0) (ho : o.maxLineLength = some n) (gas : Nat) :
    ∃ d, Document.parse cfg (gas + (2 * rest.length + cfg.block.types.length + 4) + k * (pre.length + 3)) (textOfQ k p rest) = .ok d ∧
      ∃ d', Document.parse cfg (gas + (2 * rest.length + cfg.block.types.length + 4) + k * (pre.length + 3)) (render o d) = .ok d' ∧
        renderRes o d' = renderRes o d ∧ render o d' = render o d := by
  obtain ⟨d, h1, _, h2⟩ := reflowQ_render cfg pre post k hq hbl p rest hp hrest o n hn ho gas
  obtain ⟨d', h3, _, h4⟩ := reflowQ_render cfg pre post k hq hbl _ _ (reflowFacts (qBud n k).toNat p hp).plain
    (reflow_plain _ rest hrest) o n hn ho gas
  rw [List.length_map] at h3
  rw [reflowG_idem _ p hp, map_reflowG _ _ _ (reflowG_idem _) rest hrest] at h4
  exact idempotent_of_renders cfg _ o _ _ d d' h1 h2 h3 h4

/-- clauses (1), (2) and the word part of (3) for any covered configuration and `max_line_length = L ≥ 1` -/
theorem reflowQ_all (cfg : Document.Cfg) (pre post : List BTok) (k : Nat)
    (hq : QuoteCfg cfg pre post k) (hbl : .blankLine ∈ cfg.block.types)
    (p : List (List Str)) (rest : List (List (List Str))) (hp : plainPara p = true) (hrest : ∀ q ∈ rest, plainPara q = true)
    (o : Opts) (L : Nat) (hL : 1 ≤ L) (ho : o.maxLineLength = some (L : Int)) (gas : Nat) :
    ∃ d, Document.parse cfg (gas + (2 * rest.length + cfg.block.types.length + 4) + k * (pre.length + 3)) (textOfQ k p rest) = .ok d ∧
      d.kids = qBlocks 1 (proseBlocks 1 (paraLines p) (rest.map paraLines)) k ∧
      renderRes o d = .ok (textOfQ k (reflowG (qBudget L k) p) (rest.map (reflowG (qBudget L k)))) ∧
      render o d = textOfQ k (reflowG (qBudget L k) p) (rest.map (reflowG (qBudget L k))) ∧
      (∀ q ∈ p :: rest, plainPara (reflowG (qBudget L k) q) = true ∧ (reflowG (qBudget L k) q).flatten = q.flatten ∧
        fill (qBudget L k) q.flatten = (reflowG (qBudget L k) q).map joinWords) ∧
      (∀ l ∈ linesQ k (reflowG (qBudget L k) p) (rest.map (reflowG (qBudget L k))),
        ∃ body, l = qPre k ++ body ++ ['\n'] ∧ (body = [] ∨ ∃ q ∈ p :: rest, body ∈ fill (qBudget L k) q.flatten) ∧
          ((qBudget L k < body.length ∨ L < (qPre k ++ body).length) → ∀ c ∈ body, pyIsSpace c = false)) ∧
      (∀ q ∈ p :: rest, ∀ body ∈ fill (qBudget L k) q.flatten,
        (qBudget L k < body.length ∨ L < (qPre k ++ body).length) → body ∈ q.flatten ∧ ∀ c ∈ body, pyIsSpace c = false) := by
  obtain ⟨d, h1, h2, h3⟩ := reflowQ_render cfg pre post k hq hbl p rest hp hrest o (L : Int) (by omega) ho gas
  rw [qBud_toNat L k hL] at h3
  have hall := plainPara_cons p rest hp hrest
  refine ⟨d, h1, h2, h3, by simp only [render, h3], ?_, reflowQ_line_bound L k p rest hp hrest, ?_⟩
  · intro q hq
    have f := reflowFacts (qBudget L k) q (hall q hq)
    exact ⟨f.plain, f.words, f.lines⟩
  · intro q hq
    exact reflowQ_bound L k q (hall q hq)

/-- `Quote` is the sixth block type of the Markdown renderer's list … -/
theorem markdown_quoteCfg (cfg : Document.Cfg) (hcfg : Config.markdown = some cfg) (k : Nat) :
    QuoteCfg cfg [.linkRefDefBlock, .blankLine, .htmlBlock, .blockCode, .heading]
      [.codeFence, .thematicBreak, .list, .table, .paragraph] k := by
  obtain ⟨hty, hpar, _, ht, hc⟩ := markdown_facts cfg hcfg
  exact ⟨Or.inr ⟨by rw [hty]; rfl, by decide, by decide⟩, hpar, ht, hc⟩

/-- … and the fourth of the HTML renderer's -/
theorem html_quoteCfg (cfg : Document.Cfg) (hcfg : Config.html = some cfg) (k : Nat) :
    QuoteCfg cfg [.htmlBlock, .blockCode, .heading] [.codeFence, .thematicBreak, .list, .table, .footnote, .paragraph] k := by
  obtain ⟨hpar, ht, hc⟩ := Mistletoe.Props.C14.C14_config_covered cfg (Or.inl hcfg)
  obtain ⟨_, h', hty⟩ := html_facts
  cases hcfg.symm.trans h'
  exact ⟨Or.inr ⟨by rw [hty]; rfl, by decide, by decide⟩, hpar, ht, hc⟩

/-! ### Non-vacuity -/

/-- six words, one of them 15 letters long -/
def paraQ : List (List Str) := [[W "an", W "extraordinarily", W "long"], [W "word", W "here", W "today"]]
def paraQ2 : List (List Str) := [[W "the", W "quick", W "brown"], [W "fox", W "jumps", W "over", W "it."]]

attribute [lit] paraQ paraQ2

theorem parasQ_plain : plainPara paraQ = true ∧ plainPara paraQ2 = true := by decide_lit

/-- the source text at depth 2, and the budget for L = 14 there -/
example : textOfQ 2 paraQ [] = W "> > an extraordinarily long\n> > word here today\n" := by decide_lit
example : textOfQ 2 paraQ [paraQ2] =
    W "> > an extraordinarily long\n> > word here today\n> > \n> > the quick brown\n> > fox jumps over it.\n" := by decide_lit
example : qBudget 14 2 = 10 ∧ qBudget 14 7 = 1 ∧ qBudget 14 9 = 1 ∧ qBudget 14 0 = 14 := by decide
example : qBud 14 2 = 10 ∧ qBud 3 2 = 1 ∧ qBud (-5) 1 = 1 := by decide

/-- the re-broken paragraph: budget 10 after the prefix "> > "; the 15-letter word stands alone -/
example : reflowG 10 paraQ = [[W "an"], [W "extraordinarily"], [W "long", W "word"], [W "here", W "today"]] := by decide_lit
example : textOfQ 2 (reflowG 10 paraQ) [] = W "> > an\n> > extraordinarily\n> > long word\n> > here today\n" := by decide_lit

/-- the working tree's Markdown configuration exists, so the theorems under `Config.markdown` are not vacuous in `hcfg` -/
theorem markdown_cfg_exists : ∃ cfg, Config.markdown = some cfg :=
  ⟨_, Config.markdown_eq⟩

open Mistletoe.Props.C09 (mdCfg) in
/-- evaluating parser and renderer in the kernel on the source text gives the re-broken text; the line
    "> > extraordinarily" (19 > 14) has a body without a space, every other line is within 14 -/
example : (Document.parse mdCfg 31 (W "> > an extraordinarily long\n> > word here today\n")).bind
    (fun d => renderRes { maxLineLength := some 14 } d) =
      .ok (W "> > an\n> > extraordinarily\n> > long word\n> > here today\n") := by decide_lit

open Mistletoe.Props.C09 (mdCfg) in
/-- idempotence in the kernel: the output is reproduced -/
example : (Document.parse mdCfg 31 (W "> > an\n> > extraordinarily\n> > long word\n> > here today\n")).bind
    (fun d => renderRes { maxLineLength := some 14 } d) =
      .ok (W "> > an\n> > extraordinarily\n> > long word\n> > here today\n") := by decide_lit

open Mistletoe.Props.C09 (mdCfg) in
/-- two paragraphs, clamped budget (L = 3 at depth 2: budget 1, one word per line), separator line "> > " -/
example : (Document.parse mdCfg 33 (W "> > an extraordinarily long\n> > word here today\n> > \n> > the quick brown\n")).bind
    (fun d => renderRes { maxLineLength := some 3 } d) =
      .ok (W "> > an\n> > extraordinarily\n> > long\n> > word\n> > here\n> > today\n> > \n> > the\n> > quick\n> > brown\n") := by
  decide_lit

example : Config.renderHtml {} 26 (W "> > an extraordinarily long\n> > word here today\n") =
    some (W "<blockquote>\n<blockquote>\n<p>an extraordinarily long\nword here today</p>\n</blockquote>\n</blockquote>\n") :=
  Config.renderHtml_of (by decide_lit)
example : Config.renderHtml {} 26 (W "> > an\n> > extraordinarily\n> > long word\n> > here today\n") =
    some (W "<blockquote>\n<blockquote>\n<p>an\nextraordinarily\nlong word\nhere today</p>\n</blockquote>\n</blockquote>\n") :=
  Config.renderHtml_of (by decide_lit)

open Mistletoe.Props.C09 (mdCfg mdCfg_ok) in
/-- the theorem applies to the two-line paragraph with L = 12 … -/
example : ∃ d, Document.parse mdCfg 15 (textOf para1 []) = .ok d ∧
    render { maxLineLength := some 12 } d = textOf (reflowG 12 para1) [] := by
  obtain ⟨d, h1, _, _, h3, _⟩ := reflowQ_all mdCfg [] [] 0 (.top mdCfg_ok.1 mdCfg_ok.2.2.1 mdCfg_ok.2.2.2) mdCfg_ok.2.1
    para1 [] paras_plain.1 (by simp) { maxLineLength := some 12 } 12 (by omega) rfl 0
  exact ⟨d, h1, h3⟩

end Mistletoe.ReflowQuote
