/-
  C03 with fenced code blocks and setext headings (`Proofs/ComposeCode.lean`, `Proofs/ComposeEmbed.lean`): non-vacuity for
  fenced code blocks (setext headings: `Proofs/ComposeCode3.lean`).  A sample forest - a fenced block inside a loose list
  item inside a quote, and more - is well-formed by kernel evaluation; the theorems apply to it; evaluating the model on
  the written text in the kernel, independently of the theorems, gives the same HTML; the real `mistletoe.markdown` returns
  this string for this text.
-/
import Mistletoe.Proofs.ComposeEmbed
import Mistletoe.Proofs.Lit
namespace Mistletoe.ComposeC
open Mistletoe Mistletoe.Py Mistletoe.Scan Mistletoe.Compose
open Mistletoe.Block
open Mistletoe.Html

def L (s : String) : Str := s.toList

/-- a quote holding a loose bullet list: the first item a paragraph and a backtick fence with a language, a blank content
    line and characters to escape; the second item a tilde fence (longer closing fence with trailing spaces, an info string
    with backticks, a shorter tilde fence as content).  Then, at top level, a fence of four backticks at indentation 2
    (content lines indented 3, 1, 0; a fence of three backticks as content; closing fence at indentation 3), then a
    paragraph. -/
def sampleC : List T3 := [
  .quote false [
    .list false 0 '-' 1 true [
      [.para [L "intro\n"], .fence 0 (L "```") (L "python") [L "def f(x):\n", L "\n", L "    return x < 1 & \"a\"\n"] (L "```\n")],
      [.fence 0 (L "~~~~") (L " c++ extra ``` ") [L "~~~\n", L "code\n"] (L "~~~~~  \n")]]],
  .fence 2 (L "````") (L "") [L "   indented three\n", L " one\n", L "```\n"] (L "   ````\n"),
  .para [L "after\n"]]

attribute [lit] L sampleC

theorem sampleC_ok : T3.oks sampleC = true := by decide_lit

example : (writes3 sampleC).flatten =
    L "> - intro\n> \n>   ```python\n>   def f(x):\n> \n>       return x < 1 & \"a\"\n>   ```\n> \n> - ~~~~ c++ extra ``` \n>   ~~~\n>   code\n>   ~~~~~  \n\n  ````\n   indented three\n one\n```\n   ````\n\nafter\n" := by
  decide_lit

/-- the HTML written directly from the tree; `mistletoe.markdown` returns this string for the text above -/
def htmlC : Str :=
  L "<blockquote>\n<ul>\n<li>\n<p>intro</p>\n<pre><code class=\"language-python\">def f(x):\n\n    return x &lt; 1 &amp; \"a\"\n</code></pre>\n</li>\n<li>\n<pre><code class=\"language-c++\">~~~\ncode\n</code></pre>\n</li>\n</ul>\n</blockquote>\n<pre><code> indented three\none\n```\n</code></pre>\n<p>after</p>\n"

attribute [lit] htmlC

example : htmlOf3 {} sampleC = htmlC := by decide_lit
example : needs3 sampleC = 182 := by decide +kernel

example : Config.renderHtml {} 182 (writes3 sampleC).flatten = some htmlC := by
  rw [C03_code_html_partial {} sampleC sampleC_ok (by decide) 182 (by decide +kernel)]
  decide_lit

/-- the same fact by evaluating the model on the text, without the theorem -/
example : Config.renderHtml {} 182 (writes3 sampleC).flatten = some htmlC :=
  Config.renderHtml_of (by decide_lit)

/-- the predicate is not trivially true: a fence of two backticks, a mixed fence, indentation 4, a backtick in the info
    string of a backtick fence, an info string that begins with the fence character, a content line that closes the fence,
    a closing line that is too short, a closing line of the other character, a closing line with text behind the fence,
    a tab in a content line -/
example : [T3.fence 0 (L "``") [] [] (L "``\n"), T3.fence 0 (L "``~") [] [] (L "``~\n"), T3.fence 4 (L "```") [] [] (L "```\n"),
    T3.fence 0 (L "```") (L "a`b") [] (L "```\n"), T3.fence 0 (L "~~~") (L "~a") [] (L "~~~\n"),
    T3.fence 0 (L "```") [] [L "  ````\n"] (L "```\n"), T3.fence 0 (L "````") [] [] (L "```\n"),
    T3.fence 0 (L "```") [] [] (L "~~~\n"), T3.fence 0 (L "```") [] [] (L "``` x\n"),
    T3.fence 0 (L "```") [] [L "\tx\n"] (L "```\n")].map T3.ok = List.replicate 10 false := by
  decide_lit
/-- … and what it does accept: an empty block, a tilde fence with backticks in the info string, content lines that look
    like blocks and like shorter or other fences, a longer closing fence at indentation 3 with trailing spaces -/
example : [T3.fence 0 (L "```") [] [] (L "```\n"), T3.fence 3 (L "~~~") (L " a`b ~ ") [L "# x\n", L "- y\n", L "> z\n", L "***\n", L "\n"] (L "~~~\n"),
    T3.fence 1 (L "````") (L "x") [L "```\n", L "~~~~\n", L "    ````\n", L "```` x\n"] (L "   `````   \n")].map T3.ok = List.replicate 3 true := by
  decide_lit
/-- a fence at indentation 2 is not accepted as the first block of a list item, nor directly behind a list -/
example : T3.ok (.list false 0 '-' 1 false [[.fence 2 (L "```") [] [] (L "```\n")]]) = false ∧
    T3.oks [.list false 0 '-' 1 false [[.para [L "a\n"]]], .fence 2 (L "```") [] [] (L "```\n")] = false ∧
    T3.oks [.list false 0 '-' 1 false [[.para [L "a\n"]]], .fence 0 (L "```") [] [] (L "```\n")] = true := by
  refine ⟨?_, ?_, ?_⟩ <;> decide_lit

/-- **A content line that begins like the fence**: the specification lets a closing fence be followed by spaces only, so
    in "```", "```abc", "x", "```" the second line is content.  `CodeFence.read` makes that test since 99c8328 in /repo
    (before, it asked only that the stripped line begin with the opening fence string and be one word, took "```abc" for
    the closing line and went on with a paragraph and a second, unclosed fence); such a line is in the fragment. -/
example : Config.renderHtml {} 100 (L "```\n```abc\nx\n```\n") = some (L "<pre><code>```abc\nx\n</code></pre>\n") :=
  Config.renderHtml_of (by decide_lit)
example : T3.ok (.fence 0 (L "```") [] [L "```abc\n", L "x\n"] (L "```\n")) = true := by decide_lit

#print axioms C03_code_block_phase_partial
#print axioms C03_code_document_partial
#print axioms C03_code_render_partial
#print axioms C03_code_html_partial

end Mistletoe.ComposeC
