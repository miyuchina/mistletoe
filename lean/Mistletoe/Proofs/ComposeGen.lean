/-
  What the tree developments for C03 (`T`, `T2`, `T3`, `T4`) share, stated about BLOCKS OF LINES instead of trees.

  A node of any of the trees is, for the dispatcher, a block of lines `W` together with the entry `e m` it is read as when
  its first line is line `m`, the gas it needs, whether it switches `parse_setext` back on (`tch`) and whether it needs it on
  (`sx`).  A node is `Closed` (alone in a buffer it is that one entry: paragraph, heading, thematic break, quote, setext
  heading, table) or `Open` (the dispatcher, entered on its first line, adds the entry and stands behind its lines, provided
  what follows satisfies `P`: list, fenced and indented code).  `SibsF` / `Sibs` is the claim for siblings separated by "\n"
  lines, `Items` the claim for `List.read` over the items of a list.  The lemmas below build these claims from each other;
  the induction over a tree only chooses the lemma for each constructor.

  The gas.  Behind closed nodes the exact need is known: `tokenizeBlock_concat` adds `types.length + 1` = 11 to the gas
  of the two halves, and a final "\n" line behind the last node costs 13 (`sibs_single_closed`, `sibs_cons_closed`: `SibsF`,
  the gas as a function of whether there is such a line; the gas function `needs` of `Compose.T` is this one at "no line").
  The gas functions of the trees with lists (`need2/3/4`, `needs…`, with which the theorems about the trees are stated) do
  not look at the final line: siblings need `need t + needs rest + 14`, written `n + 0 + 14` for a single node so that it
  has this shape (`Sibs`, `sibs_single`, `sibs_cons`); an open node needs `gn + 12` where `gn` is what its reader needs.
  `Open` is stated for the round itself: of `g + 8`, one unit is the round, six take the dispatcher past the types before `List` (the seventh of the default list;
  the code blocks come earlier and leave gas over), one is the call of `List`, and the reader runs on `g ≥ gn`.
  `SxOk` is in the namespace `ComposeC` of the tree (`T3`) that has setext headings, although every claim here carries it.
-/
import Mistletoe.Proofs.ComposeLists

namespace Mistletoe.ComposeC
open Mistletoe Mistletoe.Block Mistletoe.Compose

/-- where the tree has a setext heading, `Paragraph.parse_setext` must be on (it is, outside quotes) -/
def SxOk (b : Bool) (st : St) : Prop := b = true → st.setext = true

theorem sxOk_false (st : St) : SxOk false st := fun h => by cases h
theorem sxOk_after {b : Bool} {st : St} (h : SxOk b st) (c : Bool) : SxOk b (after st c) := by
  intro hb; simp [after, h hb]
theorem sxOk_left {a b : Bool} {st : St} (h : SxOk (a || b) st) : SxOk a st := fun ha => h (by simp [ha])
theorem sxOk_right {a b : Bool} {st : St} (h : SxOk (a || b) st) : SxOk b st := fun hb => h (by simp [hb])

end Mistletoe.ComposeC

namespace Mistletoe.ComposeG
open Mistletoe Mistletoe.Py Mistletoe.Scan Mistletoe.Compose
open Mistletoe.Block
open Mistletoe.Props.C14 (defaultTypes inertLine numbered numbered_cons numbered_append numbered_length numbered_mem numbered_s)
open Mistletoe.Props.C04 (indentDoc itemDocOk itemDocOk_spec)
open Mistletoe.ComposeL (leaderOf sepS StopLine PostOk postOk_nil postOk_nl postOk_stop itemDocOk_ne item_lines_last dcfg_noBlank dcfg_len
  tokLoop_list_step readList_item_cons lineOk_sepS otherMarkerType_leaders)
open Mistletoe.ComposeC (SxOk sxOk_false sxOk_after sxOk_left sxOk_right)

/-! ### The claims: `Closed`, `Open`, `Sibs`, `Items` -/

def Closed (ti : Bool) (W : List Str) (e : Nat → Entry) (need : Nat) (tch sx : Bool) : Prop :=
  ∀ (k : Nat) (st : St) (gas : Nat), need ≤ gas → SxOk sx st →
    tokenizeBlock (dcfg ti) gas (numbered k W) (k + 1) st = .ok ({ entries := [e (k + 1)], loose := false }, after st tch)

def Open (ti : Bool) (W : List Str) (e : Nat → Entry) (gn : Nat) (tch sx : Bool) (P : List Line → Prop) : Prop :=
  ∀ (post : List Line), P post → ∀ (k : Nat) (st : St) (g : Nat), gn ≤ g → SxOk sx st → ∀ (acc : List Entry) (lo : Bool),
    tokLoop (dcfg ti) (g + 8) ⟨numbered k W ++ post, 0, k + 1⟩ st acc lo =
      tokLoop (dcfg ti) (g + 7) ⟨numbered k W ++ post, W.length, k + 1⟩ (after st tch) (e (k + 1) :: acc) lo

/-- `tail`: a final "\n" line follows; the gas needed may depend on it -/
def SibsF (ti : Bool) (W : List Str) (es : Nat → List Entry) (lo : Bool) (need : Bool → Nat) (tch sx : Bool) : Prop :=
  ∀ (tail : Bool) (k : Nat) (st : St) (gas : Nat), need tail ≤ gas → SxOk sx st →
    tokenizeBlock (dcfg ti) gas (numbered k (W ++ sepS tail)) (k + 1) st =
      .ok ({ entries := es (k + 1), loose := lo || tail }, after st tch)

/-- `SibsF … (fun _ => need)` written out, so that `need ≤ gas` arrives β-reduced where `omega` reads it -/
def Sibs (ti : Bool) (W : List Str) (es : Nat → List Entry) (lo : Bool) (need : Nat) (tch sx : Bool) : Prop :=
  ∀ (tail : Bool) (k : Nat) (st : St) (gas : Nat), need ≤ gas → SxOk sx st →
    tokenizeBlock (dcfg ti) gas (numbered k (W ++ sepS tail)) (k + 1) st =
      .ok ({ entries := es (k + 1), loose := lo || tail }, after st tch)

/-- `List.read` entered on the first item, or re-entered on a later one whose first line (behind the marker) is `first`: `ld`, `nm`
    are `readList`'s `leader` and `next_marker`.  The `LdNm … items` of the trees are this at the first line of `items`. -/
def LdNm (o : Bool) (mk : Char) (pad n : Nat) (first : Str) (ld : Option Str) (nm : Option (Nat × Nat × Str × Str)) : Prop :=
  (ld = none ∧ nm = none) ∨
  (∃ n0, ld = some (leaderOf o n0 mk) ∧ leaderOk o (leaderOf o n0 mk) = true ∧
    nm = some (0, (leaderOf o n mk).length + pad, leaderOf o n mk, first))

def Items (ti : Bool) (o : Bool) (mk : Char) (pad n : Nat) (W : List Str) (first : Str) (its : Nat → List Item)
    (need : Nat) (tch sx : Bool) : Prop :=
  ∀ (pre post : List Line) (start k : Nat) (st : St) (gas : Nat) (acc : List Item) ld nm,
    start + pre.length = k + 1 → need ≤ gas → PostOk post → LdNm o mk pad n first ld nm → SxOk sx st →
    readList (dcfg ti) gas ⟨pre ++ numbered k W ++ post, pre.length, start⟩ st ld nm acc =
      .ok (acc.reverse ++ its (k + 1), ⟨pre ++ numbered k W ++ post, pre.length + W.length, start⟩, after st tch)

/-! ### A node from its round of the loop

  Where a kind's round is stated as a `Block.Step` over its written lines (the leaves of `T3`, `T4`: one statement for the
  C03 trees and the C09 fragments), the node is read off it. -/

/-- an open node is the round entered at the head of a buffer -/
theorem open_of_step {ti sx : Bool} {W : List Str} {e : Nat → Nat → Entry} {gn : Nat} {P : List Line → Prop}
    (h : ∀ k st, Step (dcfg ti) (gn + 7) P (numbered k W) (fun ln => [e ln (k + 1)]) 1 st st false) :
    Open ti W (fun m => e m m) gn false sx P := by
  intro post hp k st g hg _ acc lo
  simpa [after_false, numbered_length] using h k st [] post (k + 1) (g + 7) acc lo hp (by omega)

/-- a closed node is the round with nothing behind the lines (`Step.tokLoop`); `m` is the gas the tree's `need` gives.
    `n + 3`: one unit is `tokenizeBlock`'s own, one the round, one the round that finds the end of the buffer (`Step.tokLoop`
    runs on `g + 1 + 1` and asks `n ≤ g + 1`) -/
theorem closed_of_step {ti sx : Bool} {W : List Str} {e : Nat → Nat → Entry} {n m : Nat} {P : List Line → Prop}
    (h : ∀ k st, SxOk sx st → Step (dcfg ti) n P (numbered k W) (fun ln => [e ln (k + 1)]) 1 st st false) (hP : P [])
    (hm : n + 3 ≤ m) : Closed ti W (fun m => e m m) m false sx := by
  intro k st gas hg hsx
  obtain ⟨g, rfl⟩ : ∃ g, gas = g + 1 + 1 + 1 := ⟨gas - 3, by omega⟩
  simpa [tokenizeBlock, after_false] using (h k st hsx).tokLoop hP [] (k + 1) g (by omega) [] false

/-! ### Siblings -/

theorem lineOk_append_sepS {R : List Str} (h : ∀ s ∈ R, LineOk s) (tail : Bool) : ∀ s ∈ R ++ sepS tail, LineOk s := by
  intro s hs
  rcases List.mem_append.mp hs with hs | hs
  · exact h s hs
  · exact lineOk_sepS tail s hs

theorem numbered_sibs_cons (W R : List Str) (tail : Bool) (k : Nat) :
    numbered k ((W ++ ['\n'] :: R) ++ sepS tail) =
      numbered k W ++ { s := ['\n'], origin := k + W.length + 1 } ::
        (numbered k (R ++ sepS tail)).map (Line.sh ((numbered k W).length + 1)) := by
  rw [List.append_assoc, numbered_append, List.cons_append, numbered_cons, numbered_length, ← numbered_sh]
  have : k + W.length + 1 = k + (W.length + 1) := by omega
  rw [this]

variable {ti : Bool} {W R : List Str} {e : Nat → Entry} {es : Nat → List Entry} {lo : Bool} {n nr gn : Nat}
  {tch sx tchR sxR : Bool} {P : List Line → Prop}

theorem SibsF.mono {nd : Bool → Nat} (h : SibsF ti W es lo nd tch sx) (hn : ∀ tail, nd tail ≤ n) : Sibs ti W es lo n tch sx :=
  fun tail k st gas hg hsx => h tail k st gas (Nat.le_trans (hn tail) hg) hsx

/-- a closed node alone: with a final "\n" line it is C05 with nothing behind the line -/
theorem sibs_single_closed (hT : Closed ti W e n tch sx) (hc : ∀ m, closedE (e m) = true) (hW : ∀ s ∈ W, LineOk s) :
    SibsF ti W (fun m => [e m]) false (fun tail => n + if tail then 13 else 0) tch sx := by
  intro tail k st gas hg hsx
  cases tail with
  | false =>
    have := hT k st gas (by simpa using hg) hsx
    simpa [sepS] using this
  | true =>
    have hg : n + 13 ≤ gas := hg
    have hA := hT k st n (Nat.le_refl _) hsx
    have key := tokenizeBlock_concat (dcfg ti) (dcfg_noBlank ti) (numbered k W) []
      { s := ['\n'], origin := k + W.length + 1 } rfl (k + 1) st n 2 _ { entries := [], loose := false } _ _ hA
      (by intro e' he; simp only [List.getLast?_singleton, Option.some.injEq] at he; subst he; exact hc _)
      rfl (numbered_allNlEnd k _ hW) (by intro l hl; cases hl)
    rw [numbered_append]
    refine tokenizeBlock_mono (dcfg ti) _ _ _ _ _ gas (by rw [dcfg_len]; omega) key |>.trans ?_
    simp [shiftEntries]

/-- a closed node, a "\n" line, further siblings: C05 -/
theorem sibs_cons_closed {nr : Bool → Nat} (hT : Closed ti W e n tch sx) (hc : ∀ m, closedE (e m) = true) (hW : ∀ s ∈ W, LineOk s)
    (hR : SibsF ti R es lo nr tchR sxR) (hRl : ∀ s ∈ R, LineOk s) (hsh : ∀ j m, shiftEntries j (es m) = es (m + j)) :
    SibsF ti (W ++ ['\n'] :: R) (fun m => e m :: es (m + W.length + 1)) true (fun tail => n + (nr tail + 11)) (tch || tchR)
      (sx || sxR) := by
  intro tail k st gas hg hsx
  have hg : n + (nr tail + 11) ≤ gas := hg
  have hA := hT k st n (Nat.le_refl _) (sxOk_left hsx)
  have hB := hR tail k (after st tch) (gas - n - 11) (by omega) (sxOk_after (sxOk_right hsx) _)
  have key := tokenizeBlock_concat (dcfg ti) (dcfg_noBlank ti) (numbered k W)
    (numbered k (R ++ sepS tail)) { s := ['\n'], origin := k + W.length + 1 } rfl (k + 1) st
    n (gas - n - 11) _ _ _ _ hA
    (by intro e' he; simp only [List.getLast?_singleton, Option.some.injEq] at he; subst he; exact hc _)
    hB (numbered_allNlEnd k _ hW) (numbered_allNlEnd k _ (lineOk_append_sepS hRl tail))
  have hgas : gas = n + (gas - n - 11 + (dcfg ti).types.length + 1) := by rw [dcfg_len]; omega
  rw [numbered_sibs_cons, hgas, key, numbered_length, hsh]
  have e3 : k + 1 + (W.length + 1) = k + 1 + W.length + 1 := by omega
  simp only [List.singleton_append, e3, after_after, Bool.true_or]

theorem sibs_single_open (hT : Open ti W e gn tch sx P) (hP0 : P []) (hP1 : ∀ nlL : Line, nlL.s = ['\n'] → P [nlL]) :
    Sibs ti W (fun m => [e m]) false (gn + 12 + 0 + 14) tch sx := by
  intro tail k st gas hg hsx
  obtain ⟨g, rfl⟩ : ∃ g, gas = (g + 8) + 1 := ⟨gas - 9, by omega⟩
  have hgi : gn ≤ g := by omega
  rw [numbered_append]
  unfold tokenizeBlock
  cases tail with
  | false =>
    rw [show numbered (k + W.length) (sepS false) = [] from rfl, hT [] hP0 k st g hgi hsx [] false,
      List.append_nil, ← numbered_length k W, tokLoop_end]
    simp
  | true =>
    rw [show numbered (k + W.length) (sepS true) = [⟨['\n'], k + W.length + 1⟩] from rfl,
      hT _ (hP1 _ rfl) k st g hgi hsx [] false, ← numbered_length k W,
      tokLoop_nl_step (dcfg ti) (g + 6) (by rw [dcfg_len]; omega) _ _ _ _ _ _ _ rfl, if_neg (by simpa using dcfg_noBlank ti), List.append_nil, tokLoop_end]
    simp

/-- an open node, a "\n" line, further siblings: the dispatcher goes on behind the "\n" line (`tokLoop_suffix_shift`) -/
theorem sibs_cons_open (hT : Open ti W e gn tch sx P)
    (hP : ∀ (tail : Bool) (k : Nat), P ({ s := ['\n'], origin := k + W.length + 1 } ::
      (numbered k (R ++ sepS tail)).map (Line.sh ((numbered k W).length + 1))))
    (hR : Sibs ti R es lo nr tchR sxR) (hRl : ∀ s ∈ R, LineOk s) (hsh : ∀ j m, shiftEntries j (es m) = es (m + j)) :
    Sibs ti (W ++ ['\n'] :: R) (fun m => e m :: es (m + W.length + 1)) true (gn + 12 + nr + 14) (tch || tchR) (sx || sxR) := by
  intro tail k st gas hg hsx
  obtain ⟨g, rfl⟩ : ∃ g, gas = (g + 8) + 1 := ⟨gas - 9, by omega⟩
  rw [numbered_sibs_cons]
  unfold tokenizeBlock
  rw [hT _ (hP tail k) k st g (by omega) (sxOk_left hsx) [] false]
  have hp := peek_at (numbered k W) { s := ['\n'], origin := k + W.length + 1 }
    ((numbered k (R ++ sepS tail)).map (Line.sh ((numbered k W).length + 1))) (k + 1)
  rw [numbered_length] at hp ⊢
  rw [tokLoop_none hp (tryTypes_nl (dcfg ti) _ _ _ rfl _ (g + 6) (dcfg_noBlank ti) (by rw [dcfg_len]; omega))]
  have hB := hR tail k (after st tch) (g + 6 + 1) (by omega) (sxOk_after (sxOk_right hsx) _)
  have hsh' := tokLoop_suffix_shift (dcfg ti) (g + 6) (numbered k W ++ [{ s := ['\n'], origin := k + W.length + 1 }])
    (numbered k (R ++ sepS tail)) (k + 1) (after st tch) [e (k + 1)] true (numbered_allNlEnd k _ (lineOk_append_sepS hRl tail))
  simp only [List.length_append, numbered_length, List.length_singleton, List.append_assoc, List.singleton_append] at hsh'
  simp only [FW.next]
  rw [hsh', hB]
  simp only [rmap_ok, shB, withAcc]
  rw [hsh]
  have e3 : k + 1 + (W.length + 1) = k + 1 + W.length + 1 := by omega
  rw [e3]
  simp only [after_after, List.reverse_singleton, List.singleton_append, Bool.true_or]

/-- what a tree supplies for one node: it is closed, or open with a condition `P` on what follows that holds of nothing, of
    a final "\n" line, and of a "\n" line followed by a line satisfying `Q` -/
inductive Node (ti : Bool) (W : List Str) (e : Nat → Entry) (need : Nat) (tch sx : Bool) (Q : Str → Prop) : Prop
  | closed (hT : Closed ti W e need tch sx) (hc : ∀ m, closedE (e m) = true)
  | opn (gn : Nat) (P : List Line → Prop) (hn : need = gn + 12) (hT : Open ti W e gn tch sx P) (hP0 : P [])
      (hP1 : ∀ nlL : Line, nlL.s = ['\n'] → P [nlL])
      (hP2 : ∀ (nlL l : Line) (rest : List Line), nlL.s = ['\n'] → Q l.s → P (nlL :: l :: rest))

variable {Q : Str → Prop}

theorem Node.mono {Q' : Str → Prop} (h : ∀ s, Q' s → Q s) (hN : Node ti W e n tch sx Q) : Node ti W e n tch sx Q' := by
  cases hN with
  | closed hT hc => exact .closed hT hc
  | opn gn P hn hT hP0 hP1 hP2 => exact .opn gn P hn hT hP0 hP1 (fun nlL l rest hnl hq => hP2 nlL l rest hnl (h _ hq))

theorem sibs_single (hN : Node ti W e n tch sx Q) (hW : ∀ s ∈ W, LineOk s) : Sibs ti W (fun m => [e m]) false (n + 0 + 14) tch sx := by
  cases hN with
  | closed hT hc => exact (sibs_single_closed hT hc hW).mono (fun tail => by cases tail <;> simp)
  | opn gn P hn hT hP0 hP1 _ => subst hn; exact sibs_single_open hT hP0 hP1

theorem sibs_cons (hN : Node ti W e n tch sx Q) (hW : ∀ s ∈ W, LineOk s) (hR : Sibs ti R es lo nr tchR sxR)
    (hRl : ∀ s ∈ R, LineOk s) (hRne : R ≠ []) (hQ : ∀ s0 ss, R = s0 :: ss → Q s0)
    (hsh : ∀ j m, shiftEntries j (es m) = es (m + j)) :
    Sibs ti (W ++ ['\n'] :: R) (fun m => e m :: es (m + W.length + 1)) true (n + nr + 14) (tch || tchR) (sx || sxR) := by
  cases hN with
  | closed hT hc => exact (sibs_cons_closed (nr := fun _ => nr) hT hc hW hR hRl hsh).mono (fun _ => by omega)
  | opn gn P hn hT _ _ hP2 =>
    subst hn
    obtain ⟨s0, ss, rfl⟩ := List.exists_cons_of_ne_nil hRne
    refine sibs_cons_open hT (fun tail k => ?_) hR hRl hsh
    rw [List.cons_append, numbered_cons]
    exact hP2 _ _ _ rfl (hQ s0 ss rfl)

/-! ### Quotes and the leaves every tree has -/

/-- a quote is closed; of its content only the claim without a final line is asked -/
theorem closed_quoteF {nd : Bool → Nat} (bare : Bool) (hD : SibsF ti R es lo nd tchR false) (hne : R ≠ []) (hok : ∀ s ∈ R, LineOk s)
    (hbare : bare = true → ∀ s ∈ R, s.head? ≠ some ' ') :
    Closed ti (R.map (if bare then qbare else qsp)) (fun m => .quote (es m) lo m m) (nd false + 6) true sx := by
  intro k st gas hg _
  obtain ⟨g, rfl⟩ : ∃ g, gas = g + 6 := ⟨gas - 6, by omega⟩
  have ih := hD false k { st with setext := false } g (by omega) (sxOk_false _)
  simp only [sepS, Bool.false_eq_true, if_false, List.append_nil, Bool.or_false] at ih
  rw [tokenize_quoted ti bare R hne hok hbare k st _ g _ ih]
  simp [after]

theorem closed_quote (bare : Bool) (hD : Sibs ti R es lo nr tchR false) (hne : R ≠ []) (hok : ∀ s ∈ R, LineOk s)
    (hbare : bare = true → ∀ s ∈ R, s.head? ≠ some ' ') :
    Closed ti (R.map (if bare then qbare else qsp)) (fun m => .quote (es m) lo m m) (nr + 6) true sx :=
  closed_quoteF (nd := fun _ => nr) bare hD hne hok hbare

theorem closed_para (ls : List Str) (hp : ParaOk ls) : Closed ti ls (fun m => .paragraph ls m m) 14 false sx := by
  intro k st gas hg _
  obtain ⟨g, rfl⟩ : ∃ g, gas = g + 14 := ⟨gas - 14, by omega⟩
  rw [after_false]
  exact tokenize_para ti ls hp.ne hp.inert k st g

theorem closed_heading (lv : Nat) (t line : Str) (hh : headLine lv t line = true) :
    Closed ti [line] (fun m => .heading lv t (closingOf line) m m) 14 false sx := by
  intro k st gas hg _
  obtain ⟨g, rfl⟩ : ∃ g, gas = g + 6 := ⟨gas - 6, by omega⟩
  rw [after_false]
  exact tokenize_heading ti lv t line hh (k + 1) (k + 1) st g

theorem closed_hr (line : Str) (hh : hrLine line = true) : Closed ti [line] (fun m => .thematicBreak line m m) 14 false sx := by
  intro k st gas hg _
  obtain ⟨g, rfl⟩ : ∃ g, gas = g + 9 := ⟨gas - 9, by omega⟩
  rw [after_false]
  exact tokenize_hr ti line hh (k + 1) (k + 1) st g

/-! ### Lists -/

theorem ldnm_prev {o : Bool} {mk : Char} {pad m : Nat} {first : Str} {ld nm} (h : LdNm o mk pad m first ld nm) :
    nm = none ∨ nm = some (0, (leaderOf o m mk).length + pad, leaderOf o m mk, first) := by
  rcases h with ⟨_, h⟩ | ⟨_, _, _, h⟩
  · exact Or.inl h
  · exact Or.inr h

theorem otherMarker_of_ldnm {o : Bool} {mk : Char} {pad m : Nat} {first : Str} {ld nm}
    (h : LdNm o mk pad m first ld nm) (hok : leaderOk o (leaderOf o m mk) = true) : otherMarkerType ld nm = false := by
  rcases h with ⟨rfl, _⟩ | ⟨n0, rfl, h0, rfl⟩
  · exact otherMarkerType_none_left _
  · exact otherMarkerType_leaders o mk n0 m _ _ _ h0 hok

variable {o : Bool} {mk : Char} {pad m : Nat}

theorem items_last (h1 : 1 ≤ pad) (h4 : pad ≤ 4) (hlead : leaderOk o (leaderOf o m mk) = true)
    {D : List Str} (hdoc : itemDocOk D = true)
    (hN : Sibs ti D es lo n tch sx) (hlo : ∀ j, decide ((es j).length > 1) = lo) :
    Items ti o mk pad m (indentDoc (leaderOf o m mk) pad D) (D.headD [])
      (fun j => [Item.mk (es j) lo 0 ((leaderOf o m mk).length + pad) (leaderOf o m mk) j j]) (n + 0 + 1) tch sx := by
  obtain ⟨c0, cs, rfl⟩ := List.exists_cons_of_ne_nil (itemDocOk_ne _ hdoc)
  intro pre post start k st gas acc ld nm hk hg hpost hln hsx
  obtain ⟨g, rfl⟩ : ∃ g, gas = g + 1 := ⟨gas - 1, by omega⟩
  have hil := item_lines_last (dcfg ti) _ (listLeader_of o _ hlead) pad h1 h4 c0 cs hdoc pre post start k hk hpost nm (ldnm_prev hln)
  have htok := hN false k st g (by omega) hsx
  simp only [sepS, Bool.false_eq_true, if_false, List.append_nil] at htok
  rw [readList_round (otherMarker_of_ldnm hln hlead) hil, htok]
  simp only [hlo, Bool.or_false, Bool.and_self, List.length_cons, indentDoc, List.length_map]

theorem items_cons (loose : Bool) (h1 : 1 ≤ pad) (h4 : pad ≤ 4) (hlead : leaderOk o (leaderOf o m mk) = true)
    (hlead' : leaderOk o (leaderOf o (m + 1) mk) = true) {D D' : List Str} (hdoc : itemDocOk D = true)
    (hdoc' : itemDocOk D' = true)
    (htb' : Scan.thematicBreak (leaderOf o (m + 1) mk ++ List.replicate pad ' ' ++ D'.headD []) = false)
    {W' : List Str} (hW' : ∃ tl, W' = (leaderOf o (m + 1) mk ++ List.replicate pad ' ' ++ D'.headD []) :: tl)
    (hN : Sibs ti D es lo n tch sx) {its' : Nat → List Item}
    (hR : Items ti o mk pad (m + 1) W' (D'.headD []) its' nr tchR sxR) :
    Items ti o mk pad m (indentDoc (leaderOf o m mk) pad D ++ (sepS loose ++ W')) (D.headD [])
      (fun j => Item.mk (es j) (lo || loose) 0 ((leaderOf o m mk).length + pad) (leaderOf o m mk) j j ::
        its' (j + D.length + (sepS loose).length)) (n + nr + 1) (tch || tchR) (sx || sxR) := by
  obtain ⟨c0, cs, rfl⟩ := List.exists_cons_of_ne_nil (itemDocOk_ne _ hdoc)
  obtain ⟨c0', cs', rfl⟩ := List.exists_cons_of_ne_nil (itemDocOk_ne _ hdoc')
  obtain ⟨⟨ch', r0', rfl, hch'⟩, _, _⟩ := itemDocOk_spec c0' cs' hdoc'
  obtain ⟨tl, hW'⟩ := hW'
  intro pre post start k st gas acc ld nm hk hg hpost hln hsx
  obtain ⟨g, rfl⟩ : ∃ g, gas = g + 1 := ⟨gas - 1, by omega⟩
  have htok := hN loose k st g (by omega) (sxOk_left hsx)
  have hln' : LdNm o mk pad (m + 1) (ch' :: r0') (some (ld.getD (leaderOf o m mk)))
      (some (0, (leaderOf o (m + 1) mk).length + pad, leaderOf o (m + 1) mk, ch' :: r0')) := by
    right
    rcases hln with ⟨rfl, _⟩ | ⟨n0, rfl, h0, _⟩
    · exact ⟨m, rfl, hlead, rfl⟩
    · exact ⟨n0, rfl, h0, rfl⟩
  rw [readList_item_cons (dcfg ti) o mk pad h1 h4 m hlead hlead' c0 cs hdoc loose ch' r0' hch' htb' tl W' _ hW' rfl
    pre post start k hk st g acc ld nm (otherMarker_of_ldnm hln hlead) (ldnm_prev hln) _ _ htok _ _
    (fun pre2 acc' hk2 => hR pre2 post start _ _ g acc' _ _ hk2 (by omega) hpost hln' (sxOk_after (sxOk_right hsx) _))]
  have e1 : k + (cs.length + 1 + (sepS loose).length) + 1 = k + 1 + (cs.length + 1) + (sepS loose).length := by omega
  simp only [after_after, e1, List.length_cons]

/-- what follows a written list must be `PostOk`: among its siblings, the block behind it must begin with a `StopLine` -/
theorem node_list (h1 : 1 ≤ pad) (hlead : leaderOk o (leaderOf o m mk) = true) (c0 : Str) (tl : List Str)
    (htb : Scan.thematicBreak (leaderOf o m mk ++ List.replicate pad ' ' ++ c0) = false)
    (hW : W = (leaderOf o m mk ++ List.replicate pad ' ' ++ c0) :: tl) {its : Nat → List Item}
    (hI : Items ti o mk pad m W c0 its n tch sx) : Node ti W (fun j => .list (its j) j j) (n + 12) tch sx StopLine := by
  refine .opn n PostOk rfl ?_ postOk_nil postOk_nl postOk_stop
  intro post hpost k st g hg hsx acc lo
  have hrl := hI [] post (k + 1) k st g [] none none (by simp) hg hpost (Or.inl ⟨rfl, rfl⟩) hsx
  simp only [List.nil_append, List.length_nil, Nat.zero_add, List.reverse_nil] at hrl
  subst hW
  rw [numbered_cons] at hrl ⊢
  exact tokLoop_list_step ti _ (listLeader_of o _ hlead) pad h1 c0 (k + 1) htb _ (k + 1) st g hrl acc lo

end Mistletoe.ComposeG
