/-
  C09 (Markdown round trip): what the flat fragments of `Proofs/MdRound*.lean` have in common.

  `Tok`: what parser and renderer make of one block (parse-buffer entry, block token, written lines).  `Laws`: the facts the
  chain needs of one block with given source lines — every KIND of block (paragraph, ATX heading, thematic break, fenced code,
  indented code, setext heading, HTML block, emphasis paragraph) proves them once, where the kind is treated, and a fragment
  type collects them by cases on its constructors.  `Frag`: a type of blocks with their lines and `Tok`s and its documents
  (a block and those after it, a "\n" line / a `BlankLine` / an empty line between neighbours).  `doc_roundtrip`: the chain
  block phase → constructors → renderer → text for a document behind `k ≥ 0` markers "> " (`MdRound.exact_markdown`), and
  with it the round trip on the `str` (`MdRound.roundtrip_of_exact`): every C09 theorem about a `Frag` (`frag1`, `frag2`, the two `frag3`) is an instance.

  Up to `doc_roundtrip` nothing knows a kind of block, with one exception: `MdRound.CodeStop` (what may follow an indented
  code block) stands at the top because `Laws.step` mentions it; it keeps the namespace of the files that use it.  At the end
  of the file, an instance: the blocks `Blk` of `Proofs/MdRoundBlocks.lean` (paragraph, ATX heading, thematic break)
  with their `Laws` (`blk_laws`) and their fragment `frag1`.
-/
import Mistletoe.Proofs.MdRoundBlocks

namespace Mistletoe.MdRound
open Mistletoe Mistletoe.Py Mistletoe.Scan Mistletoe.Block

def CodeStop (post : List Line) : Prop :=
  post = [] ∨ ∃ b rest, post = b :: rest ∧ b.s = ['\n'] ∧ ∀ x, rest.head? = some x → isBlank x.s = false ∧ blockCodeStart x.s = false

end Mistletoe.MdRound

namespace Mistletoe.MdRoundDoc
open Mistletoe Mistletoe.Py Mistletoe.Block Mistletoe.Markdown Mistletoe.InertInline Mistletoe.MdRound
open Mistletoe.Props.C14 (markdownTypes numbered numbered_cons numbered_append numbered_length)
open Mistletoe.Document (mkBlock)

/-- `entry ln og`: the parse-buffer entry with first line `ln` and ghost origin `og`; `out`: the lines the renderer writes -/
structure Tok where
  entry : Nat → Nat → Entry
  block : Nat → Mistletoe.Block
  out : List Str

/-- what the document chain needs of one block with source lines `ls` in parser state `st`.  `icode`: an indented code
    block, whose run of lines stops only at `CodeStop`; `flush`: the first line of any other block ends such a run.  The
    ghost origins `numbered k` play no part. -/
structure Laws (cfg : Document.Cfg) (fn : Footnotes.Table) (o : Opts) (st : St) (ls : List Str) (icode : Bool) (t : Tok) : Prop where
  step : ∀ k, Step cfg.block cfg.block.types.length
    (fun post => (∀ b, post.head? = some b → b.s = ['\n']) ∧ (icode = true → CodeStop post))
    (numbered k ls) (fun ln => [t.entry ln (k + 1)]) 1 st st false
  flush : icode = false → ∃ s ls', ls = s :: ls' ∧ isBlank s = false ∧ blockCodeStart s = false
  one : ∀ l ∈ ls, oneLine l = true
  ne : ls ≠ []
  mkB : ∀ ln og, mkBlock cfg fn (t.entry ln og) = .ok (some (t.block ln))
  render : ∀ ln, renderBlock o none (t.block ln) = .ok t.out
  text : t.out.map (· ++ ['\n']) = ls

/-- a fragment: the type of its blocks with their lines and tokens, and its own definitions of adjacency and of the
    lines of a document (the equations hold by `rfl`) -/
structure Frag (β : Type) where
  lines : β → List Str
  isICode : β → Bool
  tok : β → Tok
  adj : β → List β → Bool
  docLines : β → List β → List Str
  adj_cons : ∀ it it' rest, adj it (it' :: rest) = (!(isICode it && isICode it') && adj it' rest) := by intros; rfl
  docLines_nil : ∀ it, docLines it [] = lines it := by intros; rfl
  docLines_cons : ∀ it it' rest, docLines it (it' :: rest) = lines it ++ ['\n'] :: docLines it' rest := by intros; rfl

def Frag.docEntries {β : Type} (F : Frag β) (ln og : Nat) : β → List β → List Entry
  | it, [] => [(F.tok it).entry ln og]
  | it, it' :: rest =>
    (F.tok it).entry ln og :: .blankLine (ln + (F.lines it).length) (og + (F.lines it).length) ::
      F.docEntries (ln + (F.lines it).length + 1) (og + (F.lines it).length + 1) it' rest

def Frag.docBlocks {β : Type} (F : Frag β) (ln : Nat) : β → List β → List Mistletoe.Block
  | it, [] => [(F.tok it).block ln]
  | it, it' :: rest =>
    (F.tok it).block ln :: .blankLine (ln + (F.lines it).length) :: F.docBlocks (ln + (F.lines it).length + 1) it' rest

def Frag.docOut {β : Type} (F : Frag β) : β → List β → List Str
  | it, [] => (F.tok it).out
  | it, it' :: rest => (F.tok it).out ++ [] :: F.docOut it' rest

section
variable {β : Type} (F : Frag β) (ok : β → Prop)

theorem Frag.docLines_head (it : β) (rest : List β) (s : Str) (ls : List Str) (h : F.lines it = s :: ls) :
    ∃ ls', F.docLines it rest = s :: ls' := by
  cases rest with
  | nil => exact ⟨ls, by rw [F.docLines_nil, h]⟩
  | cons it' rest => exact ⟨ls ++ ['\n'] :: F.docLines it' rest, by rw [F.docLines_cons, h, List.cons_append]⟩

/-- a document as one step of the loop: its blocks' steps and the "\n" lines between them, composed; `hflush` and `F.adj`
    say where an indented code block stops -/
theorem step_doc (cfg : Cfg) (hty : cfg.types = markdownTypes) (st : St)
    (hstep : ∀ it, ok it → ∀ k, Step cfg cfg.types.length
      (fun post => (∀ b, post.head? = some b → b.s = ['\n']) ∧ (F.isICode it = true → CodeStop post))
      (numbered k (F.lines it)) (fun ln => [(F.tok it).entry ln (k + 1)]) 1 st st false)
    (hflush : ∀ it, ok it → F.isICode it = false → ∃ s ls, F.lines it = s :: ls ∧ isBlank s = false ∧ blockCodeStart s = false) :
    ∀ (rest : List β) (it : β) (k : Nat), ok it → (∀ x ∈ rest, ok x) → F.adj it rest = true →
      Step cfg (cfg.types.length + 1) (fun post => post = []) (numbered k (F.docLines it rest))
        (fun ln => F.docEntries ln (k + 1) it rest) (2 * rest.length + 1) st st false
  | [], it, k, hok, _, _ =>
    ((hstep it hok k).mono (Nat.le_succ _) (fun post hp => by subst hp; exact ⟨by simp, fun _ => Or.inl rfl⟩)).congr
      (by rw [F.docLines_nil]) (fun _ => rfl) rfl rfl
  | it' :: rest, it, k, hok, hr, hadj => by
    simp only [F.adj_cons, Bool.and_eq_true, Bool.not_eq_eq_eq_not, Bool.not_true, Bool.and_eq_false_iff] at hadj
    let n := (F.lines it).length
    let b : Line := { s := ['\n'], origin := k + n + 1 }
    have hlines : numbered k (F.docLines it (it' :: rest)) =
        numbered k (F.lines it) ++ ([b] ++ numbered (k + n + 1) (F.docLines it' rest)) := by
      simp only [F.docLines_cons, numbered_append, numbered_cons]
      rfl
    have s₂ := (Step.nl (cfg := cfg) b rfl st).append
      (step_doc cfg hty st hstep hflush rest it' (k + n + 1) (hr it' (by simp)) (fun x hx => hr x (List.mem_cons_of_mem _ hx)) hadj.2)
      (fun _ _ => trivial) (by omega)
    refine ((hstep it hok k).append s₂ (fun post hp => ?_) (by omega)).congr hlines (fun ln => ?_)
      (by simp only [List.length_cons]; omega) (by rw [mdTypes_bl cfg hty]; rfl)
    · subst hp
      refine ⟨fun b' hb' => ?_, fun hi => ?_⟩
      · simp only [List.cons_append, List.head?_cons, Option.some.injEq] at hb'
        subst hb'; rfl
      · have hni : F.isICode it' = false := by
          rcases hadj.1 with h | h
          · rw [hi] at h; cases h
          · exact h
        obtain ⟨s, ls, h1, h2, h3⟩ := hflush it' (hr it' (by simp)) hni
        obtain ⟨ls', h4⟩ := F.docLines_head it' rest s ls h1
        refine Or.inr ⟨b, _, rfl, rfl, fun x hx => ?_⟩
        rw [h4, numbered_cons] at hx
        simp only [List.append_nil, List.append_eq, List.nil_append, List.head?_cons, Option.some.injEq] at hx
        subst hx; exact ⟨h2, h3⟩
    · simp only [Frag.docEntries, mdTypes_bl cfg hty, if_true, numbered_length]
      simp +arith [n, b]

/-- the block phase of a document.  Gas: `step_doc` makes `2 * rest.length + 1` rounds and asks for `types.length + 1 = 12`
    beneath them (`mdTypes_len`); one more unit is `tokenizeBlock`'s own: `2 * rest.length + 1 + 12 + 1` -/
theorem tokenize_doc (cfg : Cfg) (hty : cfg.types = markdownTypes) (st : St)
    (hstep : ∀ it, ok it → ∀ k, Step cfg cfg.types.length
      (fun post => (∀ b, post.head? = some b → b.s = ['\n']) ∧ (F.isICode it = true → CodeStop post))
      (numbered k (F.lines it)) (fun ln => [(F.tok it).entry ln (k + 1)]) 1 st st false)
    (hflush : ∀ it, ok it → F.isICode it = false → ∃ s ls, F.lines it = s :: ls ∧ isBlank s = false ∧ blockCodeStart s = false)
    (it : β) (rest : List β) (hok : ok it) (hr : ∀ x ∈ rest, ok x) (hadj : F.adj it rest = true) (gas : Nat) :
    tokenizeBlock cfg (gas + (2 * rest.length + 14)) (numbered 0 (F.docLines it rest)) 1 st =
      .ok ({ entries := F.docEntries 1 1 it rest, loose := false }, st) := by
  have := (step_doc F ok cfg hty st hstep hflush rest it 0 hok hr hadj).tokLoop rfl [] 1 (gas + 11)
    (by rw [mdTypes_len cfg hty]; omega) [] false
  have e : gas + (2 * rest.length + 14) = (gas + 11 + 1 + (2 * rest.length + 1)) + 1 := by omega
  rw [e]
  simpa [tokenizeBlock] using this

theorem mkBlocks_doc (cfg : Document.Cfg) (fn : Footnotes.Table)
    (h : ∀ it, ok it → ∀ ln og, Document.mkBlock cfg fn ((F.tok it).entry ln og) = .ok (some ((F.tok it).block ln))) :
    ∀ (rest : List β) (it : β) (ln og : Nat), ok it → (∀ x ∈ rest, ok x) →
    Document.mkBlocks cfg fn (F.docEntries ln og it rest) = .ok (F.docBlocks ln it rest)
  | [], it, ln, og, hok, _ => by
    simp only [Frag.docEntries, Frag.docBlocks, Document.mkBlocks, h it hok ln og]
  | it' :: rest, it, ln, og, hok, hr => by
    have ih := mkBlocks_doc cfg fn h rest it' (ln + (F.lines it).length + 1) (og + (F.lines it).length + 1)
      (hr it' (by simp)) (fun x hx => hr x (List.mem_cons_of_mem _ hx))
    simp only [Frag.docEntries, Frag.docBlocks, Document.mkBlocks]
    rw [h it hok ln og]
    simp only [Document.mkBlock, ih]

theorem renderBlocks_doc (o : Markdown.Opts) (h : ∀ it, ok it → ∀ ln, Markdown.renderBlock o none ((F.tok it).block ln) = .ok ((F.tok it).out)) :
    ∀ (rest : List β) (it : β) (ln : Nat), ok it → (∀ x ∈ rest, ok x) →
    Markdown.renderBlocks o none (F.docBlocks ln it rest) = .ok (F.docOut it rest)
  | [], it, ln, hok, _ => by
    simp only [Frag.docBlocks, Frag.docOut, Markdown.renderBlocks, h it hok ln]
    simp
  | it' :: rest, it, ln, hok, hr => by
    have ih := renderBlocks_doc o h rest it' (ln + (F.lines it).length + 1) (hr it' (by simp))
      (fun x hx => hr x (List.mem_cons_of_mem _ hx))
    simp only [Frag.docBlocks, Frag.docOut, Markdown.renderBlocks, h it hok ln, Markdown.renderBlock, ih]
    simp

theorem docOut_lines (h : ∀ it, ok it → ((F.tok it).out).map (· ++ ['\n']) = F.lines it) :
    ∀ (rest : List β) (it : β), ok it → (∀ x ∈ rest, ok x) → (F.docOut it rest).map (· ++ ['\n']) = F.docLines it rest
  | [], it, hok, _ => by rw [Frag.docOut, F.docLines_nil, h it hok]
  | it' :: rest, it, hok, hr => by
    have ih := docOut_lines h rest it' (hr it' (by simp)) (fun x hx => hr x (List.mem_cons_of_mem _ hx))
    simp only [Frag.docOut, F.docLines_cons, List.map_append, List.map_cons, h it hok, ih, List.nil_append]

theorem doc_oneLine (h : ∀ it, ok it → ∀ l ∈ F.lines it, oneLine l = true) :
    ∀ (rest : List β) (it : β), ok it → (∀ x ∈ rest, ok x) → ∀ l ∈ F.docLines it rest, oneLine l = true
  | [], it, hok, _ => by rw [F.docLines_nil]; exact h it hok
  | it' :: rest, it, hok, hr => by
    have ih := doc_oneLine h rest it' (hr it' (by simp)) (fun x hx => hr x (List.mem_cons_of_mem _ hx))
    intro l hl
    simp only [F.docLines_cons, List.mem_append, List.mem_cons] at hl
    rcases hl with hl | rfl | hl
    · exact h it hok l hl
    · decide
    · exact ih l hl

theorem docLines_ne (it : β) (rest : List β) (h : F.lines it ≠ []) : F.docLines it rest ≠ [] := by
  cases rest with
  | nil => rwa [F.docLines_nil]
  | cons it' rest => rw [F.docLines_cons]; simp [h]

/-- **one theorem for every flat fragment**: a document of blocks that have the `Laws`, behind `k ≥ 0` markers "> ", is
    reproduced byte for byte, and with that comes the round trip on the `str`.
    `laws` is asked in every parser state `st` when `k > 0` and in the initial one when `k = 0`: inside a block quote
    `Quote.read` has switched `Paragraph.parse_setext` off, so a fragment with setext headings has its laws at `k = 0` only.
    Gas: `2 * rest.length + 14` for the loop over the blocks and the "\n" lines between them (`tokenize_doc`), `8` for each
    quote level (`MdRound.exact_markdown`: the dispatcher's way to `Quote` and the nested call). -/
theorem doc_roundtrip (ok : β → Prop) (cfg : Document.Cfg) (hty : cfg.block.types = markdownTypes) (o : Opts)
    (ho : o.maxLineLength = none) (it : β) (rest : List β) (hok : ok it) (hr : ∀ x ∈ rest, ok x) (hadj : F.adj it rest = true)
    (gas k : Nat) (hnt : k = 0 ∨ ∀ l ∈ F.docLines it rest, '\t' ∉ l)
    (laws : ∀ st, (k = 0 → st = {}) → ∀ x, ok x → Laws cfg (Document.footnotesOf []) o st (F.lines x) (F.isICode x) (F.tok x)) :
    ∃ d, Document.parseLines cfg (gas + (2 * rest.length + 14) + k * 8) (qStrs k (F.docLines it rest)) = .ok d ∧
      d.kids = qBlocks 1 (F.docBlocks 1 it rest) k ∧
      renderRes o d = .ok (qStrs k (F.docLines it rest)).flatten ∧
      Document.parse cfg (gas + (2 * rest.length + 14) + k * 8) (qStrs k (F.docLines it rest)).flatten = .ok d ∧
      render o d = (qStrs k (F.docLines it rest)).flatten ∧
      (∃ d', Document.parse cfg (gas + (2 * rest.length + 14) + k * 8) (render o d) = .ok d' ∧ render o d' = render o d) ∧
      (∀ (cfg' : Document.Cfg) (g : Nat),
        Document.parse cfg' g (render o d) = Document.parse cfg' g (qStrs k (F.docLines it rest)).flatten) ∧
      (∀ (hopts : Html.Opts) (g : Nat),
        Config.renderHtml hopts g (render o d) = Config.renderHtml hopts g (qStrs k (F.docLines it rest)).flatten) := by
  have L := laws {} (fun _ => rfl)
  obtain ⟨d, a, b, c, e⟩ := exact_markdown cfg hty _ _ (docLines_ne F it rest (L it hok).ne) k hnt _
    (fun st hst => tokenize_doc F ok cfg.block hty st
      (fun x h => (laws st hst x h).step)
      (fun x h => (laws st hst x h).flush) it rest hok hr hadj gas)
    _ (mkBlocks_doc F ok cfg _ (fun x h => (L x h).mkB) rest it 1 1 hok hr) o ho _
    (renderBlocks_doc F ok o (fun x h => (L x h).render) rest it 1 hok hr) (docOut_lines F ok (fun x h => (L x h).text) rest it hok hr)
  exact ⟨d, a, b, c, roundtrip_of_exact cfg _ _ (qStrs_oneLine k _ (doc_oneLine F ok (fun x h => (L x h).one) rest it hok hr)) o d a e⟩

end

end Mistletoe.MdRoundDoc

namespace Mistletoe.MdRound
open Mistletoe Mistletoe.Py Mistletoe.Scan Mistletoe.Block Mistletoe.Wrap Mistletoe.Markdown Mistletoe.InertInline Mistletoe.MdRoundDoc
open Mistletoe.Props.C14 (markdownTypes)

theorem blk_flush (b : Blk) (hok : b.ok = true) : ∃ s ls, b.lines = s :: ls ∧ isBlank s = false ∧ blockCodeStart s = false := by
  cases b with
  | para q =>
    have f := blkParaFacts_of q hok
    obtain ⟨s, q', rfl⟩ := List.exists_cons_of_ne_nil f.ne
    have hq := Mistletoe.Props.C14.inertLine_quiet _ (f.inert s (by simp))
    exact ⟨s, q', rfl, hq.nb, hq.bc⟩
  | heading lv t =>
    have hk := headOk_of lv t hok
    obtain ⟨m, rfl⟩ : ∃ m, lv = m + 1 := ⟨lv - 1, by have := hk.h1; omega⟩
    refine ⟨_, [], rfl, ?_, ?_⟩
    · simp [hashes, List.replicate_succ, isBlank, show pyIsSpace '#' = false by decide]
    · simp only [hashes, List.replicate_succ, List.cons_append]; exact blockCodeStart_rep 0 '#' _ (by decide) (by decide) (by decide)
  | hr c =>
    refine ⟨_, [], rfl, ?_, blockCodeStart_rep 0 c _ (by decide) (hr_lead c (hrOk_of c hok)).n_sp (hr_lead c (hrOk_of c hok)).n_tab⟩
    rcases hrOk_of c hok with rfl | rfl | rfl <;> decide

/-- the tokens of a `Blk`: the three functions the statement of `C09_blocks_exact_partial` is written with -/
def blkTok (b : Blk) : Tok := ⟨fun ln og => itemEntry ln og b, fun ln => itemBlock ln b, itemOut b⟩

/-- the facts about `itemEntry`, `itemBlock`, `itemOut` stand on their own (a leaf of a list tree uses them one by
    one, `Proofs/MdRoundLists.lean`); this is their record -/
theorem blk_laws (cfg : Document.Cfg) (fn : Footnotes.Table) (o : Opts) (st : St) (hty : cfg.block.types = markdownTypes)
    (ht : ∀ t ∈ cfg.span, inertClass t = true) (hc : cfg.span.count .lineBreak = 1) (b : Blk) (hok : b.ok = true) :
    Laws cfg fn o st b.lines false (blkTok b) :=
  { step := fun k => Step.one fun pre post start g acc loose hb hg =>
      tokLoop_blk_step cfg.block hty b hok g hg pre post k hb.1 start st acc loose
    flush := fun _ => blk_flush b hok
    one := blk_oneLine b hok
    ne := blk_lines_ne b hok
    mkB := mkBlock_itemEntry cfg fn ht hc b hok
    render := renderBlock_itemBlock o b hok
    text := itemOut_lines b hok }

def frag1 : Frag Blk := { lines := Blk.lines, isICode := fun _ => false, tok := blkTok, adj := fun _ _ => true, docLines := itemsLines }

theorem docBlocks_blk : ∀ (rest : List Blk) (it : Blk) (ln : Nat), frag1.docBlocks ln it rest = itemBlocks ln it rest
  | [], _, _ => rfl
  | it' :: rest, it, ln => by
    rw [Frag.docBlocks, itemBlocks, docBlocks_blk rest it']
    rfl

end Mistletoe.MdRound
